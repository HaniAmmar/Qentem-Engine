import Qentem.Proofs.StrToNumExact
/-! C09/C11 helper lemmas: **every mantissa** on the negative-exponent path.

`powerOfNegativeTen` does not normalise the mantissa (`b = num << 64`), so for a short mantissa and a
long chain of multiply-shift steps the big integer is narrow and the generic error bound is too weak
to decide the rounding.  Here the analytic theorems (`powerOfNegativeTen_close_wide`, `powerOfNegativeTen_exact_wide`)
are combined with
* monotonicity of the pipeline in the mantissa: above a threshold `thr x` (a mantissa whose
  big integer has 61 bits, at most 39) the analytic theorems apply;
* a finite table evaluated by the kernel for the pairs `(v, x)`, `v < thr x`, `x < 344`:
  the result is within one ulp, and it is the correctly rounded one, or the margin fails — **except** for `1e-273`,
  `1e-286`, `1e-292`, where the code is one unit off although the value is 0.040/0.068/0.039 ulp from the tie.
 -/
namespace Qentem.StrToNum
open Qentem.Round Qentem.Generated.StrToNum

def thrTab : List Nat := List.replicate 137 1 ++ [
  2, 2, 1, 2, 2, 1, 2, 2, 1, 2, 2, 1, 1, 2, 1, 1, 2, 1, 1, 2, 1, 1, 2, 1, 1, 2, 2,
  2, 3, 2, 2, 3, 2, 2, 3, 2, 2, 3, 2, 2, 2, 2, 2, 2, 2, 2, 2, 2, 2, 2, 2, 2, 2, 3,
  3, 4, 3, 3, 4, 3, 3, 4, 3, 3, 4, 3, 3, 4, 2, 3, 4, 2, 3, 4, 2, 3, 3, 2, 3, 3, 4,
  5, 6, 4, 5, 6, 4, 5, 6, 4, 5, 6, 4, 5, 6, 4, 5, 6, 4, 4, 5, 4, 4, 5, 3, 4, 5, 6,
  8, 10, 6, 8, 9, 6, 7, 9, 6, 7, 9, 6, 7, 9, 6, 7, 9, 6, 7, 8, 5, 7, 8, 5, 7, 8, 10,
  12, 15, 10, 12, 15, 10, 12, 15, 9, 12, 14, 9, 11, 14, 9, 11, 14, 9, 11, 13, 9, 11, 13, 8, 10, 13, 16,
  20, 24, 15, 19, 24, 15, 19, 23, 15, 18, 23, 14, 18, 22, 14, 17, 22, 14, 17, 21, 13, 17, 21, 13, 16, 20, 25,
  31, 39, 25, 31, 38, 24, 30, 37, 24, 29, 36, 23, 29, 36, 22, 28, 35, 22]

/-- a mantissa from which on the big integer has 61 bits after the steps for `10^-x` -/
def thr (x : Nat) : Nat := thrTab.getD x 0

/-- `p` holds on `lo, lo+1, …, lo+n-1` -/
def allFrom (p : Nat → Bool) (lo : Nat) : Nat → Bool
  | 0 => true
  | n + 1 => p lo && allFrom p (lo + 1) n

theorem allFrom_spec (p : Nat → Bool) : ∀ n lo, allFrom p lo n = true → ∀ i, lo ≤ i → i < lo + n → p i = true
  | 0, lo, _, i, h1, h2 => by omega
  | n + 1, lo, h, i, h1, h2 => by
    rw [allFrom, Bool.and_eq_true] at h
    rcases Nat.eq_or_lt_of_le h1 with e | e
    · subst e; exact h.1
    · exact allFrom_spec p n (lo + 1) h.2 i e (by omega)

/-- `p x t` holds for the first `n` entries `t` of a list, numbered from `x` -/
def rowsFrom (p : Nat → Nat → Bool) : Nat → Nat → List Nat → Bool
  | _, 0, _ => true
  | x, n + 1, t :: ts => p x t && rowsFrom p (x + 1) n ts
  | _, _ + 1, [] => false

theorem rowsFrom_spec (p : Nat → Nat → Bool) : ∀ n x ts, rowsFrom p x n ts = true →
    ∀ i, i < n → p (x + i) (ts.getD i 0) = true
  | 0, _, _, _, i, hi => by omega
  | n + 1, x, [], h, _, _ => by cases h
  | n + 1, x, t :: ts, h, i, hi => by
    rw [rowsFrom, Bool.and_eq_true] at h
    cases i with
    | zero => exact h.1
    | succ i =>
      have := rowsFrom_spec p n (x + 1) ts h.2 i (by omega)
      rwa [show x + 1 + i = x + (i + 1) by omega] at this

/-! ### The entries, written for `decide +kernel`

The kernel evaluates `Nat.mul`, `Nat.div`, `Nat.ble`, … on literals in one step and a recursor directly, but not
`Nat.log2`, and it reaches the primitives through `*`, `decide (· ≤ ·)`, `if` only by unfolding instances.  So the
entries call the primitives, take logarithms of a quotient by a known power of two (`log2_div_pow`), and each
comes with the equation that says what it computes.  The literals: `18446744073709551616 = 2^64`,
`4503599627370496 = 2^52`, `9007199254740992 = 2^53`, `1152921504606846976 = 2^60`,
`9218868437227405312 = infBits`. -/

def negIterR (r n b : Nat) : Nat := Nat.rec b (fun _ a => Nat.shiftRight (Nat.mul a r) 64) n

theorem negIterR_eq (r : Nat) : ∀ n b, negIterR r n b = negIter r n b := by
  have comm : ∀ n b, negIter r n (b * r / 2 ^ 64) = negIter r n b * r / 2 ^ 64 := by
    intro n
    induction n with
    | zero => exact fun _ => rfl
    | succ n ih => exact fun b => ih _
  intro n
  induction n with
  | zero => exact fun _ => rfl
  | succ n ih =>
    intro b
    rw [negIter, comm, ← ih, ← Nat.shiftRight_eq_div_pow]; rfl

def tabBig (x v : Nat) : Nat :=
  cond (Nat.beq (Nat.mod x 27) 0)
    (negIterR (powerOfOneOverFive.getD 27 0) (Nat.div x 27) (Nat.mul v 18446744073709551616))
    (Nat.shiftRight (Nat.mul (negIterR (powerOfOneOverFive.getD 27 0) (Nat.div x 27) (Nat.mul v 18446744073709551616))
      (powerOfOneOverFive.getD (Nat.mod x 27) 0)) 64)

theorem tabBig_eq (x v : Nat) : tabBig x v = negBig v x := by
  unfold tabBig negBig
  rw [negIterR_eq, show Nat.mul v 18446744073709551616 = v * 2 ^ 64 from rfl, ← Nat.shiftRight_eq_div_pow]
  simp only [Bool.cond_eq_ite, Nat.beq_eq]
  rfl

/-- `codeRawNeg b sh` from the effective binade `M = max (Nat.log2 b) (sh - 1022)` -/
def codeAt (M b sh : Nat) : Nat :=
  Nat.add (Nat.mul (Nat.sub (Nat.add M 1022) sh) 4503599627370496)
    (Nat.div (Nat.add (Nat.div b (Nat.pow 2 (Nat.sub M 53))) (Nat.mod (Nat.div b (Nat.pow 2 (Nat.sub M 53))) 2)) 2)

theorem codeAt_eq (b sh : Nat) : codeAt (max (Nat.log2 b) (sh - 1022)) b sh = codeRawNeg b sh := rfl

/-- the pattern `powerOfNegativeTen v x` returns, through `negScale_eq` and `negFinish_eq`;
`Nat.log2 b` from the quotient by `2^53` -/
def tabCode (x v : Nat) : Nat :=
  codeAt (cond (Nat.ble (Nat.add (Nat.log2 (Nat.shiftRight (tabBig x v) 53)) 53) (Nat.sub (negShift x) 1022))
      (Nat.sub (negShift x) 1022) (Nat.add (Nat.log2 (Nat.shiftRight (tabBig x v) 53)) 53))
    (tabBig x v) (negShift x)

theorem powerOfNegativeTen_tab (x v : Nat) (hv : v < 2 ^ 64) (hx : x < 344) (hb : 2 ^ 53 ≤ negBig v x) :
    powerOfNegativeTen v x = some (tabCode x v) := by
  have hps := negScale_eq v x hv (by omega)
  have hsh := negShift_lt x
  have hL : Nat.add (Nat.log2 (Nat.shiftRight (negBig v x) 53)) 53 = Nat.log2 (negBig v x) := by
    rw [← log2_div_pow _ 53 hb, ← Nat.shiftRight_eq_div_pow]; rfl
  unfold powerOfNegativeTen tabCode
  rw [hps, Option.map_some, negFinish_eq _ _ hb (negScale_lt v x _ _ hps) (by omega), tabBig_eq, hL, Bool.cond_eq_ite,
    ← codeAt_eq]
  simp only [Nat.ble_eq, Nat.max_def]
  rfl

/-- `binadeBias v (10^x)`; `Nat.log2 (10^x)` from the quotient by `8^x` -/
def tabBias (x v : Nat) : Nat :=
  Nat.sub (Nat.sub (Nat.add (Nat.log2 v) 1022) (Nat.add (Nat.log2 (Nat.shiftRight (Nat.pow 10 x) (Nat.mul 3 x))) (Nat.mul 3 x)))
    (cond (Nat.ble
        (Nat.mul (Nat.pow 10 x)
          (Nat.pow 2 (Nat.sub (Nat.log2 v) (Nat.add (Nat.log2 (Nat.shiftRight (Nat.pow 10 x) (Nat.mul 3 x))) (Nat.mul 3 x)))))
        (Nat.mul v
          (Nat.pow 2 (Nat.sub (Nat.add (Nat.log2 (Nat.shiftRight (Nat.pow 10 x) (Nat.mul 3 x))) (Nat.mul 3 x)) (Nat.log2 v)))))
      0 1)

theorem tabBias_eq (x v : Nat) : tabBias x v = binadeBias v (10 ^ x) := by
  have h : 2 ^ (3 * x) ≤ 10 ^ x := by
    rw [Nat.pow_mul]; exact Nat.pow_le_pow_left (by decide) x
  have hl : Nat.add (Nat.log2 (Nat.shiftRight (Nat.pow 10 x) (Nat.mul 3 x))) (Nat.mul 3 x) = Nat.log2 (10 ^ x) := by
    rw [← log2_div_pow _ _ h, ← Nat.shiftRight_eq_div_pow]; rfl
  unfold tabBias binadeBias
  rw [hl, Bool.cond_eq_ite]
  simp only [Nat.ble_eq]
  rfl

/-- the pair rounded for `v·10^-x` (`roundPair_bias`) and the nearest pattern (`nearestMag_bias`) -/
def tabPair (x v : Nat) : Nat × Nat :=
  (Nat.mul v (Nat.pow 2 (Nat.sub 1074 (tabBias x v))), Nat.mul (Nat.pow 10 x) (Nat.pow 2 (Nat.sub (tabBias x v) 1074)))

def rneR (a b : Nat) : Nat :=
  cond (Nat.blt (Nat.mul 2 (Nat.mod a b)) b) (Nat.div a b)
    (cond (Nat.blt b (Nat.mul 2 (Nat.mod a b))) (Nat.add (Nat.div a b) 1)
      (cond (Nat.beq (Nat.mod (Nat.div a b) 2) 0) (Nat.div a b) (Nat.add (Nat.div a b) 1)))

theorem rneR_eq (a b : Nat) : rneR a b = rne a b := by
  unfold rneR rne
  simp only [Bool.cond_eq_ite, Nat.blt_eq, Nat.beq_eq, gt_iff_lt]
  rfl

def tabNearest (x v : Nat) : Nat :=
  cond (Nat.ble 9218868437227405312
      (Nat.add (Nat.mul (tabBias x v) 4503599627370496) (rneR (tabPair x v).1 (tabPair x v).2)))
    9218868437227405312 (Nat.add (Nat.mul (tabBias x v) 4503599627370496) (rneR (tabPair x v).1 (tabPair x v).2))

theorem tabPair_eq (x v : Nat) : tabPair x v = roundPair v (10 ^ x) := by
  rw [roundPair_bias, ← tabBias_eq]; rfl

theorem tabNearest_eq (x v : Nat) (hv : 0 < v) : tabNearest x v = nearestMag v (10 ^ x) := by
  rw [nearestMag_bias v _ hv (Nat.pow_pos (by decide)), ← tabBias_eq]
  unfold tabNearest cap infBits
  rw [rneR_eq, Bool.cond_eq_ite]
  simp only [Nat.ble_eq, ge_iff_le]
  rfl

/-- the three numerals with a one-digit mantissa where the code is one unit off at more than 1/32 ulp from the tie -/
def negExc (v x : Nat) : Prop := v = 1 ∧ (x = 273 ∨ x = 286 ∨ x = 292)

def marginB (A B : Nat) : Bool := decide (32 * (A % B) + B ≤ 16 * B) || decide (17 * B ≤ 32 * (A % B))

theorem marginB_iff (A B : Nat) : marginB A B = true ↔ MarginPair A B := by
  unfold marginB MarginPair; simp

/-- the table entry: exact, or no margin, or one of the three exceptions -/
def okB (x v : Nat) : Bool :=
  (Nat.ble 9007199254740992 (tabBig x v) && Nat.beq (tabCode x v) (tabNearest x v)) ||
  !(marginB (tabPair x v).1 (tabPair x v).2) ||
  (v == 1 && (x == 273 || x == 286 || x == 292))

theorem okB_sound (x v : Nat) (hv0 : 0 < v) (hv : v < 2 ^ 64) (hx : x < 344) (h : okB x v = true)
    (hexc : ¬ negExc v x) (hm : MarginPair (roundPair v (10 ^ x)).1 (roundPair v (10 ^ x)).2) :
    powerOfNegativeTen v x = some (nearestMag v (10 ^ x)) := by
  unfold okB at h
  simp only [Bool.or_eq_true, Bool.not_eq_true', beq_iff_eq, Bool.and_eq_true, Nat.ble_eq, Nat.beq_eq,
    tabBig_eq] at h
  rcases h with (⟨hb, he⟩ | h2) | h3
  · rw [powerOfNegativeTen_tab x v hv hx hb, he, tabNearest_eq x v hv0]
  · rw [tabPair_eq, (marginB_iff _ _).2 hm] at h2; cases h2
  · exact absurd ⟨h3.1, by omega⟩ hexc

/-- the entry is within one ulp; the first clause is what `powerOfNegativeTen_tab` asks for -/
def closeB (x v : Nat) : Bool :=
  Nat.ble 9007199254740992 (tabBig x v) && decide (ulpDist (tabCode x v) (tabNearest x v) ≤ 1)

theorem closeB_sound (x v : Nat) (hv0 : 0 < v) (hv : v < 2 ^ 64) (hx : x < 344) (h : closeB x v = true) :
    ∃ p, powerOfNegativeTen v x = some p ∧ ulpDist p (nearestMag v (10 ^ x)) ≤ 1 := by
  rw [closeB, Bool.and_eq_true, Nat.ble_eq, tabBig_eq, decide_eq_true_eq, tabNearest_eq x v hv0] at h
  exact ⟨_, powerOfNegativeTen_tab x v hv hx h.1, h.2⟩

/-- row `x` of the table with threshold `t`: the big integer of `t` has 61 bits, every `1 ≤ v < t` is an entry of
both kinds -/
def rowB (x t : Nat) : Bool :=
  Nat.ble 1152921504606846976 (tabBig x t) && allFrom (fun v => closeB x v && okB x v) 1 (t - 1)

theorem rows : rowsFrom rowB 0 344 thrTab = true := by decide +kernel

theorem table_row (x : Nat) (hx : x < 344) :
    2 ^ 60 ≤ negBig (thr x) x ∧ ∀ v, 0 < v → v < thr x → closeB x v = true ∧ okB x v = true := by
  have hrow := rowsFrom_spec _ _ _ _ rows x hx
  rw [Nat.zero_add, rowB, Bool.and_eq_true, Nat.ble_eq, tabBig_eq] at hrow
  refine ⟨hrow.1, fun v hv0 hv => ?_⟩
  have := allFrom_spec _ _ _ hrow.2 v hv0 (by unfold thr at hv; omega)
  rwa [Bool.and_eq_true] at this

theorem powerOfNegativeTen_close_all (num x : Nat) (hn0 : 0 < num) (hn : num < 2 ^ 64) (hx : x < 344) :
    ∃ p, powerOfNegativeTen num x = some p ∧ ulpDist p (nearestMag num (10 ^ x)) ≤ 1 := by
  obtain ⟨hw, htab⟩ := table_row x hx
  rcases Nat.lt_or_ge num (thr x) with h | h
  · exact closeB_sound x num hn0 hn hx (htab num hn0 h).1
  · exact powerOfNegativeTen_close_wide num x hn0 hn (by omega) (Nat.le_trans hw (negBig_mono _ _ x h))

theorem powerOfNegativeTen_exact_all (num x : Nat) (hn0 : 0 < num) (hn : num < 2 ^ 64) (hx : x < 344)
    (hexc : ¬ negExc num x) (hm : MarginPair (roundPair num (10 ^ x)).1 (roundPair num (10 ^ x)).2) :
    powerOfNegativeTen num x = some (nearestMag num (10 ^ x)) := by
  obtain ⟨hw, htab⟩ := table_row x hx
  rcases Nat.lt_or_ge num (thr x) with h | h
  · exact okB_sound x num hn0 hn hx (htab num hn0 h).2 hexc hm
  · exact powerOfNegativeTen_exact_wide num x hn0 hn (by omega) (Nat.le_trans hw (negBig_mono _ _ x h)) hm

end Qentem.StrToNum
