import Qentem.Proofs.SeqArray
/-! Helper lemmas for C14, `StringStream` and `StringView`.  The content of a stream is followed for every capacity
policy, `Length() ≤ Capacity()` for every sound one: the relation `SsHolds A` carries the invariant under a condition `A`,
one walk over the operations serves both. -/
namespace Qentem.Seq

/-- What the proofs need from a capacity policy: a request is never under-served. -/
def Policy.Sound (P : Policy) : Prop := (∀ n, n ≤ P.alloc n) ∧ (∀ n, n ≤ P.grow n)

theorem alignSize_ge (n : Nat) : n ≤ alignSize n := by
  unfold alignSize
  dsimp only
  split
  · have := @Nat.lt_log2_self n
    rw [Nat.shiftLeft_eq, Nat.shiftLeft_eq, Nat.one_mul]
    rw [Nat.pow_succ] at this
    omega
  · omega

theorem policyStd_sound : policyStd.Sound := ⟨alignSize_ge, fun n => by simp [policyStd]; omega⟩
theorem policyExact_sound : policyExact.Sound := ⟨fun n => by simp [policyExact], fun n => by simp [policyExact]⟩

namespace StreamM
variable (P : Policy)

/-- `Length() ≤ Capacity()` -/
def Inv (s : StreamM) : Prop := s.data.length ≤ s.cap

@[simp] theorem empty_data : empty.data = [] := rfl
theorem empty_inv : empty.Inv := by simp [Inv, empty]

theorem expand_ge (hP : P.Sound) (s : StreamM) (n : Nat) : n ≤ (s.expand P n).cap := by
  unfold expand; exact Nat.le_trans (hP.2 n) (hP.1 _)

@[simp] theorem expand_data (s : StreamM) (n : Nat) : (s.expand P n).data = s.data := rfl

/-- Every growing operation first makes room by a guarded `expand`: afterwards there is room for `n` units (`h`: the old
capacity is enough when the guard does not fire) and the content is as before. -/
theorem room (hP : P.Sound) (s : StreamM) (c : Prop) [Decidable c] (n : Nat) (h : ¬ c → n ≤ s.cap) :
    n ≤ (if c then s.expand P n else s).cap ∧ (if c then s.expand P n else s).data = s.data := by
  by_cases hc : c
  · rw [if_pos hc]; exact ⟨expand_ge P hP s n, rfl⟩
  · rw [if_neg hc]; exact ⟨h hc, rfl⟩

@[simp] theorem write_data (s : StreamM) (u : List Nat) : (s.write P u).data = s.data ++ u := by
  unfold write; dsimp only; split <;> rfl

theorem write_inv (hP : P.Sound) (s : StreamM) (u : List Nat) : (s.write P u).Inv := by
  have r := room P hP s (s.cap < s.len + u.length) _ Nat.le_of_not_lt
  unfold write Inv len at *
  simp only [List.length_append, r.2]; exact r.1

@[simp] theorem ofSize_data (n : Nat) : (ofSize P n).data = [] := by
  unfold ofSize; split <;> rfl

theorem ofSize_inv (n : Nat) : (ofSize P n).Inv := by
  unfold ofSize Inv; split <;> simp [empty]

@[simp] theorem ofCopy_data (u : List Nat) : (ofCopy P u).data = u := by
  unfold ofCopy
  split
  · simp
  · next h => simp at h; simp [h]

theorem ofCopy_inv (hP : P.Sound) (u : List Nat) : (ofCopy P u).Inv := by
  unfold ofCopy
  split
  · exact write_inv P hP _ _
  · exact empty_inv

@[simp] theorem clear_data (s : StreamM) : s.clear.data = [] := rfl
theorem clear_inv (s : StreamM) : s.clear.Inv := by simp [Inv, clear]

@[simp] theorem pushChar_data (s : StreamM) (c : Nat) : (s.pushChar P c).data = s.data ++ [c] := by
  unfold pushChar; dsimp only; split <;> rfl

theorem pushChar_inv (hP : P.Sound) (s : StreamM) (c : Nat) (h : s.Inv) : (s.pushChar P c).Inv := by
  have r := room P hP s (s.cap = s.len) (s.len + 1) (fun hc => Nat.lt_of_le_of_ne h (Ne.symm hc))
  unfold pushChar Inv len at *
  simp only [List.length_append, List.length_cons, List.length_nil, r.2]; exact r.1

@[simp] theorem expect_data (s : StreamM) (n : Nat) : (s.expect P n).data = s.data := by
  unfold expect; dsimp only; split <;> rfl

/-- After `Expect(n)` a write of `n` units does not reallocate (this is what makes `s += s` safe). -/
theorem expect_room (hP : P.Sound) (s : StreamM) (n : Nat) : s.data.length + n ≤ (s.expect P n).cap :=
  Nat.add_comm n _ ▸ (room P hP s (s.cap < n + s.len) _ Nat.le_of_not_lt).1

theorem expect_inv (hP : P.Sound) (s : StreamM) (n : Nat) : (s.expect P n).Inv := by
  unfold Inv; rw [expect_data]; exact Nat.le_trans (Nat.le_add_right _ n) (expect_room P hP s n)

@[simp] theorem appendStream_data (s : StreamM) (u : List Nat) : (s.appendStream P u).data = s.data ++ u := by
  simp [appendStream]

theorem appendStream_inv (hP : P.Sound) (s : StreamM) (u : List Nat) : (s.appendStream P u).Inv :=
  write_inv P hP _ _

theorem appendStream_no_realloc (hP : P.Sound) (s : StreamM) (u : List Nat) :
    (s.appendStream P u).cap = (s.expect P u.length).cap := by
  have := expect_room P hP s u.length
  unfold appendStream write len; dsimp only
  rw [expect_data]
  split
  · omega
  · rfl

@[simp] theorem stepBack_data (s : StreamM) (n : Nat) :
    (s.stepBack n).data = if n ≤ s.data.length then s.data.take (s.data.length - n) else s.data := by
  unfold stepBack len; split <;> rfl

theorem stepBack_inv (s : StreamM) (n : Nat) (h : s.Inv) : (s.stepBack n).Inv := by
  unfold stepBack Inv len at *
  split <;> simp_all <;> omega

@[simp] theorem reverse_data (s : StreamM) (i : Nat) : (s.reverse i).data = s.data.take i ++ (s.data.drop i).reverse := rfl

theorem reverse_inv (s : StreamM) (i : Nat) (h : s.Inv) : (s.reverse i).Inv := by
  unfold reverse Inv at *; simp; omega

theorem insertAt_data (s : StreamM) (c i : Nat) :
    (s.insertAt P c i).data = if i < s.data.length then s.data.take i ++ [c] ++ s.data.drop i else s.data := by
  unfold insertAt len
  split
  · have hne : s.data.take i ++ [c] ++ s.data.drop i ≠ [] := by simp
    rw [List.getLast?_eq_some_getLast hne]
    simp only [pushChar_data]
    exact List.dropLast_concat_getLast hne
  · rfl

theorem insertAt_inv (hP : P.Sound) (s : StreamM) (c i : Nat) (h : s.Inv) : (s.insertAt P c i).Inv := by
  unfold insertAt len
  split
  · have hne : s.data.take i ++ [c] ++ s.data.drop i ≠ [] := by simp
    rw [List.getLast?_eq_some_getLast hne]
    dsimp only
    apply pushChar_inv P hP
    unfold Inv at *
    simp; omega
  · exact h

theorem setLength_data (s : StreamM) (n : Nat) (f : List Nat) :
    (s.setLength P n f).data = if n ≤ s.data.length then s.data.take n else s.data ++ f.take (n - s.data.length) := by
  unfold setLength len; dsimp only
  split <;> split <;> rfl

theorem setLength_inv (hP : P.Sound) (s : StreamM) (n : Nat) (f : List Nat) : (s.setLength P n f).Inv := by
  have r := room P hP s (s.cap < n) n Nat.le_of_not_lt
  unfold setLength Inv len at *
  by_cases h : n ≤ s.data.length
  · rw [if_pos h]; exact Nat.le_trans (List.length_take_le _ _) r.1
  · rw [if_neg h]
    simp only [List.length_append, List.length_take, r.2]
    exact Nat.le_trans (Nat.add_le_add_left (Nat.min_le_left _ _) _) (by omega)

/-- `buffer` has the body of `write`; its invariant is `write_inv`. -/
@[simp] theorem buffer_data (s : StreamM) (f : List Nat) : (s.buffer P f).data = s.data ++ f := write_data P s f

@[simp] theorem insertNull_data (s : StreamM) : (s.insertNull P).data = s.data := by
  unfold insertNull; split <;> rfl

/-- `InsertNull` / `GetStringView` leave a cell for the terminator: `Length() < Capacity()`. -/
theorem insertNull_room (hP : P.Sound) (s : StreamM) (h : s.Inv) : s.data.length < (s.insertNull P).cap :=
  (room P hP s (s.cap = s.len) (s.len + 1) (fun hc => Nat.lt_of_le_of_ne h (Ne.symm hc))).1

theorem insertNull_inv (hP : P.Sound) (s : StreamM) (h : s.Inv) : (s.insertNull P).Inv := by
  unfold Inv; rw [insertNull_data]; exact Nat.le_of_lt (insertNull_room P hP s h)

end StreamM

def ssAbs (st : SsSt) : SeqAbs := fun i => (st i).data

@[simp] theorem ssAbs_apply (st : SsSt) (i : Nat) : ssAbs st i = (st i).data := rfl

@[simp] theorem setR_ssAbs_self (st : SsSt) (r : Nat) : setR (ssAbs st) r (st r).data = ssAbs st :=
  setR_self (ssAbs st) r

/-- Every object of the table holds the list the plain-list table has in that register and, provided `A`, stays within
its capacity. -/
def SsHolds (A : Prop) (st : SsSt) (ab : SeqAbs) : Prop := ∀ i, (st i).data = ab i ∧ (A → (st i).Inv)

theorem SsHolds.setR {A : Prop} {st : SsSt} {ab : SeqAbs} (h : SsHolds A st ab) (r : Nat) {v : StreamM} {l : List Nat}
    (hd : v.data = l) (hv : A → v.Inv) : SsHolds A (setR st r v) (setR ab r l) :=
  setR_rel (R := fun (s : StreamM) (l : List Nat) => s.data = l ∧ (A → s.Inv)) h r ⟨hd, hv⟩

theorem ss_step_holds (P : Policy) {A : Prop} (hA : A → P.Sound) (op : SsOp) {st : SsSt} {ab : SeqAbs} (h : SsHolds A st ab) :
    SsHolds A (op.step P st).1 (op.spec ab).1 ∧ (op.step P st).2 = (op.spec ab).2 := by
  obtain rfl : ab = ssAbs st := funext fun i => (h i).1.symm
  have inv := fun i a => (h i).2 a
  cases op with
  | ctorN r n | reserve r n => exact ⟨h.setR r (StreamM.ofSize_data P n) (fun _ => StreamM.ofSize_inv P n), rfl⟩
  | ctorC r s => exact ⟨h.setR r (StreamM.ofCopy_data P _) (fun a => StreamM.ofCopy_inv P (hA a) _), rfl⟩
  | ctorM r s => exact ⟨(h.setR s rfl (fun _ => StreamM.empty_inv)).setR r rfl (inv s), rfl⟩
  | asgC r s =>
    by_cases e : r = s
    · subst e; simp only [SsOp.step, SsOp.spec, if_pos, ssAbs_apply, setR_ssAbs_self]; exact ⟨h, trivial⟩
    · simp only [SsOp.step, SsOp.spec, if_neg e]
      exact ⟨h.setR r (by simp) (fun a => StreamM.write_inv P (hA a) _ _), trivial⟩
  | asgM r s =>
    simp only [SsOp.step, SsOp.spec]; split
    · exact ⟨h, trivial⟩
    · exact ⟨(h.setR r rfl (inv s)).setR s rfl (fun _ => StreamM.empty_inv), trivial⟩
  | asgU v r u => exact ⟨h.setR r (by simp) (fun a => StreamM.write_inv P (hA a) _ _), rfl⟩
  | appU v r u => exact ⟨h.setR r (StreamM.write_data P _ _) (fun a => StreamM.write_inv P (hA a) _ _), rfl⟩
  | pushCh v r c => exact ⟨h.setR r (StreamM.pushChar_data P _ _) (fun a => StreamM.pushChar_inv P (hA a) _ _ (inv r a)), rfl⟩
  | appS r s | shlS r s =>
    exact ⟨h.setR r (StreamM.appendStream_data P _ _) (fun a => StreamM.appendStream_inv P (hA a) _ _), rfl⟩
  | appOwn v r off n =>
    simp only [SsOp.step, SsOp.spec]
    -- `v < 3`: a slice of the own buffer; `v < 5`: its C string; otherwise the whole content
    split <;> (try split) <;> exact ⟨h.setR r (by simp) (fun a => StreamM.write_inv P (hA a) _ _), rfl⟩
  | asgOwn v r off n =>
    simp only [SsOp.step, SsOp.spec]
    split <;> exact ⟨h.setR r (by simp) (fun a => StreamM.write_inv P (hA a) _ _), rfl⟩
  | clear r => exact ⟨h.setR r rfl (fun _ => StreamM.clear_inv _), rfl⟩
  | reset r | detach r | getString r => exact ⟨h.setR r rfl (fun _ => StreamM.empty_inv), rfl⟩
  | stepBack r n => exact ⟨h.setR r (StreamM.stepBack_data _ _) (fun a => StreamM.stepBack_inv _ _ (inv r a)), rfl⟩
  | reverse r i => exact ⟨h.setR r rfl (fun a => StreamM.reverse_inv _ _ (inv r a)), rfl⟩
  | insertAt r c i => exact ⟨h.setR r (StreamM.insertAt_data P _ _ _) (fun a => StreamM.insertAt_inv P (hA a) _ _ _ (inv r a)), rfl⟩
  | setLength r n f => exact ⟨h.setR r (StreamM.setLength_data P _ _ _) (fun a => StreamM.setLength_inv P (hA a) _ _ _), rfl⟩
  | buffer r f => exact ⟨h.setR r (StreamM.buffer_data P _ _) (fun a => StreamM.write_inv P (hA a) _ _), rfl⟩
  | expect r n =>
    have := h.setR r (StreamM.expect_data P (st r) n) (fun a => StreamM.expect_inv P (hA a) _ _)
    rw [setR_ssAbs_self] at this; exact ⟨this, rfl⟩
  | getView r | insertNull r =>
    have := h.setR r (StreamM.insertNull_data P (st r)) (fun a => StreamM.insertNull_inv P (hA a) _ (inv r a))
    rw [setR_ssAbs_self] at this; exact ⟨this, rfl⟩
  | eqS k r s | eqU v k r u => exact ⟨h, rfl⟩

theorem ss_run_holds (P : Policy) {A : Prop} (hA : A → P.Sound) (ops : List SsOp) : ∀ {st : SsSt} {ab : SeqAbs}, SsHolds A st ab →
    SsHolds A (ssRun P ops st) (ssSpecRun ops ab) ∧ ssOuts P ops st = ssSpecOuts ops ab := by
  induction ops with
  | nil => intro st ab h; exact ⟨h, rfl⟩
  | cons op ops ih =>
    intro st ab h
    obtain ⟨h1, h2⟩ := ss_step_holds P hA op h
    obtain ⟨h3, h4⟩ := ih h1
    exact ⟨h3, by simp only [ssOuts, ssSpecOuts, h2, h4]⟩

theorem ssInit_holds (A : Prop) : SsHolds A ssInit (fun _ => []) := fun _ => ⟨rfl, fun _ => StreamM.empty_inv⟩

namespace ViewM

@[simp] theorem empty_data : empty.data = [] := rfl
@[simp] theorem ofPtr_data (b : List Nat) (n : Nat) : (ofPtr b n).data = b.take n := rfl

theorem takeWhile_append_zero (b : List Nat) :
    (b ++ [0]).takeWhile (· != 0) = b.takeWhile (· != 0) := by
  induction b with
  | nil => simp
  | cons a t ih =>
    simp only [List.cons_append, List.takeWhile_cons]
    split
    · rw [ih]
    · rfl

theorem take_length_takeWhile (p : Nat → Bool) (l : List Nat) : l.take (l.takeWhile p).length = l.takeWhile p := by
  induction l with
  | nil => simp
  | cons a t ih =>
    simp only [List.takeWhile_cons]
    split
    · simp [ih]
    · simp

/-- `StringView(const Char_T*)`: the view is the C string in the buffer. -/
@[simp] theorem ofCStr_data (b : List Nat) : (ofCStr (b ++ [0])).data = b.takeWhile (· != 0) := by
  unfold ofCStr data
  simp only
  rw [take_length_takeWhile, takeWhile_append_zero]

end ViewM

def svAbs (st : SvSt) : SeqAbs := fun i => (st i).data

@[simp] theorem svAbs_apply (st : SvSt) (i : Nat) : svAbs st i = (st i).data := rfl

@[simp] theorem setR_svAbs_self (st : SvSt) (r : Nat) : setR (svAbs st) r (st r).data = svAbs st :=
  setR_self (svAbs st) r

/-- Every view of the table shows the list the plain-list table has in that register. -/
def SvHolds (st : SvSt) (ab : SeqAbs) : Prop := ∀ i, (st i).data = ab i

theorem SvHolds.setR {st : SvSt} {ab : SeqAbs} (h : SvHolds st ab) (r : Nat) {v : ViewM} {l : List Nat} (hd : v.data = l) :
    SvHolds (setR st r v) (setR ab r l) :=
  setR_rel (R := fun (v : ViewM) (l : List Nat) => v.data = l) h r hd

theorem sv_step_holds (op : SvOp) {st : SvSt} {ab : SeqAbs} (h : SvHolds st ab) :
    SvHolds (op.step st).1 (op.spec ab).1 ∧ (op.step st).2 = (op.spec ab).2 := by
  obtain rfl : ab = svAbs st := funext fun i => (h i).symm
  cases op with
  | ctorP r b n | ctorC r s | reset r => exact ⟨h.setR r rfl, rfl⟩
  | ctorZ r b | asgZ r b => exact ⟨h.setR r (ViewM.ofCStr_data b), rfl⟩
  | ctorM r s => exact ⟨(h.setR s rfl).setR r rfl, rfl⟩
  | asgC r s =>
    by_cases e : r = s
    · subst e; simp only [SvOp.step, SvOp.spec, if_pos, svAbs_apply, setR_svAbs_self]; exact ⟨h, trivial⟩
    · simp only [SvOp.step, SvOp.spec, if_neg e]; exact ⟨h.setR r rfl, trivial⟩
  | asgM r s =>
    simp only [SvOp.step, SvOp.spec]; split
    · exact ⟨h, trivial⟩
    · exact ⟨(h.setR r rfl).setR s rfl, trivial⟩
  | cmp k r s | cmpU k r u => exact ⟨h, rfl⟩

theorem sv_run_holds (ops : List SvOp) : ∀ {st : SvSt} {ab : SeqAbs}, SvHolds st ab →
    SvHolds (svRun ops st) (svSpecRun ops ab) ∧ svOuts ops st = svSpecOuts ops ab := by
  induction ops with
  | nil => intro st ab h; exact ⟨h, rfl⟩
  | cons op ops ih =>
    intro st ab h
    obtain ⟨h1, h2⟩ := sv_step_holds op h
    obtain ⟨h3, h4⟩ := ih h1
    exact ⟨h3, by simp only [svOuts, svSpecOuts, h2, h4]⟩

end Qentem.Seq
