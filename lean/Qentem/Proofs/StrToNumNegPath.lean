import Qentem.Proofs.StrToNumClosed
import Qentem.Proofs.StrToNumRatClose
/-! C09, the negative-exponent path (`negIter`: repeated `b ↦ ⌊b·r/2^64⌋` with the reciprocal table).  After `i` steps
the code's `b`, the exact target `T = num·2^(64+S)` and `P = 5^E` satisfy, for `K + i ≤ 2^63`,

  `b·P·K ≤ T·(K + i)`                      (not more than a relative `i/K` above), and
  `8·T·K ≤ (8·b + a)·P·(K + i)`            (not more than `a/8` units plus a relative `i/K` below),

where the absolute error `a/8` grows by one unit per step and shrinks with every later reciprocal
(`a' ≥ a·r/2^64 + 8`): `r₂₇/2^64 < 0.62` keeps it at `22/8` in the loop, `30/8` after the last step (`negBig_error`).
`negPath` puts the result in the units of the rounding theorem: the pattern of `negBig num x · 2^-negShift x`, with the
error bound as `Near 8` once the big integer has 61 bits.  Hence `powerOfNegativeTen num x` is within one ulp of the
correctly rounded `num/10^x` (`x ≤ 350`, normal or subnormal) for such a big integer, and within one ulp of any exact
value whose mantissa exceeds `v` by a relative `< 10^-17` when `v ≥ 10^16` (then the big integer has more than 100 bits
and `Near.trunc` absorbs the excess): the case of a mantissa longer than the scan window. -/
namespace Qentem.StrToNum
open Qentem.Round Qentem.Generated.StrToNum

/-- one multiply-shift step with a reciprocal `r ≈ G/F` (`G = A·p2 = 2^(64+s)`, `F = 5^e`, `F·C ≤ G`), abstractly -/
theorem neg_step (b r A G F P T i p2 C K a a' : Nat) (hA : 0 < A) (hG : G = A * p2)
    (hFC : F * C ≤ G) (hr1 : r * F < G + F) (hr2 : G < r * F + F) (hK : 0 < K) (hCK : K + i + 1 ≤ C)
    (ha : a * r + 8 * A ≤ a' * A)
    (inv1 : b * P * K ≤ T * (K + i)) (inv2 : 8 * (T * K) ≤ (8 * (b * P) + a * P) * (K + i)) :
    (b * r / A) * (P * F) * K ≤ T * p2 * (K + i + 1) ∧
    8 * (T * p2 * K) ≤ (8 * ((b * r / A) * (P * F)) + a' * (P * F)) * (K + i + 1) := by
  have hd1 : b * r / A * A ≤ b * r := Nat.div_mul_le_self _ _
  have hd2 : b * r ≤ (b * r / A + 1) * A := by
    have := Nat.lt_div_mul_add (a := b * r) (b := A) hA
    rw [Nat.add_mul, Nat.one_mul]; omega
  generalize b * r / A = b' at *
  constructor
  · apply Nat.le_of_mul_le_mul_right _ (Nat.mul_pos hA (show 0 < C by omega))
    calc b' * (P * F) * K * (A * C) = (b' * A) * (P * F * K * C) := by ring
      _ ≤ (b * r) * (P * F * K * C) := Nat.mul_le_mul_right _ hd1
      _ = (b * P) * K * C * (r * F) := by ring
      _ ≤ (b * P) * K * C * (G + F) := Nat.mul_le_mul_left _ (Nat.le_of_lt hr1)
      _ = (b * P) * K * (G * C + F * C) := by ring
      _ ≤ (b * P) * K * (G * C + G) := Nat.mul_le_mul_left _ (Nat.add_le_add_left hFC _)
      _ = (b * P * K) * (G * (C + 1)) := by ring
      _ ≤ (T * (K + i)) * (G * (C + 1)) := Nat.mul_le_mul_right _ inv1
      _ = T * p2 * A * ((K + i) * (C + 1)) := by rw [hG]; ring
      _ ≤ T * p2 * A * ((K + i + 1) * C) := by
          apply Nat.mul_le_mul_left
          have : (K + i) * (C + 1) = (K + i) * C + (K + i) := by ring
          have : (K + i + 1) * C = (K + i) * C + C := by ring
          omega
      _ = T * p2 * (K + i + 1) * (A * C) := by ring
  · obtain ⟨Cm, hCm⟩ : ∃ Cm, C = Cm + 1 := ⟨C - 1, by omega⟩
    apply Nat.le_of_mul_le_mul_right _ (Nat.mul_pos hA (show 0 < Cm by omega))
    have hGC : G * Cm ≤ r * F * C := by
      have e1 : G * C = G * Cm + G := by rw [hCm]; ring
      have e2 : (r * F + F) * C = r * F * C + F * C := by ring
      have e3 : G * C ≤ (r * F + F) * C := Nat.mul_le_mul_right _ (Nat.le_of_lt hr2)
      omega
    calc 8 * (T * p2 * K) * (A * Cm) = 8 * (T * K) * (G * Cm) := by rw [hG]; ring
      _ ≤ (8 * (b * P) + a * P) * (K + i) * (G * Cm) := Nat.mul_le_mul_right _ inv2
      _ = (K + i) * ((8 * (b * P) + a * P) * (G * Cm)) := by ring
      _ ≤ (K + i) * ((8 * (b * P) + a * P) * (r * F * C)) :=
          Nat.mul_le_mul_left _ (Nat.mul_le_mul_left _ hGC)
      _ = (K + i) * ((8 * (b * r) + a * r) * (P * F * C)) := by ring
      _ ≤ (K + i) * ((8 * ((b' + 1) * A) + a * r) * (P * F * C)) :=
          Nat.mul_le_mul_left _ (Nat.mul_le_mul_right _ (Nat.add_le_add_right (Nat.mul_le_mul_left _ hd2) _))
      _ = (K + i) * ((8 * (b' * A) + (a * r + 8 * A)) * (P * F * C)) := by ring
      _ ≤ (K + i) * ((8 * (b' * A) + a' * A) * (P * F * C)) :=
          Nat.mul_le_mul_left _ (Nat.mul_le_mul_right _ (Nat.add_le_add_left ha _))
      _ = (8 * (b' * (P * F)) + a' * (P * F)) * A * ((K + i) * C) := by ring
      _ ≤ (8 * (b' * (P * F)) + a' * (P * F)) * A * ((K + i + 1) * Cm) := by
          apply Nat.mul_le_mul_left
          have : (K + i) * C = (K + i) * Cm + (K + i) := by rw [hCm]; ring
          have : (K + i + 1) * Cm = (K + i) * Cm + Cm := by ring
          omega
      _ = (8 * (b' * (P * F)) + a' * (P * F)) * (K + i + 1) * (A * Cm) := by ring

/-- what the proofs use of reciprocal entry `i ≥ 1` (`r`, `s` its two table values): `r` is a normalised 64-bit word
within one of `2^(64+s)/5^i`, `s < 64`, and `5^i·2^63 ≤ 2^(64+s)` -/
theorem recip_facts : ∀ i, 1 ≤ i → i < 28 →
    2 ^ 63 ≤ powerOfOneOverFive.getD i 0 ∧ powerOfOneOverFive.getD i 0 < 2 ^ 64 ∧
    powerOfOneOverFiveShift.getD i 0 < 64 ∧
    5 ^ i * 2 ^ 63 ≤ 2 ^ 64 * 2 ^ powerOfOneOverFiveShift.getD i 0 ∧
    powerOfOneOverFive.getD i 0 * 5 ^ i < 2 ^ 64 * 2 ^ powerOfOneOverFiveShift.getD i 0 + 5 ^ i ∧
    2 ^ 64 * 2 ^ powerOfOneOverFiveShift.getD i 0 < powerOfOneOverFive.getD i 0 * 5 ^ i + 5 ^ i := by decide

/-- the two-sided error invariant with the relative error in units of `1/K` and the absolute error `a/8` -/
def NegInv (K b T P i a : Nat) : Prop :=
  b * P * K ≤ T * (K + i) ∧ 8 * (T * K) ≤ (8 * (b * P) + a * P) * (K + i)

theorem NegInv.step {K b T P i a : Nat} (h : NegInv K b T P i a) (j a' : Nat) (hj1 : 1 ≤ j) (hj : j < 28) (hK : 0 < K)
    (hi : K + i + 1 ≤ 2 ^ 63) (ha : a * powerOfOneOverFive.getD j 0 + 8 * 2 ^ 64 ≤ a' * 2 ^ 64) :
    NegInv K (b * powerOfOneOverFive.getD j 0 / 2 ^ 64) (T * 2 ^ powerOfOneOverFiveShift.getD j 0) (P * 5 ^ j) (i + 1)
      a' := by
  obtain ⟨_, _, _, f3, f4, f5⟩ := recip_facts j hj1 hj
  obtain ⟨h1, h2⟩ := h
  have := neg_step b (powerOfOneOverFive.getD j 0) (2 ^ 64) (2 ^ 64 * 2 ^ powerOfOneOverFiveShift.getD j 0) (5 ^ j) P T i
    (2 ^ powerOfOneOverFiveShift.getD j 0) (2 ^ 63) K a a' (Nat.pow_pos (by decide)) rfl f3 f4 f5 hK hi ha h1 h2
  exact ⟨by simpa [Nat.add_assoc] using this.1, by simpa [Nat.add_assoc] using this.2⟩

theorem negIter_inv (K : Nat) (hK : 0 < K) (a : Nat → Nat)
    (ha : ∀ i, a i * powerOfOneOverFive.getD 27 0 + 8 * 2 ^ 64 ≤ a (i + 1) * 2 ^ 64) (n : Nat) :
    ∀ (b T P i : Nat), NegInv K b T P i (a i) → K + i + n ≤ 2 ^ 63 →
      NegInv K (negIter (powerOfOneOverFive.getD 27 0) n b) (T * 2 ^ (62 * n)) (P * 5 ^ (27 * n)) (i + n) (a (i + n)) := by
  induction n with
  | zero => intro b T P i h _; simpa [negIter] using h
  | succ n ih =>
    intro b T P i h hi
    have hstep := h.step 27 (a (i + 1)) (by decide) (by decide) hK (by omega) (ha i)
    rw [show powerOfOneOverFiveShift.getD 27 0 = 62 from rfl] at hstep
    have := ih _ _ _ _ hstep (by omega)
    rw [negIter]
    have e1 : T * 2 ^ 62 * 2 ^ (62 * n) = T * 2 ^ (62 * (n + 1)) := by
      rw [Nat.mul_assoc, ← Nat.pow_add]; congr 2; omega
    have e2 : P * 5 ^ 27 * 5 ^ (27 * n) = P * 5 ^ (27 * (n + 1)) := by
      rw [Nat.mul_assoc, ← Nat.pow_add]; congr 2; omega
    rw [e1, e2, show i + 1 + n = i + (n + 1) by omega] at this
    exact this

/-- the big integer of `negScale num x` for a 64-bit mantissa: the 256-bit object never wraps -/
def negBig (num x : Nat) : Nat :=
  if x % 27 = 0 then negIter (powerOfOneOverFive.getD 27 0) (x / 27) (num * 2 ^ 64)
  else negIter (powerOfOneOverFive.getD 27 0) (x / 27) (num * 2 ^ 64) * powerOfOneOverFive.getD (x % 27) 0 / 2 ^ 64

/-- the binary exponent `negScale num x` ends with: `b·2^-negShift x ≈ num·10^-x` -/
def negShift (x : Nat) : Nat := x + 64 + 62 * (x / 27) + powerOfOneOverFiveShift.getD (x % 27) 0

theorem shift_lt_64 (j : Nat) (hj : j < 28) : powerOfOneOverFiveShift.getD j 0 < 64 := by
  rcases Nat.eq_zero_or_pos j with rfl | h
  · decide
  · exact (recip_facts j h hj).2.2.1

theorem negShift_lt (x : Nat) : negShift x < 4 * x + 128 := by
  have := shift_lt_64 (x % 27) (by omega)
  unfold negShift; omega

theorem negScale_eq (num x : Nat) (hn : num < 2 ^ 64) (hx : x ≤ 2 ^ 20) :
    negScale num x = some (negBig num x, negShift x) := by
  obtain ⟨r27, s27, hr27, hs27, hc⟩ := negScale_closed num x hn
  have hs : s27 = 62 := Option.some.inj (hs27.symm.trans (by decide))
  subst hs
  have hdiv := Nat.div_le_self x 27
  have hsh : (add32 x 64 + x / 27 * 62) % 2 ^ 32 = x + 64 + 62 * (x / 27) := by
    rw [add32_eq _ _ (by omega), Nat.mul_comm]; exact Nat.mod_eq_of_lt (by omega)
  unfold negBig negShift
  rw [List.getD_eq_getElem?_getD, hr27, Option.getD_some]
  rcases hc with ⟨h0, e⟩ | ⟨h0, rj, sj, hrj, hsj, e⟩
  · rw [e, hsh, if_pos h0, h0]; rfl
  · have hsj64 := shift_lt_64 (x % 27) (by omega)
    rw [List.getD_eq_getElem?_getD, hsj, Option.getD_some] at hsj64
    rw [e, hsh, if_neg h0, List.getD_eq_getElem?_getD, hrj, List.getD_eq_getElem?_getD, hsj,
      add32_eq _ _ (by omega)]; rfl

theorem negIter_mono (r : Nat) : ∀ n b b', b ≤ b' → negIter r n b ≤ negIter r n b'
  | 0, _, _, h => h
  | n + 1, _, _, h => negIter_mono r n _ _ (Nat.div_le_div_right (Nat.mul_le_mul_right _ h))

theorem negBig_mono (v w x : Nat) (h : v ≤ w) : negBig v x ≤ negBig w x := by
  have := negIter_mono (powerOfOneOverFive.getD 27 0) (x / 27) _ _ (Nat.mul_le_mul_right (2 ^ 64) h)
  unfold negBig
  split
  · exact this
  · exact Nat.div_le_div_right (Nat.mul_le_mul_right _ this)

/-- the number of multiply-shift steps of `negScale num x`: one per 27 powers of five, one more for the rest -/
def stepsOf (x : Nat) : Nat := x / 27 + (if x % 27 = 0 then 0 else 1)

theorem stepsOf_le (x : Nat) : stepsOf x ≤ x / 27 + 1 := by unfold stepsOf; split <;> omega

/-- **Error bound of the reciprocal pipeline.** With `k = stepsOf x`: relative `k/(2^63 − 2^16)` either way
and at most `min (8k) 30` eighths of a unit of `b` below.  (`K = 2^63 − 2^16`: `x ≤ 2^20` gives fewer than `2^16` steps,
so `K + i` stays within the `2^63` that `neg_step` allows.) -/
theorem negBig_error (num x : Nat) (hx : x ≤ 2 ^ 20) :
    NegInv (2 ^ 63 - 2 ^ 16) (negBig num x) (num * 2 ^ (negShift x - x)) (5 ^ x) (stepsOf x) (min (8 * stepsOf x) 30) := by
  have hr27 : powerOfOneOverFive.getD 27 0 = 11417981541647679048 := by decide
  have hdiv := Nat.div_le_self x 27
  have hx27 : x = 27 * (x / 27) + x % 27 := (Nat.div_add_mod x 27).symm
  have hinit : NegInv (2 ^ 63 - 2 ^ 16) (num * 2 ^ 64) (num * 2 ^ 64) 1 0 (min (8 * 0) 22) :=
    ⟨by rw [Nat.mul_one, Nat.add_zero], by
      rw [Nat.mul_zero, Nat.zero_min, Nat.zero_mul, Nat.add_zero, Nat.add_zero, Nat.mul_one]
      exact Nat.le_of_eq (Nat.mul_assoc _ _ _).symm⟩
  have hloop := negIter_inv (2 ^ 63 - 2 ^ 16) (by decide)
    (fun i => min (8 * i) 22) (fun i => by rw [hr27]; omega) (x / 27) _ _ _ _ hinit (by omega)
  simp only [Nat.one_mul, Nat.zero_add] at hloop
  have hsh : negShift x - x = 64 + (62 * (x / 27) + powerOfOneOverFiveShift.getD (x % 27) 0) := by
    unfold negShift; omega
  rw [hsh]
  unfold negBig stepsOf
  by_cases h0 : x % 27 = 0
  · rw [if_pos h0, if_pos h0, h0, show powerOfOneOverFiveShift.getD 0 0 = 0 from rfl, Nat.add_zero, Nat.add_zero,
      Nat.pow_add, ← Nat.mul_assoc]
    rw [show 27 * (x / 27) = x by omega] at hloop
    obtain ⟨l1, l2⟩ := hloop
    exact ⟨l1, Nat.le_trans l2 (Nat.mul_le_mul_right _ (Nat.add_le_add_left (Nat.mul_le_mul_right _ (by omega)) _))⟩
  · rw [if_neg h0, if_neg h0]
    have g3 := (recip_facts (x % 27) (by omega) (by omega)).2.1
    have hst := hloop.step (x % 27) (min (8 * (x / 27 + 1)) 30) (by omega) (by omega) (by decide) (by omega)
      (by
        have := Nat.mul_le_mul_left (min (8 * (x / 27)) 22) (Nat.le_of_lt g3)
        have h2 : (min (8 * (x / 27)) 22 + 8) * 2 ^ 64 ≤ min (8 * (x / 27 + 1)) 30 * 2 ^ 64 :=
          Nat.mul_le_mul_right _ (by omega)
        rw [Nat.add_mul] at h2
        omega)
    have e : 5 ^ (27 * (x / 27)) * 5 ^ (x % 27) = 5 ^ x := by rw [← Nat.pow_add]; congr 1; omega
    have e2 : ∀ sj, num * 2 ^ 64 * 2 ^ (62 * (x / 27)) * 2 ^ sj = num * 2 ^ (64 + (62 * (x / 27) + sj)) := by
      intro sj; rw [Nat.pow_add, Nat.pow_add]; ring
    rw [e, e2] at hst
    exact hst

/-- a relative error bound stays true in coarser units -/
theorem scale_down (X N R K K' : Nat) (hK : K ≤ K') (h : X * K' ≤ N * K' + R) : X * K ≤ N * K + R := by
  rcases Nat.le_total X N with hXN | hXN
  · exact Nat.le_trans (Nat.mul_le_mul_right _ hXN) (Nat.le_add_right _ _)
  · obtain ⟨d, rfl⟩ := Nat.exists_eq_add_of_le hXN
    rw [Nat.add_mul] at h ⊢
    have : d * K ≤ d * K' := Nat.mul_le_mul_left _ hK
    omega

/-- the bound in round figures, about `negScale` itself: `k ≤ x/27 + 1` steps, one unit and a relative `2^-62` per
step (`num·2^(64+S)/5^x` is the exact value the code aims at) -/
theorem negScale_error (num x : Nat) (hn : num < 2 ^ 64) (hx : x ≤ 2 ^ 20) :
    ∃ b S k, negScale num x = some (b, x + 64 + S) ∧ k ≤ x / 27 + 1 ∧ S ≤ 64 * (x / 27 + 1) ∧
      b * 5 ^ x * 2 ^ 62 ≤ num * 2 ^ (64 + S) * (2 ^ 62 + k) ∧
      num * 2 ^ (64 + S) * 2 ^ 62 ≤ (b + k) * 5 ^ x * (2 ^ 62 + k) := by
  have hsj := shift_lt_64 (x % 27) (by omega)
  have hdiv := Nat.div_le_self x 27
  obtain ⟨e1, e2⟩ := negBig_error num x hx
  refine ⟨negBig num x, negShift x - (x + 64), stepsOf x, by
    rw [negScale_eq num x hn hx]; unfold negShift; congr 2; omega, stepsOf_le x, by unfold negShift; omega, ?_⟩
  rw [show 64 + (negShift x - (x + 64)) = negShift x - x by unfold negShift; omega]
  have ha : min (8 * stepsOf x) 30 * 5 ^ x ≤ 8 * (stepsOf x * 5 ^ x) := by
    rw [← Nat.mul_assoc]; exact Nat.mul_le_mul_right _ (by omega)
  generalize min (8 * stepsOf x) 30 * 5 ^ x = aD at *
  generalize hK' : (2 : Nat) ^ 63 - 2 ^ 16 = K' at e1 e2
  have hKv : K' = 9223372036854710272 := by rw [← hK']; decide
  rw [Nat.mul_add] at e1
  rw [Nat.mul_add (8 * (negBig num x * 5 ^ x) + aD) K' (stepsOf x)] at e2
  rw [Nat.mul_add (num * 2 ^ (negShift x - x)) (2 ^ 62) (stepsOf x), Nat.add_mul (negBig num x) (stepsOf x) (5 ^ x),
    Nat.mul_add (negBig num x * 5 ^ x + stepsOf x * 5 ^ x) (2 ^ 62) (stepsOf x)]
  have hz : (8 * (negBig num x * 5 ^ x) + aD) * stepsOf x ≤
      8 * ((negBig num x * 5 ^ x + stepsOf x * 5 ^ x) * stepsOf x) := by
    have h8 : 8 * (negBig num x * 5 ^ x) + aD ≤ 8 * (negBig num x * 5 ^ x + stepsOf x * 5 ^ x) := by omega
    exact Nat.le_trans (Nat.mul_le_mul_right (stepsOf x) h8) (Nat.le_of_eq (Nat.mul_assoc _ _ _))
  clear hn hx hsj hdiv
  generalize negBig num x * 5 ^ x = X at *
  generalize num * 2 ^ (negShift x - x) = N at *
  generalize stepsOf x * 5 ^ x = kD at *
  generalize N * stepsOf x = Nk at *
  generalize (8 * X + aD) * stepsOf x = W at *
  generalize (X + kD) * stepsOf x = Zk at *
  clear hK'
  constructor
  · exact scale_down X N Nk _ K' (by omega) e1
  · have h1 : (8 * X + aD) * K' ≤ 8 * ((X + kD) * K') := by
      rw [← Nat.mul_assoc]; exact Nat.mul_le_mul_right _ (by omega)
    have e3 : 8 * (N * K') ≤ 8 * ((X + kD) * K' + Zk) := by
      rw [Nat.mul_add]; exact Nat.le_trans e2 (Nat.add_le_add h1 hz)
    exact scale_down N (X + kD) Zk _ K' (by omega) (Nat.le_of_mul_le_mul_left e3 (by decide))

theorem negStep_lower (b r : Nat) (hr : 2 ^ 63 ≤ r) : b + 1 ≤ 2 * (b * r / 2 ^ 64 + 1) := by
  have h1 : b * 2 ^ 63 / 2 ^ 64 ≤ b * r / 2 ^ 64 := Nat.div_le_div_right (Nat.mul_le_mul_left _ hr)
  have h2 : b * 2 ^ 63 / 2 ^ 64 = b / 2 := by
    rw [show (2 : Nat) ^ 64 = 2 ^ 63 * 2 by decide, Nat.mul_comm b, Nat.mul_div_mul_left _ _ (by decide : 0 < 2 ^ 63)]
  omega

theorem negIter_lower (r : Nat) (hr : 2 ^ 63 ≤ r) : ∀ n b, b + 1 ≤ 2 ^ n * (negIter r n b + 1)
  | 0, b => by simp [negIter]
  | n + 1, b => by
    rw [negIter]
    have h1 := negStep_lower b r hr
    have h2 := negIter_lower r hr n (b * r / 2 ^ 64)
    calc b + 1 ≤ 2 * (b * r / 2 ^ 64 + 1) := h1
      _ ≤ 2 * (2 ^ n * (negIter r n (b * r / 2 ^ 64) + 1)) := Nat.mul_le_mul_left _ h2
      _ = 2 ^ (n + 1) * (negIter r n (b * r / 2 ^ 64) + 1) := by rw [Nat.pow_succ]; ring

/-- the big integer cannot shrink by more than a factor two per step -/
theorem negBig_lower (num x : Nat) : num * 2 ^ 64 + 1 ≤ 2 ^ (x / 27 + 1) * (negBig num x + 1) := by
  have hl := negIter_lower _ (recip_facts 27 (by decide) (by decide)).1 (x / 27) (num * 2 ^ 64)
  unfold negBig
  split
  · exact Nat.le_trans hl (Nat.mul_le_mul_right _ (Nat.pow_le_pow_right (by decide) (by omega)))
  · have h2 := negStep_lower (negIter (powerOfOneOverFive.getD 27 0) (x / 27) (num * 2 ^ 64)) _
      (recip_facts (x % 27) (by omega) (by omega)).1
    calc num * 2 ^ 64 + 1 ≤ 2 ^ (x / 27) * (negIter (powerOfOneOverFive.getD 27 0) (x / 27) (num * 2 ^ 64) + 1) := hl
      _ ≤ 2 ^ (x / 27) * (2 * (negIter (powerOfOneOverFive.getD 27 0) (x / 27) (num * 2 ^ 64) *
            powerOfOneOverFive.getD (x % 27) 0 / 2 ^ 64 + 1)) := Nat.mul_le_mul_left _ h2
      _ = 2 ^ (x / 27 + 1) * (negIter (powerOfOneOverFive.getD 27 0) (x / 27) (num * 2 ^ 64) *
            powerOfOneOverFive.getD (x % 27) 0 / 2 ^ 64 + 1) := by rw [Nat.pow_succ]; ring

/-- the error bound of at most 13 steps against the quarter unit `G` of a big integer `b < 2^55·G`, in 256ths:
less than `14·G/256` above the exact `N/D`, less than `31/8 + 14·G/256` below it -/
theorem NegInv.abs {b N D k a : Nat} (h : NegInv (2 ^ 63 - 2 ^ 16) b N D k a) (hD : 0 < D) (hk : k ≤ 13) (ha : a ≤ 30)
    (G : Nat) (hb : b < 2 ^ 55 * G) :
    256 * (b * D) < 256 * N + 14 * (G * D) ∧ 256 * N < 256 * (b * D) + 992 * D + 14 * (G * D) := by
  obtain ⟨e1, e2⟩ := h
  replace e2 := Nat.le_trans e2 (Nat.mul_le_mul_right _ (Nat.add_le_add_left (Nat.mul_le_mul_right D ha) _))
  rw [show (2 : Nat) ^ 63 - 2 ^ 16 = 9223372036854710272 by decide] at e1 e2
  have hX : b * D < 2 ^ 55 * (G * D) := by
    calc b * D < 2 ^ 55 * G * D := Nat.mul_lt_mul_of_pos_right hb hD
      _ = 2 ^ 55 * (G * D) := by ring
  have b1 : N * k ≤ N * 13 := Nat.mul_le_mul_left _ hk
  have b2 : b * D * k ≤ b * D * 13 := Nat.mul_le_mul_left _ hk
  have b3 : D * k ≤ D * 13 := Nat.mul_le_mul_left _ hk
  rw [Nat.mul_add] at e1
  rw [show (8 * (b * D) + 30 * D) * (9223372036854710272 + k) =
    8 * (b * D) * 9223372036854710272 + 8 * (b * D * k) + 30 * D * 9223372036854710272 + 30 * (D * k) by ring] at e2
  generalize b * D = X at *
  generalize G * D = Y at *
  generalize N * k = Nk at *
  generalize X * k = Xk at *
  generalize D * k = Dk at *
  omega

/-- within 1/8 of a quarter unit once it has 61 bits (`G ≥ 64`): `8·(31/8 + 14·G/256) < G` -/
theorem near8_of_error {b N D k a : Nat} (h : NegInv (2 ^ 63 - 2 ^ 16) b N D k a) (hD : 0 < D) (hk : k ≤ 13)
    (ha : a ≤ 30) (hb60 : 2 ^ 60 ≤ b) : Near 8 b N D := by
  have hbit := log2_ge hb60
  obtain ⟨u1, u2⟩ := h.abs hD hk ha _ (lt_quarter b (Nat.le_trans (by decide) hb60))
  have hY : 2 ^ 6 * D ≤ 2 ^ (Nat.log2 b - 54) * D :=
    Nat.mul_le_mul_right _ (Nat.pow_le_pow_right (by decide) (by omega))
  unfold Near
  omega

theorem stepsOf_le13 (x : Nat) (hx : x ≤ 350) : stepsOf x ≤ 13 := Nat.le_trans (stepsOf_le x) (by omega)

theorem near_ten {c num x : Nat} (h : Near c (negBig num x) (num * 2 ^ (negShift x - x)) (5 ^ x)) :
    Near c (negBig num x) (num * 2 ^ negShift x) (10 ^ x) := by
  have := h.scale (2 ^ x) (Nat.pow_pos (by decide))
  rwa [Nat.mul_assoc, ← Nat.pow_add, Nat.sub_add_cancel (by unfold negShift; omega), ← Nat.mul_pow] at this

/-- **The negative path in the units of the rounding theorem.** `powerOfNegativeTen num x` returns the capped pattern of
`negBig num x · 2^-negShift x`; a big integer of 61 bits is within 1/8 of a quarter unit of the exact
`num·2^(negShift x)/10^x`. -/
theorem negPath (num x : Nat) (hn : num < 2 ^ 64) (hx : x ≤ 350) (hb60 : 2 ^ 60 ≤ negBig num x) :
    powerOfNegativeTen num x = some (cap (codeRawNeg (negBig num x) (negShift x))) ∧
    Near 8 (negBig num x) (num * 2 ^ negShift x) (10 ^ x) :=
  ⟨powerOfNegativeTen_code num x _ _ (negScale_eq num x hn (by omega)) (Nat.le_trans (by decide) hb60)
      (by have := negShift_lt x; omega),
    near_ten (near8_of_error (negBig_error num x (by omega)) (Nat.pow_pos (by decide)) (stepsOf_le13 x hx) (by omega) hb60)⟩

theorem powerOfNegativeTen_close_wide (num x : Nat) (hn0 : 0 < num) (hn : num < 2 ^ 64) (hx : x ≤ 350)
    (hb60 : 2 ^ 60 ≤ negBig num x) :
    ∃ p, powerOfNegativeTen num x = some p ∧ ulpDist p (nearestMag num (10 ^ x)) ≤ 1 := by
  obtain ⟨hcode, hnear⟩ := negPath num x hn hx hb60
  exact ⟨_, hcode, round_close _ _ num (10 ^ x) hn0 (Nat.pow_pos (by decide)) (Nat.le_trans (by decide) hb60)
    (hnear.weaken (by decide))⟩

theorem powerOfNegativeTen_close_trunc (v x j vt : Nat) (hv16 : 10 ^ 16 ≤ v) (hv : v < 2 ^ 64) (hx : x ≤ 350)
    (ht1 : v * 10 ^ j ≤ vt) (ht2 : 10 ^ 17 * vt < (10 ^ 17 + 1) * (v * 10 ^ j)) :
    ∃ p, powerOfNegativeTen v x = some p ∧ ulpDist p (nearestMag vt (10 ^ (x + j))) ≤ 1 := by
  have hlow := negBig_lower v x
  have hv0 : 0 < v := Nat.lt_of_lt_of_le (Nat.pow_pos (by decide)) hv16
  have h10j : 0 < 10 ^ j := Nat.pow_pos (by decide)
  have hvt0 : 0 < vt := Nat.lt_of_lt_of_le (Nat.mul_pos hv0 h10j) ht1
  have h10x : 0 < 10 ^ x := Nat.pow_pos (by decide)
  have hP0 : 0 < 2 ^ negShift x := Nat.pow_pos (by decide)
  -- the big integer has more than 100 bits
  have hb100 : 2 ^ 100 ≤ negBig v x := by
    by_contra h
    have h1 : 2 ^ (x / 27 + 1) * (negBig v x + 1) ≤ 2 ^ 13 * 2 ^ 100 :=
      Nat.mul_le_mul (Nat.pow_le_pow_right (by decide) (by omega)) (by omega)
    have h2 : (2 : Nat) ^ 13 * 2 ^ 100 < 10 ^ 16 * 2 ^ 64 := by decide +kernel
    have h3 : 10 ^ 16 * 2 ^ 64 ≤ v * 2 ^ 64 := Nat.mul_le_mul_right _ hv16
    omega
  have hb54 : 2 ^ 54 ≤ negBig v x := Nat.le_trans (by decide) hb100
  -- within 1/8 of a quarter unit of `v/10^x`, hence within a quarter unit of `vt/10^(x+j)`
  obtain ⟨hcode, hnear⟩ := negPath v x hv hx (Nat.le_trans (by decide) hb100)
  have hnear' : Near 1 (negBig v x) (vt * 2 ^ negShift x) (10 ^ x * 10 ^ j) :=
    (hnear.scale (10 ^ j) h10j).trunc hb54 (Nat.mul_pos h10x h10j)
      (by rw [Nat.mul_right_comm]; exact Nat.mul_le_mul_right _ ht1)
      (by rw [Nat.mul_right_comm v, ← Nat.mul_assoc, ← Nat.mul_assoc]; exact Nat.mul_lt_mul_of_pos_right ht2 hP0)
  rw [Nat.pow_add]
  exact ⟨_, hcode, round_close _ _ vt (10 ^ x * 10 ^ j) hvt0 (Nat.mul_pos h10x h10j) hb54 hnear'⟩

theorem trunc_rel_of_abs (v j vt : Nat) (hv17 : 10 ^ 17 ≤ v) (ht2 : vt < (v + 1) * 10 ^ j) :
    10 ^ 17 * vt < (10 ^ 17 + 1) * (v * 10 ^ j) := by
  have h1 : 10 ^ 17 * ((v + 1) * 10 ^ j) ≤ (10 ^ 17 + 1) * (v * 10 ^ j) := by
    have e1 : 10 ^ 17 * ((v + 1) * 10 ^ j) = (10 ^ 17 * v + 10 ^ 17) * 10 ^ j := by ring
    have e2 : (10 ^ 17 + 1) * (v * 10 ^ j) = (10 ^ 17 * v + v) * 10 ^ j := by ring
    rw [e1, e2]; exact Nat.mul_le_mul_right _ (by omega)
  exact Nat.lt_of_lt_of_le (Nat.mul_lt_mul_of_pos_left ht2 (Nat.pow_pos (by decide))) h1

end Qentem.StrToNum
