import Qentem.Model.FmtSpec
/-!
# Decimal numerals: the text of a natural number

`FmtSpec.digitsOf n` is the formatter's reference numeral of `n`; `Value.natText` and the JSON round trip's
`digits` are the same term, `(Nat.toDigits 10 n).map Char.toNat`.  Its recursion (`digitsOf_lt10`,
`digitsOf_step`) and the induction principle that goes with it; that `StrToNum.decVal` reads the numeral back
is with the laws of `decVal` in `Proofs/StrToNumBasic.lean`.
-/
namespace Qentem.Decimal
open Qentem.FmtSpec (digitsOf)

theorem digitsOf_lt10 {n : Nat} (h : n < 10) : digitsOf n = [48 + n] := by
  have key : ∀ m, m < 10 → m.digitChar.toNat = 48 + m := by decide
  simp only [digitsOf, Nat.toDigits_of_lt_base h, List.map_cons, List.map_nil, key n h]

theorem digitsOf_step {n : Nat} (h : 10 ≤ n) : digitsOf n = digitsOf (n / 10) ++ [48 + n % 10] := by
  have := digitsOf_lt10 (Nat.mod_lt n (by decide : 0 < 10))
  simp only [digitsOf, Nat.toDigits_of_lt_base (Nat.mod_lt n (by decide : 0 < 10))] at this
  simp only [digitsOf, Nat.toDigits_of_base_le (by decide : 1 < 10) h, List.map_append, this]

theorem digitsOf_induction {P : Nat → List Nat → Prop} (h0 : ∀ n, n < 10 → P n [48 + n])
    (hs : ∀ n, 10 ≤ n → P (n / 10) (digitsOf (n / 10)) → P n (digitsOf (n / 10) ++ [48 + n % 10])) :
    ∀ n, P n (digitsOf n) := by
  intro n
  induction n using Nat.strongRecOn with
  | _ n ih =>
    by_cases h : n < 10
    · rw [digitsOf_lt10 h]; exact h0 n h
    · rw [digitsOf_step (Nat.le_of_not_lt h)]
      exact hs n (Nat.le_of_not_lt h) (ih (n / 10) (by omega))

theorem isDigit_digitsOf (n : Nat) : ∀ c ∈ digitsOf n, FmtSpec.isDigit c = true :=
  digitsOf_induction (P := fun _ l => ∀ c ∈ l, FmtSpec.isDigit c = true)
    (fun n h x hx => by
      rw [List.mem_singleton.1 hx]; simp only [FmtSpec.isDigit, Bool.and_eq_true, decide_eq_true_eq]; omega)
    (fun n _ ih x hx => by
      rcases List.mem_append.1 hx with hx | hx
      · exact ih x hx
      · rw [List.mem_singleton.1 hx]; simp only [FmtSpec.isDigit, Bool.and_eq_true, decide_eq_true_eq]; omega) n

end Qentem.Decimal
