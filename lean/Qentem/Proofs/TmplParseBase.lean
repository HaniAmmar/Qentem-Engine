import Qentem.Proofs.TmplFinder
import Qentem.Proofs.TmplWF
import Qentem.Proofs.ExprScanSafe
/-!
# C01 — below the tag scanner's invariant: tag lists, sub-languages, the scans inside a tag

What `parse_returns` and the invariant `GInv` (TmplParseAll) rest on.  How the parser's ordered list of finished tags grows
and is cut.  The classes of contents that C01's sub-language statements name, each with the decidable form used for concrete
contents.  The functions called from `step` return and every read they make is in range; the substantial ones are
`checkLoopVariable` and the attribute scans of a `<loop …>` tag and of an inline `{if …}`.
-/
namespace Qentem.Tmpl
open Qentem.Expr (Fault Safe Total ScanCfg VarRef)
open Qentem.Generated.Tmpl

variable {R : Type}

/-! ### ordered tag lists: how `wfTags` behaves when the list grows, is cut, or its bounds move -/

theorem wfTags_mono (n lv : Nat) : ∀ (tags : List (Tag R)) (lo b b' : Nat),
    wfTags n lv lo b tags = true → b ≤ b' → b' ≤ n → wfTags n lv lo b' tags = true := by
  intro tags
  induction tags with
  | nil => intro lo b b' h h1 h2; rw [wfTags_nil] at h ⊢; omega
  | cons t rest ih =>
    intro lo b b' h h1 h2
    obtain ⟨s, e, hw, hs, hr⟩ := wfTags_cons.mp h
    exact wfTags_cons.mpr ⟨s, e, hw, hs, ih _ _ _ hr h1 h2⟩

theorem wfTags_snoc (n lv : Nat) (t : Tag R) (s e : Nat) (ht : wfTag n lv t = some (s, e)) :
    ∀ (tags : List (Tag R)) (lo b b' : Nat),
    wfTags n lv lo b tags = true → b ≤ s → e ≤ b' → b' ≤ n →
    wfTags n lv lo b' (tags ++ [t]) = true := by
  intro tags
  induction tags with
  | nil =>
    intro lo b b' h h1 h2 h3
    have := wfTags_nil.mp h
    exact wfTags_cons.mpr ⟨s, e, ht, by omega, wfTags_nil.mpr ⟨h2, h3⟩⟩
  | cons x rest ih =>
    intro lo b b' h h1 h2 h3
    obtain ⟨s1, e1, hw, hs, hr⟩ := wfTags_cons.mp h
    exact wfTags_cons.mpr ⟨s1, e1, hw, hs, ih _ _ _ hr h1 h2 h3⟩

theorem wfTags_lo (n lv : Nat) : ∀ (tags : List (Tag R)) (lo lo' b : Nat),
    wfTags n lv lo b tags = true → lo' ≤ lo → wfTags n lv lo' b tags = true := by
  intro tags
  cases tags with
  | nil => intro lo lo' b h hl; rw [wfTags_nil] at h ⊢; omega
  | cons t rest =>
    intro lo lo' b h hl
    obtain ⟨s, e, hw, hs, hr⟩ := wfTags_cons.mp h
    exact wfTags_cons.mpr ⟨s, e, hw, by omega, hr⟩

theorem wfTags_bounds (n lv : Nat) : ∀ (tags : List (Tag R)) (lo b : Nat),
    wfTags n lv lo b tags = true → b ≤ n := by
  intro tags
  induction tags with
  | nil => intro lo b h; exact (wfTags_nil.mp h).2
  | cons t rest ih =>
    intro lo b h
    obtain ⟨s, e, _, _, hr⟩ := wfTags_cons.mp h
    exact ih _ _ hr

theorem wfTag_le (n lv : Nat) (t : Tag R) (s e : Nat) (h : wfTag n lv t = some (s, e)) : s ≤ e := by
  cases t with
  | var v => obtain ⟨_, _, _, rfl, rfl⟩ := wfTag_var.mp h; omega
  | raw v => obtain ⟨_, _, _, rfl, rfl⟩ := wfTag_raw.mp h; omega
  | math ex off endOff => obtain ⟨_, h1, _, rfl, rfl⟩ := wfTag_math.mp h; exact h1
  | svar sub v off endOff => obtain ⟨_, _, h1, _, _, rfl, rfl⟩ := wfTag_svar.mp h; exact h1
  | iif cs sub f => obtain ⟨_, _, _, _, rfl, rfl⟩ := wfTag_iif.mp h; omega
  | loop sub f => obtain ⟨_, _, h1, _, _, rfl, rfl⟩ := wfTag_loop.mp h; omega
  | ifT cases off endOff => obtain ⟨h1, _, _, rfl, rfl⟩ := wfTag_ifT.mp h; exact h1

theorem wfTags_le (n lv : Nat) : ∀ (tags : List (Tag R)) (lo b : Nat),
    wfTags n lv lo b tags = true → lo ≤ b := by
  intro tags
  induction tags with
  | nil => intro lo b h; exact (wfTags_nil.mp h).1
  | cons t rest ih =>
    intro lo b h
    obtain ⟨s, e, hw, hs, hr⟩ := wfTags_cons.mp h
    have := ih _ _ hr
    have := wfTag_le n lv t s e hw
    omega

theorem wfCases_snoc (n lv : Nat) (cs : List (Qentem.Expr.Item R)) (sub : List (Tag R)) (o e : Nat) :
    ∀ (done : List (IfCase R)), wfCases n lv (done ++ [IfCase.mk cs sub o e]) =
      (wfCases n lv done && (wfItemVars n lv cs && wfTags n lv o e sub)) := by
  intro done
  induction done with
  | nil => simp [wfCases]
  | cons x rest ih =>
    cases x with
    | mk a b c d => simp only [List.cons_append, wfCases, ih, Bool.and_assoc]

theorem wfEach_of_wfTags (n lv : Nat) : ∀ (l : List (Tag R)) (lo b : Nat),
    wfTags n lv lo b l = true → wfEach n lv l = true := by
  intro l
  induction l with
  | nil => intro lo b _; rfl
  | cons t rest ih =>
    intro lo b h
    obtain ⟨s, e, hw, _, hr⟩ := wfTags_cons.mp h
    simp only [wfEach, Bool.and_eq_true]
    refine ⟨?_, ih _ _ hr⟩
    cases t <;> simp [hw]

theorem wfTags_dropLast (n lv : Nat) : ∀ (l : List (Tag R)) (lo b : Nat),
    wfTags n lv lo b l = true → ∃ b', b' ≤ b ∧ wfTags n lv lo b' l.dropLast = true := by
  intro l
  induction l with
  | nil => intro lo b h; exact ⟨b, Nat.le_refl _, h⟩
  | cons t rest ih =>
    intro lo b h
    obtain ⟨s, e, hw, hs, hr⟩ := wfTags_cons.mp h
    have hle := wfTag_le n lv t s e hw
    have hb := wfTags_bounds _ _ _ _ _ hr
    have heb := wfTags_le _ _ _ _ _ hr
    cases rest with
    | nil => exact ⟨lo, by omega, wfTags_nil.mpr ⟨Nat.le_refl _, by omega⟩⟩
    | cons t2 r2 =>
      obtain ⟨b', hb', hw'⟩ := ih e b hr
      exact ⟨b', hb', wfTags_cons.mpr ⟨s, e, hw, hs, hw'⟩⟩

theorem wfTags_all_ge (n lv : Nat) : ∀ (l : List (Tag R)) (lo b : Nat),
    wfTags n lv lo b l = true → ∀ t ∈ l, ∀ s e, wfTag n lv t = some (s, e) → lo ≤ s := by
  intro l
  induction l with
  | nil => intro lo b _ t ht; cases ht
  | cons x rest ih =>
    intro lo b h t ht s e hse
    obtain ⟨sx, ex, hw, hs, hr⟩ := wfTags_cons.mp h
    rcases List.mem_cons.mp ht with heq | hmem
    · subst heq; rw [hw] at hse; cases hse; exact hs
    · have := ih ex b hr t hmem s e hse
      have := wfTag_le n lv x sx ex hw
      omega

theorem wfTags_drop (n lv : Nat) : ∀ (k : Nat) (l : List (Tag R)) (lo b : Nat),
    wfTags n lv lo b l = true → ∃ lo', wfTags n lv lo' b (l.drop k) = true := by
  intro k
  induction k with
  | zero => intro l lo b h; exact ⟨lo, h⟩
  | succ k ih =>
    intro l lo b h
    cases l with
    | nil => exact ⟨lo, h⟩
    | cons x rest =>
      obtain ⟨sx, ex, _, _, hr⟩ := wfTags_cons.mp h
      exact ih rest ex b hr

theorem wfTags_take_in (n lv Q : Nat) (hQ : Q ≤ n) : ∀ (l : List (Tag R)) (L b cnt P : Nat),
    wfTags n lv L b l = true →
    (∀ j, j < cnt → ∀ t, l[j]? = some t → ∀ s e, wfTag n lv t = some (s, e) → P ≤ s ∧ e ≤ Q) →
    P ≤ Q → wfTags n lv P Q (l.take cnt) = true := by
  intro l
  induction l with
  | nil => intro L b cnt P _ _ hPQ; rw [List.take_nil]; exact wfTags_nil.mpr ⟨hPQ, hQ⟩
  | cons x rest ih =>
    intro L b cnt P h hin hPQ
    cases cnt with
    | zero => exact wfTags_nil.mpr ⟨hPQ, hQ⟩
    | succ cnt =>
      obtain ⟨sx, ex, hw, _, hr⟩ := wfTags_cons.mp h
      have h0 := hin 0 (Nat.zero_lt_succ _) x rfl sx ex hw
      rw [List.take_succ_cons]
      refine wfTags_cons.mpr ⟨sx, ex, hw, h0.1, ih ex b cnt ex hr ?_ h0.2⟩
      intro j hj t ht s e hse
      have h1 := hin (j + 1) (Nat.succ_lt_succ hj) t ht s e hse
      have h2 := wfTags_all_ge n lv rest ex b hr t (List.mem_of_getElem? ht) s e hse
      exact ⟨h2, h1.2⟩

/-! ### the sub-languages

`OnlyUpTo K`: from no offset does the Finder report a match above `K` (`OnlyVarRaw` = `OnlyUpTo 3`: only `}`, `{var:`, `{raw:`);
`OnlyLoops`, `OnlyBlocks`: no `{svar:` and no inline `{if`.  Each has a decidable form that asks the Finder at every offset.
C01 states `parse_wf` (for `OnlyVarRaw`: `parse_total`) and `render_safe` again under each class; nothing below this
section uses one. -/

/-- from no offset does the Finder report a match above `K` -/
def OnlyUpTo (K : Nat) (c : List Nat) : Prop :=
  ∀ off o m, off ≤ c.length → next c off = .ok (o, m) → m ≤ K

/-- from no offset does the Finder report anything but `}`, `{var:`, `{raw:` -/
def OnlyVarRaw (c : List Nat) : Prop := OnlyUpTo 3 c

/-- every match but `{svar:` and the inline `{if` -/
def stageOk (m : Nat) : Prop := m ≤ 4 ∨ (7 ≤ m ∧ m ≤ 11)

/-- from no offset does the Finder report `{svar:` or `{if` -/
def OnlyBlocks (c : List Nat) : Prop :=
  ∀ off o m, off ≤ c.length → next c off = .ok (o, m) → stageOk m

/-- … nor `<if`, `</if>`, `<else` -/
def OnlyLoops (c : List Nat) : Prop :=
  ∀ off o m, off ≤ c.length → next c off = .ok (o, m) → m ≤ 4 ∨ m = 7 ∨ m = 8

theorem next_check_sound (p : Nat → Bool) (c : List Nat)
    (h : (List.range (c.length + 1)).all (fun off =>
      match next c off with
      | .ok (_, m) => p m
      | .error _ => true) = true) (off o m : Nat) (hoff : off ≤ c.length) (hn : next c off = .ok (o, m)) :
    p m = true := by
  rw [List.all_eq_true] at h
  have := h off (List.mem_range.mpr (Nat.lt_succ_of_le hoff))
  rw [hn] at this
  exact this

def onlyUpToB (K : Nat) (c : List Nat) : Bool :=
  (List.range (c.length + 1)).all (fun off =>
    match next c off with
    | .ok (_, m) => decide (m ≤ K)
    | .error _ => true)

theorem onlyUpTo_of_check (K : Nat) (c : List Nat) (h : onlyUpToB K c = true) : OnlyUpTo K c :=
  fun off o m hoff hn => of_decide_eq_true (next_check_sound (fun m => decide (m ≤ K)) c h off o m hoff hn)

/-- `onlyUpToB 3` -/
def onlyVarRawB (c : List Nat) : Bool :=
  (List.range (c.length + 1)).all (fun off =>
    match next c off with
    | .ok (_, m) => decide (m ≤ 3)
    | .error _ => true)

theorem onlyVarRaw_of_check (c : List Nat) (h : onlyVarRawB c = true) : OnlyVarRaw c :=
  onlyUpTo_of_check 3 c h

def onlyBlocksB (c : List Nat) : Bool :=
  (List.range (c.length + 1)).all (fun off =>
    match next c off with
    | .ok (_, m) => decide (m ≤ 4 ∨ (7 ≤ m ∧ m ≤ 11))
    | .error _ => true)

theorem onlyBlocks_of_check (c : List Nat) (h : onlyBlocksB c = true) : OnlyBlocks c :=
  fun off o m hoff hn => (of_decide_eq_true
    (next_check_sound (fun m => decide (m ≤ 4 ∨ (7 ≤ m ∧ m ≤ 11))) c h off o m hoff hn) : m ≤ 4 ∨ (7 ≤ m ∧ m ≤ 11))

def onlyLoopsB (c : List Nat) : Bool :=
  (List.range (c.length + 1)).all (fun off =>
    match next c off with
    | .ok (_, m) => decide (m ≤ 4 ∨ m = 7 ∨ m = 8)
    | .error _ => true)

theorem onlyLoops_of_check (c : List Nat) (h : onlyLoopsB c = true) : OnlyLoops c :=
  fun off o m hoff hn => of_decide_eq_true
    (next_check_sound (fun m => decide (m ≤ 4 ∨ m = 7 ∨ m = 8)) c h off o m hoff hn)

/-! ### `checkLoopVariable`: why its length-unchecked comparison stays inside the content

`checkLoopVariable(content, tag, loop_tag)` compares the text at `tag.Offset` with every enclosing
loop's `value` name with `StringUtils::IsEqual(var, value, ValueLength)` — the variable side is
read without looking at the variable's own length.  It is safe because the comparison stops at the
first difference and
* a loop's value text contains neither `}` nor `>` (`ChainOk`: the text lies inside the `<loop …>`
  tag interior, which the Finder and the `>` search delimit), and
* every compared variable text is followed, inside the content, by a `}` or a `>` (the tag's own
  closing unit).
The two facts themselves are established in TmplParseAll (`ChainOk` is part of the invariant `GInv`
and kept by `stepLoop`; the callers supply the closing unit).
-/

/-- a closing unit: `}` or `>` -/
def isStop (x : Nat) : Prop := x = 125 ∨ x = 62

/-- every loop of the chain has its value text inside the content and free of `}` / `>` -/
def ChainOk (c : List Nat) (chain : List LoopRef) : Prop :=
  ∀ l ∈ chain, l.valueStart + l.valueLen ≤ c.length ∧
    ∀ i, i < l.valueLen → ∀ x, c[l.valueStart + i]? = some x → ¬ isStop x

theorem isEqualRange_total (c : List Nat) : ∀ (n a b : Nat),
    b + n ≤ c.length → (∀ i, i < n → ∀ x, c[b + i]? = some x → ¬ isStop x) →
    (∃ j x, a ≤ j ∧ c[j]? = some x ∧ isStop x) →
    Total (isEqualRange c n a b) (fun _ => True) := by
  intro n
  induction n with
  | zero => intro a b _ _ _; exact Total.ok _ trivial
  | succ n ih =>
    intro a b hb hv ⟨j, x, haj, hj, hx⟩
    have hjl : j < c.length := by
      rcases Nat.lt_or_ge j c.length with h | h
      · exact h
      · rw [List.getElem?_eq_none h] at hj; cases hj
    have hal : a < c.length := by omega
    have hbl : b < c.length := by omega
    simp only [isEqualRange]
    refine Total.read hal (Total.read hbl (Total.ite (fun he => ?_) (fun _ => Total.ok _ trivial)))
    have hns : ¬ isStop c[b] := hv 0 (by omega) c[b] (by simp [List.getElem?_eq_getElem hbl])
    have hne : a ≠ j := by
      intro h; subst h
      rw [List.getElem?_eq_getElem hal] at hj
      cases hj; rw [he] at hx; exact hns hx
    exact ih (a + 1) (b + 1) (by omega)
      (fun i hi y hy => hv (i + 1) (by omega) y (by rwa [show b + (i + 1) = b + 1 + i by omega]))
      ⟨j, x, by omega, hj, hx⟩

theorem checkLoopVariable_total (c : List Nat) (varOff : Nat) : ∀ (chain : List LoopRef),
    ChainOk c chain → (∃ j x, varOff ≤ j ∧ c[j]? = some x ∧ isStop x) →
    Total (checkLoopVariable c varOff chain) (fun _ => True) := by
  intro chain
  induction chain with
  | nil => intro _ _; exact Total.ok _ trivial
  | cons l rest ih =>
    intro hch hstop
    have hl := hch l (List.mem_cons_self ..)
    simp only [checkLoopVariable]
    apply Total.bind (isEqualRange_total c l.valueLen varOff l.valueStart hl.1 hl.2 hstop)
    intro b _
    cases b
    · exact ih (fun x hx => hch x (List.mem_cons_of_mem _ hx)) hstop
    · exact Total.ok _ trivial

theorem checkLoopVariable_safe (c : List Nat) (varOff : Nat) : ∀ (chain : List LoopRef),
    ChainOk c chain → (∃ j x, varOff ≤ j ∧ c[j]? = some x ∧ isStop x) →
    Safe (checkLoopVariable c varOff chain) (fun _ => True) :=
  fun chain hch hstop => (checkLoopVariable_total c varOff chain hch hstop).safe

/-! ### the attribute scan of a `<loop …>` tag

It leaves the tag's value / group fields inside the tag interior `[tag.off, position of '>']` and its set variable
well-formed (`AttOk`). -/

theorem isEqualAt_total (c : List Nat) : ∀ (s : List Nat) (off : Nat), off + s.length ≤ c.length →
    Total (isEqualAt c off s) (fun _ => True) := by
  intro s
  induction s with
  | nil => intro off _; exact Total.ok _ trivial
  | cons x xs ih =>
    intro off h
    simp only [isEqualAt]
    simp only [List.length_cons] at h
    exact Total.read (by omega) (Total.ite (fun _ => ih _ (by omega)) (fun _ => Total.ok _ trivial))

theorem andEqualAt_total (cond : Bool) (c : List Nat) (off : Nat) (s : List Nat)
    (h : cond = true → off + s.length ≤ c.length) : Total (andEqualAt cond c off s) (fun _ => True) := by
  simp only [andEqualAt]
  exact Total.ite (fun hc => isEqualAt_total c s off (h hc)) (fun _ => Total.ok _ trivial)

theorem trunc_le (b x : Nat) : trunc b x ≤ x := Nat.mod_le _ _

theorem trunc_add_le (b a x : Nat) (h : a ≤ x) : a + trunc b (x - a) ≤ x := by
  have := trunc_le b (x - a); omega

/-- what the attribute scan keeps true of the loop record -/
structure AttOk (n lv endO : Nat) (f0 f : LoopFields) : Prop where
  off : f.off = f0.off
  value : f.off + f.valueOff + f.valueLen ≤ endO
  group : f.off + f.groupOff + f.groupLen ≤ endO
  set : wfVar n lv f.set = true

/-- an open `<loop …>` record at the level `lvP` of the list that will contain it.  The invariant carries these
fields as two records, `OpenSafe` (`value`, `clean`: of every open loop) and `OpenWf` (the rest: only below a clean
list), both in TmplParseAll -/
structure OpenLoop (c : List Nat) (lvP : Nat) (f : LoopFields) : Prop where
  set : wfVar c.length lvP f.set = true
  group : f.off + f.groupOff + f.groupLen ≤ c.length
  value : f.off + f.valueOff + f.valueLen ≤ c.length
  clean : ∀ i, i < f.valueLen → ∀ x, c[f.off + f.valueOff + i]? = some x → ¬ isStop x
  content : f.off + f.contentOff ≤ c.length

theorem checkLoopVariable_level (c : List Nat) (off lv : Nat) : ∀ (ch : List LoopRef),
    (∀ l ∈ ch, l.level < lv) → ∀ a b, checkLoopVariable c off ch = .ok (some (a, b)) → b < lv := by
  intro ch
  induction ch with
  | nil => intro _ a b h; simp [checkLoopVariable] at h
  | cons l rest ih =>
    intro hl a b h
    simp only [checkLoopVariable] at h
    cases hq : isEqualRange c l.valueLen off l.valueStart with
    | error e => simp [hq, bind, Except.bind] at h
    | ok bb =>
      simp only [hq, bind, Except.bind] at h
      cases bb with
      | true =>
        simp only [if_true, Except.ok.injEq, Option.some.injEq, Prod.mk.injEq] at h
        rw [← h.2]; exact hl l (List.mem_cons_self ..)
      | false =>
        simp only [Bool.false_eq_true, if_false] at h
        exact ih (fun x hx => hl x (List.mem_cons_of_mem _ hx)) a b h

theorem setVar_total (c : List Nat) (lv : Nat) (chain : List LoopRef) (hch : ChainOk c chain)
    (hlv : ∀ l ∈ chain, l.level < lv) (old : VarRef) (hold : wfVar c.length lv old = true)
    (off len : Nat) (hb : off + len ≤ c.length)
    (hstop : ∃ j x, off ≤ j ∧ c[j]? = some x ∧ isStop x) :
    Total (setVar c chain old off len) (fun v => wfVar c.length lv v = true) := by
  have hlevel : Total (checkLoopVariable c off chain) (fun r => ∀ a b, r = some (a, b) → b < lv) := by
    obtain ⟨r, hr, _⟩ := (checkLoopVariable_total c off chain hch hstop).elim
    rw [hr]
    exact Total.ok _ (fun a b h => checkLoopVariable_level c off lv chain hlv a b (h ▸ hr))
  simp only [setVar]
  apply Total.bind hlevel
  intro r hr
  cases r with
  | none =>
    refine Total.ok _ ?_
    exact wfVar_iff.mpr ⟨hb, (wfVar_iff.mp hold).2⟩
  | some p =>
    obtain ⟨a, b⟩ := p
    refine Total.ok _ ?_
    exact wfVar_iff.mpr ⟨hb, Or.inr (hr a b rfl)⟩

theorem mkVar_total (c : List Nat) (lv : Nat) (chain : List LoopRef) (hch : ChainOk c chain)
    (hlv : ∀ l ∈ chain, l.level < lv) (off len : Nat) (hb : off + len ≤ c.length)
    (hstop : ∃ j x, off ≤ j ∧ c[j]? = some x ∧ isStop x) :
    Total (mkVar c chain off len) (fun v => wfVar c.length lv v = true ∧ v.off = off ∧ v.len = len) := by
  have := setVar_total c lv chain hch hlv ⟨0, 0, 0, 0⟩ (by simp [wfVar]) off len hb hstop
  simp only [setVar, mkVar] at this ⊢
  cases h : checkLoopVariable c off chain with
  | error e => rw [h] at this; exact this
  | ok r =>
    rw [h] at this
    cases r with
    | none => exact Total.ok _ ⟨this, rfl, rfl⟩
    | some p => obtain ⟨a, b⟩ := p; exact Total.ok _ ⟨this, rfl, rfl⟩

theorem parseLoopAttributes_total (c : List Nat) (lv endO : Nat) (he : endO < c.length)
    (hgt : c[endO]? = some 62) (chain : List LoopRef) (hch : ChainOk c chain)
    (hlv : ∀ l ∈ chain, l.level < lv) (f0 : LoopFields) :
    ∀ (fuel off0 : Nat) (att0 : LoopAtt) (f : LoopFields), f0.off ≤ off0 → off0 ≤ endO →
      AttOk c.length lv endO f0 f →
      Total (parseLoopAttributes c endO chain fuel off0 att0 f) (AttOk c.length lv endO f0) := by
  intro fuel
  induction fuel with
  | zero => intro off0 att0 f _ _ hf; exact Total.ok _ hf
  | succ fuel ih =>
    intro off0 att0 f h0 h0e hf
    simp only [parseLoopAttributes]
    apply Total.bind (skipW_total c endO _ (by omega) off0)
    intro off hoff
    have hoe : off ≤ endO := hoff.2.1 h0e
    -- the `switch` never moves backwards
    have hsw : ∀ (k : Nat) (a : LoopAtt), Total (pure (some (off + k, a)) : Except Fault (Option (Nat × LoopAtt)))
        (fun sw => ∀ o a', sw = some (o, a') → off ≤ o) :=
      fun k a => Total.ok _ (fun o a' h => by cases h; exact Nat.le_add_right _ _)
    have hword : ∀ (s : List Nat) (n : Nat), s.length = n →
        Total (andEqualAt (decide (endO - off > n)) c off s) (fun _ => True) := by
      intro s n hs
      refine andEqualAt_total _ c off s (fun hc => ?_)
      rw [decide_eq_true_eq] at hc; omega
    refine Total.bind (P := fun sw => ∀ o a, sw = some (o, a) → off ≤ o) ?_ ?_
    · refine Total.ite (fun hlt => Total.read (by omega) ?_) (fun _ => hsw 0 att0)
      refine Total.ite (fun _ => ?_) (fun _ => Total.ite (fun _ => ?_) (fun _ => Total.ite (fun _ => ?_) (fun _ => ?_)))
      · refine Total.bind (hword W1.setStr W1.setLength (by decide)) (fun b1 _ => Total.ite (fun _ => hsw _ _) (fun _ => ?_))
        exact Total.bind (hword W1.sortStr W1.sortLength (by decide)) (fun b2 _ => Total.ite (fun _ => hsw _ _) (fun _ => hsw _ _))
      · exact Total.bind (hword W1.valueStr W1.valueLength (by decide)) (fun b1 _ => Total.ite (fun _ => hsw _ _) (fun _ => hsw _ _))
      · exact Total.bind (hword W1.groupStr W1.groupLength (by decide)) (fun b1 _ => Total.ite (fun _ => hsw _ _) (fun _ => hsw _ _))
      · exact Total.ok _ (fun o a h => by cases h)
    · intro sw hsw'
      cases sw with
      | none => exact Total.ite (fun _ => ih _ _ _ (by omega) (by omega) hf) (fun _ => Total.ok _ hf)
      | some p =>
        obtain ⟨o1, att⟩ := p
        have ho1 := hsw' o1 att rfl
        apply Total.bind (skipW_total c endO _ (by omega) o1)
        intro o2 ho2
        apply Total.bind (skipW_total c endO _ (by omega) (o2 + 1))
        intro o3 ho3
        refine Total.ite (fun hlt3 => Total.read (by omega) ?_) (fun _ => Total.ok _ hf)
        apply Total.bind (skipW_total c endO _ (by omega) (o3 + 1))
        intro o4 ho4
        have h4e : o4 ≤ endO := ho4.2.1 (by omega)
        have h34 : o3 + 1 ≤ o4 := ho4.1
        have hbase : f0.off ≤ o3 + 1 := by omega
        have hfo := hf.off
        refine Total.bind (P := AttOk c.length lv endO f0) ?_
          (fun f' hf' => Total.ite (fun _ => ih _ _ _ (by omega) (by omega) hf') (fun _ => Total.ok _ hf'))
        cases att with
        | none => exact Total.ok _ hf
        | set =>
          refine Total.bind (setVar_total c lv chain hch hlv f.set hf.set (o3 + 1)
            (trunc bits_VariableTag_Length (o4 - (o3 + 1))) ?_ ⟨endO, 62, by omega, hgt, Or.inr rfl⟩)
            (fun v hv => Total.ok _ ⟨hf.off, hf.value, hf.group, hv⟩)
          have := trunc_add_le bits_VariableTag_Length (o3 + 1) o4 h34; omega
        | value =>
          refine Total.ok _ ⟨hf.off, ?_, hf.group, hf.set⟩
          have h1 := trunc_add_le bits_LoopTag_ValueOffset f.off (o3 + 1) (by omega)
          have h2 := trunc_add_le bits_LoopTag_ValueLength (o3 + 1) o4 h34
          show f.off + trunc bits_LoopTag_ValueOffset (o3 + 1 - f.off) + trunc bits_LoopTag_ValueLength (o4 - (o3 + 1)) ≤ endO
          omega
        | sort =>
          exact Total.read (by omega) (Total.ok _ ⟨hf.off, hf.value, hf.group, hf.set⟩)
        | group =>
          refine Total.ok _ ⟨hf.off, hf.value, ?_, hf.set⟩
          have h1 := trunc_add_le bits_LoopTag_GroupOffset f.off (o3 + 1) (by omega)
          have h2 := trunc_add_le bits_LoopTag_GroupLength (o3 + 1) o4 h34
          show f.off + trunc bits_LoopTag_GroupOffset (o3 + 1 - f.off) + trunc bits_LoopTag_GroupLength (o4 - (o3 + 1)) ≤ endO
          omega

/-! ### the attribute scan of an inline `{if …}` -/

/-- what the attribute scan of an inline if keeps true of the record; `G` is the guard under which the lengths are claimed -/
structure IifJ (G : Prop) (n : Nat) (f0 g : IifFields) (final : Bool) : Prop where
  off : g.off = f0.off
  len : g.len = f0.len
  fr : G → g.off + g.falseOff + g.falseLen ≤ n
  tl : G → g.off + g.trueLen ≤ n
  tr : G → final = true → g.trueOff = 0 ∨ g.off + g.trueOff + g.trueLen ≤ n

abbrev IifFields.setT (f : IifFields) (a b : Nat) : IifFields := { f with trueOff := a, trueLen := b }
abbrev IifFields.setF (f : IifFields) (a b : Nat) : IifFields := { f with falseOff := a, falseLen := b }

theorem iifAttrs_total (G : Prop) (c : List Nat) (endO : Nat) (he : endO ≤ c.length) (trueOffset : Nat) (f0 : IifFields) :
    ∀ (fuel off0 : Nat) (tru0 : Bool) (f : IifFields), f0.off ≤ off0 → IifJ G c.length f0 f true →
      Total (iifAttrs c endO trueOffset fuel off0 tru0 f) (fun sc => IifJ G c.length f0 sc.f (!sc.repush)) := by
  intro fuel
  induction fuel with
  | zero => intro off0 tru0 f _ hf; exact Total.ok _ (by simpa using hf)
  | succ fuel ih =>
    intro off0 tru0 f h0 hf
    have hdone : IifJ G c.length f0 f (!({ f := f } : IifScan).repush) := by simpa using hf
    simp only [iifAttrs]
    apply Total.bind (skipW_total c endO _ he off0)
    intro off hoff
    refine Total.ite (fun hlt => Total.read (by omega) ?_) (fun _ => ?_)
    · have htl : W1.trueStr.length = W1.trueLength := by decide
      have hfl : W1.falseStr.length = W1.falseLength := by decide
      -- the attribute name never moves the offset backwards
      have hhd : ∀ (k : Nat) (t : Bool), Total (pure (some (off + k, t)) : Except Fault (Option (Nat × Bool)))
          (fun hd => ∀ o t', hd = some (o, t') → off ≤ o) :=
        fun k t => Total.ok _ (fun o t' h => by cases h; exact Nat.le_add_right _ _)
      refine Total.bind (P := fun hd : Option (Nat × Bool) => ∀ o t, hd = some (o, t) → off ≤ o) ?_ ?_
      · refine Total.ite (fun _ => ?_) (fun _ => ?_)
        · refine Total.bind (andEqualAt_total _ c off W1.trueStr (fun hc => ?_))
            (fun b1 _ => Total.ite (fun _ => hhd _ _) (fun _ => hhd 0 _))
          rw [decide_eq_true_eq] at hc; omega
        · refine Total.bind (andEqualAt_total _ c off W1.falseStr (fun hc => ?_))
            (fun b1 _ => Total.ite (fun _ => hhd _ _) (fun _ => Total.ok _ (fun o t h => by cases h)))
          rw [Bool.and_eq_true, decide_eq_true_eq, decide_eq_true_eq] at hc; omega
      · intro hd hhd
        cases hd with
        | none => exact Total.ok _ hdone
        | some p =>
          obtain ⟨o1, tru⟩ := p
          have ho1 := hhd o1 tru rfl
          apply Total.bind (skipW_total c endO _ he o1)
          intro o2 ho2
          apply Total.bind (skipW_total c endO _ he (o2 + 1))
          intro o3 ho3
          refine Total.ite (fun hlt3 => Total.read (by omega) ?_) (fun _ => ?_)
          · apply Total.bind (skipW_total c endO _ he (o3 + 1))
            intro o4 ho4
            refine Total.ite (fun hlt4 => ?_) (fun _ => ?_)
            · have hbase : f0.off ≤ o3 + 1 := by omega
              have h34 : o3 + 1 ≤ o4 := ho4.1
              have hf' : IifJ G c.length f0
                  (if tru = true then
                    f.setT (trunc bits_InLineIfTag_TrueOffset (o3 + 1 - f.off)) (trunc bits_InLineIfTag_TrueLength (o4 - (o3 + 1)))
                   else
                    f.setF (trunc bits_InLineIfTag_FalseOffset (o3 + 1 - f.off)) (trunc bits_InLineIfTag_FalseLength (o4 - (o3 + 1))))
                  true := by
                have hfo := hf.off
                cases tru with
                | true =>
                  have h1 := trunc_add_le bits_InLineIfTag_TrueOffset f.off (o3 + 1) (by omega)
                  have h2 := trunc_add_le bits_InLineIfTag_TrueLength (o3 + 1) o4 h34
                  refine ⟨hf.off, hf.len, hf.fr, fun _ => ?_, fun _ _ => Or.inr ?_⟩ <;> simp only [if_true] <;> omega
                | false =>
                  have h1 := trunc_add_le bits_InLineIfTag_FalseOffset f.off (o3 + 1) (by omega)
                  have h2 := trunc_add_le bits_InLineIfTag_FalseLength (o3 + 1) o4 h34
                  refine ⟨hf.off, hf.len, fun _ => ?_, hf.tl, hf.tr⟩
                  simp only [Bool.false_eq_true, if_false]; omega
              exact Total.ite (fun _ => ih _ _ _ (by omega) hf') (fun _ => Total.ok _ (by simpa using hf'))
            · refine Total.ok _ ⟨hf.off, hf.len, hf.fr, hf.tl, ?_⟩
              intro _ h; simp at h
          · exact Total.ite (fun _ => ih _ _ _ (by omega) hf) (fun _ => Total.ok _ hdone)
    · exact Total.ite (fun _ => ih _ _ _ (by omega) hf) (fun _ => Total.ok _ hdone)

/-! ### the current match; the variables of an expression -/

/-- the current match `m`, ending at `off`: it fits, and unless it is `</loop>` / `</if>` its
units are neither `}` nor `>` -/
def CurOk (c : List Nat) (off m : Nat) : Prop :=
  mLen m ≤ off ∧
  (2 ≤ m → m ≠ 8 → m ≠ 10 → ∀ i, off ≤ i + mLen m → i < off → ∀ x, c[i]? = some x → ¬ isStop x)

theorem NextFacts.cur {c : List Nat} {off0 o m : Nat} (h : NextFacts c off0 o m) : CurOk c o m := by
  refine ⟨by have := h.start; omega, ?_⟩
  intro h2 h8 h10 i h1 h3 x hx hstop
  rcases hstop with h125 | h62
  · exact h.word h2 i h1 h3 x hx h125
  · exact h.nogt h2 h8 h10 i h1 h3 x hx h62

theorem CurOk.zero (c : List Nat) (off : Nat) : CurOk c off 0 :=
  ⟨Nat.zero_le _, fun h => absurd h (by decide)⟩

theorem finderNext_beyond (c : List Nat) (st : PState R) (h : c.length < st.off) :
    finderNext c st = .ok { st with mtch := 0 } := by
  simp [finderNext, next, show c.length + 1 - st.off = 0 by omega, nextF, bind, Except.bind]

/-- what holds of every `{var:}` operand of an expression scanned inside the loops `chain` -/
def VarGood (c : List Nat) (lv : Nat) (chain : List LoopRef) (v : VarRef) : Prop :=
  wfVar c.length lv v = true ∧ Safe (checkLoopVariable c v.off chain) (fun _ => True)

theorem exprs_total (cfg : ScanCfg R) (c : List Nat) (lv : Nat) (chain : List LoopRef)
    (hch : ChainOk c chain) (hlv : ∀ l ∈ chain, l.level < lv) (off endO : Nat) (he : endO < c.length) :
    Total (exprs cfg c chain off endO) (fun r => Qentem.Expr.itemsAll (VarGood c lv chain) r) := by
  simp only [exprs]
  refine Total.mono (Total.of_ends (Qentem.Expr.parseTop_ends _ (VarGood c lv chain)
    (Qentem.Expr.readsTo_length _ c) ?_ off endO he)) (fun _ h => h.2)
  intro off0 e hoe hce
  show VarGood c lv chain ⟨off0 + 5, (e - (off0 + 5)) % 2 ^ Qentem.Generated.Expr.variableLengthBits, _, _⟩
  generalize off0 + 5 = o at hoe ⊢
  have hel : e < c.length := (List.getElem?_eq_some_iff.1 hce).1
  have hmod : (e - o) % 2 ^ Qentem.Generated.Expr.variableLengthBits ≤ e - o := Nat.mod_le _ _
  refine ⟨?_, checkLoopVariable_safe c o chain hch ⟨e, 125, hoe, hce, Or.inl rfl⟩⟩
  simp only [wfVar_iff]
  refine ⟨by omega, ?_⟩
  simp only [loopVarPure]
  cases hq : checkLoopVariable c o chain with
  | error e => exact Or.inl rfl
  | ok r =>
    cases r with
    | none => exact Or.inl rfl
    | some p =>
      obtain ⟨a, b⟩ := p
      exact Or.inr (checkLoopVariable_level c o lv chain hlv a b hq)

mutual
theorem operandVarsOk_wf (n lv : Nat) : ∀ (x : Qentem.Expr.Operand R),
    Qentem.Expr.operandVarsOk n x = true → wfOperand n lv x = true
  | .var v, h => by
    simp only [Qentem.Expr.operandVarsOk, Bool.and_eq_true, decide_eq_true_eq, beq_iff_eq] at h
    simp only [wfOperand]
    exact wfVar_iff.mpr ⟨Nat.le_of_lt h.1, Or.inl h.2⟩
  | .sub items, h => by
    simp only [Qentem.Expr.operandVarsOk] at h
    simp only [wfOperand]
    exact itemsVarsOk_wf n lv items h
  | .num _, _ => by simp [wfOperand]
  | .text _ _, _ => by simp [wfOperand]
theorem itemsVarsOk_wf (n lv : Nat) : ∀ (items : List (Qentem.Expr.Item R)),
    Qentem.Expr.itemsVarsOk n items = true → wfItemVars n lv items = true
  | [], _ => by simp [wfItemVars]
  | (x, _) :: rest, h => by
    simp only [Qentem.Expr.itemsVarsOk, Bool.and_eq_true] at h
    simp only [wfItemVars, Bool.and_eq_true]
    exact ⟨operandVarsOk_wf n lv x h.1, itemsVarsOk_wf n lv rest h.2⟩
end

mutual
theorem operandAll_wf (c : List Nat) (lv : Nat) (chain : List LoopRef) : ∀ (x : Qentem.Expr.Operand R),
    Qentem.Expr.operandAll (VarGood c lv chain) x → wfOperand c.length lv x = true
  | .var v, h => by
    simp only [Qentem.Expr.operandAll] at h
    simp only [wfOperand]; exact h.1
  | .sub items, h => by
    simp only [Qentem.Expr.operandAll] at h
    simp only [wfOperand]
    exact itemsAll_wf c lv chain items h
  | .num _, _ => by simp [wfOperand]
  | .text _ _, _ => by simp [wfOperand]
theorem itemsAll_wf (c : List Nat) (lv : Nat) (chain : List LoopRef) : ∀ (items : List (Qentem.Expr.Item R)),
    Qentem.Expr.itemsAll (VarGood c lv chain) items → wfItemVars c.length lv items = true
  | [], _ => by simp [wfItemVars]
  | (x, _) :: rest, h => by
    simp only [Qentem.Expr.itemsAll] at h
    simp only [wfItemVars, Bool.and_eq_true]
    exact ⟨operandAll_wf c lv chain x h.1, itemsAll_wf c lv chain rest h.2⟩
end

/-! ### `<if case="…">`, `<else …>`, `</if>` -/

theorem parseIfCase_total (c : List Nat) (off0 : Nat) :
    Total (parseIfCase c off0 c.length)
      (fun r => off0 ≤ r.1 ∧ (r.1 < c.length → r.2.2 < c.length)) := by
  simp only [parseIfCase]
  apply Total.bind (skipW_total c c.length _ (Nat.le_refl _) off0)
  intro off hoff
  apply Total.bind (andEqualAt_total _ c off W1.caseStr (by
    intro hc
    simp only [Bool.and_eq_true, decide_eq_true_eq] at hc
    have : W1.caseStr.length = W1.caseLength := by decide
    rw [this]; omega))
  intro b _
  refine Total.ite (fun _ => ?_) (fun _ => ?_)
  · apply Total.bind (skipW_total c c.length _ (Nat.le_refl _) (off + W1.caseLength))
    intro o2 ho2
    simp only [doSkipW]
    apply Total.bind (skipW_total c c.length _ (Nat.le_refl _) (o2 + 1))
    intro o3 ho3
    refine Total.ite (fun hlt => Total.read hlt ?_) (fun _ => ?_)
    · apply Total.bind (skipW_total c c.length _ (Nat.le_refl _) (o3 + 1))
      intro ce hce
      have hcele : ce ≤ c.length := hce.2.1 (by omega)
      apply Total.bind (skipW_total c c.length _ (Nat.le_refl _) ce)
      intro gt hgt
      refine Total.ok _ ⟨by simp only []; omega, ?_⟩
      intro h; simp only [] at h ⊢; omega
    · refine Total.ok _ ⟨by simp only []; omega, ?_⟩
      intro h; simp only [] at h ⊢; omega
  · refine Total.ok _ ⟨hoff.1, ?_⟩
    intro h; simp only [] at h ⊢; omega

theorem elseScan_total (c : List Nat) : ∀ (fuel off : Nat),
    Total (elseScan c fuel off) (fun r => off ≤ r.1) := by
  intro fuel
  induction fuel with
  | zero => intro off; exact Total.ok _ (Nat.le_refl _)
  | succ fuel ih =>
    intro off
    simp only [elseScan]
    refine Total.ite (fun hlt => Total.read hlt ?_) (fun _ => Total.ok _ (Nat.le_refl _))
    refine Total.ite (fun _ => Total.ok _ (Nat.le_refl _)) (fun _ => Total.ite (fun _ => Total.ok _ ?_) (fun _ => ?_))
    · simp only []; omega
    · exact Total.mono (ih (off + 1)) (fun r hr => by omega)

end Qentem.Tmpl
