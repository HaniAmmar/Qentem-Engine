import Qentem.Model.Value
import Qentem.Model.ValueOps
import Qentem.Proofs.ValueDoc
import Qentem.Model.Group
/-!
The invariant of every document the operations can build: in every object, at every depth, the live
keys are pairwise distinct.  `WF` is preserved by every per-value operation and by `step`: one walk over the
operations (`step_writes`) says which roots a step writes and that what it writes is well formed (`Writes`),
from which `step_WF` and the frame `step_frame` follow.
-/
namespace Qentem.Value
open Doc

mutual
def WF : Doc → Prop
  | arr items => WFItems items
  | obj _ s => keysNodup s ∧ WFSlots s
  | _ => True
def WFItems : List Doc → Prop
  | [] => True
  | d :: r => WF d ∧ WFItems r
def WFSlots : List Slot → Prop
  | [] => True
  | none :: r => WFSlots r
  | some (_, v) :: r => WF v ∧ WFSlots r
end

theorem WF_undef : WF undef := trivial

theorem WF_obj_nil (c : Nat) : WF (obj c []) := ⟨List.nodup_nil, trivial⟩

theorem WF_arr_nil : WF (arr []) := trivial

theorem WFItems_iff (l : List Doc) : WFItems l ↔ ∀ d ∈ l, WF d := by
  induction l with
  | nil => exact ⟨fun _ _ h => (nomatch h), fun _ => trivial⟩
  | cons a t ih => rw [List.forall_mem_cons, ← ih]; rfl

theorem WFSlots_iff (s : List Slot) : WFSlots s ↔ ∀ e ∈ liveEntries s, WF e.2 := by
  induction s with
  | nil => exact ⟨fun _ _ h => (nomatch h), fun _ => trivial⟩
  | cons a t ih =>
    cases a with
    | none => exact ih
    | some e => rw [liveEntries, List.forall_mem_cons, ← ih]; rfl

theorem WF_obj (c : Nat) (s : List Slot) : WF (obj c s) ↔ keysNodup s ∧ WFSlots s := by simp [WF]

theorem WF_arr (l : List Doc) : WF (arr l) ↔ ∀ d ∈ l, WF d := by simp [WF, WFItems_iff]

theorem WFSlots_liveSlots (s : List Slot) (h : WFSlots s) : WFSlots (liveSlots s) := by
  rw [WFSlots_iff, liveEntries_liveSlots, ← WFSlots_iff]
  exact h

theorem WFSlots_slotUpd (k : Key) (f : Doc → Doc) (s : List Slot) (h : WFSlots s) (hf : ∀ v, WF v → WF (f v)) :
    WFSlots (slotUpd k f s) := by
  induction s using slots_ind k with
  | nil => exact ⟨hf undef WF_undef, trivial⟩
  | tomb r ih => exact ih h
  | hit v r => rw [slotUpd_hit]; exact ⟨hf v h.1, h.2⟩
  | miss k' v r hk ih => rw [slotUpd_miss k v r f hk]; exact ⟨h.1, ih h.2⟩

theorem WFSlots_slotRemove (k : Key) (s : List Slot) (h : WFSlots s) : WFSlots (slotRemove k s) := by
  induction s using slots_ind k with
  | nil => trivial
  | tomb r ih => exact ih h
  | hit v r => rw [slotRemove_hit]; exact h.2
  | miss k' v r hk ih => rw [slotRemove_miss k v r hk]; exact ⟨h.1, ih h.2⟩

theorem WF_slotFind (k : Key) (s : List Slot) (v : Doc) (h : WFSlots s) (hf : slotFind k s = some v) : WF v := by
  induction s using slots_ind k with
  | nil => cases hf
  | tomb r ih => exact ih h hf
  | hit v2 r => rw [slotFind_hit] at hf; cases hf; exact h.1
  | miss k' v2 r hk ih => rw [slotFind_miss k v2 r hk] at hf; exact ih h.2 hf

mutual
theorem WF_copyDoc : ∀ d, WF d → WF (copyDoc d)
  | arr items, h => WFItems_copyItems items h
  | obj c s, h => ⟨by rw [keysNodup, keysOf, liveEntries_copySlots, List.map_map]; exact h.1, WFSlots_copySlots s h.2⟩
  | undef, _ | null, _ | tru, _ | fls, _ | nat _, _ | int _, _ | real _, _ | str _, _ | ptr _, _ => trivial
theorem WFItems_copyItems : ∀ l, WFItems l → WFItems (copyItems l)
  | [], _ => trivial
  | d :: r, h => ⟨WF_copyDoc d h.1, WFItems_copyItems r h.2⟩
theorem WFSlots_copySlots : ∀ s, WFSlots s → WFSlots (copySlots s)
  | [], _ => trivial
  | none :: r, h => WFSlots_copySlots r h
  | some (_, v) :: r, h => ⟨WF_copyDoc v h.1, WFSlots_copySlots r h.2⟩
end

mutual
theorem WF_compress : ∀ d, WF d → WF (compress d)
  | arr items, h => WFItems_compressItems items h
  | obj c s, h => ⟨by rw [keysNodup, keysOf, liveEntries_compressSlots, List.map_map]; exact h.1, WFSlots_compressSlots s h.2⟩
  | undef, _ | null, _ | tru, _ | fls, _ | nat _, _ | int _, _ | real _, _ | str _, _ | ptr _, _ => trivial
theorem WFItems_compressItems : ∀ l, WFItems l → WFItems (compressItems l)
  | [], _ => trivial
  | undef :: r, h => WFItems_compressItems r h.2
  | arr _ :: r, h => ⟨WF_compress _ h.1, WFItems_compressItems r h.2⟩
  | obj _ _ :: r, h => ⟨WF_compress _ h.1, WFItems_compressItems r h.2⟩
  | null :: r, h | tru :: r, h | fls :: r, h | nat _ :: r, h | int _ :: r, h | real _ :: r, h | str _ :: r, h
  | ptr _ :: r, h => ⟨trivial, WFItems_compressItems r h.2⟩
theorem WFSlots_compressSlots : ∀ s, WFSlots s → WFSlots (compressSlots s)
  | [], _ => trivial
  | none :: r, h => WFSlots_compressSlots r h
  | some (_, v) :: r, h => ⟨WF_compress v h.1, WFSlots_compressSlots r h.2⟩
end

theorem asObj_WF (d : Doc) (h : WF d) : WF (obj (asObj d).1 (asObj d).2) := by
  unfold asObj
  split
  · exact h
  · exact WF_obj_nil 0

theorem asArr_WF (d : Doc) (h : WF d) : ∀ x ∈ asArr d, WF x := by
  unfold asArr
  split
  · exact (WF_arr _).1 h
  · exact fun _ hx => absurd hx List.not_mem_nil

theorem objExpand_WF (c : Nat) (s : List Slot) (h : WF (obj c s)) :
    WF (obj (objExpand c s).1 (objExpand c s).2) := by
  unfold objExpand
  split
  · exact ⟨keysNodup_liveSlots _ h.1, WFSlots_liveSlots _ h.2⟩
  · exact h

theorem WF_updKey (k : Key) (f : Doc → Doc) (d : Doc) (h : WF d) (hf : ∀ v, WF v → WF (f v)) : WF (updKey k f d) := by
  have h1 := objExpand_WF (asObj d).1 (asObj d).2 (asObj_WF d h)
  simp only [updKey, WF_obj]
  exact ⟨keysNodup_slotUpd _ _ _ h1.1, WFSlots_slotUpd _ _ _ h1.2 hf⟩

theorem setAtIdx_mem (i : Nat) (f : Doc → Doc) (l : List Doc) (h : ∀ d ∈ l, WF d)
    (hf : ∀ v, WF v → WF (f v)) : ∀ d ∈ setAtIdx i f l, WF d := by
  intro d hd
  obtain ⟨j, hj⟩ := List.getElem?_of_mem hd
  by_cases hji : j = i
  · subst hji
    rw [setAtIdx_get_same] at hj
    obtain ⟨a, ha, rfl⟩ := Option.map_eq_some_iff.mp hj
    exact hf a (h a (List.mem_of_getElem? ha))
  · rw [setAtIdx_get_other _ _ _ _ hji] at hj
    exact h d (List.mem_of_getElem? hj)

theorem slots_set_same_key (c : Nat) (s : List Slot) (i : Nat) (k : Key) (v x : Doc) (hs : s[i]? = some (some (k, v)))
    (h : WF (obj c s)) (hx : WF x) : WF (obj c (s.set i (some (k, x)))) := by
  have hk : keysOf (s.set i (some (k, x))) = keysOf s ∧ (WFSlots s → WFSlots (s.set i (some (k, x)))) := by
    clear h
    induction s generalizing i with
    | nil => cases hs
    | cons a t ih =>
      cases i with
      | zero =>
        cases (Option.some.inj hs)
        exact ⟨rfl, fun hw => ⟨hx, hw.2⟩⟩
      | succ i =>
        have := ih i hs
        cases a with
        | none => exact this
        | some e => exact ⟨congrArg (e.1 :: ·) this.1, fun hw => ⟨hw.1, this.2 hw.2⟩⟩
  exact ⟨by rw [keysNodup, hk.1]; exact h.1, hk.2 h.2⟩

theorem liveEntries_set_none_sublist (s : List Slot) : ∀ i, (liveEntries (s.set i none)).Sublist (liveEntries s) := by
  induction s with
  | nil => intro i; simp
  | cons a t ih =>
    intro i
    cases i with
    | zero => cases a <;> simp [liveEntries]
    | succ i => cases a <;> simp [liveEntries, ih i]

theorem slots_set_none (c : Nat) (s : List Slot) (i : Nat) (h : WF (obj c s)) : WF (obj c (s.set i none)) := by
  have hk := liveEntries_set_none_sublist s i
  refine ⟨(hk.map _).nodup h.1, (WFSlots_iff _).2 fun e he => ?_⟩
  exact (WFSlots_iff s).1 h.2 e (hk.subset he)

theorem mem_liveEntries_of_get (s : List Slot) :
    ∀ (i : Nat) (e : Key × Doc), s[i]? = some (some e) → e ∈ liveEntries s := by
  induction s with
  | nil => intro i e hs; cases hs
  | cons a t ih =>
    intro i e hs
    cases i with
    | zero =>
      cases (Option.some.inj hs)
      exact List.mem_cons_self
    | succ i =>
      have := ih i e hs
      cases a with
      | none => exact this
      | some b => exact List.mem_cons_of_mem _ this

theorem WF_updIdx (i : Nat) (f : Doc → Doc) (d : Doc) (h : WF d) (hf : ∀ v, WF v → WF (f v)) : WF (updIdx i f d) := by
  have hnew : WF (arr (List.replicate i undef ++ [f undef])) := by
    rw [WF_arr]; intro x hx
    simp only [List.mem_append, List.mem_replicate, List.mem_singleton] at hx
    rcases hx with ⟨_, rfl⟩ | rfl
    · exact WF_undef
    · exact hf _ WF_undef
  cases d with
  | arr items =>
    have hi : ∀ x ∈ items, WF x := (WF_arr _).1 h
    simp only [updIdx]
    split
    · rw [WF_arr]; exact setAtIdx_mem i f items hi hf
    · rw [WF_arr]; intro x hx
      simp only [List.mem_append, List.mem_replicate, List.mem_singleton] at hx
      rcases hx with (hx | ⟨_, rfl⟩) | rfl
      · exact hi x hx
      · exact WF_undef
      · exact hf _ WF_undef
  | obj c s =>
    simp only [updIdx]
    split
    · rename_i k v hs
      have hv : WF v := (WFSlots_iff s).1 h.2 (k, v) (mem_liveEntries_of_get s i (k, v) hs)
      exact slots_set_same_key c s i k v (f v) hs h (hf v hv)
    · exact hnew
  | _ => exact hnew

theorem WF_updPath (p : List Sel) (f : Doc → Doc) (hf : ∀ v, WF v → WF (f v)) : ∀ d, WF d → WF (updPath p f d) := by
  induction p with
  | nil => intro d h; exact hf d h
  | cons sel rest ih =>
    intro d h
    cases sel with
    | key k => exact WF_updKey k _ d h ih
    | idx i => exact WF_updIdx i _ d h ih

theorem WF_pushDoc (x d : Doc) (hx : WF x) (h : WF d) : WF (pushDoc x d) := by
  simp only [pushDoc, WF_arr, List.mem_append, List.mem_singleton]
  rintro y (hy | rfl)
  · exact asArr_WF d h y hy
  · exact hx

theorem objMerge_WF (cp : Doc → Doc) (hcp : ∀ v, WF v → WF (cp v)) (c : Nat) (s src : List Slot)
    (h : WF (obj c s)) (hs : WFSlots src) : WF (obj (objMerge cp c s src).1 (objMerge cp c s src).2) := by
  have hbase : ∀ (c' : Nat) (b : List Slot), WF (obj c' b) →
      WF (obj c' (src.foldl (fun acc sl => match sl with
        | some (k, v) => slotUpd k (fun _ => cp v) acc
        | none => acc) b)) := by
    induction src with
    | nil => intro c' b hb; exact hb
    | cons a t ih =>
      intro c' b hb
      cases a with
      | none => exact ih (by simpa [WFSlots] using hs) c' b hb
      | some e =>
        obtain ⟨k, v⟩ := e
        have hs' : WF v ∧ WFSlots t := by simpa [WFSlots] using hs
        exact ih hs'.2 c' _ ⟨keysNodup_slotUpd _ _ _ hb.1, WFSlots_slotUpd _ _ _ hb.2 (fun _ _ => hcp v hs'.1)⟩
  unfold objMerge
  split
  · exact hbase _ _ ⟨keysNodup_liveSlots _ h.1, WFSlots_liveSlots _ h.2⟩
  · exact hbase _ _ h

theorem WF_addValue (cp : Doc → Doc) (hcp : ∀ v, WF v → WF (cp v)) (x d : Doc) (hx : WF x) (h : WF d) :
    WF (addValue cp x d) := by
  unfold addValue
  split
  · rename_i c s c' xs
    exact objMerge_WF cp hcp c s xs h hx.2
  · exact WF_pushDoc _ _ (hcp x hx) h

theorem WF_addObj (xc : Nat) (xs : List Slot) (d : Doc) (hx : WF (obj xc xs)) (h : WF d) : WF (addObj xc xs d) := by
  rw [show addObj xc xs d = addValue id (obj xc xs) d by cases d <;> rfl]
  exact WF_addValue id (fun _ hv => hv) _ d hx h

theorem WF_addArr (xs : List Doc) (d : Doc) (hx : ∀ x ∈ xs, WF x) (h : WF d) : WF (addArr xs d) := by
  unfold addArr
  split
  · exact WF_pushDoc _ _ WF_arr_nil h
  · simp only [WF_arr, List.mem_append]
    rintro y (hy | hy)
    · exact asArr_WF d h y hy
    · exact hx y hy

theorem WF_mergeArr (cp : Doc → Doc) (hcp : ∀ v, WF v → WF (cp v)) (items xs : List Doc)
    (h1 : ∀ y ∈ items, WF y) (hx : ∀ y ∈ xs, WF y) : WF (arr (items ++ mapDocs cp (dropUndef xs))) := by
  simp only [WF_arr, List.mem_append, mapDocs_eq_map, dropUndef_eq_filter, List.mem_map, List.mem_filter]
  rintro y (hy | ⟨z, ⟨hz, _⟩, rfl⟩)
  · exact h1 y hy
  · exact hcp z (hx z hz)

theorem WF_mergeInto (cp : Doc → Doc) (hcp : ∀ v, WF v → WF (cp v)) (x d : Doc) (hx : WF x) (h : WF d) :
    WF (mergeInto cp x d) := by
  -- the target after `if (isUndefined()) setTypeToArray()`
  have h1 : WF (match (generalizing := false) d with | undef => arr [] | _ => d) := by
    split
    · exact WF_arr_nil
    · exact h
  simp only [mergeInto]
  split
  · rename_i heq
    exact WF_mergeArr cp hcp _ _ ((WF_arr _).1 ((congrArg WF heq).mp h1)) ((WF_arr _).1 hx)
  · rename_i heq
    exact objMerge_WF cp hcp _ _ _ ((congrArg WF heq).mp h1) hx.2
  · exact h1

theorem WF_removeKey (k : Key) (d : Doc) (h : WF d) : WF (removeKey k d) := by
  unfold removeKey
  split
  · exact ⟨keysNodup_slotRemove _ _ h.1, WFSlots_slotRemove _ _ h.2⟩
  · exact h

theorem WF_removeIdx (i : Nat) (d : Doc) (h : WF d) : WF (removeIdx i d) := by
  cases d with
  | obj c s =>
    simp only [removeIdx]
    split
    · exact slots_set_none c s i h
    · exact h
  | arr items =>
    simp only [removeIdx]
    split
    · rw [WF_arr]; exact setAtIdx_mem i _ items ((WF_arr _).1 h) (fun _ _ => WF_undef)
    · exact h
  | _ => simpa [removeIdx] using h

theorem WF_resetPayload (d : Doc) : WF (resetPayload d) := by
  cases d <;> first | exact WF_obj_nil 0 | trivial

theorem WF_assignType (k : Nat) (d d' : Doc) (h : assignType k d = some d') : WF d' := by
  unfold assignType at h
  split at h <;> cases h <;> first | exact WF_obj_nil 0 | trivial

theorem WF_nonUndef (v x : Doc) (h : WF v) (hx : nonUndef v = some x) : WF x :=
  (nonUndef_some v x hx).1 ▸ h

theorem WF_childAt (d : Doc) (sel : Sel) (c : Doc) (h : WF d) (hc : childAt d sel = some c) : WF c := by
  cases sel with
  | key k =>
    rw [childAt] at hc
    unfold childKey at hc
    split at hc
    · split at hc
      · rename_i v hf
        exact WF_nonUndef v c (WF_slotFind k _ v h.2 hf) hc
      · cases hc
    · split at hc
      · split at hc
        · rename_i v hg
          exact WF_nonUndef v c ((WF_arr _).1 h v (List.mem_of_getElem? hg)) hc
        · cases hc
      · cases hc
    · cases hc
  | idx i =>
    rw [childAt] at hc
    unfold childIdx at hc
    split at hc
    · split at hc
      · rename_i k v hs
        exact WF_nonUndef v c ((WFSlots_iff _).1 h.2 (k, v) (mem_liveEntries_of_get _ i (k, v) hs)) hc
      · cases hc
    · split at hc
      · rename_i v hg
        exact WF_nonUndef v c ((WF_arr _).1 h v (List.mem_of_getElem? hg)) hc
      · cases hc
    · cases hc

theorem WF_getAt : ∀ (p : List Sel) (d x : Doc), WF d → getAt d p = some x → WF x := by
  intro p
  induction p with
  | nil => intro d x h hx; simp [getAt] at hx; subst hx; exact h
  | cons sel rest ih =>
    intro d x h hx
    obtain ⟨c, hc, hx⟩ := getAt_cons_some hx
    exact ih c x (WF_childAt d sel c h hc) hx

theorem slotSetVal_WF (k : Key) (x : Doc) (hx : WF x) (s : List Slot) :
    keysOf (slotSetVal k x s) = keysOf s ∧ (WFSlots s → WFSlots (slotSetVal k x s)) := by
  induction s using slots_ind k with
  | nil => exact ⟨rfl, id⟩
  | tomb r ih => exact ih
  | hit v r => rw [slotSetVal_hit]; exact ⟨rfl, fun hw => ⟨hx, hw.2⟩⟩
  | miss k' v r hk ih => rw [slotSetVal_miss k v r x hk]; exact ⟨congrArg (k' :: ·) ih.1, fun hw => ⟨hw.1, ih.2 hw.2⟩⟩

theorem WF_setChild (d : Doc) (sel : Sel) (x : Doc) (h : WF d) (hx : WF x) : WF (setChild d sel x) := by
  unfold setChild
  split
  · rename_i c sl k
    have hk := slotSetVal_WF k x hx sl
    exact ⟨by rw [keysNodup, hk.1]; exact h.1, hk.2 h.2⟩
  · rename_i c sl i
    split
    · rename_i k v hs
      exact slots_set_same_key c sl i k v x hs h hx
    · exact h
  · split
    · exact (WF_arr _).2 (setAtIdx_mem _ _ _ ((WF_arr _).1 h) (fun _ _ => hx))
    · exact h
  · exact (WF_arr _).2 (setAtIdx_mem _ _ _ ((WF_arr _).1 h) (fun _ _ => hx))
  · exact h

theorem WF_modAt (f : Doc → Doc) (hf : ∀ v, WF v → WF (f v)) : ∀ (p : List Sel) (d : Doc), WF d → WF (modAt d p f) := by
  intro p
  induction p with
  | nil => intro d h; exact hf d h
  | cons sel rest ih =>
    intro d h
    simp only [modAt]
    cases hc : childAt d sel with
    | none => exact h
    | some c => exact WF_setChild d sel _ h (ih c (WF_childAt d sel c h hc))

theorem subObjSet_WF (k : Key) (v : Doc) (o : Nat × List Slot) (ho : WF (obj o.1 o.2)) (hv : WF v) :
    WF (obj (subObjSet k v o).1 (subObjSet k v o).2) :=
  WF_updKey k _ (obj o.1 o.2) ho (fun _ _ => WF_copyDoc v hv)

theorem groupScan_WF (fmtReal : Nat → List Nat) (env : Env) (key : Key) (slots : List Slot) :
    ∀ (cur : Key) (sub : Nat × List Slot) (cur' : Key) (sub' : Nat × List Slot),
    WFSlots slots → WF (obj sub.1 sub.2) →
    groupScan fmtReal env key slots cur sub = some (cur', sub') → WF (obj sub'.1 sub'.2) := by
  induction slots with
  | nil => intro cur sub cur' sub' _ hs h; cases h; exact hs
  | cons a t ih =>
    intro cur sub cur' sub' hw hs h
    cases a with
    | none => exact ih cur sub cur' sub' hw hs h
    | some e =>
      obtain ⟨k, v⟩ := e
      rw [groupScan] at h
      split at h
      · cases h
      · split at h
        · exact ih cur _ cur' sub' hw.2 (subObjSet_WF k v sub hs hw.1) h
        · split at h
          · exact ih _ sub cur' sub' hw.2 hs h
          · cases h

theorem groupAdd_WF (cur : Key) (sub res : Nat × List Slot) (hs : WF (obj sub.1 sub.2))
    (hr : WF (obj res.1 res.2)) : WF (obj (groupAdd cur sub res).1 (groupAdd cur sub res).2) :=
  WF_updKey cur _ (obj res.1 res.2) hr (fun v hv => WF_addObj sub.1 sub.2 v hs hv)

theorem groupLoop_WF (fmtReal : Nat → List Nat) (env : Env) (key : Key) (items : List Doc) :
    ∀ (cur : Key) (res : Nat × List Slot), (∀ it ∈ items, WF it) → WF (obj res.1 res.2) →
    WF (obj (groupLoop fmtReal env key items cur res).2.1 (groupLoop fmtReal env key items cur res).2.2) := by
  induction items with
  | nil => intro cur res _ hr; simpa [groupLoop] using hr
  | cons it rest ih =>
    intro cur res hi hr
    cases it with
    | obj c slots =>
      simp only [groupLoop]
      cases hsc : groupScan fmtReal env key slots cur (0, []) with
      | none => simpa using hr
      | some p =>
        obtain ⟨cur', sub⟩ := p
        have hsub := groupScan_WF fmtReal env key slots cur (0, []) cur' sub
          (hi _ List.mem_cons_self).2 (WF_obj_nil 0) hsc
        exact ih cur' _ (fun x hx => hi x (List.mem_cons_of_mem _ hx)) (groupAdd_WF cur' sub res hsub hr)
    | _ => simpa [groupLoop] using hr

/-- every root of the forest is well formed. -/
def EnvWF (env : Env) : Prop := ∀ r, WF (envGet env r)

theorem WF_derefF (env : Env) (h : EnvWF env) : ∀ (f : Nat) (d : Doc), WF d → WF (derefF env f d) := by
  intro f
  induction f with
  | zero => intro d hd; simpa [derefF] using hd
  | succ f ih =>
    intro d hd
    cases d with
    | ptr r => simp only [derefF]; exact ih _ (h r)
    | _ => simpa [derefF] using hd

theorem WF_groupByA (fmtReal : Nat → List Nat) (env : Env) (henv : EnvWF env) (src : Doc) (key : Key) (dest : Doc)
    (hs : WF src) (hd : WF dest) : WF (groupByA fmtReal env src key dest).2 := by
  have hdr : WF (deref env src) := WF_derefF env henv _ src hs
  unfold groupByA
  split
  · rename_i items hitems
    rw [hitems] at hdr
    split
    · split
      · exact groupLoop_WF fmtReal env key _ [] (0, []) ((WF_arr _).1 hdr) (WF_obj_nil 0)
      · exact WF_obj_nil 0
    · exact WF_obj_nil 0
  · exact hd

theorem EnvWF_envSet (env : Env) (r : Nat) (d : Doc) (h : EnvWF env) (hd : WF d) : EnvWF (envSet env r d) := by
  intro q
  have hq := h q
  simp only [envGet, envSet, List.getElem?_set] at *
  by_cases hrq : r = q
  · subst hrq
    by_cases hl : r < env.length <;> simp [hl, hd, WF_undef]
  · simpa [hrq] using hq

theorem WF_source (env : Env) (t s : Loc) (x : Doc) (h : EnvWF env) (hx : source env t s = some x) : WF x := by
  unfold source at hx
  split at hx
  · cases hx
  · exact WF_getAt s.path _ x (h s.root) hx

theorem WF_refUpd (f : Doc → Doc) (hf : ∀ v, WF v → WF (f v)) : ∀ (p : List Sel) (d : Doc), WF d → WF (refUpd p f d) := by
  intro p
  induction p with
  | nil => intro d h; exact hf d h
  | cons sel rest ih =>
    intro d h
    cases sel with
    | key k =>
      cases d with
      | obj c s =>
        simp only [refUpd]
        exact ⟨keysNodup_slotUpd _ _ _ h.1, WFSlots_slotUpd _ _ _ h.2 ih⟩
      | _ => exact h
    | idx i =>
      cases d with
      | arr items =>
        simp only [refUpd, WF_arr]
        exact setAtIdx_mem i _ items ((WF_arr _).1 h) ih
      | obj c s =>
        simp only [refUpd]
        split
        · rename_i k v hs
          have hv : WF v := (WFSlots_iff s).1 h.2 (k, v) (mem_liveEntries_of_get s i (k, v) hs)
          exact slots_set_same_key c s i k v _ hs h (ih v hv)
        · exact h
      | _ => exact h

theorem WF_movedOut (d : Doc) (h : WF d) : WF (movedOut d) := by
  unfold movedOut
  split
  · exact WF_obj_nil 0
  · exact WF_arr_nil
  · trivial
  · exact h

theorem WF_clearDoc (d : Doc) (h : WF d) : WF (clearDoc d) := by
  unfold clearDoc
  split
  · exact WF_obj_nil _
  · exact WF_arr_nil
  · exact h

theorem WF_reservedDoc (k n : Nat) (x : Doc) (h : reservedDoc k n = some x) : WF x := by
  unfold reservedDoc at h
  split at h <;> cases h
  · exact WF_obj_nil _
  · exact WF_arr_nil

/-- the documents an operation carries as immediate operands (scalars and strings in every overload). -/
def Op.payloadWF : Op → Prop
  | .assign _ x | .append _ x | .insert _ _ x => WF x
  | _ => True

/-- the roots an operation may write. -/
def touched : Op → List Nat
  | .assign t _ | .touch t | .setType t _ | .setPtr t _ | .append t _ | .addPtr t _ | .insert t _ _
  | .remove t _ | .removeIdx t _ | .reset t | .compress t | .reserve t _ _ | .clear t => [t.root]
  | .copy t _ | .assignObj t _ | .assignArr t _ | .appendCopy t _ | .appendObj t _ | .appendArr t _
  | .mergeCopy t _ => [t.root]
  | .move t s | .appendMove t s | .insertMove t _ s | .mergeMove t s | .container t s _ _ _ => [t.root, s.root]
  | .groupBy dest _ _ => [dest]

theorem envGet_envSet_same (env : Env) (r : Nat) (d : Doc) (h : r < env.length) : envGet (envSet env r d) r = d := by
  simp [envGet, envSet, h]

theorem envGet_envSet_other (env : Env) (r q : Nat) (d : Doc) (h : q ≠ r) :
    envGet (envSet env r d) q = envGet env q := by
  simp [envGet, envSet, Ne.symm h]

theorem envGet_onTarget_other (env : Env) (t : Loc) (f : Doc → Doc) (q : Nat) (h : q ≠ t.root) :
    envGet (onTarget env t f) q = envGet env q := envGet_envSet_other _ _ _ _ h

/-- `env'` comes from `env` by writing documents to roots among `roots`, each well formed provided `A` holds and
the forest was well formed at the start and before that write. -/
inductive Writes (roots : List Nat) (A : Prop) (env : Env) : Env → Prop
  | none : Writes roots A env env
  | set {env' : Env} (r : Nat) (d : Doc) (hr : r ∈ roots) (hd : A → EnvWF env → EnvWF env' → WF d)
      (h : Writes roots A env env') : Writes roots A env (envSet env' r d)

section
variable {roots : List Nat} {A : Prop} {env env' : Env}

theorem Writes.frame (h : Writes roots A env env') {q : Nat} (hq : q ∉ roots) : envGet env' q = envGet env q := by
  induction h with
  | none => rfl
  | set r d hr _ _ ih => exact (envGet_envSet_other _ _ _ _ (fun e : q = r => hq (e.symm ▸ hr))).trans ih

theorem Writes.wf (h : Writes roots A env env') (hA : A) (he : EnvWF env) : EnvWF env' := by
  induction h with
  | none => exact he
  | set r d _ hd _ ih => exact EnvWF_envSet _ _ _ ih (hd hA he ih)

theorem Writes.onTarget (h : Writes roots A env env') (t : Loc) (f : Doc → Doc) (hr : t.root ∈ roots)
    (hf : A → EnvWF env → ∀ v, WF v → WF (f v)) : Writes roots A env (onTarget env' t f) :=
  .set _ _ hr (fun hA he he' => WF_updPath t.path f (hf hA he) _ (he' t.root)) h

theorem Writes.clearSource (h : Writes roots A env env') (s : Loc) (hr : s.root ∈ roots) :
    Writes roots A env (clearSource env' s) :=
  .set _ _ hr (fun _ _ he' => WF_modAt _ (fun _ _ => WF_undef) s.path _ (he' s.root)) h

end

theorem step_writes (fmtReal : Nat → List Nat) (op : Op) (env : Env) :
    Writes (touched op) op.payloadWF env (step fmtReal op env).1 := by
  have t1 : ∀ {r : Nat} {l : List Nat}, r ∈ r :: l := List.mem_cons_self
  have t2 : ∀ {r r' : Nat} {l : List Nat}, r' ∈ r :: r' :: l := List.mem_cons_of_mem _ List.mem_cons_self
  cases op with
  | assign t x => exact Writes.none.onTarget t _ t1 (fun hp _ _ _ => hp)
  | touch t => exact Writes.none.onTarget t _ t1 (fun _ _ _ hv => hv)
  | setType t k =>
    refine Writes.none.onTarget t _ t1 (fun _ _ v hv => ?_)
    split
    · exact WF_assignType k v _ ‹_›
    · exact hv
  | move t s =>
    simp only [step]
    split
    · exact (Writes.none.clearSource s t2).onTarget t _ t1 (fun _ h _ _ => WF_source env t s _ h ‹_›)
    · exact .none
  | copy t s | assignObj t s | assignArr t s =>
    simp only [step]
    split
    · exact Writes.none.onTarget t _ t1 (fun _ h _ _ => WF_copyDoc _ (WF_source env t s _ h ‹_›))
    · exact .none
  | setPtr t r =>
    cases r with
    | some r => exact Writes.none.onTarget t _ t1 (fun _ _ _ _ => trivial)
    | none =>
      refine Writes.none.onTarget t _ t1 (fun _ _ v _ => ?_)
      split
      · trivial
      · exact WF_resetPayload _
  | append t x => exact Writes.none.onTarget t _ t1 (fun hp _ v hv => WF_pushDoc x v hp hv)
  | appendMove t s =>
    simp only [step]
    split
    · exact (Writes.none.clearSource s t2).onTarget t _ t1 (fun _ h v hv =>
        WF_addValue id (fun _ hw => hw) _ v (WF_source env t s _ h ‹_›) hv)
    · exact .none
  | appendCopy t s =>
    simp only [step]
    split
    · exact Writes.none.onTarget t _ t1 (fun _ h v hv =>
        WF_addValue copyDoc WF_copyDoc _ v (WF_source env t s _ h ‹_›) hv)
    · exact .none
  | appendObj t s =>
    simp only [step]
    split
    · rename_i c sl hs
      exact Writes.none.onTarget t _ t1 (fun _ h v hv => WF_addObj _ _ v (WF_copyDoc _ (WF_source env t s _ h hs)) hv)
    · exact .none
  | appendArr t s =>
    simp only [step]
    split
    · rename_i items hs
      exact Writes.none.onTarget t _ t1 (fun _ h v hv =>
        WF_addArr _ v ((WF_arr _).1 (WF_copyDoc _ (WF_source env t s _ h hs))) hv)
    · exact .none
  | addPtr t r =>
    cases r with
    | some r => exact Writes.none.onTarget t _ t1 (fun _ _ v hv => WF_pushDoc _ v trivial hv)
    | none => exact Writes.none.onTarget t _ t1 (fun _ _ v hv => WF_pushDoc _ v WF_undef hv)
  | insert t k x => exact Writes.none.onTarget t _ t1 (fun hp _ v hv => WF_updKey k _ v hv (fun _ _ => hp))
  | insertMove t k s =>
    simp only [step]
    split
    · exact (Writes.none.clearSource s t2).onTarget t _ t1 (fun _ h v hv =>
        WF_updKey k _ v hv (fun _ _ => WF_source env t s _ h ‹_›))
    · exact .none
  | mergeMove t s =>
    simp only [step]
    split
    · exact (Writes.none.clearSource s t2).onTarget t _ t1 (fun _ h v hv =>
        WF_mergeInto id (fun _ hw => hw) _ v (WF_source env t s _ h ‹_›) hv)
    · exact .none
  | mergeCopy t s =>
    simp only [step]
    split
    · exact Writes.none.onTarget t _ t1 (fun _ h v hv =>
        WF_mergeInto copyDoc WF_copyDoc _ v (WF_source env t s _ h ‹_›) hv)
    · exact .none
  | remove t k => exact Writes.none.onTarget t _ t1 (fun _ _ v hv => WF_removeKey k v hv)
  | removeIdx t i => exact Writes.none.onTarget t _ t1 (fun _ _ v hv => WF_removeIdx i v hv)
  | reset t => exact Writes.none.onTarget t _ t1 (fun _ _ _ _ => WF_undef)
  | compress t => exact Writes.none.onTarget t _ t1 (fun _ _ v hv => WF_compress v hv)
  | clear t => exact Writes.none.onTarget t _ t1 (fun _ _ => WF_clearDoc)
  | reserve t k n =>
    simp only [step]
    cases hr : reservedDoc k n with
    | none => exact Writes.none.onTarget t _ t1 (fun _ _ _ hv => hv)
    | some x => exact Writes.none.onTarget t _ t1 (fun _ _ _ _ => WF_reservedDoc k n x hr)
  | container t s kind add mv =>
    have w1 : Writes (touched (.container t s kind add mv)) True env (onTarget env t id) :=
      Writes.none.onTarget t _ t1 (fun _ _ _ hv => hv)
    simp only [step]
    cases hg : getAt (envGet (onTarget env t id) s.root) s.path with
    | none => exact w1
    | some x =>
      simp only []
      cases hk : isContainerKind kind x with
      | false => exact w1
      | true =>
        have hx : EnvWF env → WF x := fun h => WF_getAt s.path _ x (w1.wf trivial h s.root) hg
        have hpl : EnvWF env → WF (if mv = true then x else copyDoc x) := fun h => by
          cases mv
          · exact WF_copyDoc x (hx h)
          · exact hx h
        have w2 : Writes (touched (.container t s kind add mv)) True env (if mv = true then envSet (onTarget env t id) s.root
            (modAt (envGet (onTarget env t id) s.root) s.path movedOut) else onTarget env t id) := by
          cases mv
          · exact w1
          · exact .set _ _ t2 (fun _ _ h1 => WF_modAt movedOut WF_movedOut s.path _ (h1 s.root)) w1
        refine .set _ _ t1 (fun _ h h2 => WF_refUpd _ (fun v hv => ?_) t.path _ (h2 t.root)) w2
        have hpl := hpl h
        generalize (if mv = true then x else copyDoc x) = payload at hpl
        cases add
        · exact hpl
        · rw [if_pos rfl]
          split
          · exact WF_addObj _ _ v hpl hv
          · exact WF_addArr _ v ((WF_arr _).1 hpl) hv
          · exact WF_pushDoc _ v hpl hv
  | groupBy dest s k =>
    simp only [step]
    split
    · exact .none
    · cases hg : getAt (envGet env s.root) s.path with
      | none => exact .none
      | some x =>
        exact .set _ _ t1 (fun _ h _ =>
          WF_groupByA fmtReal env h x k _ (WF_getAt s.path _ x (h s.root) hg) (h dest)) .none

/-- **every reachable forest state is well formed**: one operation keeps the invariant. -/
theorem step_WF (fmtReal : Nat → List Nat) (op : Op) (env : Env) (h : EnvWF env) (hp : op.payloadWF) :
    EnvWF (step fmtReal op env).1 :=
  (step_writes fmtReal op env).wf hp h

/-- **independence (frame)**: an operation changes no root other than its target (and, for the moving
overloads, its source).  In particular a copy never changes its source, and whatever is later done to
a copy leaves the original alone. -/
theorem step_frame (fmtReal : Nat → List Nat) (op : Op) (env : Env) (q : Nat) (h : q ∉ touched op) :
    envGet (step fmtReal op env).1 q = envGet env q :=
  (step_writes fmtReal op env).frame h

theorem run_WF (fmtReal : Nat → List Nat) (ops : List Op) (env : Env) (h : EnvWF env)
    (hp : ∀ op ∈ ops, op.payloadWF) : EnvWF (runFinal fmtReal ops env) := by
  induction ops generalizing env with
  | nil => exact h
  | cons op rest ih =>
    simp only [runFinal]
    exact ih _ (step_WF fmtReal op env h (hp op List.mem_cons_self)) (fun o ho => hp o (List.mem_cons_of_mem _ ho))

theorem EnvWF_replicate_undef (n : Nat) : EnvWF (List.replicate n undef) := by
  intro r
  simp only [envGet]
  cases hg : (List.replicate n undef)[r]? with
  | none => exact WF_undef
  | some d =>
    have := List.mem_of_getElem? hg
    simp at this
    rw [this.2]; exact WF_undef

end Qentem.Value
