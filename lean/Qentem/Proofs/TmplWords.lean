import Qentem.Proofs.TmplSegs
/-!
# C02 — the tag words, and the finder and the scanners of `parse` over words at positions

The words `printTpl` writes for the tags.  Where a tag stands in the content is said as `At c p w` (Proofs/TextAt.lean).
The finder (`next`), `isEqualAt`, the head of a printed attribute (`AttrHead`) and the `case="e"` scan
(`parseIfCase_word`) are run over such words once.
-/
namespace Qentem.Tmpl
open Qentem.Expr (Fault rd ScanCfg VarRef Item Num Val Env RealLike)
open Qentem.Generated.Tmpl

/-- `{var:` -/
def VAR : List Nat := [123, 118, 97, 114, 58]
/-- `{raw:` -/
def RAW : List Nat := [123, 114, 97, 119, 58]
/-- `{math:` -/
def MATH : List Nat := [123, 109, 97, 116, 104, 58]

/-- `{svar:` -/
def SVAR1 : List Nat := [123, 115, 118, 97, 114, 58]
/-- `{if case="` -/
def IIF1 : List Nat := [123, 105, 102, 32, 99, 97, 115, 101, 61, 34]
/-- ` true="` -/
def TRUEA : List Nat := [32, 116, 114, 117, 101, 61, 34]
/-- ` false="` -/
def FALSEA : List Nat := [32, 102, 97, 108, 115, 101, 61, 34]

/-- `<if case="` -/
def IFOPEN : List Nat := [60, 105, 102, 32, 99, 97, 115, 101, 61, 34]
/-- `</if>` -/
def IFEND : List Nat := [60, 47, 105, 102, 62]

/-- `<else />` -/
def ELSE : List Nat := [60, 101, 108, 115, 101, 32, 47, 62]

/-- `<elseif case="` -/
def ELIF : List Nat := [60, 101, 108, 115, 101, 105, 102, 32, 99, 97, 115, 101, 61, 34]
/-- `" />` -/
def ELIFEND : List Nat := [34, 32, 47, 62]

/-- `<loop set="` -/
def LH1 : List Nat := [60, 108, 111, 111, 112, 32, 115, 101, 116, 61, 34]
/-- `</loop>` -/
def LOOPEND : List Nat := [60, 47, 108, 111, 111, 112, 62]

/-- `<loop` -/
def LOOPW : List Nat := [60, 108, 111, 111, 112]

theorem plainL_append {a b : List Nat} (ha : plainL a) (hb : plainL b) : plainL (a ++ b) := by
  intro x hx
  rcases List.mem_append.mp hx with h | h
  · exact ha x h
  · exact hb x h

/-- what `printTpl` writes between `<loop` and `>` -/
def hdrOf (S V : List Nat) : List Nat :=
  (if S.isEmpty then [] else [32, 115, 101, 116, 61, 34] ++ S ++ [34]) ++ ([32, 118, 97, 108, 117, 101, 61, 34] ++ V ++ [34])

theorem hdrOf_all {P : Nat → Prop} (S V : List Nat) (hw : ∀ x ∈ [32, 115, 101, 116, 61, 34, 118, 97, 108, 117], P x)
    (hS : ∀ x ∈ S, P x) (hV : ∀ x ∈ V, P x) : ∀ x ∈ hdrOf S V, P x := by
  intro x hx
  unfold hdrOf at hx
  simp only [List.mem_append] at hx
  rcases hx with h | h
  · split at h
    · cases h
    · simp only [List.mem_append] at h
      rcases h with (h | h) | h
      · simp at h; rcases h with h | h | h | h | h | h <;> subst h <;> exact hw _ (by decide)
      · exact hS x h
      · simp at h; subst h; exact hw _ (by decide)
  · rcases h with (h | h) | h
    · simp at h; rcases h with h | h | h | h | h | h | h | h <;> subst h <;> exact hw _ (by decide)
    · exact hV x h
    · simp at h; subst h; exact hw _ (by decide)

theorem isEqualAt_true (c : List Nat) : ∀ (s : List Nat) (off : Nat),
    (∀ i (hi : i < s.length), c[off + i]? = some s[i]) → isEqualAt c off s = .ok true := by
  intro s
  induction s with
  | nil => intro off _; rfl
  | cons x xs ih =>
    intro off h
    have h0 := h 0 (by simp)
    simp only [Nat.add_zero, List.getElem_cons_zero] at h0
    simp only [isEqualAt, Qentem.Expr.rd_ok h0, bind, Except.bind, if_true]
    apply ih
    intro i hi
    have := h (i + 1) (by simp; omega)
    simpa [Nat.add_assoc, Nat.add_comm 1 i] using this

theorem At.run {c t : List Nat} {p : Nat} (h : At c p t) (ht : plainL t) : next c p = next c (p + t.length) :=
  next_skip c t.length p h.le (h.all ht)

theorem At.isEqualAt {c w : List Nat} {p : Nat} (h : At c p w) : isEqualAt c p w = .ok true :=
  isEqualAt_true c w p fun i hi => (h.get i hi).trans (List.getElem?_eq_getElem hi)

/-! ### the finder at the words of its table

Each is `next_at`: on a word of the table `scan` comes to its result whatever follows. -/

theorem At.next_var {c : List Nat} {p : Nat} (h : At c p VAR) (hn : c.length + 16 < 4294967296) :
    next c p = .ok (p + 5, 2) := next_at hn h fun _ => rfl

theorem At.next_raw {c : List Nat} {p : Nat} (h : At c p RAW) (hn : c.length + 16 < 4294967296) :
    next c p = .ok (p + 5, 3) := next_at hn h fun _ => rfl

theorem At.next_math {c : List Nat} {p : Nat} (h : At c p MATH) (hn : c.length + 16 < 4294967296) :
    next c p = .ok (p + 6, 4) := next_at hn h fun _ => rfl

theorem At.next_if {c : List Nat} {p : Nat} (h : At c p IFOPEN) (hn : c.length + 16 < 4294967296) :
    next c p = .ok (p + 3, 9) := next_at hn h fun _ => rfl

theorem At.next_ifend {c : List Nat} {p : Nat} (h : At c p IFEND) (hn : c.length + 16 < 4294967296) :
    next c p = .ok (p + 5, 10) := next_at hn h fun _ => rfl

theorem At.next_else {c : List Nat} {p : Nat} (h : At c p ELSE) (hn : c.length + 16 < 4294967296) :
    next c p = .ok (p + 5, 11) := next_at hn h fun _ => rfl

theorem At.next_elif {c : List Nat} {p : Nat} (h : At c p ELIF) (hn : c.length + 16 < 4294967296) :
    next c p = .ok (p + 5, 11) := next_at hn h fun _ => rfl

theorem At.next_loop {c : List Nat} {p : Nat} (h : At c p LOOPW) (hn : c.length + 16 < 4294967296) :
    next c p = .ok (p + 5, 7) := next_at hn h fun _ => rfl

theorem At.next_loopend {c : List Nat} {p : Nat} (h : At c p LOOPEND) (hn : c.length + 16 < 4294967296) :
    next c p = .ok (p + 7, 8) := next_at hn h fun _ => rfl

theorem At.next_svar {c : List Nat} {p : Nat} (h : At c p SVAR1) (hn : c.length + 16 < 4294967296) :
    next c p = .ok (p + 6, 5) := next_at hn h fun _ => rfl

theorem At.next_iif {c : List Nat} {p : Nat} (h : At c p IIF1) (hn : c.length + 16 < 4294967296) :
    next c p = .ok (p + 3, 6) := next_at hn h fun _ => rfl

/-- the finder over one operand `t{var:q}` of an expression text: the match at `{var:`, then the one at its `}` -/
theorem next_operand (c : List Nat) (hn : c.length + 16 < 4294967296) (p : Nat) (t q rest : List Nat)
    (h : At c p (t ++ (VAR ++ (q ++ ([125] ++ rest))))) (ht : plainL t) (hq : plainL q) :
    next c p = .ok (p + t.length + 5, 2) ∧ next c (p + t.length + 5) = .ok (p + t.length + 5 + q.length + 1, 1) :=
  ⟨(h.left.run ht).trans (h.right.left.next_var hn),
    (h.right.right.left.run hq).trans (next_at_close c _ h.right.right.right.head)⟩

/-- the scans every attribute loop of `parse` runs at the head of a printed attribute ` name="…`: the space, the
name (`n` units), the `=`, the quote -/
structure AttrHead (c : List Nat) (endO p n : Nat) (name : List Nat) : Prop where
  sp : skipW c endO (· == W1.spaceChar) p = .ok (p + 1)
  nm : isEqualAt c (p + 1) name = .ok true
  eq : skipW c endO (· != W1.equalChar) (p + 1 + n) = .ok (p + 1 + n)
  sp2 : doSkipW c endO (· == W1.spaceChar) (p + 1 + n) = .ok (p + 1 + n + 1)
  quote : rd c (p + 1 + n + 1) = .ok 34

theorem attrHead (c : List Nat) (endO p n x : Nat) (name rest : List Nat) (h : At c p (32 :: (name ++ 61 :: 34 :: rest)))
    (hn : name.length = n) (hx : c[p + 1]? = some x) (hx32 : (x == W1.spaceChar) = false) (hle : p + 1 + n + 1 < endO) :
    AttrHead c endO p n name := by
  subst hn
  have hq : c[p + 1 + name.length + 1]? = some 34 := h.tail.right.tail.head
  exact ⟨(At.left (u := [32]) h).skip (fun y hy => by rw [List.mem_singleton.mp hy]; rfl) hx hx32 (show p + 1 ≤ endO by omega),
    h.tail.left.isEqualAt,
    skipW_stop c endO _ 61 _ h.tail.right.head rfl (by omega),
    skipW_stop c endO _ 34 _ hq rfl (by omega),
    Qentem.Expr.rd_ok hq⟩

/-- `parseIfCase` on ` case="e"` ++ `fill` ++ `>` standing at `s` (`fill` free of `>`): `fill` is empty in a printed
`<if case="e">` and ` /` in a printed `<elseif case="e" />` -/
theorem parseIfCase_word (c : List Nat) (s : Nat) (e fill : List Nat)
    (h : At c s (32 :: (W1.caseStr ++ 61 :: 34 :: (e ++ 34 :: (fill ++ [62])))))
    (he : ∀ x ∈ e, x ≠ 34) (hf : ∀ x ∈ fill, x ≠ 62) :
    parseIfCase c s c.length = .ok (s + 9 + e.length + fill.length, s + 7, s + 7 + e.length) := by
  have hle := h.le
  simp only [List.length_cons, List.length_append, show W1.caseStr.length = 4 from rfl, List.length_nil] at hle
  have hs := attrHead c c.length s 4 99 W1.caseStr _ h rfl h.tail.head rfl (by omega)
  have hE : At c (s + 1 + 4 + 1 + 1) (e ++ 34 :: (fill ++ [62])) := h.tail.right.tail.tail
  have s5 : skipW c c.length (· != 34) (s + 1 + 4 + 1 + 1) = .ok (s + 1 + 4 + 1 + 1 + e.length) :=
    hE.left.skip (fun x hx => bne_iff_ne.mpr (he x hx)) hE.right.head rfl (by omega)
  have hF : At c (s + 1 + 4 + 1 + 1 + e.length) ((34 :: fill) ++ [62]) := hE.right
  have s6 : skipW c c.length (· != W1.multiLineLastChar) (s + 1 + 4 + 1 + 1 + e.length) =
      .ok (s + 1 + 4 + 1 + 1 + e.length + (34 :: fill).length) :=
    hF.left.skip (fun x hx => bne_iff_ne.mpr ((List.mem_cons.mp hx).elim (fun h => h ▸ by decide) (hf x))) hF.right.head rfl
      (by simp only [List.length_cons]; omega)
  simp only [parseIfCase, hs.sp, bind, Except.bind, andEqualAt, show W1.caseLength = 4 from rfl,
    show (decide (s + 1 < c.length) && decide (c.length - (s + 1) > 4)) = true by
      simp only [Bool.and_eq_true, decide_eq_true_eq]; omega,
    if_true, hs.nm, hs.eq, hs.sp2, show s + 1 + 4 + 1 < c.length by omega, hs.quote, s5, s6, List.length_cons]
  congr 2 <;> omega

end Qentem.Tmpl
