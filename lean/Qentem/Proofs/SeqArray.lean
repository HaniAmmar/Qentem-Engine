import Qentem.Model.Seq
/-! Helper lemmas for C14.  Register tables (`setR`), shared by all four containers and the container ledger; then `Array`:
what every model operation does to the item list and to the invariant `Size() ≤ Capacity()`. -/
namespace Qentem.Seq

section tables
variable {σ τ : Type}

@[simp] theorem setR_same (st : Nat → σ) (r : Nat) (v : σ) : setR st r v r = v := by simp [setR]

theorem setR_other (st : Nat → σ) (r i : Nat) (v : σ) (h : i ≠ r) : setR st r v i = st i := by simp [setR, h]

@[simp] theorem setR_self (st : Nat → σ) (r : Nat) : setR st r (st r) = st := by
  funext i; simp only [setR]; split <;> simp_all

theorem setR_rel {R : σ → τ → Prop} {st : Nat → σ} {ab : Nat → τ} (h : ∀ i, R (st i) (ab i)) (r : Nat) {v : σ} {l : τ}
    (hv : R v l) : ∀ i, R (setR st r v i) (setR ab r l i) := by
  intro i; simp only [setR]; split
  · exact hv
  · exact h i

end tables

namespace ArrayM
variable {α : Type}

/-- `Size() ≤ Capacity()` -/
def Inv (a : ArrayM α) : Prop := a.data.length ≤ a.cap

@[simp] theorem empty_data : (empty : ArrayM α).data = [] := rfl
theorem empty_inv : (empty : ArrayM α).Inv := by simp [Inv, empty]

/-- Every growing operation first makes room by a guarded `resize`: afterwards there is room for `m` items (`h1`: the
new capacity is enough when the guard fires; `h2`: the old one is when it does not) and the items are as before. -/
theorem room (a : ArrayM α) (c : Prop) [Decidable c] (n m : Nat) (h1 : c → m ≤ n) (h2 : ¬ c → m ≤ a.cap) :
    m ≤ (if c then a.resizeTo n else a).cap ∧ (if c then a.resizeTo n else a).data = a.data := by
  by_cases hc : c
  · rw [if_pos hc]; exact ⟨h1 hc, rfl⟩
  · rw [if_neg hc]; exact ⟨h2 hc, rfl⟩

@[simp] theorem push_data (a : ArrayM α) (x : α) : (a.push x).data = a.data ++ [x] := by
  unfold push resizeTo; split <;> rfl

theorem push_inv (a : ArrayM α) (x : α) (h : a.Inv) : (a.push x).Inv := by
  have r := room a (a.size = a.cap) ((if a.cap = 0 then 1 else a.cap) * 2) (a.size + 1)
    (fun hc => by rw [hc]; split <;> omega) (fun hc => Nat.lt_of_le_of_ne h hc)
  unfold Inv push size at *
  simp only [List.length_append, List.length_cons, List.length_nil, r.2]; exact r.1

@[simp] theorem appendCopy_data (a : ArrayM α) (s : List α) : (a.appendCopy s).data = a.data ++ s := by
  unfold appendCopy resizeTo; dsimp only; split <;> rfl

theorem appendCopy_inv (a : ArrayM α) (s : List α) : (a.appendCopy s).Inv := by
  have r := room a (a.size + s.length > a.cap) _ (a.size + s.length) (fun _ => Nat.le_refl _) Nat.le_of_not_lt
  unfold Inv appendCopy size at *
  simp only [List.length_append, r.2]; exact r.1

theorem appendMove_data (a s : ArrayM α) (h : a.Inv) : (a.appendMove s).data = a.data ++ s.data := by
  unfold appendMove resizeTo
  split
  · next h0 =>
      have : a.data = [] := by
        unfold Inv at h; rw [h0] at h; exact List.eq_nil_of_length_eq_zero (by omega)
      simp [this]
  · dsimp only; split <;> rfl

theorem appendMove_inv (a s : ArrayM α) (hs : s.Inv) : (a.appendMove s).Inv := by
  have r := room a (a.size + s.size > a.cap) _ (a.size + s.size) (fun _ => Nat.le_refl _) Nat.le_of_not_lt
  unfold Inv appendMove size at *
  split
  · exact hs
  · simp only [List.length_append, r.2]; exact r.1

@[simp] theorem clear_data (a : ArrayM α) : a.clear.data = [] := rfl
theorem clear_inv (a : ArrayM α) : a.clear.Inv := by simp [Inv, clear]
@[simp] theorem reset_data (a : ArrayM α) : a.reset.data = [] := rfl
theorem reset_inv (a : ArrayM α) : a.reset.Inv := by simp [Inv, reset, empty]

@[simp] theorem reserve_data (d : α) (a : ArrayM α) (n : Nat) (init : Bool) :
    (reserve d a n init).data = if init then List.replicate n d else [] := by
  unfold reserve
  by_cases hn : n = 0 <;> cases init <;> simp [hn, empty]

theorem reserve_inv (d : α) (a : ArrayM α) (n : Nat) (init : Bool) : (reserve d a n init).Inv := by
  unfold reserve Inv
  by_cases hn : n = 0 <;> cases init <;> simp [hn, empty]

@[simp] theorem resize_data (a : ArrayM α) (n : Nat) : (a.resize n).data = a.data.take n := by
  unfold resize resizeTo size
  by_cases hn : n = 0
  · simp [hn, empty]
  · rw [if_pos hn]; dsimp only
    split
    · rfl
    · exact (List.take_of_length_le (by omega)).symm

theorem resize_inv (a : ArrayM α) (n : Nat) : (a.resize n).Inv := by
  unfold resize resizeTo size Inv
  by_cases hn : n = 0
  · simp [hn, empty]
  · rw [if_pos hn]; dsimp only
    split <;> simp_all <;> omega

theorem resize_cap (a : ArrayM α) (n : Nat) : (a.resize n).cap = n := by
  unfold resize resizeTo
  by_cases hn : n = 0 <;> simp [hn, empty]

@[simp] theorem resizeInit_data (d : α) (a : ArrayM α) (n : Nat) :
    (resizeInit d a n).data = a.data.take n ++ List.replicate (n - a.data.length) d := by
  unfold resizeInit size
  dsimp only
  simp only [resize_data, List.length_take]
  split
  · next h =>
      have h1 : a.data.length < n := by omega
      have h2 : min n a.data.length = a.data.length := by omega
      rw [List.take_of_length_le (by omega), h2]
  · next h =>
      have : n - a.data.length = 0 := by omega
      simp [this]

/-- `ResizeAndInitialize` ends with `setSize(Capacity())`: the list built by the model has exactly
that many items, so no uninitialised cell becomes part of the content. -/
theorem resizeInit_full (d : α) (a : ArrayM α) (n : Nat) :
    (resizeInit d a n).data.length = (resizeInit d a n).cap ∧ (resizeInit d a n).cap = n := by
  have hc : (resizeInit d a n).cap = n := by
    unfold resizeInit; dsimp only; split <;> simp [resize_cap]
  refine ⟨?_, hc⟩
  rw [hc, resizeInit_data]; simp; omega

theorem resizeInit_inv (d : α) (a : ArrayM α) (n : Nat) : (resizeInit d a n).Inv := by
  unfold Inv; rw [(resizeInit_full d a n).1]; exact Nat.le_refl _

@[simp] theorem expect_data (a : ArrayM α) (n : Nat) : (a.expect n).data = a.data := by
  unfold expect resizeTo; dsimp only; split <;> rfl

theorem expect_room (a : ArrayM α) (n : Nat) : a.data.length + n ≤ (a.expect n).cap :=
  Nat.add_comm n _ ▸ (room a (n + a.size > a.cap) _ (n + a.size) (fun _ => Nat.le_refl _) Nat.le_of_not_lt).1

theorem expect_inv (a : ArrayM α) (n : Nat) : (a.expect n).Inv := by
  unfold Inv; rw [expect_data]; exact Nat.le_trans (Nat.le_add_right _ n) (expect_room a n)

@[simp] theorem compress_data (a : ArrayM α) : a.compress.data = a.data := by
  unfold compress size; rw [resize_data]; exact List.take_of_length_le (Nat.le_refl _)

theorem compress_inv (a : ArrayM α) : a.compress.Inv := resize_inv _ _

theorem compress_cap (a : ArrayM α) : a.compress.cap = a.data.length := resize_cap _ _

@[simp] theorem drop_data (a : ArrayM α) (n : Nat) :
    (a.drop n).data = if n ≤ a.data.length then a.data.take (a.data.length - n) else a.data := by
  unfold drop size; split <;> rfl

theorem drop_inv (a : ArrayM α) (n : Nat) (h : a.Inv) : (a.drop n).Inv := by
  unfold Inv drop size at *
  split <;> simp_all <;> omega

@[simp] theorem ofCopy_data (s : List α) : (ofCopy s).data = s := rfl
theorem ofCopy_inv (s : List α) : (ofCopy s).Inv := by simp [Inv, ofCopy]

end ArrayM

variable {α : Type}

def arrAbs (st : ArrSt α) : ArrAbs α := fun i => (st i).data

def ArrInv (st : ArrSt α) : Prop := ∀ i, (st i).Inv

@[simp] theorem arrAbs_apply (st : ArrSt α) (i : Nat) : arrAbs st i = (st i).data := rfl

@[simp] theorem setR_arrAbs_self (st : ArrSt α) (r : Nat) : setR (arrAbs st) r (st r).data = arrAbs st :=
  setR_self (arrAbs st) r

/-- Every object of the table holds, within its capacity, the list the plain-list table has in that register. -/
def ArrHolds (st : ArrSt α) (ab : ArrAbs α) : Prop := ∀ i, (st i).data = ab i ∧ (st i).Inv

theorem ArrHolds.setR {st : ArrSt α} {ab : ArrAbs α} (h : ArrHolds st ab) (r : Nat) {v : ArrayM α} {l : List α}
    (hd : v.data = l) (hv : v.Inv) : ArrHolds (setR st r v) (setR ab r l) :=
  setR_rel (R := fun (a : ArrayM α) (l : List α) => a.data = l ∧ a.Inv) h r ⟨hd, hv⟩

theorem arr_step_holds (d : α) (op : ArrOp α) {st : ArrSt α} {ab : ArrAbs α} (h : ArrHolds st ab) :
    ArrHolds (op.step d st).1 (op.spec d ab).1 ∧ (op.step d st).2 = (op.spec d ab).2 := by
  obtain rfl : ab = arrAbs st := funext fun i => (h i).1.symm
  have inv := fun i => (h i).2
  cases op with
  | push r x => exact ⟨h.setR r (ArrayM.push_data _ _) (ArrayM.push_inv _ _ (inv r)), rfl⟩
  | pushSelf r i =>
    simp only [ArrOp.step, ArrOp.spec, arrAbs_apply]
    cases (st r).data[i]? with
    | none => exact ⟨h, rfl⟩
    | some x => exact ⟨h.setR r (ArrayM.push_data _ _) (ArrayM.push_inv _ _ (inv r)), rfl⟩
  | appC r s => exact ⟨h.setR r (ArrayM.appendCopy_data _ _) (ArrayM.appendCopy_inv _ _), rfl⟩
  | appM r s =>
    exact ⟨(h.setR r (ArrayM.appendMove_data _ _ (inv r)) (ArrayM.appendMove_inv _ _ (inv s))).setR s rfl ArrayM.empty_inv, rfl⟩
  | asgC r s =>
    by_cases e : r = s
    · subst e; simp only [ArrOp.step, ArrOp.spec, if_pos, setR_self]; exact ⟨h, trivial⟩
    · simp only [ArrOp.step, ArrOp.spec, if_neg e]; exact ⟨h.setR r rfl (ArrayM.ofCopy_inv _), trivial⟩
  | asgM r s =>
    simp only [ArrOp.step, ArrOp.spec]; split
    · exact ⟨h, trivial⟩
    · exact ⟨(h.setR r rfl (inv s)).setR s rfl ArrayM.empty_inv, trivial⟩
  | ctorC r s => exact ⟨h.setR r rfl (ArrayM.ofCopy_inv _), rfl⟩
  | ctorM r s => exact ⟨(h.setR s rfl ArrayM.empty_inv).setR r rfl (inv s), rfl⟩
  | ctorN r n init | reserve r n init => exact ⟨h.setR r (ArrayM.reserve_data _ _ _ _) (ArrayM.reserve_inv _ _ _ _), rfl⟩
  | clear r => exact ⟨h.setR r rfl (ArrayM.clear_inv _), rfl⟩
  | reset r => exact ⟨h.setR r rfl (ArrayM.reset_inv _), rfl⟩
  | detach r => exact ⟨h.setR r rfl ArrayM.empty_inv, rfl⟩
  | resize r n => exact ⟨h.setR r (ArrayM.resize_data _ _) (ArrayM.resize_inv _ _), rfl⟩
  | resizeInit r n => exact ⟨h.setR r (ArrayM.resizeInit_data _ _ _) (ArrayM.resizeInit_inv _ _ _), rfl⟩
  | expect r n =>
    have := h.setR r (ArrayM.expect_data (st r) n) (ArrayM.expect_inv _ n)
    rw [setR_arrAbs_self] at this; exact ⟨this, rfl⟩
  | compress r => exact ⟨h.setR r (ArrayM.compress_data _) (ArrayM.compress_inv _), rfl⟩
  | drop r n => exact ⟨h.setR r (ArrayM.drop_data _ _) (ArrayM.drop_inv _ _ (inv r)), rfl⟩

theorem arr_run_holds (d : α) (ops : List (ArrOp α)) : ∀ {st : ArrSt α} {ab : ArrAbs α}, ArrHolds st ab →
    ArrHolds (arrRun d ops st) (arrSpecRun d ops ab) ∧ arrOuts d ops st = arrSpecOuts d ops ab := by
  induction ops with
  | nil => intro st ab h; exact ⟨h, rfl⟩
  | cons op ops ih =>
    intro st ab h
    obtain ⟨h1, h2⟩ := arr_step_holds d op h
    obtain ⟨h3, h4⟩ := ih h1
    exact ⟨h3, by simp only [arrOuts, arrSpecOuts, h2, h4]⟩

end Qentem.Seq
