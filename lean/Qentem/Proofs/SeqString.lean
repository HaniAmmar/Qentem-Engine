import Qentem.Proofs.SeqArray
/-! Helper lemmas for C14, `String`: one relation, `Holds s l` (the object holds the units `l` and their
terminator), followed through every model operation; content (`data`) and NUL termination (`Term`) are
read off it. -/
namespace Qentem.Seq
namespace StringM

/-- `string_terminated`: a null string has length 0; otherwise the block has a cell at index
`Length()` and that cell holds 0. -/
def Term (s : StringM) : Prop :=
  match s.store with
  | none => s.len = 0
  | some b => s.len < b.length ∧ b[s.len]? = some 0

@[simp] theorem empty_data : empty.data = [] := rfl

theorem data_length (s : StringM) (h : s.Term) : s.data.length = s.len := by
  unfold Term at h; unfold data
  cases hs : s.store with
  | none => simp [hs] at h; simp [h]
  | some b => simp [hs] at h; simp; omega

/-- A null string holds `[]`; otherwise the block is `l`, the terminator, and whatever follows. -/
def Holds (s : StringM) (l : List Nat) : Prop :=
  match s.store with
  | none => s.len = 0 ∧ l = []
  | some b => s.len = l.length ∧ ∃ rest, b = l ++ 0 :: rest

theorem Holds.data {s : StringM} {l : List Nat} (h : Holds s l) : s.data = l := by
  unfold Holds at h; unfold StringM.data
  cases hs : s.store with
  | none => rw [hs] at h; exact h.2.symm
  | some b =>
    rw [hs] at h; obtain ⟨hl, rest, rfl⟩ := h
    simp only [hl]; exact List.take_left' rfl

theorem Holds.term {s : StringM} {l : List Nat} (h : Holds s l) : s.Term := by
  unfold Holds at h; unfold Term
  cases hs : s.store with
  | none => rw [hs] at h; exact h.1
  | some b =>
    rw [hs] at h; obtain ⟨hl, rest, rfl⟩ := h
    simp only [hl]
    exact ⟨by simp, by simp⟩

theorem holds_of_term {s : StringM} (h : s.Term) : Holds s s.data := by
  unfold Term at h; unfold Holds data
  cases hs : s.store with
  | none => rw [hs] at h; exact ⟨h, rfl⟩
  | some b =>
    rw [hs] at h
    simp only
    have hlen : (b.take s.len).length = s.len := by rw [List.length_take]; omega
    refine ⟨hlen.symm, b.drop (s.len + 1), ?_⟩
    have h0 : b[s.len] = 0 := by
      have := h.2; rw [List.getElem?_eq_getElem h.1] at this; exact Option.some.inj this
    rw [← h0, ← List.drop_eq_getElem_cons h.1, List.take_append_drop]

theorem Holds.len {s : StringM} {l : List Nat} (h : Holds s l) : s.len = l.length := by
  rw [← h.data]; exact (data_length s h.term).symm

theorem Holds.reverse {s : StringM} {l : List Nat} (h : Holds s l) (idx : Nat) :
    Holds (s.reverse idx) (l.take idx ++ (l.drop idx).reverse) := by
  unfold Holds at h; unfold StringM.reverse
  cases hs : s.store with
  | none => rw [hs] at h; simp only [Holds, hs]; rw [h.2]; exact ⟨h.1, by simp⟩
  | some b =>
    rw [hs] at h; obtain ⟨hl, rest, rfl⟩ := h
    simp only
    by_cases hi : idx < s.len
    · rw [if_pos hi]
      refine ⟨by simp [hl]; omega, rest, ?_⟩
      rw [hl] at hi ⊢
      rw [List.take_left' rfl, List.drop_left' rfl, List.take_append_of_le_length (Nat.le_of_lt hi), List.append_assoc]
    · rw [if_neg hi]
      rw [hl] at hi
      rw [List.take_of_length_le (by omega), List.drop_of_length_le (by omega), List.reverse_nil, List.append_nil]
      exact (by simp only [Holds, hs]; exact ⟨hl, rest, rfl⟩)

theorem Holds.insertAt {s : StringM} {l : List Nat} (h : Holds s l) (c idx : Nat) :
    Holds (s.insertAt c idx) (if idx < l.length then l.take idx ++ [c] ++ l.drop idx else l) := by
  have hd := h.data
  have hl := h.len
  unfold StringM.insertAt
  rw [hl, hd]
  split
  · exact ⟨by simp; omega, [], rfl⟩
  · exact h

theorem holds_empty : Holds empty [] := ⟨rfl, rfl⟩
theorem holds_ofUnits (u : List Nat) : Holds (ofUnits u) u := ⟨rfl, [], rfl⟩
theorem holds_adopt (u : List Nat) : Holds (adopt (u ++ [0]) u.length) u := ⟨rfl, [], rfl⟩

theorem holds_ofFill (u : List Nat) : Holds (ofFill u) u := by
  unfold ofFill
  split
  · exact ⟨rfl, [], rfl⟩
  · next h => exact ⟨rfl, List.eq_nil_of_length_eq_zero (Decidable.of_not_not h)⟩

theorem holds_merge (a b : List Nat) : Holds (merge a b) (a ++ b) := by
  unfold merge
  split
  · exact ⟨(List.length_append).symm, [], rfl⟩
  · next h => exact ⟨rfl, List.eq_nil_of_length_eq_zero (by rw [List.length_append]; exact Decidable.of_not_not h)⟩

theorem Holds.write {s : StringM} {l : List Nat} (h : Holds s l) (u : List Nat) : Holds (s.write u) (l ++ u) := by
  unfold StringM.write
  rw [h.data, h.len]
  split
  · exact ⟨(List.length_append).symm, [], rfl⟩
  · next hu => rw [List.eq_nil_of_length_eq_zero (Decidable.of_not_not hu), List.append_nil]; exact h

theorem Holds.stepBack {s : StringM} {l : List Nat} (h : Holds s l) (n : Nat) :
    Holds (s.stepBack n) (if n ≤ l.length then l.take (l.length - n) else l) := by
  have hlen := h.len
  unfold StringM.stepBack
  rw [hlen]
  split
  · unfold Holds at h
    cases hs : s.store with
    | none =>
      rw [hs] at h; dsimp only; unfold Holds; rw [hs, h.2]; exact ⟨h.1, List.take_nil⟩
    | some b =>
      rw [hs] at h; obtain ⟨_, rest, rfl⟩ := h
      dsimp only; unfold Holds; dsimp only
      refine ⟨by rw [List.length_take]; omega, (l ++ 0 :: rest).drop (l.length - n + 1), ?_⟩
      rw [List.set_eq_take_append_cons_drop, if_pos (by simp; omega), List.take_append_of_le_length (by omega)]
  · exact h

@[simp] theorem ofUnits_data (u : List Nat) : (ofUnits u).data = u := (holds_ofUnits u).data
@[simp] theorem ofFill_data (u : List Nat) : (ofFill u).data = u := (holds_ofFill u).data
@[simp] theorem adopt_data (u : List Nat) : (adopt (u ++ [0]) u.length).data = u := (holds_adopt u).data
@[simp] theorem merge_data (a b : List Nat) : (merge a b).data = a ++ b := (holds_merge a b).data

theorem write_data (s : StringM) (u : List Nat) (h : s.Term) : (s.write u).data = s.data ++ u :=
  ((holds_of_term h).write u).data

theorem stepBack_data (s : StringM) (n : Nat) (h : s.Term) :
    (s.stepBack n).data = if n ≤ s.data.length then s.data.take (s.data.length - n) else s.data :=
  ((holds_of_term h).stepBack n).data

theorem reverse_data (s : StringM) (idx : Nat) (h : s.Term) :
    (s.reverse idx).data = s.data.take idx ++ (s.data.drop idx).reverse :=
  ((holds_of_term h).reverse idx).data

theorem insertAt_data (s : StringM) (c idx : Nat) (h : s.Term) :
    (s.insertAt c idx).data = if idx < s.data.length then s.data.take idx ++ [c] ++ s.data.drop idx else s.data :=
  ((holds_of_term h).insertAt c idx).data

end StringM

def strAbs (st : StrSt) : SeqAbs := fun i => (st i).data
def StrInv (st : StrSt) : Prop := ∀ i, (st i).Term

@[simp] theorem strAbs_apply (st : StrSt) (i : Nat) : strAbs st i = (st i).data := rfl

@[simp] theorem setR_strAbs_self (st : StrSt) (r : Nat) : setR (strAbs st) r (st r).data = strAbs st :=
  setR_self (strAbs st) r

/-- Every object of the table holds the list the plain-list table has in that register. -/
def StrHolds (st : StrSt) (ab : SeqAbs) : Prop := ∀ i, (st i).Holds (ab i)

theorem StrHolds.setR {st : StrSt} {ab : SeqAbs} (h : StrHolds st ab) (r : Nat) {v : StringM} {l : List Nat} (hv : v.Holds l) :
    StrHolds (setR st r v) (setR ab r l) :=
  setR_rel h r hv

theorem str_step_holds (op : StrOp) {st : StrSt} {ab : SeqAbs} (h : StrHolds st ab) :
    StrHolds (op.step st).1 (op.spec ab).1 ∧ (op.step st).2 = (op.spec ab).2 := by
  obtain rfl : ab = strAbs st := funext fun i => (h i).data.symm
  cases op with
  | ctorC r s | ctorU r u | asgU r u | trim r s => exact ⟨h.setR r (StringM.holds_ofUnits _), rfl⟩
  | ctorM r s => exact ⟨(h.setR s StringM.holds_empty).setR r (h s), rfl⟩
  | ctorF r f => exact ⟨h.setR r (StringM.holds_ofFill f), rfl⟩
  | adopt r u => exact ⟨h.setR r (StringM.holds_adopt u), rfl⟩
  | asgC r s =>
    by_cases e : r = s
    · subst e; simp only [StrOp.step, StrOp.spec, if_pos, setR_self]; exact ⟨h, trivial⟩
    · simp only [StrOp.step, StrOp.spec, if_neg e]; exact ⟨h.setR r (StringM.holds_ofUnits _), trivial⟩
  | asgM r s =>
    simp only [StrOp.step, StrOp.spec]; split
    · exact ⟨h, trivial⟩
    · exact ⟨(h.setR r (h s)).setR s StringM.holds_empty, trivial⟩
  | appC r s | appU r u | appCh r c | appOwn v r off n => exact ⟨h.setR r ((h r).write _), rfl⟩
  | appM r s => exact ⟨(h.setR r ((h r).write _)).setR s StringM.holds_empty, rfl⟩
  | asgOwn r off =>
    cases hs : (st r).store with
    | none =>
      have hr : ownCStr (st r).data off = (st r).data := by simp [StringM.data, hs, ownCStr]
      simp only [StrOp.step, StrOp.spec, hs, strAbs_apply, hr, setR_strAbs_self]; exact ⟨h, trivial⟩
    | some b => simp only [StrOp.step, StrOp.spec, hs]; exact ⟨h.setR r (StringM.holds_ofUnits _), trivial⟩
  | plus r s t | plusU r s u => exact ⟨h.setR r (StringM.holds_merge _ _), rfl⟩
  | plusM r s t => exact ⟨(h.setR t StringM.holds_empty).setR r (StringM.holds_merge _ _), rfl⟩
  | stepBack r n => exact ⟨h.setR r ((h r).stepBack n), rfl⟩
  | reverse r i => exact ⟨h.setR r ((h r).reverse i), rfl⟩
  | insertAt r c i => exact ⟨h.setR r ((h r).insertAt c i), rfl⟩
  | reset r | detach r => exact ⟨h.setR r StringM.holds_empty, rfl⟩
  | cmp k r s | cmpU k r u => exact ⟨h, rfl⟩

theorem str_run_holds (ops : List StrOp) : ∀ {st : StrSt} {ab : SeqAbs}, StrHolds st ab →
    StrHolds (strRun ops st) (strSpecRun ops ab) ∧ strOuts ops st = strSpecOuts ops ab := by
  induction ops with
  | nil => intro st ab h; exact ⟨h, rfl⟩
  | cons op ops ih =>
    intro st ab h
    obtain ⟨h1, h2⟩ := str_step_holds op h
    obtain ⟨h3, h4⟩ := ih h1
    exact ⟨h3, by simp only [strOuts, strSpecOuts, h2, h4]⟩

end Qentem.Seq
