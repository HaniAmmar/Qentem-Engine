import Qentem.Model.Sort
/-! `Memory::Sort` (model `sortSeg`) returns an ordered permutation, for any comparison that is a strict order on the elements
present (`StrictOn`); then the oracle's executable predicates against `Perm` / `Pairwise`, and lookups under a permutation. -/
namespace Qentem.Sort

variable {α : Type}

/-- `b` is reached from `a` by swapping positions that all lie inside `[s, e)`. -/
inductive SwapsIn (s e : Nat) : Array α → Array α → Prop
  | refl (a : Array α) : SwapsIn s e a a
  | step {a c : Array α} (i j : Nat) (hi : i < a.size) (hj : j < a.size)
      (his : s ≤ i) (hie : i < e) (hjs : s ≤ j) (hje : j < e) :
      SwapsIn s e (a.swap i j hi hj) c → SwapsIn s e a c

theorem getElem?_swap' (a : Array α) (i j k : Nat) (hi : i < a.size) (hj : j < a.size) :
    (a.swap i j hi hj)[k]? = if j = k then a[i]? else if i = k then a[j]? else a[k]? := by
  rw [Array.getElem?_swap, Array.getElem?_eq_getElem hi, Array.getElem?_eq_getElem hj]

theorem getElem?_swap_cases (a : Array α) (i j k : Nat) (hi : i < a.size) (hj : j < a.size) {x : α}
    (hx : (a.swap i j hi hj)[k]? = some x) :
    (j = k ∧ a[i]? = some x) ∨ (j ≠ k ∧ i = k ∧ a[j]? = some x) ∨ (j ≠ k ∧ i ≠ k ∧ a[k]? = some x) := by
  rw [getElem?_swap'] at hx
  by_cases h1 : j = k
  · rw [if_pos h1] at hx; exact .inl ⟨h1, hx⟩
  · rw [if_neg h1] at hx
    by_cases h2 : i = k
    · rw [if_pos h2] at hx; exact .inr (.inl ⟨h1, h2, hx⟩)
    · rw [if_neg h2] at hx; exact .inr (.inr ⟨h1, h2, hx⟩)

namespace SwapsIn

theorem trans {s e : Nat} {a b c : Array α} (h1 : SwapsIn s e a b) (h2 : SwapsIn s e b c) :
    SwapsIn s e a c := by
  induction h1 with
  | refl => exact h2
  | step i j hi hj his hie hjs hje _ ih => exact step i j hi hj his hie hjs hje (ih h2)

theorem mono {s e s' e' : Nat} {a b : Array α} (h : SwapsIn s e a b) (hs : s' ≤ s) (he : e ≤ e') :
    SwapsIn s' e' a b := by
  induction h with
  | refl => exact refl _
  | step i j hi hj his hie hjs hje _ ih =>
    exact step i j hi hj (by omega) (by omega) (by omega) (by omega) ih

theorem single {s e : Nat} (a : Array α) (i j : Nat) (hi : i < a.size) (hj : j < a.size)
    (his : s ≤ i) (hie : i < e) (hjs : s ≤ j) (hje : j < e) : SwapsIn s e a (a.swap i j hi hj) :=
  step i j hi hj his hie hjs hje (refl _)

theorem size_eq {s e : Nat} {a b : Array α} (h : SwapsIn s e a b) : b.size = a.size := by
  induction h with
  | refl => rfl
  | step i j hi hj _ _ _ _ _ ih => simpa using ih

theorem perm {s e : Nat} {a b : Array α} (h : SwapsIn s e a b) : b.toList.Perm a.toList := by
  induction h with
  | refl => exact List.Perm.refl _
  | step i j hi hj _ _ _ _ _ ih =>
    exact ih.trans (Array.perm_iff_toList_perm.mp (Array.swap_perm hi hj))

theorem outside {s e : Nat} {a b : Array α} (h : SwapsIn s e a b) (k : Nat) (hk : k < s ∨ e ≤ k) :
    b[k]? = a[k]? := by
  induction h with
  | refl => rfl
  | step i j hi hj his hie hjs hje _ ih =>
    rw [ih, Array.getElem?_swap]
    have h1 : ¬ j = k := by omega
    have h2 : ¬ i = k := by omega
    simp [h1, h2]

end SwapsIn

/-- Every element of `a[s, e)` satisfies `Q`. -/
def OnSeg (Q : α → Prop) (a : Array α) (s e : Nat) : Prop := ∀ k x, s ≤ k → k < e → a[k]? = some x → Q x

namespace OnSeg
variable {Q : α → Prop} {a b : Array α} {s e s' e' : Nat}

theorem mono (h : OnSeg Q a s e) (hs : s ≤ s') (he : e' ≤ e) : OnSeg Q a s' e' :=
  fun k x h1 h2 hx => h k x (Nat.le_trans hs h1) (Nat.lt_of_lt_of_le h2 he) hx

theorem empty (h : e ≤ s) : OnSeg Q a s e := fun _ _ h1 h2 _ => absurd (Nat.lt_of_lt_of_le h2 h) (Nat.not_lt.2 h1)

theorem of_mem (h : ∀ x, x ∈ a → Q x) : OnSeg Q a s e := fun _ x _ _ hx => h x (Array.mem_of_getElem? hx)

theorem swaps (h : OnSeg Q a s e) (hsw : SwapsIn s' e' a b) (hs : s ≤ s') (he : e' ≤ e) : OnSeg Q b s e := by
  replace hsw := hsw.mono hs he
  induction hsw with
  | refl => exact h
  | step i j hi hj his hie hjs hje _ ih =>
    apply ih
    intro k x hks hke hx
    rcases getElem?_swap_cases _ i j k hi hj hx with ⟨_, hx⟩ | ⟨_, _, hx⟩ | ⟨_, _, hx⟩
    · exact h i x his hie hx
    · exact h j x hjs hje hx
    · exact h k x hks hke hx

theorem outside (h : OnSeg Q a s e) (hsw : SwapsIn s' e' a b) (hd : e ≤ s' ∨ e' ≤ s) : OnSeg Q b s e := by
  intro k x h1 h2 hx
  rw [hsw.outside k (by omega)] at hx
  exact h k x h1 h2 hx
end OnSeg

theorem swap?_eq_some (a : Array α) (i j : Nat) (hi : i < a.size) (hj : j < a.size) :
    swap? a i j = some (a.swap i j hi hj) := by
  simp [swap?, hi, hj]

/-- No later element of `a[s, e)` goes before an earlier one. -/
def SortedSeg (before : α → α → Bool) (a : Array α) (s e : Nat) : Prop :=
  ∀ i j x y, s ≤ i → i < j → j < e → a[i]? = some x → a[j]? = some y → before y x = false

/-- The scan of `Memory::Sort`: invariant "`(start, index]` goes before the pivot, `(index, offset)`
    does not", established for the whole segment at exit; no out-of-range access. -/
theorem partLoop_spec (before : α → α → Bool) (arr : Array α) (start index offset stop : Nat) (p : α)
    (hp : arr[start]? = some p) (h1 : start ≤ index) (h2 : index < offset) (h3 : offset ≤ stop)
    (h4 : stop ≤ arr.size)
    (hL : OnSeg (before · p = true) arr (start + 1) (index + 1))
    (hR : OnSeg (before · p = false) arr (index + 1) offset) :
    ∃ arr' index', partLoop before arr start index offset stop = some (arr', index') ∧
      SwapsIn (start + 1) stop arr arr' ∧ start ≤ index' ∧ index' < stop ∧
      OnSeg (before · p = true) arr' (start + 1) (index' + 1) ∧ OnSeg (before · p = false) arr' (index' + 1) stop := by
  induction hn : stop - offset generalizing arr index offset with
  | zero =>
    have : offset = stop := by omega
    subst this
    refine ⟨arr, index, ?_, SwapsIn.refl _, h1, h2, hL, hR⟩
    simp [partLoop, partLoopN]
  | succ n ih =>
    have hlt : offset < stop := by omega
    have hoff : offset < arr.size := by omega
    obtain ⟨x0, hx0⟩ : ∃ x0, arr[offset]? = some x0 := ⟨arr[offset], Array.getElem?_eq_getElem hoff⟩
    have hstep : ∀ (a : Array α) (i : Nat), partLoopN before n a start i (offset + 1) stop =
        partLoop before a start i (offset + 1) stop := by
      intro a i; simp only [partLoop]; congr 1; omega
    simp only [partLoop, hn, partLoopN]
    simp only [hlt, if_true, hp, hx0, hstep]
    by_cases hb : before x0 p = true
    · have hi1 : index + 1 < arr.size := by omega
      simp only [hb, if_true, swap?_eq_some arr (index + 1) offset hi1 hoff]
      have hsw := SwapsIn.single (s := start + 1) (e := stop) arr (index + 1) offset hi1 hoff
        (by omega) (by omega) (by omega) hlt
      have hp' : (arr.swap (index + 1) offset hi1 hoff)[start]? = some p := by
        rw [hsw.outside start (by omega)]; exact hp
      obtain ⟨arr', index', he, hs, hle, hlt', hL', hR'⟩ :=
        ih (arr.swap (index + 1) offset hi1 hoff) (index + 1) (offset + 1) hp' (by omega) (by omega)
          (by omega) (by simpa using h4)
          (by
            intro k x hk1 hk2 hx
            rcases getElem?_swap_cases arr (index + 1) offset k hi1 hoff hx with ⟨e1, h⟩ | ⟨_, _, h⟩ | ⟨_, _, h⟩
            · have e3 : index + 1 = offset := by omega
              rw [e3, hx0] at h
              rw [← Option.some.inj h]; exact hb
            · rw [h] at hx0
              rw [Option.some.inj hx0]; exact hb
            · exact hL k x hk1 (by omega) h)
          (by
            intro k x hk1 hk2 hx
            rcases getElem?_swap_cases arr (index + 1) offset k hi1 hoff hx with ⟨_, h⟩ | ⟨_, _, _⟩ | ⟨_, _, h⟩
            · exact hR (index + 1) x (by omega) (by omega) h
            · omega
            · exact hR k x (by omega) (by omega) h)
          (by omega)
      exact ⟨arr', index', he, hsw.trans hs, by omega, hlt', hL', hR'⟩
    · have hb' : before x0 p = false := by simpa using hb
      simp only [hb', Bool.false_eq_true, if_false]
      obtain ⟨arr', index', he, hs, hle, hlt', hL', hR'⟩ :=
        ih arr index (offset + 1) hp h1 (by omega) (by omega) h4 hL
          (by
            intro k x hk1 hk2 hx
            by_cases e1 : k = offset
            · subst e1
              rw [hx] at hx0
              rw [Option.some.inj hx0]; exact hb'
            · exact hR k x hk1 (by omega) hx)
          (by omega)
      exact ⟨arr', index', he, hs, hle, hlt', hL', hR'⟩

/-- What `sortSeg` needs of the comparison, on the elements that satisfy `P` only
    (a strict partial order: asymmetric and transitive). -/
structure StrictOn (P : α → Prop) (before : α → α → Bool) : Prop where
  asymm : ∀ x y, P x → P y → before x y = true → before y x = false
  trans : ∀ x y z, P x → P y → P z → before x y = true → before y z = true → before x z = true

theorem StrictOn.of_irrefl_trans {P : α → Prop} {before : α → α → Bool}
    (hirr : ∀ x, P x → before x x = false)
    (htr : ∀ x y z, P x → P y → P z → before x y = true → before y z = true → before x z = true) :
    StrictOn P before where
  asymm := by
    intro x y hx hy h
    cases h' : before y x with
    | false => rfl
    | true =>
      have := htr x y x hx hy hx h h'
      rw [hirr x hx] at this; cases this
  trans := htr

theorem StrictOn.comap {β : Type} {P : β → Prop} {before : β → β → Bool} (h : StrictOn P before)
    (f : α → β) : StrictOn (fun x => P (f x)) (fun x y => before (f x) (f y)) where
  asymm := fun x y hx hy => h.asymm (f x) (f y) hx hy
  trans := fun x y z hx hy hz => h.trans (f x) (f y) (f z) hx hy hz

theorem StrictOn.swap {P : α → Prop} {lt gt : α → α → Bool} (h : StrictOn P lt) (hsw : ∀ x y, gt x y = lt y x) :
    StrictOn P gt where
  asymm := fun x y hx hy hg => by rw [hsw] at hg ⊢; exact h.asymm y x hy hx hg
  trans := fun x y z hx hy hz h1 h2 => by rw [hsw] at h1 h2 ⊢; exact h.trans z y x hz hy hx h2 h1

/-- A segment split at a pivot that everything to its left goes before and nothing to its right does
is ordered when both sides are. -/
theorem SortedSeg.join {before : α → α → Bool} {P : α → Prop} (hord : StrictOn P before) {a : Array α}
    {s idx e : Nat} {p : α} (hP : OnSeg P a s e) (hi : s ≤ idx) (he : idx < e)
    (hA : a[idx]? = some p) (hB : OnSeg (before · p = true) a s idx) (hC : OnSeg (before · p = false) a (idx + 1) e)
    (hl : SortedSeg before a s idx) (hr : SortedSeg before a (idx + 1) e) : SortedSeg before a s e := by
  intro i j x y hsi hij hj hx hy
  have hPp : P p := hP idx p hi he hA
  by_cases c1 : j < idx
  · exact hl i j x y hsi hij c1 hx hy
  by_cases c2 : idx < i
  · exact hr i j x y c2 hij hj hx hy
  by_cases c3 : i = idx
  · -- x is the pivot, y to its right
    subst c3
    rw [hA] at hx
    rw [← Option.some.inj hx]
    exact hC j y hij hj hy
  have hxb : before x p = true := hB i x hsi (by omega) hx
  have hPx : P x := hP i x hsi (by omega) hx
  by_cases c4 : j = idx
  · subst c4
    rw [hA] at hy
    rw [← Option.some.inj hy]
    exact hord.asymm x p hPx hPp hxb
  · have hyb : before y p = false := hC j y (by omega) hj hy
    cases hyx : before y x with
    | false => rfl
    | true =>
      have := hord.trans y x p (hP j y (by omega) hj hy) hPx hPp hyx hxb
      rw [hyb] at this; cases this

/-- `Memory::Sort` on `[s, e)`: enough fuel, never out of range, only swaps inside the segment,
    and the segment ends up ordered. -/
theorem sortSeg_spec (before : α → α → Bool) (P : α → Prop) (hord : StrictOn P before) :
    ∀ (fuel : Nat) (arr : Array α) (s e : Nat), s ≤ e → e ≤ arr.size → e - s ≤ fuel →
      OnSeg P arr s e →
      ∃ arr', sortSeg before fuel arr s e = some arr' ∧ SwapsIn s e arr arr' ∧ SortedSeg before arr' s e := by
  intro fuel
  induction fuel with
  | zero =>
    intro arr s e hse _ hf _
    have : s = e := by omega
    subst this
    exact ⟨arr, by simp [sortSeg], SwapsIn.refl _, fun i j x y h1 h2 h3 => by omega⟩
  | succ fuel ih =>
    intro arr s e hse hsz hf hP
    by_cases hEq : s = e
    · subst hEq
      exact ⟨arr, by simp [sortSeg], SwapsIn.refl _, fun i j x y h1 h2 h3 => by omega⟩
    · have hlt : s < e := by omega
      have hs : s < arr.size := by omega
      obtain ⟨p, hp⟩ : ∃ p, arr[s]? = some p := ⟨arr[s], Array.getElem?_eq_getElem hs⟩
      obtain ⟨arr1, idx, hpl, hsw1, hle1, hlt1, hL1, hR1⟩ :=
        partLoop_spec before arr s s (s + 1) e p hp (Nat.le_refl _) (by omega) (by omega) hsz
          (OnSeg.empty (Nat.le_refl _)) (OnSeg.empty (Nat.le_refl _))
      have hsz1 : arr1.size = arr.size := hsw1.size_eq
      have hp1 : arr1[s]? = some p := by rw [hsw1.outside s (by omega)]; exact hp
      have hidx : idx < arr1.size := by omega
      have hs1 : s < arr1.size := by omega
      -- the pivot moves to `idx`
      obtain ⟨arr2, hsw?, hsw2, hA, hB, hC⟩ : ∃ arr2,
          (if idx ≠ s then swap? arr1 idx s else some arr1) = some arr2 ∧ SwapsIn s e arr1 arr2 ∧
          arr2[idx]? = some p ∧ OnSeg (before · p = true) arr2 s idx ∧ OnSeg (before · p = false) arr2 (idx + 1) e := by
        by_cases hi : idx = s
        · subst hi
          exact ⟨arr1, by simp, SwapsIn.refl _, hp1, OnSeg.empty (Nat.le_refl _), hR1⟩
        · refine ⟨arr1.swap idx s hidx hs1, by simp [hi, swap?_eq_some arr1 idx s hidx hs1],
            SwapsIn.single arr1 idx s hidx hs1 hle1 hlt1 (Nat.le_refl _) hlt, ?_, ?_, ?_⟩
          · rw [getElem?_swap']
            have : ¬ s = idx := fun h => hi h.symm
            simp [this, hp1]
          · intro k x hk1 hk2 hx
            rcases getElem?_swap_cases arr1 idx s k hidx hs1 hx with ⟨_, h⟩ | ⟨_, _, _⟩ | ⟨_, _, h⟩
            · exact hL1 idx x (by omega) (Nat.lt_succ_self _) h
            · omega
            · exact hL1 k x (by omega) (by omega) h
          · intro k x hk1 hk2 hx
            rcases getElem?_swap_cases arr1 idx s k hidx hs1 hx with ⟨_, _⟩ | ⟨_, _, _⟩ | ⟨_, _, h⟩
            · omega
            · omega
            · exact hR1 k x hk1 hk2 h
      have hsw02 : SwapsIn s e arr arr2 := (hsw1.mono (by omega) (Nat.le_refl _)).trans hsw2
      have hP2 : OnSeg P arr2 s e := hP.swaps hsw02 (Nat.le_refl _) (Nat.le_refl _)
      -- left part, then right part; each leaves the other side and the pivot alone
      obtain ⟨arr3, hs3, hsw3, hsorted3⟩ := ih arr2 s idx hle1 (by rw [hsw02.size_eq]; omega) (by omega)
        (hP2.mono (Nat.le_refl _) (Nat.le_of_lt hlt1))
      obtain ⟨arr4, hs4, hsw4, hsorted4⟩ := ih arr3 (idx + 1) e (by omega) (by rw [hsw3.size_eq, hsw02.size_eq]; omega) (by omega)
        ((hP2.swaps hsw3 (Nat.le_refl _) (Nat.le_of_lt hlt1)).mono (Nat.le_succ_of_le hle1) (Nat.le_refl _))
      have hA4 : arr4[idx]? = some p := by rw [hsw4.outside idx (by omega), hsw3.outside idx (by omega)]; exact hA
      refine ⟨arr4, ?_, ?_, SortedSeg.join hord
        ((hP2.swaps hsw3 (Nat.le_refl _) (Nat.le_of_lt hlt1)).swaps hsw4 (Nat.le_succ_of_le hle1) (Nat.le_refl _))
        hle1 hlt1 hA4
        ((hB.swaps hsw3 (Nat.le_refl _) (Nat.le_refl _)).outside hsw4 (.inl (Nat.le_succ _)))
        ((hC.outside hsw3 (.inr (Nat.le_succ _))).swaps hsw4 (Nat.le_refl _) (Nat.le_refl _)) ?_ hsorted4⟩
      · rw [sortSeg]
        simp only [hEq, if_false, hpl, hsw?, hs3, hs4]
      · exact hsw02.trans ((hsw3.mono (Nat.le_refl s) (Nat.le_of_lt hlt1)).trans
          (hsw4.mono (by omega) (Nat.le_refl e)))
      · intro i j x y hi hij hj hx hy
        rw [hsw4.outside i (by omega)] at hx
        rw [hsw4.outside j (by omega)] at hy
        exact hsorted3 i j x y hi hij hj hx hy

theorem SortedSeg.pairwise {before : α → α → Bool} {a : Array α} (h : SortedSeg before a 0 a.size) :
    a.toList.Pairwise (fun x y => before y x = false) := by
  rw [List.pairwise_iff_getElem]
  intro i j hi hj hij
  have hi' : i < a.size := by simpa using hi
  have hj' : j < a.size := by simpa using hj
  exact h i j _ _ (Nat.zero_le _) hij hj'
    (by rw [Array.getElem?_eq_getElem hi', Array.getElem_toList])
    (by rw [Array.getElem?_eq_getElem hj', Array.getElem_toList])

theorem sortSeg_full (before : α → α → Bool) (P : α → Prop) (hord : StrictOn P before)
    (arr : Array α) (hP : ∀ x, x ∈ arr → P x) :
    ∃ arr', sortSeg before arr.size arr 0 arr.size = some arr' ∧
      arr'.toList.Perm arr.toList ∧
      arr'.toList.Pairwise (fun x y => before y x = false) := by
  obtain ⟨arr', h1, h2, h3⟩ := sortSeg_spec before P hord arr.size arr 0 arr.size (Nat.zero_le _)
    (Nat.le_refl _) (by omega) (OnSeg.of_mem hP)
  exact ⟨arr', h1, h2.perm, SortedSeg.pairwise (h2.size_eq ▸ h3)⟩

theorem orderedBy_iff (before : α → α → Bool) (l : List α) :
    orderedBy before l = true ↔ l.Pairwise (fun x y => before y x = false) := by
  induction l with
  | nil => simp [orderedBy]
  | cons x rest ih =>
    simp only [orderedBy, Bool.and_eq_true, List.all_eq_true, Bool.not_eq_eq_eq_not, Bool.not_true,
      List.pairwise_cons, ih]

theorem tableOrdered_pairsTable (before : α → α → Bool) (l : List α) :
    tableOrdered (pairsTable before l) = orderedBy before l := by
  induction l with
  | nil => rfl
  | cons x rest ih =>
    simp only [pairsTable, orderedBy, ← ih, tableOrdered, List.all_append, List.all_map]
    rfl

theorem tableChain_chainTable (le : α → α → Bool) (l : List α) :
    tableChain (chainTable le l) = true ↔ l.Pairwise (fun x y => le x y = true) := by
  induction l with
  | nil => simp [chainTable, tableChain]
  | cons x rest ih =>
    simp only [chainTable, tableChain, List.all_append, List.all_map, Bool.and_eq_true,
      List.pairwise_cons] at ih ⊢
    rw [ih]
    simp [List.all_eq_true]

theorem isPermOf_iff [BEq α] [LawfulBEq α] (out inp : List α) :
    isPermOf out inp = true ↔ out.Perm inp := by
  constructor
  · intro h
    simp only [isPermOf, List.all_eq_true, beq_iff_eq, List.mem_append] at h
    rw [List.perm_iff_count]
    intro a
    by_cases ha : a ∈ out
    · exact h a (Or.inl ha)
    · by_cases hb : a ∈ inp
      · exact h a (Or.inr hb)
      · rw [List.count_eq_zero_of_not_mem ha, List.count_eq_zero_of_not_mem hb]
  · intro h
    simp only [isPermOf, List.all_eq_true, beq_iff_eq]
    exact fun x _ => h.count_eq x

theorem perm_lookup {κ β : Type} [BEq κ] [LawfulBEq κ] {l l' : List (κ × β)} (hp : l.Perm l')
    (hnd : l.Pairwise (fun a b => a.1 ≠ b.1)) (k : κ) : l.lookup k = l'.lookup k := by
  induction hp with
  | nil => rfl
  | cons x _ ih =>
    rw [List.pairwise_cons] at hnd
    cases x with
    | mk a b => simp only [List.lookup_cons, ih hnd.2]
  | swap x y l =>
    rw [List.pairwise_cons, List.pairwise_cons] at hnd
    have hne : y.1 ≠ x.1 := hnd.1 x (List.mem_cons_self ..)
    cases x with
    | mk a b =>
      cases y with
      | mk c d =>
        simp only [List.lookup_cons]
        by_cases h1 : k = a
        · subst h1
          have : (k == c) = false := by
            simp only [beq_eq_false_iff_ne, ne_eq]; exact fun e => hne e.symm
          simp [this]
        · have : (k == a) = false := by simpa using h1
          simp [this]
  | trans h1 _ ih1 ih2 =>
    rw [ih1 hnd]
    exact ih2 ((h1.pairwise_iff (fun {a b} (h : a.1 ≠ b.1) => Ne.symm h)).mp hnd)

theorem liveAssoc_perm {a b : List Slot3} (h : a.Perm b) : (liveAssoc a).Perm (liveAssoc b) :=
  (h.filter _).map _

end Qentem.Sort
