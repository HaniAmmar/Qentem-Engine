import Qentem.Proofs.BigIntAddSub
/-! `Multiply` and `Divide` by a word, relative to the exactness of the configuration's double-word helper (`MulOK`, `DivOK`):
the value bookkeeping of one loop step over variables, the loop, the operation. -/
namespace Qentem.BigInt

/-- The double-word multiply helper of configuration `c` is exact. -/
def MulOK (c : Cfg) : Prop :=
  ∀ a b, a < 2 ^ c.W → b < 2 ^ c.W →
    (dmul c a b).1 * 2 ^ c.W + (dmul c a b).2 = a * b ∧ (dmul c a b).2 < 2 ^ c.W

/-- The double-word divide helper of configuration `c` is exact under its precondition `hi < d`
(with the `initial_shift` that `Divide` passes). -/
def DivOK (c : Cfg) : Prop :=
  ∀ hi lo d, 0 < d → d < 2 ^ c.W → hi < d → lo < 2 ^ c.W →
    ∃ r q, ddiv c hi lo d (if c.hand then (c.W - 1) - d.log2 else 0) = .ok (r, q) ∧
      q * d + r = hi * 2 ^ c.W + lo ∧ r < d ∧ q < 2 ^ c.W

/-- Value bookkeeping of one `Multiply` step at word `w` (weight `P`): `A` is the value below it, `H` the
part above, `HI:LO` the double-word product, `D2` what the storage holds from that word up afterwards. -/
theorem mulStep_arith {m A P B w H HI LO D2 : Nat} (hE : HI * B + LO = w * m)
    (hs2 : A + P * (LO + B * H) + HI * (B * P) = A + P * D2) :
    m * (A + P * w) + B * P * H = m * A + P * D2 := by
  rw [Nat.add_assoc] at hs2
  rw [← Nat.add_left_cancel hs2, show P * (LO + B * H) + HI * (B * P) = (HI * B + LO) * P + B * P * H by ring, hE]
  ring

theorem mulStep_fit {m A P B w H HI LO T : Nat} (hE : HI * B + LO = w * m) (hm : 1 ≤ m)
    (hfit : m * (A + P * w) + B * P * H < T) : A + P * (LO + B * H) + HI * (B * P) < T :=
  calc A + P * (LO + B * H) + HI * (B * P) = A + ((HI * B + LO) * P + B * P * H) := by ring
    _ = A + (w * m * P + B * P * H) := by rw [hE]
    _ ≤ m * A + (w * m * P + B * P * H) := Nat.add_le_add_right (Nat.le_mul_of_pos_left _ hm) _
    _ = m * (A + P * w) + B * P * H := by ring
    _ < T := hfit

theorem mulStep_spec {c : Cfg} (hm : MulOK c) (m : Nat) (hmB : m < 2 ^ c.W) (i : Nat) (s : Big)
    (h : WInv c.W s) (hi : i ≤ s.idx) (hlt : i < s.words.length)
    (hfit : m * valW c.W (s.words.take (i + 1)) + 2 ^ (c.W * (i + 1)) * valW c.W (s.words.drop (i + 1))
      < 2 ^ (c.W * s.words.length)) :
    ∃ s2, add c.W ⟨s.words.set i (dmul c s.words[i] m).2, s.idx⟩ (dmul c s.words[i] m).1 (i + 1) = .ok s2 ∧
      WInv c.W s2 ∧ s2.words.length = s.words.length ∧ s.idx ≤ s2.idx ∧
      m * valW c.W (s.words.take (i + 1)) + 2 ^ (c.W * (i + 1)) * valW c.W (s.words.drop (i + 1))
        = m * valW c.W (s2.words.take i) + 2 ^ (c.W * i) * valW c.W (s2.words.drop i) := by
  have hwB : s.words[i] < 2 ^ c.W := h.bound.getElem hlt
  obtain ⟨hE, hloB⟩ := hm s.words[i] m hwB hmB
  have hhiB : (dmul c s.words[i] m).1 < 2 ^ c.W := by
    by_contra hc
    have h1 := Nat.mul_le_mul_right (2 ^ c.W) (Nat.le_of_not_lt hc)
    have h2 := Nat.mul_lt_mul'' hwB hmB
    omega
  have h1 : WInv c.W ⟨s.words.set i (dmul c s.words[i] m).2, s.idx⟩ :=
    ⟨h.wpos, h.bound.set _ hloB, by simpa using h.idx_lt, fun k hk => by
      rw [show (Big.mk _ _).words = _ from rfl, getD_set_ne (by have : s.idx + 1 ≤ k := hk; omega)]
      exact h.above k hk⟩
  have hV := valW_set_eq c.W s.words i (dmul c s.words[i] m).2 hlt
  rw [valW_take_succ c.W s.words i hlt, pow_mul_succ] at hfit ⊢
  have hfit1 : Big.val c.W ⟨s.words.set i (dmul c s.words[i] m).2, s.idx⟩
      + (dmul c s.words[i] m).1 * 2 ^ (c.W * (i + 1)) < 2 ^ (c.W * (s.words.set i (dmul c s.words[i] m).2).length) := by
    by_cases hz : (dmul c s.words[i] m).1 = 0
    · rw [hz, Nat.zero_mul]; exact h1.val_lt_total
    · rw [List.length_set, pow_mul_succ]
      show valW c.W (s.words.set i (dmul c s.words[i] m).2) + _ < _
      rw [hV]
      refine mulStep_fit hE (Nat.pos_of_ne_zero fun h0 => ?_) hfit
      have h2 : s.words[i] * m = 0 := by rw [h0, Nat.mul_zero]
      have := Nat.mul_pos (Nat.pos_of_ne_zero hz) (Nat.lt_of_le_of_lt (Nat.zero_le _) hloB)
      omega
  obtain ⟨s2, hadd, hw2, hl2, hv2, hidx2, hfr2, _⟩ :=
    add_spec (W := c.W) ⟨s.words.set i (dmul c s.words[i] m).2, s.idx⟩ (dmul c s.words[i] m).1 (i + 1) h1 hhiB
      (by rw [List.length_set]; omega) hfit1
  have hl2' : s2.words.length = s.words.length := by simpa using hl2
  have hA2 : valW c.W (s2.words.take i) = valW c.W (s.words.take i) :=
    valW_take_congr _ _ _ _ fun k hk => by rw [hfr2 k (by omega)]; exact getD_set_ne (by omega)
  refine ⟨s2, hadd, hw2, hl2', hidx2, ?_⟩
  rw [hA2]
  refine mulStep_arith hE ?_
  rw [← hV, ← pow_mul_succ, ← hA2, ← valW_split c.W s2.words i (by omega)]
  exact hv2.symm

theorem mulFrom_spec {c : Cfg} (hm : MulOK c) (m : Nat) (hmB : m < 2 ^ c.W) : ∀ (i : Nat) (s : Big),
    WInv c.W s → i ≤ s.idx →
    m * valW c.W (s.words.take (i + 1)) + 2 ^ (c.W * (i + 1)) * valW c.W (s.words.drop (i + 1))
      < 2 ^ (c.W * s.words.length) →
    ∃ s', mulFrom c m i s = .ok s' ∧ WInv c.W s' ∧ s'.words.length = s.words.length ∧
      s'.val c.W = m * valW c.W (s.words.take (i + 1)) + 2 ^ (c.W * (i + 1)) * valW c.W (s.words.drop (i + 1))
  | 0, s, h, hi, hfit => by
    have hlt : 0 < s.words.length := Nat.lt_of_le_of_lt hi h.idx_lt
    obtain ⟨s2, hadd, hw2, hl2, _, hv2⟩ := mulStep_spec hm m hmB 0 s h hi hlt hfit
    unfold mulFrom
    simp only [rd_ok hlt, wr_ok _ hlt, bind, Except.bind]
    rw [hadd]
    refine ⟨s2, rfl, hw2, hl2, ?_⟩
    rw [hv2]; simp [valW, Big.val]
  | j + 1, s, h, hi, hfit => by
    have hlt : j + 1 < s.words.length := Nat.lt_of_le_of_lt hi h.idx_lt
    obtain ⟨s2, hadd, hw2, hl2, hidx2, hv2⟩ := mulStep_spec hm m hmB (j + 1) s h hi hlt hfit
    obtain ⟨s', hrun, hw', hl', hv'⟩ := mulFrom_spec hm m hmB j s2 hw2 (by omega)
      (by rw [← hv2, hl2]; exact hfit)
    unfold mulFrom
    simp only [rd_ok hlt, wr_ok _ hlt, bind, Except.bind, hadd]
    exact ⟨s', hrun, hw', by omega, by rw [hv', ← hv2]⟩

theorem multiply_spec {c : Cfg} (hm : MulOK c) (s : Big) (m : Nat) (h : Inv c.W s) (hmB : m < 2 ^ c.W)
    (hfit : s.val c.W * m < 2 ^ (c.W * s.words.length)) :
    ∃ s', multiply c s m = .ok s' ∧ Inv c.W s' ∧ s'.words.length = s.words.length ∧
      s'.val c.W = s.val c.W * m := by
  have hz : valW c.W (s.words.drop (s.idx + 1)) = 0 :=
    valW_eq_zero_of_zeroFrom0 _ _ (zeroFrom_drop h.above)
  have hv : s.val c.W = valW c.W (s.words.take (s.idx + 1)) := h.toWInv.val_eq_take
  obtain ⟨s1, hrun, hw1, hl1, hv1⟩ := mulFrom_spec hm m hmB s.idx s h.toWInv (Nat.le_refl _)
    (by rw [hz, ← hv, Nat.mul_comm]; simpa using hfit)
  obtain ⟨j, htrim, hinv⟩ := trim_inv s1 hw1
  unfold multiply
  rw [hrun]
  simp only [bind, Except.bind]
  rw [htrim]
  refine ⟨_, rfl, hinv, hl1, ?_⟩
  show valW c.W s1.words = _
  have : s1.val c.W = valW c.W s1.words := rfl
  rw [← this, hv1, hz, ← hv, Nat.mul_comm]; simp

/-- Value bookkeeping of one `Divide` step at a word `w` of weight `P`: `r` comes in from above, `q` is
written, `r1` goes on; `A`, `A'` are the values below the word before and after the rest of the loop. -/
theorem divStep_arith {d q r r1 w P B A A' r' : Nat} (he : q * d + r1 = r * B + w)
    (hv : A + P * r1 = d * A' + r') : A + P * w + B * P * r = d * (A' + P * q) + r' :=
  calc A + P * w + B * P * r = A + P * (r * B + w) := by ring
    _ = A + P * r1 + d * (P * q) := by rw [← he]; ring
    _ = d * (A' + P * q) + r' := by rw [hv]; ring

theorem divFrom_spec {c : Cfg} (hdv : DivOK c) (d : Nat) (hd0 : 0 < d) (hd : d < 2 ^ c.W) :
    ∀ (i : Nat) (ws : List Nat) (r : Nat), Bounded c.W ws → i ≤ ws.length → r < d →
    ∃ ws' r', divFrom c d (if c.hand then (c.W - 1) - d.log2 else 0) i ws r = .ok (ws', r') ∧
      ws'.length = ws.length ∧ Bounded c.W ws' ∧ r' < d ∧ (∀ k, i ≤ k → ws'.getD k 0 = ws.getD k 0) ∧
      valW c.W (ws.take i) + 2 ^ (c.W * i) * r = d * valW c.W (ws'.take i) + r'
  | 0, ws, r, hb, _, hr => ⟨ws, r, rfl, rfl, hb, hr, fun _ _ => rfl, by simp [valW]⟩
  | i + 1, ws, r, hb, hi, hr => by
    have hlt : i < ws.length := hi
    obtain ⟨r1, q, hrun1, he, hr1, hq⟩ := hdv r ws[i] d hd0 hd hr (hb.getElem hlt)
    obtain ⟨ws', r', hrun, hl', hb', hr', hfr, hv⟩ :=
      divFrom_spec hdv d hd0 hd i (ws.set i q) r1 (hb.set _ hq) (by rw [List.length_set]; omega) hr1
    unfold divFrom
    simp only [rd_ok hlt, bind, Except.bind, hrun1, wr_ok _ hlt, hrun]
    refine ⟨ws', r', rfl, by simpa using hl', hb', hr', ?_, ?_⟩
    · intro k hk; rw [hfr k (by omega)]; exact getD_set_ne (by omega)
    · have hl2 : ws'.length = ws.length := by simpa using hl'
      have hA : valW c.W ((ws.set i q).take i) = valW c.W (ws.take i) := valW_take_set c.W ws i i q (Nat.le_refl i)
      have hq' : ws'[i]'(by omega) = q := by
        have := hfr i (Nat.le_refl _)
        rw [getD_set_eq hlt, getD_eq_getElem (by omega)] at this
        exact this
      rw [valW_take_succ c.W ws i hlt, valW_take_succ c.W ws' i (by omega), hq', pow_mul_succ]
      rw [hA] at hv
      exact divStep_arith he hv

theorem divide_spec {c : Cfg} (hdv : DivOK c) (s : Big) (d : Nat) (h : Inv c.W s) (hd0 : 0 < d) (hd : d < 2 ^ c.W) :
    ∃ s' r, divide c s d = .ok (s', r) ∧ Inv c.W s' ∧ s'.words.length = s.words.length ∧
      s.val c.W = d * s'.val c.W + r ∧ r < d := by
  have hlt := h.idx_lt
  have hne : (d == 0) = false := by simp; omega
  have htopB : s.words[s.idx] < 2 ^ c.W := h.bound.getElem hlt
  have hqB : s.words[s.idx] / d < 2 ^ c.W := Nat.lt_of_le_of_lt (Nat.div_le_self _ _) htopB
  obtain ⟨ws', r', hrun, hl', hb', hr', hfr, hv⟩ :=
    divFrom_spec hdv d hd0 hd s.idx (s.words.set s.idx (s.words[s.idx] / d)) (s.words[s.idx] % d)
      (h.bound.set _ hqB) (by rw [List.length_set]; omega) (Nat.mod_lt _ hd0)
  have hl2 : ws'.length = s.words.length := by simpa using hl'
  have hshift : (if c.hand = true then (do let b ← platFindLastBit d; pure (c.W - 1 - b)) else pure 0 : M Nat)
      = .ok (if c.hand then (c.W - 1) - d.log2 else 0) := by
    unfold platFindLastBit
    simp only [hne]
    split <;> rfl
  have htop' : ws'.getD s.idx 0 = s.words[s.idx] / d := by
    rw [hfr s.idx (Nat.le_refl _), getD_set_eq hlt]
  have habove : ZeroFrom ws' (s.idx + 1) := by
    intro k hk
    rw [hfr k (by omega), getD_set_ne (by omega)]; exact h.above k hk
  have hA : valW c.W ((s.words.set s.idx (s.words[s.idx] / d)).take s.idx) = valW c.W (s.words.take s.idx) :=
    valW_take_set c.W s.words s.idx s.idx _ (Nat.le_refl _)
  have hw : WInv c.W ⟨ws', s.idx⟩ := ⟨h.wpos, hb', by simp only; omega, habove⟩
  have hval : valW c.W s.words = d * valW c.W ws' + r' := by
    have h1 : valW c.W s.words = valW c.W (s.words.take (s.idx + 1)) := h.toWInv.val_eq_take
    have h2 : valW c.W ws' = valW c.W (ws'.take (s.idx + 1)) := hw.val_eq_take
    rw [h1, h2, valW_take_succ c.W s.words s.idx hlt, valW_take_succ c.W ws' s.idx (by omega)]
    have : ws'[s.idx]'(by omega) = s.words[s.idx] / d := by
      rw [← getD_eq_getElem (by omega : s.idx < ws'.length)]; exact htop'
    rw [this]
    rw [hA] at hv
    -- the top word is a step of the loop with nothing coming in from above: `divStep_arith` at `r = 0`, `B = 0`
    have he : s.words[s.idx] / d * d + s.words[s.idx] % d = 0 * 0 + s.words[s.idx] := by
      rw [Nat.mul_comm, Nat.div_add_mod, Nat.zero_mul, Nat.zero_add]
    have := divStep_arith he hv
    rwa [Nat.mul_zero, Nat.add_zero] at this
  simp only [bind, Except.bind] at hshift
  unfold divide
  simp only [hne, Bool.false_eq_true, if_false, rd_ok hlt, bind, Except.bind, wr_ok _ hlt, hshift, hrun]
  by_cases hi0 : s.idx > 0
  · rw [if_pos hi0, rd_ok (by omega : s.idx < ws'.length)]
    simp only [pure, Except.pure]
    rw [← getD_eq_getElem (by omega : s.idx < ws'.length)]
    by_cases hz : ws'.getD s.idx 0 = 0
    · -- the top word became zero: index_ - 1
      simp only [hz, beq_self_eq_true, if_true]
      exact ⟨_, r', rfl, h.pred_of_quot hw hz (Nat.le_of_lt hd) (by rw [Nat.mul_add]; show valW c.W s.words < _; omega),
        hl2, hval, hr'⟩
    · simp only [beq_false_of_ne hz, Bool.false_eq_true, if_false]
      exact ⟨_, r', rfl, ⟨hw, fun _ => hz⟩, hl2, hval, hr'⟩
  · rw [if_neg hi0]
    exact ⟨_, r', rfl, ⟨hw, fun hne1 => absurd hne1 (by simp only; omega)⟩, hl2, hval, hr'⟩

end Qentem.BigInt
