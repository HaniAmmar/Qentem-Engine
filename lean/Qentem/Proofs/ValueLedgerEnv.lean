import Qentem.Model.ValueLedger
import Qentem.Proofs.ValueLedger
/-! Forest-level accounting for the Value trace model: targets, sources taken out of their root, one
operation, operation sequences, destruction. -/
namespace Qentem.ValueLedger
open Qentem.Ledger Qentem.HashLedger Qentem.Value

theorem lenvGet_split (pre post : List LDoc) (x : LDoc) : lenvGet (pre ++ x :: post) pre.length = x := by
  simp [lenvGet]

theorem env_split (env : LEnv) (r : Nat) (h : r < env.length) :
    ∃ pre post, env = pre ++ lenvGet env r :: post ∧ pre.length = r := by
  have hg : env[r]? = some env[r] := List.getElem?_eq_getElem h
  obtain ⟨pre, post, h1, h2⟩ := getElem?_split hg
  refine ⟨pre, post, ?_, h2⟩
  simp only [lenvGet, hg]
  exact h1

theorem Acc_onTargetL (env : LEnv) (t : LLoc) (f : LDoc → LM LDoc) (extra : List Nat) (hf : Good f extra)
    (ht : t.root < env.length) : Acc (onTargetL env t f) (ownedEnv env ++ extra) (fun env' => ownedEnv env') := by
  obtain ⟨pre, post, h1, h2⟩ := env_split env t.root ht
  unfold onTargetL
  generalize lenvGet env t.root = x at h1
  subst h1
  refine Acc.map _ ?_
  simp only [← h2, set_at_length, ownedEnv, ownedItems_append, ownedItems_cons]
  exact (((Good_updPathL t.path f extra hf x).frame _).frameL _).permPre (by perm_count)

theorem nonUndefL_some (v c : LDoc) (h : nonUndefL v = some c) : c = v := by
  unfold nonUndefL at h
  split at h
  · cases h
  · cases h; rfl

/-- replacing `C` by `Y` inside `A` (giving `A'`), with other blocks `O` of the same owner. -/
theorem perm_replace_in {A A' C Y : List Nat} (O : List Nat) (h : (A' ++ C).Perm (A ++ Y)) :
    (A' ++ O ++ C).Perm (A ++ O ++ Y) := by
  refine List.perm_iff_count.mpr fun a => ?_
  have hc := List.perm_iff_count.mp h a
  simp only [List.count_append] at hc ⊢
  omega

theorem owned_slotSetValL (k : List Nat) (y c : LDoc) (s : List LSlot) (h : slotFindL k s = some c) :
    (ownedSlots (slotSetValL k y s) ++ owned c).Perm (ownedSlots s ++ owned y) := by
  induction s with
  | nil => cases h
  | cons a t ih =>
    cases a with
    | none => exact ih h
    | some e =>
      obtain ⟨kid, k', v⟩ := e
      unfold slotFindL at h
      unfold slotSetValL
      split at h
      · rename_i hk
        cases h
        rw [if_pos hk, ownedSlots_some, ownedSlots_some]
        perm_count
      · rename_i hk
        rw [if_neg hk, ownedSlots_some, ownedSlots_some, List.append_assoc, List.append_assoc]
        exact ((ih h).cons kid).append_left _

theorem owned_setIdxPure (y c : LDoc) (l : List LDoc) (i : Nat) (h : l[i]? = some c) :
    (ownedItems (setIdxPure i y l) ++ owned c).Perm (ownedItems l ++ owned y) := by
  induction l generalizing i with
  | nil => cases h
  | cons a t ih =>
    cases i with
    | zero =>
      cases (Option.some.inj h)
      rw [setIdxPure, ownedItems_cons, ownedItems_cons]
      perm_count
    | succ i =>
      rw [setIdxPure, ownedItems_cons, ownedItems_cons, List.append_assoc, List.append_assoc]
      exact (ih i h).append_left _

theorem owned_setChildL (d : LDoc) (sel : Sel) (c y : LDoc) (hc : childAtL d sel = some c) :
    (owned (setChildL d sel y) ++ owned c).Perm (owned d ++ owned y) := by
  unfold childAtL at hc
  split at hc
  · split at hc
    · rename_i k _ b cap s
      cases hf : slotFindL k s with
      | none => rw [hf] at hc; cases hc
      | some v =>
        rw [hf] at hc
        cases nonUndefL_some v c hc
        simp only [setChildL]
        exact perm_replace_in _ (owned_slotSetValL k y c s hf)
    · rename_i k _ b cap items
      cases hk : arrayKeyIndex k with
      | none => rw [hk] at hc; cases hc
      | some ki =>
        rw [hk, Option.bind_some] at hc
        cases hg : items[ki]? with
        | none => rw [hg] at hc; cases hc
        | some v =>
          rw [hg] at hc
          cases nonUndefL_some v c hc
          simp only [setChildL, hk]
          exact perm_replace_in _ (owned_setIdxPure y c items _ hg)
    · cases hc
  · split at hc
    · rename_i i _ b cap s
      split at hc
      · rename_i kid k v hs
        cases nonUndefL_some v c hc
        obtain ⟨pre, post, rfl, rfl⟩ := getElem?_split hs
        simp only [setChildL, hs, set_at_length, owned_obj, ownedSlots_append, ownedSlots_some]
        perm_count
      · cases hc
    · rename_i i _ b cap items
      cases hg : items[i]? with
      | none => rw [hg] at hc; cases hc
      | some v =>
        rw [hg] at hc
        cases nonUndefL_some v c hc
        simp only [setChildL]
        exact perm_replace_in _ (owned_setIdxPure y c items _ hg)
    · cases hc

theorem owned_putAtL (p : List Sel) (d x : LDoc) (h : getAtL d p = some x) :
    (owned x ++ owned (putAtL d p .undef)).Perm (owned d) := by
  induction p generalizing d with
  | nil =>
    cases (Option.some.inj h)
    exact List.Perm.of_eq (List.append_nil _)
  | cons sel rest ih =>
    unfold getAtL at h
    unfold putAtL
    cases hc : childAtL d sel with
    | none => rw [hc] at h; cases h
    | some c =>
      rw [hc] at h
      have h1 := ih c h
      have h2 := owned_setChildL d sel c (putAtL c rest .undef) hc
      refine List.perm_iff_count.mpr fun a => ?_
      have c1 := List.perm_iff_count.mp h1 a
      have c2 := List.perm_iff_count.mp h2 a
      simp only [List.count_append] at c1 c2 ⊢
      omega

theorem owned_takeSourceL (env : LEnv) (t : LLoc) (s : SLoc) (x : LDoc) (h : sourceL env t s = some x) :
    (ownedEnv (takeSourceL env s) ++ owned x).Perm (ownedEnv env) := by
  unfold sourceL at h
  split at h
  · cases h
  · by_cases hs : s.root < env.length
    · obtain ⟨pre, post, h1, h2⟩ := env_split env s.root hs
      have hp := owned_putAtL s.path _ x h
      unfold takeSourceL
      generalize lenvGet env s.root = y at h1 hp
      subst h1
      rw [← h2, set_at_length]
      simp only [ownedEnv, ownedItems_append, ownedItems_cons]
      refine List.perm_iff_count.mpr fun a => ?_
      have hc := List.perm_iff_count.mp hp a
      simp only [List.count_append] at hc ⊢
      omega
    · have hnone : env[s.root]? = none := List.getElem?_eq_none (by omega)
      have hu : lenvGet env s.root = .undef := by simp [lenvGet, hnone]
      rw [hu] at h
      cases hp : s.path with
      | nil =>
        rw [hp] at h; simp [getAtL] at h; subst h
        simp [takeSourceL, List.set_eq_of_length_le (Nat.le_of_not_lt hs)]
      | cons sel rest => rw [hp] at h; cases sel <;> simp [getAtL, childAtL] at h

theorem Acc_withTmp {α : Type} (k : Nat) (body : LM α) (pre : List Nat) (post : α → List Nat) (h : Acc body pre post) :
    Acc (withTmp k body) pre post := by
  unfold withTmp
  exact Acc.bind ((Acc_allocTmp k).keep pre)
    (fun ts => Acc.bind (h.frame ts) (fun a => Acc.map _ ((Acc_freeAll ts).useL (post a))))

theorem Acc_mkPayload (x : Doc) : Acc (mkPayload x) [] (fun p => owned p) := by
  unfold mkPayload
  split
  iterate 6 exact Acc.ret _ _ _ rfl
  · exact Acc.map _ Acc_alloc
  · exact Acc.ret _ _ _ rfl

/-- with a source member taken out and handed to a leaf action that consumes it. -/
theorem Acc_moveInto (env : LEnv) (t : LLoc) (s : SLoc) (x : LDoc) (f : LDoc → LM LDoc) (hs : sourceL env t s = some x)
    (ht : t.root < env.length) (hf : Good f (owned x)) :
    Acc (onTargetL (takeSourceL env s) t f) (ownedEnv env) (fun env' => ownedEnv env') :=
  (Acc_onTargetL _ t f (owned x) hf (by simpa [takeSourceL] using ht)).permPre
    (owned_takeSourceL env t s x hs).symm

theorem owned_emptyOfKind (k : Nat) (e : LDoc) (h : emptyOfKind k = some e) : owned e = [] := by
  unfold emptyOfKind at h
  split at h <;> cases h <;> rfl

theorem Good_replaceBy_empty (e : LDoc) (h : owned e = []) : Good (replaceBy e) [] := by
  have := Good_replaceBy e
  rwa [h] at this

theorem Acc_stepBody (op : ValueLedger.LOp) (env : LEnv) (ht : op.target.root < env.length) :
    Acc (stepBody op env) (ownedEnv env) (fun env' => ownedEnv env') := by
  have here : ∀ (t : LLoc) (f : LDoc → LM LDoc), t.root < env.length → Good f [] →
      Acc (onTargetL env t f) (ownedEnv env) (fun env' => ownedEnv env') :=
    fun t f h hf => (Acc_onTargetL env t f [] hf h).permPre (by rw [List.append_nil])
  have withX : ∀ (t : LLoc) (m : LM LDoc) (f : LDoc → LDoc → LM LDoc), t.root < env.length →
      Acc m [] (fun x => owned x) → (∀ x, Good (f x) (owned x)) →
      Acc (LM.bind m (fun x => onTargetL env t (f x))) (ownedEnv env) (fun env' => ownedEnv env') :=
    fun t m f h hm hf => Acc.bind (hm.keep (ownedEnv env)) (fun x => Acc_onTargetL env t (f x) (owned x) (hf x) h)
  have noop : Acc (LM.pure env) (ownedEnv env) (fun env' => ownedEnv env') := Acc.ret _ _ _ rfl
  cases op with
  | assign t x tmp => exact Acc_withTmp _ _ _ _ (withX t _ (fun p => replaceBy p) ht (Acc_mkPayload x) Good_replaceBy)
  | touch t => exact here t _ ht Good_pure
  | setType t k =>
    simp only [stepBody]
    cases he : emptyOfKind k with
    | none => exact here t _ ht Good_pure
    | some e => exact here t _ ht (Good_replaceBy_empty e (owned_emptyOfKind k e he))
  | copy t s =>
    simp only [stepBody]
    split
    · exact here t _ ht (Good_replaceByCopy _)
    · exact noop
  | move t s =>
    simp only [stepBody]
    split
    · exact Acc_moveInto env t s _ _ ‹_› ht (Good_replaceBy _)
    · exact noop
  | assignObj t s | assignArr t s =>
    simp only [stepBody]
    split
    · exact withX t _ (fun p => replaceBy p) ht (Acc_copyL _) Good_replaceBy
    · exact noop
  | setPtr t r =>
    cases r with
    | some r => exact here t _ ht (Good_replaceBy_empty _ (by simp))
    | none =>
      refine here t _ ht (fun v => ?_)
      split
      · exact Acc.ret _ _ _ rfl
      · exact Good_resetPayloadL _
  | append t x tmp => exact Acc_withTmp _ _ _ _ (withX t _ (fun p => pushL p) ht (Acc_mkPayload x) Good_pushL)
  | appendMove t s =>
    simp only [stepBody]
    split
    · exact Acc_moveInto env t s _ _ ‹_› ht (Good_addValueL_move _)
    · exact noop
  | appendCopy t s =>
    simp only [stepBody]
    split
    · exact here t _ ht (Good_addValueL_copy _)
    · exact noop
  | appendObj t s =>
    simp only [stepBody]
    split
    · exact withX t _ (fun p => addObjL p) ht (Acc_copyL _) Good_addObjL
    · exact noop
  | appendArr t s =>
    simp only [stepBody]
    split
    · exact withX t _ (fun p => addArrL p) ht (Acc_copyL _) Good_addArrL
    · exact noop
  | addPtr t r =>
    cases r with
    | some r => exact here t _ ht (by simpa using Good_pushL (.ptr r))
    | none => exact here t _ ht (by simpa using Good_pushL .undef)
  | insert t k x =>
    exact withX t _ (fun p => updKeyL k KV.moved (replaceBy p)) ht (Acc_mkPayload x)
      (fun p => Good_updKeyL k KV.moved _ _ (Good_replaceBy p))
  | insertMove t k s =>
    simp only [stepBody]
    split
    · exact Acc_moveInto env t s _ _ ‹_› ht (Good_updKeyL k KV.moved _ _ (Good_replaceBy _))
    · exact noop
  | mergeMove t s =>
    simp only [stepBody]
    split
    · exact Acc_moveInto env t s _ _ ‹_› ht (Good_mergeL_move _)
    · exact noop
  | mergeCopy t s =>
    simp only [stepBody]
    split
    · exact here t _ ht (Good_mergeL_copy _)
    · exact noop
  | remove t k tmp => exact Acc_withTmp _ _ _ _ (here t _ ht (Good_removeKeyL k))
  | removeIdx t i => exact here t _ ht (Good_removeIdxL i)
  | reset t => exact here t _ ht (Good_replaceBy_empty _ (by simp))
  | compress t => exact here t _ ht (.of_acc Acc_compressL)
  | clear t => exact here t _ ht Good_clearL
  | reserve t k n =>
    simp only [stepBody]
    refine Acc.bind ((Acc_reserveL k n).keep (ownedEnv env)) (fun r => ?_)
    cases r with
    | none => exact Acc_onTargetL env t _ [] Good_pure ht
    | some x => exact Acc_onTargetL env t _ (owned x) (Good_replaceBy x) ht

theorem Acc_stepL (op : ValueLedger.LOp) (env : LEnv) : Acc (stepL op env) (ownedEnv env) (fun env' => ownedEnv env') := by
  unfold stepL
  split
  · rename_i h; exact Acc_stepBody op env h
  · exact Acc.ret _ _ _ rfl

theorem Acc_runL : ∀ (ops : List ValueLedger.LOp) (env : LEnv),
    Acc (runL ops env) (ownedEnv env) (fun env' => ownedEnv env')
  | [], _ => Acc.ret _ _ _ rfl
  | op :: rest, env => Acc.bind (Acc_stepL op env) (fun env' => Acc_runL rest env')

theorem ownedItems_reverse (l : List LDoc) : (ownedItems l.reverse).Perm (ownedItems l) := by
  induction l with
  | nil => simp
  | cons a t ih =>
    rw [List.reverse_cons, ownedItems_append, ownedItems_cons, ownedItems_cons, ownedItems_nil, List.append_nil]
    exact List.perm_append_comm.trans (ih.append_left _)

theorem Acc_destroyL (env : LEnv) : Acc (destroyL env) (ownedEnv env) (fun _ => []) :=
  (Acc_freeAll _).permPre (ownedItems_reverse env).symm

theorem ownedEnv_replicate_undef (n : Nat) : ownedEnv (List.replicate n .undef) = [] := by
  simp [ownedEnv]

end Qentem.ValueLedger
