import Qentem.Model.HashTableSpec
import Qentem.Proofs.HashTableBasics
import Mathlib.Data.List.Perm.Subperm
/-!
The slot specification read as an insertion-ordered map; nothing here mentions the layout.  A specification state is
seen three ways, each the image of the one before: the slots (removed ones included), the live entries in slot order
(`entries`: given distinct live keys, `KeysNodup`, a key-level step acts on them as on the textbook association list,
`alStep`), and the history (`histStep`: a lookup returns the last value stored under the key and not removed since).
Also: a key and its slot number determine each other; `Sort` permutes the entries.
-/
namespace Qentem.HashTable
variable {V : Type}

/-- The live entries in iteration (slot) order. -/
def entries (sl : Slots V) : List (List Nat × V) := sl.filterMap id

def keysOf (sl : Slots V) : List (List Nat) := (entries sl).map Prod.fst

def KeysNodup (sl : Slots V) : Prop := (keysOf sl).Nodup

/-- The value a lookup by key returns. -/
def valOf (sp : Spec V) (k : List Nat) : Option V := (Spec.lookup sp k).map Prod.snd

@[simp] theorem entries_nil : entries ([] : Slots V) = [] := rfl
@[simp] theorem entries_cons_none (t : Slots V) : entries (none :: t) = entries t := rfl
@[simp] theorem entries_cons_some (e : List Nat × V) (t : Slots V) : entries (some e :: t) = e :: entries t := rfl
theorem entries_append (a b : Slots V) : entries (a ++ b) = entries a ++ entries b := by
  simp [entries, List.filterMap_append]

theorem entries_compact (sl : Slots V) : entries (Spec.compact sl) = entries sl := by
  induction sl with
  | nil => rfl
  | cons o t ih =>
    cases o with
    | none => exact ih
    | some e => exact congrArg (e :: ·) ih

theorem filterMap_range_eq_entries (sl : Slots V) : (List.range sl.length).filterMap (fun i => (sl[i]?).join) = entries sl := by
  induction sl with
  | nil => rfl
  | cons o t ih =>
    rw [List.length_cons, List.range_succ_eq_map, List.filterMap_cons, List.filterMap_map]
    have : ((fun i => ((o :: t)[i]?).join) ∘ Nat.succ) = fun i => (t[i]?).join := by
      funext i; simp
    rw [this, ih]
    cases o <;> simp [entries]

theorem findKey_cons (o : Option (List Nat × V)) (t : Slots V) (k : List Nat) :
    Spec.findKey (o :: t) k = if Spec.hasKey k o then some 0 else (Spec.findKey t k).map (· + 1) := by
  simp only [Spec.findKey, List.findIdx_cons, List.length_cons]
  by_cases h : Spec.hasKey k o = true
  · simp [h]
  · simp only [h, Bool.false_eq_true, if_false, cond_false]
    by_cases h2 : List.findIdx (Spec.hasKey k) t < t.length
    · simp [h2]
    · simp [h2]

theorem findKey_some_split : ∀ {sl : Slots V} {k : List Nat} {i : Nat}, Spec.findKey sl k = some i →
    ∃ A B v0, sl = A ++ some (k, v0) :: B ∧ A.length = i
  | [], k, i, h => by simp [Spec.findKey] at h
  | o :: t, k, i, h => by
    rw [findKey_cons] at h
    by_cases hk : Spec.hasKey k o = true
    · rw [if_pos hk] at h
      cases o with
      | none => simp [Spec.hasKey] at hk
      | some e =>
        obtain ⟨k', v0⟩ := e
        simp only [Spec.hasKey, decide_eq_true_eq] at hk
        subst hk
        exact ⟨[], t, v0, rfl, by simpa using (Option.some.inj h)⟩
    · rw [if_neg hk] at h
      obtain ⟨i', hi', rfl⟩ := Option.map_eq_some_iff.mp h
      obtain ⟨A, B, v0, hsl, hlen⟩ := findKey_some_split hi'
      exact ⟨o :: A, B, v0, by rw [hsl]; rfl, by simp [hlen]⟩

theorem keysOf_cons_none (t : Slots V) : keysOf (none :: t) = keysOf t := rfl
theorem keysOf_cons_some (k : List Nat) (v : V) (t : Slots V) : keysOf (some (k, v) :: t) = k :: keysOf t := rfl

theorem findKey_none_iff {sl : Slots V} {k : List Nat} : Spec.findKey sl k = none ↔ k ∉ keysOf sl := by
  induction sl with
  | nil => simp [Spec.findKey, keysOf]
  | cons o t ih =>
    rw [findKey_cons]
    cases o with
    | none =>
      rw [keysOf_cons_none]
      simp only [Spec.hasKey, Bool.false_eq_true, if_false, Option.map_eq_none_iff]
      exact ih
    | some e =>
      obtain ⟨k', v⟩ := e
      rw [keysOf_cons_some]
      by_cases hk : k' = k
      · simp [Spec.hasKey, hk]
      · have : ¬ k = k' := fun e => hk e.symm
        simp only [Spec.hasKey, hk, decide_false, Bool.false_eq_true, if_false, Option.map_eq_none_iff,
          List.mem_cons, this, false_or]
        exact ih

theorem set_split {A B : Slots V} {x y : Option (List Nat × V)} :
    (A ++ x :: B).set A.length y = A ++ y :: B := by
  simp

theorem lookup_none_iff {sp : Spec V} {k : List Nat} : Spec.lookup sp k = none ↔ k ∉ keysOf sp.slots := by
  unfold Spec.lookup
  cases hf : Spec.findKey sp.slots k with
  | none => simp [findKey_none_iff.mp hf]
  | some i =>
    obtain ⟨A, B, v0, hsl, hlen⟩ := findKey_some_split hf
    have hget : sp.slots[i]? = some (some (k, v0)) := by rw [hsl, ← hlen]; simp
    have : k ∈ keysOf sp.slots := by rw [hsl]; simp [keysOf, entries_append]
    simp [hget, this]

theorem mem_keysOf_of_get {sl : Slots V} {i : Nat} {k : List Nat} {v : V} (h : sl[i]? = some (some (k, v))) :
    k ∈ keysOf sl :=
  List.mem_map.mpr ⟨(k, v), List.mem_filterMap.mpr ⟨_, List.mem_of_getElem? h, rfl⟩, rfl⟩

theorem keysNodup_idx : ∀ {sl : Slots V}, KeysNodup sl → ∀ {i j : Nat} {k : List Nat} {v v' : V},
    sl[i]? = some (some (k, v)) → sl[j]? = some (some (k, v')) → i = j
  | [], _, i, _, _, _, _, h, _ => by simp at h
  | o :: t, hnd, i, j, k, v, v', h1, h2 => by
    have hnd' : KeysNodup t := by
      cases o with
      | none => exact hnd
      | some e => exact (List.nodup_cons.mp hnd).2
    cases i <;> cases j
    · rfl
    · rw [List.getElem?_cons_zero] at h1; cases h1
      exact absurd (mem_keysOf_of_get (sl := t) h2) (List.nodup_cons.mp hnd).1
    · rw [List.getElem?_cons_zero] at h2; cases h2
      exact absurd (mem_keysOf_of_get (sl := t) h1) (List.nodup_cons.mp hnd).1
    · exact congrArg Nat.succ (keysNodup_idx hnd' h1 h2)

theorem findKey_eq_some_iff {sl : Slots V} (hnd : KeysNodup sl) {k : List Nat} {i : Nat} :
    Spec.findKey sl k = some i ↔ ∃ v, sl[i]? = some (some (k, v)) := by
  have hfwd : ∀ {i0}, Spec.findKey sl k = some i0 → ∃ v, sl[i0]? = some (some (k, v)) := fun hf => by
    obtain ⟨A, B, v0, hsl, hlen⟩ := findKey_some_split hf
    exact ⟨v0, by rw [hsl, ← hlen]; simp⟩
  refine ⟨hfwd, fun ⟨v, hv⟩ => ?_⟩
  cases hf : Spec.findKey sl k with
  | none => exact absurd (mem_keysOf_of_get hv) (findKey_none_iff.mp hf)
  | some i0 =>
    obtain ⟨v0, hv0⟩ := hfwd hf
    exact congrArg some (keysNodup_idx hnd hv0 hv)

theorem lookup_eq_some_iff {sp : Spec V} (hnd : KeysNodup sp.slots) {k : List Nat} {i : Nat} {v : V} :
    Spec.lookup sp k = some (i, v) ↔ sp.slots[i]? = some (some (k, v)) := by
  unfold Spec.lookup
  constructor
  · intro h
    cases hf : Spec.findKey sp.slots k with
    | none => rw [hf] at h; cases h
    | some i0 =>
      obtain ⟨v0, hv0⟩ := (findKey_eq_some_iff hnd).mp hf
      rw [hf] at h; simp only [hv0] at h; cases h; exact hv0
  · intro h
    simp only [(findKey_eq_some_iff hnd).mpr ⟨v, h⟩, h]

theorem entries_put_absent {sl : Slots V} {k : List Nat} (v : V) (h : k ∉ keysOf sl) :
    entries (Spec.put sl k v) = entries sl ++ [(k, v)] := by
  simp [Spec.put, findKey_none_iff.mpr h, entries_append]

theorem entries_put_present {sl : Slots V} {k : List Nat} (v : V) (h : k ∈ keysOf sl) :
    ∃ A B v0, entries sl = A ++ (k, v0) :: B ∧ entries (Spec.put sl k v) = A ++ (k, v) :: B := by
  cases hf : Spec.findKey sl k with
  | none => exact absurd h (findKey_none_iff.mp hf)
  | some i =>
    obtain ⟨A, B, v0, hsl, hlen⟩ := findKey_some_split hf
    refine ⟨entries A, entries B, v0, by rw [hsl, entries_append]; rfl, ?_⟩
    simp only [Spec.put, hf]
    rw [hsl, ← hlen, set_split, entries_append]; rfl

theorem keysOf_put {sl : Slots V} (k : List Nat) (v : V) :
    keysOf (Spec.put sl k v) = if k ∈ keysOf sl then keysOf sl else keysOf sl ++ [k] := by
  by_cases h : k ∈ keysOf sl
  · obtain ⟨A, B, v0, h1, h2⟩ := entries_put_present v h
    rw [if_pos h]; simp [keysOf, h1, h2]
  · rw [if_neg h]; simp [keysOf, entries_put_absent v h]

theorem entries_remove_present {sl : Slots V} {k : List Nat} {i : Nat} (hf : Spec.findKey sl k = some i) :
    ∃ A B v0, entries sl = A ++ (k, v0) :: B ∧ entries (sl.set i none) = A ++ B := by
  obtain ⟨A, B, v0, hsl, hlen⟩ := findKey_some_split hf
  refine ⟨entries A, entries B, v0, by rw [hsl, entries_append]; rfl, ?_⟩
  rw [hsl, ← hlen, set_split, entries_append]; rfl

abbrev AL (V : Type) := List (List Nat × V)

def alPut (al : AL V) (k : List Nat) (v : V) : AL V :=
  if k ∈ al.map Prod.fst then al.map (fun e => if e.1 = k then (k, v) else e) else al ++ [(k, v)]

def alRemove (al : AL V) (k : List Nat) : AL V := al.filter (fun e => decide (e.1 ≠ k))

def alLookup (al : AL V) (k : List Nat) : Option V := (al.find? (fun e => decide (e.1 = k))).map Prod.snd

/-- Operations whose meaning does not mention slot numbers or the key order. -/
def Op.KeyLevel : Op V → Prop
  | .removeIdx _ => False
  | .rename _ _ => False
  | .resize _ => False
  | .sort _ => False
  | .merge _ _ => False
  | _ => True

/-- The textbook meaning of the key-level operations. -/
def alStep [Inhabited V] (al : AL V) : Op V → AL V
  | .insert k v => alPut al k v
  | .assign k v => alPut al k v
  | .get k => if k ∈ al.map Prod.fst then al else al ++ [(k, default)]
  | .remove k => alRemove al k
  | .clear => []
  | .reset => []
  | .reserve _ => []
  | _ => al

theorem nodup_split {A B : AL V} {k : List Nat} {v0 : V}
    (h : ((A ++ (k, v0) :: B).map Prod.fst).Nodup) : k ∉ A.map Prod.fst ∧ k ∉ B.map Prod.fst := by
  rw [List.map_append, List.map_cons, List.nodup_append] at h
  obtain ⟨_, h2, h3⟩ := h
  exact ⟨fun hA => h3 k hA k (by simp) rfl, (List.nodup_cons.mp h2).1⟩

theorem alPut_split {A B : AL V} {k : List Nat} {v0 : V} (v : V)
    (hA : k ∉ A.map Prod.fst) (hB : k ∉ B.map Prod.fst) :
    alPut (A ++ (k, v0) :: B) k v = A ++ (k, v) :: B := by
  have hmem : k ∈ (A ++ (k, v0) :: B).map Prod.fst := by simp
  have hid : ∀ (L : AL V), k ∉ L.map Prod.fst → L.map (fun e => if e.1 = k then (k, v) else e) = L := by
    intro L hL
    have : L.map (fun e => if e.1 = k then (k, v) else e) = L.map id := by
      apply List.map_congr_left
      intro e he
      have : e.1 ≠ k := fun h => hL (List.mem_map.mpr ⟨e, he, h⟩)
      simp [this]
    rw [this, List.map_id]
  unfold alPut
  rw [if_pos hmem]
  simp only [List.map_append, List.map_cons, hid A hA, hid B hB, if_true]

theorem alRemove_absent {L : AL V} {k : List Nat} (h : k ∉ L.map Prod.fst) : alRemove L k = L := by
  unfold alRemove
  rw [List.filter_eq_self]
  intro e he
  have : e.1 ≠ k := fun h' => h (List.mem_map.mpr ⟨e, he, h'⟩)
  simp [this]

theorem alRemove_split {A B : AL V} {k : List Nat} {v0 : V}
    (hA : k ∉ A.map Prod.fst) (hB : k ∉ B.map Prod.fst) :
    alRemove (A ++ (k, v0) :: B) k = A ++ B := by
  have hA' := alRemove_absent hA
  have hB' := alRemove_absent hB
  unfold alRemove at *
  rw [List.filter_append, List.filter_cons, hA', hB']
  simp

theorem entries_put {sl : Slots V} (hnd : KeysNodup sl) (k : List Nat) (v : V) :
    entries (Spec.put sl k v) = alPut (entries sl) k v := by
  by_cases h : k ∈ keysOf sl
  · obtain ⟨A, B, v0, h1, h2⟩ := entries_put_present v h
    have hn : ((A ++ (k, v0) :: B).map Prod.fst).Nodup := by rw [← h1]; exact hnd
    obtain ⟨hA, hB⟩ := nodup_split hn
    rw [h2, h1, alPut_split v hA hB]
  · rw [entries_put_absent v h]
    have : k ∉ (entries sl).map Prod.fst := h
    simp [alPut, this]

theorem entries_growIfFull (sp : Spec V) : entries (Spec.growIfFull sp).slots = entries sp.slots := by
  unfold Spec.growIfFull
  split
  · simp [Spec.realloc, entries_compact]
  · rfl

theorem keysNodup_growIfFull {sp : Spec V} (h : KeysNodup sp.slots) : KeysNodup (Spec.growIfFull sp).slots := by
  unfold KeysNodup keysOf at *
  rw [entries_growIfFull]; exact h

theorem lookup_growIfFull_none {sp : Spec V} {k : List Nat} :
    Spec.lookup (Spec.growIfFull sp) k = none ↔ k ∉ (entries sp.slots).map Prod.fst := by
  rw [lookup_none_iff]; unfold keysOf; rw [entries_growIfFull]

theorem findKey_append_absent {sl : Slots V} {k : List Nat} (d : V) (h : k ∉ keysOf sl) :
    Spec.findKey (sl ++ [some (k, d)]) k = some sl.length := by
  induction sl with
  | nil => simp [findKey_cons, Spec.hasKey]
  | cons o t ih =>
    rw [List.cons_append, findKey_cons]
    cases o with
    | none =>
      rw [keysOf_cons_none] at h
      simp [Spec.hasKey, ih h]
    | some e =>
      obtain ⟨k', v⟩ := e
      rw [keysOf_cons_some] at h
      have hne : k' ≠ k := fun e => h (by simp [e])
      have : k ∉ keysOf t := fun e => h (by simp [e])
      simp [Spec.hasKey, hne, ih this]

theorem entries_step [Inhabited V] (ord : Nat → Nat) {sp : Spec V} (hnd : KeysNodup sp.slots) (op : Op V)
    (hop : op.KeyLevel) : entries (Spec.step ord sp op).1.slots = alStep (entries sp.slots) op := by
  cases op with
  | insert k v =>
    simp only [Spec.step, Spec.insert, alStep]
    rw [entries_put (keysNodup_growIfFull hnd), entries_growIfFull]
  | get k =>
    simp only [Spec.step, Spec.get, alStep]
    cases hl : Spec.lookup (Spec.growIfFull sp) k with
    | none => simp [lookup_growIfFull_none.mp hl, entries_append, entries_growIfFull]
    | some r =>
      have h2 : k ∈ (entries sp.slots).map Prod.fst :=
        Classical.not_not.mp fun h => by rw [lookup_growIfFull_none.mpr h] at hl; cases hl
      simp [h2, entries_growIfFull]
  | assign k v =>
    simp only [Spec.step, Spec.get, alStep]
    cases hl : Spec.lookup (Spec.growIfFull sp) k with
    | none =>
      simp only [Spec.put, findKey_append_absent default (lookup_none_iff.mp hl), set_split, entries_append,
        entries_growIfFull]
      simp [alPut, lookup_growIfFull_none.mp hl]
    | some r =>
      simp only
      rw [entries_put (keysNodup_growIfFull hnd), entries_growIfFull]
  | lookup k => rfl
  | lookupIdx i => rfl
  | remove k =>
    simp only [Spec.step, Spec.remove, alStep]
    cases hf : Spec.findKey sp.slots k with
    | none =>
      have : k ∉ (entries sp.slots).map Prod.fst := findKey_none_iff.mp hf
      simp [alRemove_absent this]
    | some i =>
      obtain ⟨A, B, v0, h1, h2⟩ := entries_remove_present hf
      have hn : ((A ++ (k, v0) :: B).map Prod.fst).Nodup := by rw [← h1]; exact hnd
      obtain ⟨hA, hB⟩ := nodup_split hn
      simp only
      rw [h2, h1, alRemove_split hA hB]
  | removeIdx i => exact hop.elim
  | rename a b => exact hop.elim
  | reserve n => simp only [Spec.step, Spec.reserve, alStep]; split <;> rfl
  | resize n => exact hop.elim
  | expect n =>
    simp only [Spec.step, Spec.expect, alStep]
    split
    · simp [Spec.realloc, entries_compact]
    · rfl
  | compress =>
    simp only [Spec.step, Spec.compress, alStep]
    split
    · split
      · simp [Spec.realloc, entries_compact]
      · rfl
    · rename_i h
      simp only [ne_eq, not_not] at h
      have : entries sp.slots = [] := by
        have h' : (Spec.compact sp.slots).length = 0 := h
        have := entries_compact sp.slots
        rw [List.eq_nil_of_length_eq_zero h'] at this
        exact this.symm
      rw [this]; rfl
  | clear => rfl
  | reset => rfl
  | sort a => exact hop.elim
  | copy =>
    simp only [Spec.step, Spec.copy, alStep]
    split
    · simp [Spec.realloc, entries_compact]
    · rename_i h
      simp only [ne_eq, not_not] at h
      rw [List.eq_nil_of_length_eq_zero h]; rfl
  | move => rfl
  | merge ins rem => exact hop.elim
  | selfMerge => rfl

theorem alLookup_nil (x : List Nat) : alLookup ([] : AL V) x = none := rfl

theorem alLookup_cons (e : List Nat × V) (t : AL V) (x : List Nat) :
    alLookup (e :: t) x = if e.1 = x then some e.2 else alLookup t x := by
  unfold alLookup
  rw [List.find?_cons]
  by_cases h : e.1 = x <;> simp [h]

theorem alLookup_eq_none_iff {al : AL V} {x : List Nat} : alLookup al x = none ↔ x ∉ al.map Prod.fst := by
  induction al with
  | nil => simp [alLookup_nil]
  | cons e t ih =>
    rw [alLookup_cons]
    by_cases h : e.1 = x
    · simp [h]
    · have : ¬ x = e.1 := fun h' => h h'.symm
      simp [h, this, ih]

theorem alLookup_append (a b : AL V) (x : List Nat) :
    alLookup (a ++ b) x = (alLookup a x).or (alLookup b x) := by
  induction a with
  | nil => simp [alLookup_nil]
  | cons e t ih =>
    rw [List.cons_append, alLookup_cons, alLookup_cons]
    by_cases h : e.1 = x <;> simp [h, ih]

theorem alLookup_map_put (L : AL V) (k x : List Nat) (v : V) :
    alLookup (L.map (fun e => if e.1 = k then (k, v) else e)) x =
      if x = k then (alLookup L k).map (fun _ => v) else alLookup L x := by
  induction L with
  | nil => split <;> rfl
  | cons e t ih =>
    rw [List.map_cons, alLookup_cons, ih, alLookup_cons, alLookup_cons]
    by_cases he : e.1 = k <;> by_cases hx : x = k <;> simp [he, hx, eq_comm (a := k) (b := x)]

theorem alLookup_alPut (al : AL V) (k : List Nat) (v : V) (x : List Nat) :
    alLookup (alPut al k v) x = if x = k then some v else alLookup al x := by
  unfold alPut
  split
  · rename_i hk
    rw [alLookup_map_put]
    cases h : alLookup al k with
    | none => exact absurd hk (alLookup_eq_none_iff.mp h)
    | some w => rfl
  · rename_i hk
    rw [alLookup_append, alLookup_cons, alLookup_nil]
    by_cases hx : x = k
    · subst hx; simp [alLookup_eq_none_iff.mpr hk]
    · simp [hx, Ne.symm hx]

theorem alLookup_alRemove (al : AL V) (k : List Nat) (x : List Nat) :
    alLookup (alRemove al k) x = if x = k then none else alLookup al x := by
  unfold alRemove
  induction al with
  | nil => simp [alLookup_nil]
  | cons e t ih =>
    rw [List.filter_cons]
    by_cases he : e.1 = k
    · simp only [he, ne_eq, not_true_eq_false, decide_false, Bool.false_eq_true, if_false, ih, alLookup_cons]
      by_cases hx : x = k
      · simp [hx]
      · have : ¬ k = x := fun h => hx h.symm
        simp [hx, this]
    · simp only [he, ne_eq, not_false_eq_true, decide_true, if_true, alLookup_cons, ih]
      by_cases hx : x = k
      · simp [hx]
        intro h; exact absurd h he
      · simp [hx]

/-- "Stored and not removed since, with the last value stored": the meaning of a history. -/
def histStep [Inhabited V] (m : List Nat → Option V) (op : Op V) (x : List Nat) : Option V :=
  match op with
  | .insert k v => if x = k then some v else m x
  | .assign k v => if x = k then some v else m x
  | .get k => if x = k then some ((m k).getD default) else m x
  | .remove k => if x = k then none else m x
  | .clear => none
  | .reset => none
  | .reserve _ => none
  | _ => m x

theorem alLookup_alStep [Inhabited V] (al : AL V) (op : Op V) (x : List Nat) :
    alLookup (alStep al op) x = histStep (alLookup al) op x := by
  cases op <;> simp only [alStep, histStep, alLookup_alPut, alLookup_alRemove, alLookup_nil]
  case get k =>
    by_cases hk : k ∈ al.map Prod.fst
    · rw [if_pos hk]
      by_cases hx : x = k
      · subst hx
        rw [if_pos rfl]
        cases h : alLookup al x with
        | none => exact absurd hk (alLookup_eq_none_iff.mp h)
        | some v => rfl
      · rw [if_neg hx]
    · rw [if_neg hk, alLookup_append, alLookup_cons, alLookup_nil]
      by_cases hx : x = k
      · subst hx; simp [alLookup_eq_none_iff.mpr hk]
      · have : ¬ k = x := fun h => hx h.symm
        simp [hx, this]

theorem alLookup_foldl [Inhabited V] (ops : List (Op V)) (al : AL V) :
    alLookup (ops.foldl alStep al) = ops.foldl histStep (alLookup al) := by
  induction ops generalizing al with
  | nil => rfl
  | cons op t ih =>
    simp only [List.foldl_cons]
    rw [ih]
    congr 1
    funext y
    exact alLookup_alStep al op y

theorem lookup_cons (c c' : Nat) (o : Option (List Nat × V)) (t : Slots V) (k : List Nat) :
    Spec.lookup ⟨c, o :: t⟩ k = if Spec.hasKey k o then o.map (fun e => (0, e.2))
      else (Spec.lookup ⟨c', t⟩ k).map (fun r => (r.1 + 1, r.2)) := by
  simp only [Spec.lookup, findKey_cons]
  by_cases h : Spec.hasKey k o = true
  · simp only [h, if_true, List.getElem?_cons_zero]
    cases o with
    | none => cases h
    | some e => rfl
  · simp only [h, Bool.false_eq_true, if_false]
    cases Spec.findKey t k with
    | none => rfl
    | some i => simp only [Option.map_some, List.getElem?_cons_succ]; cases t[i]? with
      | none => rfl
      | some o' => cases o' <;> rfl

theorem valOf_eq_alLookup (sp : Spec V) (k : List Nat) : valOf sp k = alLookup (entries sp.slots) k := by
  obtain ⟨c, sl⟩ := sp
  induction sl with
  | nil => rfl
  | cons o t ih =>
    simp only [valOf] at ih ⊢
    rw [lookup_cons c c, apply_ite (Option.map Prod.snd), Option.map_map, Option.map_map]
    cases o with
    | none => simpa [Spec.hasKey, Function.comp_def] using ih
    | some e =>
      rw [entries_cons_some, alLookup_cons]
      by_cases h : e.1 = k <;> simp [Spec.hasKey, h, Function.comp_def, ← ih]

theorem alLookup_eq_some_iff {al : AL V} (hnd : (al.map Prod.fst).Nodup) {k : List Nat} {v : V} :
    alLookup al k = some v ↔ (k, v) ∈ al := by
  induction al with
  | nil => simp [alLookup_nil]
  | cons e t ih =>
    obtain ⟨he, ht⟩ := List.nodup_cons.mp hnd
    rw [alLookup_cons, List.mem_cons]
    by_cases h : e.1 = k
    · rw [if_pos h]
      constructor
      · intro hv; left; cases hv; rw [← h]
      · rintro (hm | hm)
        · rw [← hm]
        · exact absurd (List.mem_map.mpr ⟨(k, v), hm, h.symm⟩) he
    · rw [if_neg h, ih ht]
      exact ⟨Or.inr, fun hm => hm.resolve_left (fun e' => h (by rw [← e']))⟩

theorem valOf_eq_some_iff {sp : Spec V} (hnd : KeysNodup sp.slots) {k : List Nat} {v : V} :
    valOf sp k = some v ↔ (k, v) ∈ entries sp.slots := by
  rw [valOf_eq_alLookup]; exact alLookup_eq_some_iff hnd

theorem valOf_perm {sp sp' : Spec V} (hnd : KeysNodup sp.slots) (hnd' : KeysNodup sp'.slots)
    (hp : (entries sp'.slots).Perm (entries sp.slots)) (k : List Nat) : valOf sp' k = valOf sp k :=
  Option.ext fun v => by rw [valOf_eq_some_iff hnd', valOf_eq_some_iff hnd]; exact hp.mem_iff

theorem spec_key_index_agree {sp : Spec V} (hnd : KeysNodup sp.slots) (k : List Nat) (i : Nat) (v : V) :
    Spec.lookup sp k = some (i, v) ↔ Spec.lookupIdx sp i = some (k, v) := by
  rw [lookup_eq_some_iff hnd]
  unfold Spec.lookupIdx
  cases sp.slots[i]? with
  | none => simp
  | some o => cases o <;> simp

theorem sort_entries_perm (ord : Nat → Nat) (sp : Spec V) (ascend : Bool) :
    (entries (Spec.sort ord sp ascend).slots).Perm (entries sp.slots) := by
  have := sortSeg_perm (Spec.slotCmp ord ascend) (sp.slots.length + 1) sp.slots.toArray 0 sp.slots.length
  have hp : (Spec.sort ord sp ascend).slots.Perm sp.slots := by
    simpa [Spec.sort] using this.toList
  exact hp.filterMap id

end Qentem.HashTable
