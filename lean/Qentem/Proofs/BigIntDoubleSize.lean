import Qentem.Proofs.BigIntMulDiv
/-! The `DoubleSize` helpers are exact: the native double-width multiply and divide, the half-word multiply (schoolbook, no
intermediate sum wraps) and the half-word divide (`DoubleSize<_, 64>::Divide`: Knuth's estimate over variables, two rounds on
the normalised divisor, the wrapped corrections) for every half width; hence `MulOK` / `DivOK` for both configurations. -/
namespace Qentem.BigInt

theorem mulNative_exact (W a b : Nat) (ha : a < 2 ^ W) (hb : b < 2 ^ W) :
    (mulNative W a b).1 * 2 ^ W + (mulNative W a b).2 = a * b ∧ (mulNative W a b).2 < 2 ^ W := by
  have hB : 0 < 2 ^ W := Nat.pow_pos (by decide)
  have hp : a * b < 2 ^ (2 * W) := by
    rw [two_pow_two_mul]; exact Nat.mul_lt_mul'' ha hb
  unfold mulNative
  simp only [Nat.shiftRight_eq_div_pow, Nat.mod_eq_of_lt hp]
  have hd : a * b / 2 ^ W < 2 ^ W := Nat.div_lt_of_lt_mul (by rw [← two_pow_two_mul]; exact hp)
  rw [Nat.mod_eq_of_lt hd]
  refine ⟨?_, Nat.mod_lt _ hB⟩
  rw [Nat.mul_comm]; exact Nat.div_add_mod _ _

/-- A product of two half words and two more half words fit a word: `(X-1)² + 2(X-1) < X²`. -/
theorem mul_add_add_lt_sq {X a b c d : Nat} (ha : a < X) (hb : b < X) (hc : c < X) (hd : d < X) :
    a * b + c + d < X * X := by
  obtain ⟨Y, rfl⟩ : ∃ Y, X = Y + 1 := ⟨X - 1, by omega⟩
  have h1 : a * b ≤ Y * Y := Nat.mul_le_mul (by omega) (by omega)
  have h2 : (Y + 1) * (Y + 1) = Y * Y + 2 * Y + 1 := by ring
  omega

/-- The schoolbook identity behind `mulHand`: `q0:r0` the low partial product, `q1:r1` and `q2:r2` the two
cross sums, each split in base `X`. -/
theorem mulHand_arith {X aH aL bH bL q0 r0 q1 r1 q2 r2 : Nat} (e0 : X * q0 + r0 = aL * bL)
    (e1 : X * q1 + r1 = bL * aH + q0) (e2 : X * q2 + r2 = r1 + aL * bH) :
    (aH * bH + q1 + q2) * (X * X) + (r2 * X + r0) = (X * aH + aL) * (X * bH + bL) :=
  calc (aH * bH + q1 + q2) * (X * X) + (r2 * X + r0)
      = aH * bH * (X * X) + X * (X * q1) + X * (X * q2 + r2) + r0 := by ring
    _ = aH * bH * (X * X) + X * (X * q1 + r1) + X * (aL * bH) + r0 := by rw [e2]; ring
    _ = aH * bH * (X * X) + X * (bL * aH) + X * (aL * bH) + (X * q0 + r0) := by rw [e1]; ring
    _ = (X * aH + aL) * (X * bH + bL) := by rw [e0]; ring

theorem mulHand_exact (h a b : Nat) (ha : a < 2 ^ (2 * h)) (hb : b < 2 ^ (2 * h)) :
    (mulHand h a b).1 * 2 ^ (2 * h) + (mulHand h a b).2 = a * b ∧ (mulHand h a b).2 < 2 ^ (2 * h) := by
  unfold mulHand
  simp only [Nat.and_two_pow_sub_one_eq_mod, Nat.shiftRight_eq_div_pow, Nat.shiftLeft_eq]
  rw [two_pow_two_mul] at *
  have hX : 0 < 2 ^ h := Nat.pow_pos (by decide)
  have haL := Nat.mod_lt a hX
  have hbL := Nat.mod_lt b hX
  have haH := Nat.div_lt_of_lt_mul ha
  have hbH := Nat.div_lt_of_lt_mul hb
  -- no intermediate sum wraps
  rw [Nat.mod_eq_of_lt (Nat.mul_lt_mul'' hbL haH), Nat.mod_eq_of_lt (Nat.mul_lt_mul'' haH hbH),
    Nat.mod_eq_of_lt (Nat.mul_lt_mul'' haL hbL)]
  have hq0 : a % 2 ^ h * (b % 2 ^ h) / 2 ^ h < 2 ^ h := Nat.div_lt_of_lt_mul (Nat.mul_lt_mul'' haL hbL)
  have p1 : b % 2 ^ h * (a / 2 ^ h) + a % 2 ^ h * (b % 2 ^ h) / 2 ^ h < 2 ^ h * 2 ^ h :=
    mul_add_add_lt_sq hbL haH hq0 hX
  rw [Nat.mod_eq_of_lt p1]
  generalize ht1 : b % 2 ^ h * (a / 2 ^ h) + a % 2 ^ h * (b % 2 ^ h) / 2 ^ h = t1 at *
  have hq1 : t1 / 2 ^ h < 2 ^ h := Nat.div_lt_of_lt_mul p1
  have p2 : t1 % 2 ^ h + a % 2 ^ h * (b / 2 ^ h) < 2 ^ h * 2 ^ h := by
    rw [Nat.add_comm]; exact mul_add_add_lt_sq haL hbH (Nat.mod_lt t1 hX) hX
  rw [Nat.mod_eq_of_lt p2]
  generalize ht2 : t1 % 2 ^ h + a % 2 ^ h * (b / 2 ^ h) = t2 at *
  have hq2 : t2 / 2 ^ h < 2 ^ h := Nat.div_lt_of_lt_mul p2
  rw [Nat.mod_eq_of_lt (show a / 2 ^ h * (b / 2 ^ h) + t1 / 2 ^ h < _ from mul_add_add_lt_sq haH hbH hq1 hX),
    Nat.mod_eq_of_lt (mul_add_add_lt_sq haH hbH hq1 hq2), Nat.mul_mod_mul_right,
    lor_eq_add_of_lt (Nat.mod_lt _ hX)]
  constructor
  · rw [mulHand_arith (Nat.div_add_mod _ _) (by rw [Nat.div_add_mod, ht1]) (by rw [Nat.div_add_mod, ht2]),
      Nat.div_add_mod, Nat.div_add_mod]
  · have h1 := Nat.mul_le_mul_right (2 ^ h) (show t2 % 2 ^ h + 1 ≤ 2 ^ h from Nat.mod_lt t2 hX)
    have h2 := Nat.mod_lt (a % 2 ^ h * (b % 2 ^ h)) hX
    rw [Nat.add_mul] at h1
    omega

theorem mulOK_native (W : Nat) : MulOK ⟨W, false⟩ := by
  intro a b ha hb
  exact mulNative_exact W a b ha hb

theorem mulOK_hand (h : Nat) : MulOK ⟨2 * h, true⟩ := by
  intro a b ha hb
  have : (2 * h) / 2 = h := by omega
  simp only [dmul, if_true, this]
  exact mulHand_exact h a b ha hb

theorem divNative_exact (W hi lo d : Nat) (hd0 : 0 < d) (hd : d < 2 ^ W) (hhi : hi < d) (hlo : lo < 2 ^ W) :
    ∃ r q, divNative W hi lo d = .ok (r, q) ∧ q * d + r = hi * 2 ^ W + lo ∧ r < d ∧ q < 2 ^ W := by
  unfold divNative
  have hne : (d == 0) = false := by simp; omega
  simp only [hne, Nat.shiftLeft_eq]
  have h1 : hi * 2 ^ W < 2 ^ (2 * W) := by
    rw [two_pow_two_mul]; exact Nat.mul_lt_mul_of_pos_right (by omega) (Nat.pow_pos (by decide))
  rw [Nat.mod_eq_of_lt h1, Nat.or_comm, lor_eq_add_of_lt hlo]
  have hr : (hi * 2 ^ W + lo) % d < d := Nat.mod_lt _ hd0
  have hq : (hi * 2 ^ W + lo) / d < 2 ^ W := by
    apply Nat.div_lt_of_lt_mul
    have : (hi + 1) * 2 ^ W ≤ d * 2 ^ W := Nat.mul_le_mul_right _ hhi
    rw [Nat.add_mul] at this
    omega
  refine ⟨_, _, rfl, ?_, ?_, ?_⟩
  · rw [Nat.mod_eq_of_lt (by omega : (hi * 2 ^ W + lo) % d < 2 ^ W), Nat.mod_eq_of_lt hq, Nat.mul_comm]
    exact Nat.div_add_mod _ _
  · rw [Nat.mod_eq_of_lt (by omega : (hi * 2 ^ W + lo) % d < 2 ^ W)]; exact hr
  · rw [Nat.mod_eq_of_lt hq]; exact hq

theorem divOK_native (W : Nat) : DivOK ⟨W, false⟩ := by
  intro hi lo d hd0 hd hhi hlo
  simp only [ddiv]
  exact divNative_exact W hi lo d hd0 hd hhi hlo

/-! Unsigned subtraction `a - b` on words below `B`, as `(a + B - b) % B`. -/

theorem add_sub_mod_of_le {a b B : Nat} (hba : b ≤ a) (haB : a < B) : (a + B - b) % B = a - b := by
  rw [show a + B - b = a - b + B by omega, Nat.add_mod_right, Nat.mod_eq_of_lt (by omega)]

theorem add_sub_mod_of_lt {a b B : Nat} (hab : a < b) (hbB : b ≤ B) : (a + B - b) % B = a + B - b :=
  Nat.mod_eq_of_lt (by omega)

/-- `a - (t - s)` with both subtractions wrapping, when the true result `a + s - t` is a word. -/
theorem sub_sub_wrap {a t s B : Nat} (ha : a < B) (ht : t < B) (hs : s ≤ B) (h1 : t ≤ a + s) (h2 : a + s < t + B) :
    (a + B - (t + B - s) % B) % B = a + s - t := by
  by_cases h : s ≤ t
  · rw [add_sub_mod_of_le h ht, add_sub_mod_of_le (by omega) ha]; omega
  · rw [add_sub_mod_of_lt (by omega) hs, add_sub_mod_of_lt (by omega) (by omega)]; omega

/-- The correction steps of one round: with `q = u / dl`, `a = (u % dl)·2^h` and `m = q·dh` in range, `divRound` lowers
`q` by some `k ≤ q` and returns `r = a - m + k·ds`, the first of these that is not negative, with `r < ds`. -/
theorem divRound_of_bounds {h u dl dh ds : Nat} (hm : u / dl * dh < 2 ^ (2 * h)) (ha : u % dl * 2 ^ h < ds)
    (hs : ds < 2 ^ (2 * h)) (hq : u / dl < 2 ^ (2 * h)) (hm2 : u / dl * dh ≤ u % dl * 2 ^ h + 2 * ds)
    (hq1 : u % dl * 2 ^ h < u / dl * dh → 1 ≤ u / dl) (hq2 : u % dl * 2 ^ h + ds < u / dl * dh → 2 ≤ u / dl) :
    ∃ k r, divRound h u dl dh ds = (u / dl - k, r) ∧ k ≤ u / dl ∧ r + u / dl * dh = u % dl * 2 ^ h + k * ds ∧
      r < ds := by
  unfold divRound
  simp only [Nat.shiftLeft_eq]
  rw [Nat.mod_eq_of_lt hm, Nat.mod_eq_of_lt (Nat.lt_trans ha hs)]
  generalize u / dl * dh = m at *
  generalize u / dl = q at *
  generalize u % dl * 2 ^ h = a at *
  generalize 2 ^ (2 * h) = B at *
  by_cases h1 : a < m
  · rw [if_pos h1, add_sub_mod_of_le (hq1 h1) hq]
    by_cases h2 : m - a > ds
    · have := hq2 (by omega)
      rw [if_pos h2, add_sub_mod_of_le (by omega) (by omega), add_sub_mod_of_le (by omega) hm]
      simp only []
      rw [sub_sub_wrap (by omega) (by omega) (by omega) (by omega) (by omega)]
      exact ⟨2, _, by rw [Nat.sub_sub], by omega, by omega, by omega⟩
    · rw [if_neg h2]
      simp only []
      rw [sub_sub_wrap (by omega) hm (by omega) (by omega) (by omega)]
      exact ⟨1, _, rfl, hq1 h1, by omega, by omega⟩
  · rw [if_neg h1, add_sub_mod_of_le (by omega) (by omega)]
    exact ⟨0, _, rfl, Nat.zero_le _, by omega, by omega⟩

/-- The estimate behind the two corrections: for a normalised divisor `ds = dl·X + dh`
(`X/2 ≤ dl < X`, `dh < X`) and `u < ds`, the trial quotient `u / dl` is at most `X + 1`, so
`(u / dl)·dh` stays below `X²` and exceeds the partial remainder by at most `2·ds`. -/
theorem divRound_estimate {X dl dh ds u : Nat} (hdl1 : X ≤ 2 * dl) (hdl2 : dl < X) (hdh : dh < X)
    (hds : ds = dl * X + dh) (hu : u < ds) :
    u / dl * dh < X * X ∧ u / dl < X * X ∧ u / dl * dh ≤ 2 * ds ∧ ds < X * X ∧ u % dl * X + X ≤ ds := by
  have hdm := Nat.div_add_mod u dl
  have hr : u % dl < dl := Nat.mod_lt _ (by omega)
  generalize u / dl = q at *
  generalize u % dl = r at *
  have hq : q ≤ X + 1 := by
    by_contra hc
    have := Nat.mul_le_mul_left dl (show X + 2 ≤ q by omega)
    rw [Nat.mul_add] at this
    omega
  have h1 : q * dh ≤ X * dh + dh := by
    have := Nat.mul_le_mul_right dh hq
    rwa [Nat.add_mul, Nat.one_mul] at this
  have h2 : X * dh + X ≤ X * X := Nat.mul_le_mul_left X (show dh + 1 ≤ X from hdh)
  have h3 : X * X ≤ 2 * (dl * X) := by
    have := Nat.mul_le_mul_right X hdl1
    rwa [Nat.mul_assoc] at this
  have h4 : dl * X + X ≤ X * X := by
    have := Nat.mul_le_mul_right X (show dl + 1 ≤ X from hdl2)
    rwa [Nat.add_mul, Nat.one_mul] at this
  have h5 : r * X + X ≤ dl * X := by
    have := Nat.mul_le_mul_right X (show r + 1 ≤ dl from hr)
    rwa [Nat.add_mul, Nat.one_mul] at this
  have h6 : 2 * X ≤ X * X := Nat.mul_le_mul_right X (show 2 ≤ X by omega)
  refine ⟨by omega, by omega, by omega, by omega, by omega⟩

theorem divRound_spec (h u dl dh ds : Nat) (hh : 0 < h) (hdl1 : 2 ^ (h - 1) ≤ dl) (hdl2 : dl < 2 ^ h)
    (hdh : dh < 2 ^ h) (hds : ds = dl * 2 ^ h + dh) (hu : u < ds) :
    (divRound h u dl dh ds).1 * ds + (divRound h u dl dh ds).2 = u * 2 ^ h ∧ (divRound h u dl dh ds).2 < ds ∧
      (divRound h u dl dh ds).1 < 2 ^ h := by
  have hX2 : 2 ^ h = 2 * 2 ^ (h - 1) := by
    rw [← Nat.pow_succ', Nat.succ_eq_add_one, Nat.sub_add_cancel hh]
  obtain ⟨hm, hq, hm2, hs, ha⟩ := divRound_estimate (by omega) hdl2 hdh hds hu
  rw [← two_pow_two_mul] at hm hq hs
  -- `u·X = q·ds + (r·X − q·dh)` for the trial quotient `q = u / dl`, `r = u % dl`
  have hid : (dl * (u / dl) + u % dl) * 2 ^ h + u / dl * dh = u / dl * (dl * 2 ^ h + dh) + u % dl * 2 ^ h := by
    ring
  rw [Nat.div_add_mod, ← hds] at hid
  obtain ⟨k, r, he, hk, hr, hlt⟩ := divRound_of_bounds hm (by omega) hs hq (by omega)
    (fun hlt => Nat.pos_of_ne_zero fun h0 => by rw [h0, Nat.zero_mul] at hlt; omega)
    (fun hlt => by
      by_contra hc
      have := Nat.mul_le_mul_right dh (show u / dl ≤ 1 by omega)
      omega)
  have hqk : (u / dl - k) * ds + k * ds = u / dl * ds := by rw [← Nat.add_mul, Nat.sub_add_cancel hk]
  rw [he]
  have hsum : (u / dl - k) * ds + r = u * 2 ^ h := by omega
  refine ⟨hsum, hlt, ?_⟩
  by_contra hc
  have h1 := Nat.mul_le_mul_right ds (show 2 ^ h ≤ u / dl - k by omega)
  have h2 := Nat.mul_lt_mul_of_pos_right hu (Nat.pow_pos (n := h) (show 0 < 2 by decide))
  rw [Nat.mul_comm ds] at h2
  omega

theorem divRound_eq {h u dl dh ds : Nat} (hh : 0 < h) (hdl1 : 2 ^ (h - 1) ≤ dl) (hdl2 : dl < 2 ^ h)
    (hdh : dh < 2 ^ h) (hds : ds = dl * 2 ^ h + dh) (hu : u < ds) :
    divRound h u dl dh ds = (u * 2 ^ h / ds, u * 2 ^ h % ds) := by
  obtain ⟨he, hlt, _⟩ := divRound_spec h u dl dh ds hh hdl1 hdl2 hdh hds hu
  rw [Nat.mul_comm, Nat.add_comm] at he
  obtain ⟨hq, hr⟩ := (Nat.div_mod_unique (Nat.zero_lt_of_lt hu)).2 ⟨he, hlt⟩
  rw [hq, hr]

theorem norm_bounds (h d : Nat) (hh : 0 < h) (hd0 : 0 < d) (hd : d < 2 ^ (2 * h)) :
    d * 2 ^ (2 * h - 1 - d.log2) < 2 ^ (2 * h) ∧ 2 ^ h * 2 ^ (h - 1) ≤ d * 2 ^ (2 * h - 1 - d.log2) := by
  have hL : d.log2 < 2 * h := (Nat.log2_lt (by omega)).2 hd
  have h1 := Nat.log2_self_le (by omega : d ≠ 0)
  have h2 := @Nat.lt_log2_self d
  constructor
  · have : d * 2 ^ (2 * h - 1 - d.log2) < 2 ^ (d.log2 + 1) * 2 ^ (2 * h - 1 - d.log2) :=
      Nat.mul_lt_mul_of_pos_right h2 (Nat.pow_pos (by decide))
    rwa [← Nat.pow_add, show d.log2 + 1 + (2 * h - 1 - d.log2) = 2 * h by omega] at this
  · have : 2 ^ d.log2 * 2 ^ (2 * h - 1 - d.log2) ≤ d * 2 ^ (2 * h - 1 - d.log2) := Nat.mul_le_mul_right _ h1
    rwa [← Nat.pow_add, show d.log2 + (2 * h - 1 - d.log2) = h + (h - 1) by omega, Nat.pow_add] at this

/-- A round on operands scaled by the normalisation factor `S` divides the unscaled ones. -/
theorem divRound_scaled {h d S a : Nat} (hh : 0 < h) (hS : 0 < S) (hn1 : d * S < 2 ^ (2 * h))
    (hn2 : 2 ^ h * 2 ^ (h - 1) ≤ d * S) (ha : a < d) :
    divRound h (a * S) (d * S / 2 ^ h) (d * S % 2 ^ h) (d * S) = (a * 2 ^ h / d, a * 2 ^ h % d * S) := by
  have hX : 0 < 2 ^ h := Nat.pow_pos (by decide)
  rw [divRound_eq hh ((Nat.le_div_iff_mul_le hX).2 (by rw [Nat.mul_comm]; exact hn2))
    (Nat.div_lt_of_lt_mul (by rw [← two_pow_two_mul]; exact hn1)) (Nat.mod_lt _ hX)
    (Nat.div_add_mod' _ _).symm (Nat.mul_lt_mul_of_pos_right ha hS),
    Nat.mul_right_comm, Nat.mul_div_mul_right _ _ hS, Nat.mul_mod_mul_right]

/-- Two quotient digits in base `X` make the quotient by `X²`. -/
theorem div_two_digits {X d a : Nat} (hd : 0 < d) :
    a * X / d * X + a * X % d * X / d = a * (X * X) / d ∧ a * X % d * X % d = a * (X * X) % d := by
  have : a * (X * X) = d * (a * X / d * X) + a * X % d * X := by
    conv_lhs => rw [← Nat.mul_assoc, ← Nat.div_add_mod (a * X) d]
    ring
  rw [this, Nat.mul_add_div hd, Nat.mul_add_mod]
  exact ⟨rfl, rfl⟩

/-- `2h - 1 - log2 d` is the `initial_shift` that `BigInt::Divide` passes. -/
theorem divHand_exact (h hi lo d : Nat) (hd0 : 0 < d) (hd : d < 2 ^ (2 * h)) (hhi : hi < d)
    (hlo : lo < 2 ^ (2 * h)) :
    ∃ r q, divHand h hi lo d (2 * h - 1 - d.log2) = .ok (r, q) ∧ q * d + r = hi * 2 ^ (2 * h) + lo ∧ r < d ∧
      q < 2 ^ (2 * h) := by
  have hh : 0 < h := Nat.pos_of_ne_zero fun h0 => by
    rw [h0, Nat.mul_zero, Nat.pow_zero] at hd; omega
  obtain ⟨hn1, hn2⟩ := norm_bounds h d hh hd0 hd
  generalize 2 * h - 1 - d.log2 = sh at hn1 hn2 ⊢
  have hS : 0 < 2 ^ sh := Nat.pow_pos (by decide)
  have hX : 0 < 2 ^ h := Nat.pow_pos (by decide)
  -- the two rounds produce the digits of `hi·2^(2h) / d`; its remainder `b` meets `c = lo % d` at the end
  obtain ⟨hq, hr⟩ := div_two_digits (X := 2 ^ h) (a := hi) hd0
  rw [← two_pow_two_mul] at hq hr
  have hdm1 := Nat.div_add_mod lo d
  have hdm2 := Nat.div_add_mod (hi * 2 ^ (2 * h)) d
  have hc := Nat.mod_lt lo hd0
  have hb := Nat.mod_lt (hi * 2 ^ (2 * h)) hd0
  generalize hl1 : lo / d = l1 at hdm1
  generalize hcc : lo % d = c at hdm1 hc
  generalize hi * 2 ^ (2 * h) / d = Qh at hq hdm2
  generalize hq1 : hi * 2 ^ h / d * 2 ^ h = q1 at hq
  generalize hq2 : hi * 2 ^ h % d * 2 ^ h / d = q2 at hq
  generalize hi * 2 ^ (2 * h) % d = b at hr hdm2 hb
  have hup : hi * 2 ^ (2 * h) + lo < d * 2 ^ (2 * h) := by
    have := Nat.mul_le_mul_right (2 ^ (2 * h)) (show hi + 1 ≤ d from hhi)
    rw [Nat.add_mul] at this
    omega
  have hQ : l1 + Qh < 2 ^ (2 * h) := Nat.lt_of_mul_lt_mul_left (a := d) (by rw [Nat.mul_add]; omega)
  have hQ1 : d ≤ b + c → l1 + Qh + 1 < 2 ^ (2 * h) := fun hge =>
    Nat.lt_of_mul_lt_mul_left (a := d) (by rw [Nat.mul_add, Nat.mul_add]; omega)
  have hN : (l1 + Qh) * d + (b + c) = hi * 2 ^ (2 * h) + lo := by
    rw [Nat.add_mul, Nat.mul_comm l1, Nat.mul_comm Qh]; omega
  have e1 : q1 % 2 ^ (2 * h) = q1 := Nat.mod_eq_of_lt (by omega)
  have e2 : (l1 + q1) % 2 ^ (2 * h) = l1 + q1 := Nat.mod_eq_of_lt (by omega)
  have e3 : l1 + q1 + q2 = l1 + Qh := by rw [Nat.add_assoc, hq]
  have hdl : (d * 2 ^ sh / 2 ^ h == 0) = false :=
    beq_false_of_ne (Nat.pos_iff_ne_zero.1 (Nat.div_pos (Nat.le_trans (Nat.le_mul_of_pos_right _ (Nat.pow_pos (by decide))) hn2) hX))
  unfold divHand
  simp only [Nat.shiftLeft_eq, Nat.shiftRight_eq_div_pow, Nat.and_two_pow_sub_one_eq_mod,
    beq_false_of_ne (Nat.pos_iff_ne_zero.1 hd0), hdl, Bool.false_eq_true, if_false, Nat.mod_eq_of_lt hn1,
    Nat.mod_eq_of_lt (Nat.lt_trans (Nat.mul_lt_mul_of_pos_right hhi hS) hn1),
    divRound_scaled hh hS hn1 hn2 hhi, divRound_scaled hh hS hn1 hn2 (Nat.mod_lt (hi * 2 ^ h) hd0),
    Nat.mul_div_cancel _ hS, hr, hl1, hcc, hq1, hq2, e1, e2, e3, Nat.mod_eq_of_lt hQ]
  clear e1 e2 e3 hq hr hdl hn1 hn2 hS hX hl1 hcc hq1 hq2 hdm1 hdm2 hup
  generalize 2 ^ (2 * h) = B at *
  generalize l1 + Qh = Q at *
  have hQd : (Q + 1) * d = Q * d + d := Nat.succ_mul Q d
  by_cases hT : b + c < B
  · have hc1 : ¬ b > b + c := by omega
    simp only [Nat.mod_eq_of_lt hT, if_neg hc1]
    by_cases hge : b + c ≥ d
    · simp only [if_pos hge, Nat.mod_eq_of_lt (hQ1 hge)]
      exact ⟨_, _, rfl, by omega, by omega, hQ1 hge⟩
    · simp only [if_neg hge]
      exact ⟨_, _, rfl, hN, by omega, hQ⟩
  · -- the sum of the remainders wrapped: detected by `original > hi`, undone by adding `-d`
    have hge : d ≤ b + c := by omega
    have hw : (b + c) % B = b + c - B := by
      rw [show b + c = b + c - B + B by omega, Nat.add_mod_right, Nat.mod_eq_of_lt (by omega)]; omega
    have hc1 : b > b + c - B := by omega
    have hc2 : ¬ b + c - d ≥ d := by omega
    simp only [hw, if_pos hc1, Nat.mod_eq_of_lt (show B - d < B by omega),
      show b + c - B + (B - d) = b + c - d by omega, Nat.mod_eq_of_lt (show b + c - d < B by omega),
      Nat.mod_eq_of_lt (hQ1 hge), if_neg hc2]
    exact ⟨_, _, rfl, by omega, by omega, hQ1 hge⟩

theorem divOK_hand (h : Nat) : DivOK ⟨2 * h, true⟩ := by
  intro hi lo d hd0 hd hhi hlo
  have e : (2 * h) / 2 = h := by omega
  simp only [ddiv, if_true, e]
  exact divHand_exact h hi lo d hd0 hd hhi hlo

end Qentem.BigInt
