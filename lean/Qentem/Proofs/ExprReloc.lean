import Qentem.Proofs.ExprScanSafe
import Qentem.Proofs.ExprEval
/-!
# C04 / C02 — the expression scanner and evaluator do not depend on where the expression sits

`c' = A ++ c ++ P`: the same expression text inside a longer content, `k = |A|` units further.
When the scan of `c` over `[off, endO)` succeeds, the scan of `c'` over `[k + off, k + endO)`
succeeds with the same list, text operands moved by `k` and every variable operand related by `Pv` to
its copy (`RelItems`, `parseTop_relocV`), provided the unit before the expression in `c'` does not make
a leading sign an operator (`isExpression c' k = false`: in a template the unit is the `:` of `{math:`
or a quote).  `parseTop_reloc` is the case of an expression without `{` (no variable operands).
Evaluation of related lists over related contents gives the same number (`evaluateTop_reloc`).
-/
namespace Qentem.Expr
open Qentem.Generated.Expr

variable {R : Type}

/-- whenever `x` returns `a`, `x'` returns some `b` with `Rel a b` -/
def Sim {α β : Type} (x : Except Fault α) (x' : Except Fault β) (Rel : α → β → Prop) : Prop :=
  ∀ a, x = .ok a → ∃ b, x' = .ok b ∧ Rel a b

section
variable {α β γ δ : Type} {Rel : α → β → Prop}

theorem Sim.ok {a : α} {b : β} (h : Rel a b) : Sim (.ok a) (.ok b) Rel :=
  fun _ e => by cases e; exact ⟨b, rfl, h⟩

theorem Sim.err {e : Fault} {x' : Except Fault β} : Sim (.error e : Except Fault α) x' Rel :=
  fun _ h => nomatch h

theorem Sim.refl (x : Except Fault α) : Sim x x Eq := fun a h => ⟨a, h, rfl⟩

theorem Sim.bind {x : Except Fault α} {x' : Except Fault β} {f : α → Except Fault γ}
    {f' : β → Except Fault δ} {Rel' : γ → δ → Prop} (hx : Sim x x' Rel)
    (hf : ∀ a b, x = .ok a → Rel a b → Sim (f a) (f' b) Rel') : Sim (x >>= f) (x' >>= f') Rel' := by
  intro r hr
  cases x with
  | error e => cases hr
  | ok a =>
    obtain ⟨b, hb, hab⟩ := hx a rfl
    subst hb
    exact hf a b rfl hab r hr

theorem Sim.bind_eq {x x' : Except Fault α} {f : α → Except Fault γ} {f' : α → Except Fault δ}
    {Rel' : γ → δ → Prop} (hx : Sim x x' Eq) (hf : ∀ a, x = .ok a → Sim (f a) (f' a) Rel') :
    Sim (x >>= f) (x' >>= f') Rel' :=
  hx.bind (fun a _ ha hab => hab ▸ hf a ha)

theorem Sim.ite {p p' : Prop} [Decidable p] [Decidable p'] {a b : Except Fault α}
    {a' b' : Except Fault β} (h : p ↔ p') (ht : p → Sim a a' Rel) (hf : ¬ p → Sim b b' Rel) :
    Sim (if p then a else b) (if p' then a' else b') Rel := by
  by_cases hp : p
  · rw [if_pos hp, if_pos (h.1 hp)]; exact ht hp
  · rw [if_neg hp, if_neg (mt h.2 hp)]; exact hf hp

end

/-- the relocated content -/
structure Reloc (c c' : List Nat) (k : Nat) : Prop where
  get : ∀ i x, c[i]? = some x → c'[k + i]? = some x
  slice : ∀ off m, off + m ≤ c.length → (c'.drop (k + off)).take m = (c.drop off).take m
  before : isExpression c' k = .ok false

theorem Reloc.of_append (A c P : List Nat) (h : isExpression (A ++ c ++ P) A.length = .ok false) :
    Reloc c (A ++ c ++ P) A.length := by
  refine ⟨?_, ?_, h⟩
  · intro i x hx
    rw [List.append_assoc, List.getElem?_append_right (by omega)]
    have hi : i < c.length := by
      rcases Nat.lt_or_ge i c.length with h | h
      · exact h
      · rw [List.getElem?_eq_none h] at hx; cases hx
    simp [List.getElem?_append_left hi, hx]
  · intro off m hm
    rw [List.append_assoc, List.drop_append, List.drop_of_length_le (by omega : A.length ≤ A.length + off)]
    simp only [List.nil_append, Nat.add_sub_cancel_left]
    rw [List.drop_append_of_le_length (by omega), List.take_append_of_le_length (by simp; omega)]

variable {c c' : List Nat} {k : Nat}

theorem rd_sim (h : Reloc c c' k) (i : Nat) : Sim (rd c i) (rd c' (k + i)) Eq :=
  fun x hx => ⟨x, (rd_ok_iff _ _ _).mpr (h.get i x ((rd_ok_iff _ _ _).mp hx)), rfl⟩

theorem isExpression_sim (h : Reloc c c' k) : ∀ (off : Nat),
    Sim (isExpression c off) (isExpression c' (k + off)) Eq := by
  intro off
  induction off with
  | zero => exact fun b hb => ⟨false, h.before, by cases hb; rfl⟩
  | succ off ih =>
    show Sim (isExpression c (off + 1)) (isExpression c' (k + off + 1)) Eq
    rw [isExpression_succ, isExpression_succ]
    exact (rd_sim h off).bind_eq (fun ch _ => Sim.ite Iff.rfl (fun _ => ih) (fun _ => Sim.refl _))

/-- an offset and the same offset `k` units further -/
abbrev Shift (k : Nat) : Nat → Nat → Prop := fun r r' => r' = k + r

theorem skipParen_sim (h : Reloc c c' k) (endO : Nat) : ∀ (f f' off skip : Nat), f ≤ f' →
    Sim (skipParen c endO f off skip) (skipParen c' (k + endO) f' (k + off) skip) (Shift k) := by
  intro f
  induction f with
  | zero => intro f' off skip _; exact Sim.err
  | succ f ih =>
    intro f' off skip hf
    obtain ⟨g, rfl⟩ : ∃ g, f' = g + 1 := ⟨f' - 1, by omega⟩
    rw [skipParen_succ, skipParen_succ]
    refine Sim.ite (by omega) (fun _ => ?_) (fun _ => Sim.ok rfl)
    have next : ∀ s, Sim (skipParen c endO f (off + 1) s) (skipParen c' (k + endO) g (k + off + 1) s)
        (Shift k) := fun s => ih g (off + 1) s (by omega)
    exact (rd_sim h off).bind_eq (fun ch _ => Sim.ite Iff.rfl
      (fun _ => Sim.ite Iff.rfl (fun _ => Sim.ok rfl) (fun _ => next _))
      (fun _ => Sim.ite Iff.rfl (fun _ => next _) (fun _ => next _)))

theorem skipBracket_sim (h : Reloc c c' k) (endO : Nat) : ∀ (f f' off : Nat), f ≤ f' →
    Sim (skipBracket c endO f off) (skipBracket c' (k + endO) f' (k + off)) (Shift k) := by
  intro f
  induction f with
  | zero => intro f' off _; exact Sim.err
  | succ f ih =>
    intro f' off hf
    obtain ⟨g, rfl⟩ : ∃ g, f' = g + 1 := ⟨f' - 1, by omega⟩
    rw [skipBracket_succ, skipBracket_succ]
    refine Sim.ite (by omega) (fun _ => ?_) (fun _ => Sim.ok rfl)
    exact (rd_sim h (off + 1)).bind_eq (fun ch _ => Sim.ite Iff.rfl
      (fun _ => ih g (off + 1) (by omega)) (fun _ => Sim.ok rfl))

theorem trimLeft_sim (h : Reloc c c' k) (endO : Nat) : ∀ (f off : Nat),
    Sim (trimLeft c endO f off) (trimLeft c' (k + endO) f (k + off)) (Shift k) := by
  intro f
  induction f with
  | zero => intro off; exact Sim.ok rfl
  | succ f ih =>
    intro off
    rw [trimLeft_succ, trimLeft_succ]
    refine Sim.ite (by omega) (fun _ => ?_) (fun _ => Sim.ok rfl)
    exact (rd_sim h off).bind_eq (fun ch _ => Sim.ite Iff.rfl (fun _ => ih (off + 1))
      (fun _ => Sim.ok rfl))

theorem trimRight_sim (h : Reloc c c' k) (off : Nat) : ∀ (e : Nat),
    Sim (trimRight c off e) (trimRight c' (k + off) (k + e)) (Shift k) := by
  intro e
  induction e with
  | zero =>
    -- on the left the scan has reached 0; on the right it stops at `k`, not behind `k + off`
    cases k with
    | zero => exact Sim.ok rfl
    | succ k' =>
      have : trimRight c' (k' + 1 + off) (k' + 1) = .ok (k' + 1) := by
        rw [trimRight_succ, if_neg (by omega)]
      exact this ▸ Sim.ok rfl
  | succ e ih =>
    show Sim (trimRight c off (e + 1)) (trimRight c' (k + off) (k + e + 1)) (Shift k)
    rw [trimRight_succ, trimRight_succ]
    refine Sim.ite (by omega) (fun _ => ?_) (fun _ => Sim.ok rfl)
    exact (rd_sim h e).bind_eq (fun ch _ => Sim.ite Iff.rfl (fun _ => ih) (fun _ => Sim.ok rfl))

theorem getOperation_sim (h : Reloc c c' k) (endO : Nat) : ∀ (f off : Nat),
    Sim (getOperation c endO f off) (getOperation c' (k + endO) f (k + off))
      (fun r r' => r' = (r.1, k + r.2)) := by
  intro f
  induction f with
  | zero => intro off; exact Sim.err
  | succ f ih =>
    intro off
    rw [getOperation_succ, getOperation_succ]
    refine Sim.ite (by omega) (fun _ => ?_) (fun _ => Sim.ok rfl)
    refine (rd_sim h off).bind_eq (fun ch _ => ?_)
    cases classify ch with
    | two yes no second => exact (rd_sim h (off + 1)).bind_eq (fun nx _ => Sim.ok rfl)
    | sign o =>
      exact (isExpression_sim h off).bind_eq (fun b _ => Sim.ite Iff.rfl (fun _ => Sim.ok rfl)
        (fun _ => ih (off + 1)))
    | single o => exact Sim.ok rfl
    | paren =>
      exact (skipParen_sim h endO _ _ (off + 1) 0 (by omega)).bind (fun o2 _ _ ho2 => ho2 ▸
        Sim.ite (by omega) (fun _ => ih o2) (fun _ => Sim.ok rfl))
    | bracket =>
      exact (skipBracket_sim h endO _ _ off (by omega)).bind (fun o2 _ _ ho2 => ho2 ▸
        Sim.ite (by omega) (fun _ => ih o2) (fun _ => Sim.ok rfl))
    | other => exact ih (off + 1)

/-! ### the scanner's result, moved by `k` -/

/-- no variable operands on either side -/
abbrev NoV : VarRef → VarRef → Prop := fun _ _ => False

mutual
/-- `Pv v v'`: what is known about a variable operand and its relocated copy -/
inductive RelOperand (Pv : VarRef → VarRef → Prop) (k n : Nat) : Operand R → Operand R → Prop
  | num (x : Num R) : RelOperand Pv k n (.num x) (.num x)
  | text (off len : Nat) : off + len ≤ n → RelOperand Pv k n (.text off len) (.text (k + off) len)
  | var (v v' : VarRef) : Pv v v' → RelOperand Pv k n (.var v) (.var v')
  | sub (a b : List (Item R)) : RelItems Pv k n a b → RelOperand Pv k n (.sub a) (.sub b)
inductive RelItems (Pv : VarRef → VarRef → Prop) (k n : Nat) : List (Item R) → List (Item R) → Prop
  | nil : RelItems Pv k n [] []
  | cons (x y : Operand R) (o : Op) (a b : List (Item R)) :
      RelOperand Pv k n x y → RelItems Pv k n a b → RelItems Pv k n ((x, o) :: a) ((y, o) :: b)
end

theorem RelItems.snoc {Pv : VarRef → VarRef → Prop} {k n : Nat} {x y : Operand R} (o : Op)
    (hxy : RelOperand Pv k n x y) :
    ∀ (a b : List (Item R)), RelItems Pv k n a b → RelItems Pv k n (a ++ [(x, o)]) (b ++ [(y, o)]) := by
  intro a
  induction a with
  | nil => intro b hab; cases hab; exact .cons _ _ _ _ _ hxy .nil
  | cons p a ih =>
    intro b hab
    cases hab with
    | cons x1 y1 o1 a1 b1 h1 h2 => exact .cons _ _ _ _ _ h1 (ih _ h2)

theorem RelItems.isEmpty {Pv : VarRef → VarRef → Prop} {k n : Nat} {a b : List (Item R)}
    (h : RelItems Pv k n a b) : a.isEmpty = b.isEmpty := by
  cases h <;> rfl

mutual
theorem RelItems.size {Pv : VarRef → VarRef → Prop} {k n : Nat} :
    ∀ {a b : List (Item R)}, RelItems Pv k n a b → sizeItems b = sizeItems a
  | _, _, .nil => rfl
  | _, _, .cons x y o a b hxy hab => by rw [sizeItems, sizeItems, hxy.size, hab.size]
theorem RelOperand.size {Pv : VarRef → VarRef → Prop} {k n : Nat} :
    ∀ {x y : Operand R}, RelOperand Pv k n x y → y.size = x.size
  | _, _, .num _ => rfl
  | _, _, .text _ _ _ => rfl
  | _, _, .var _ _ _ => rfl
  | _, _, .sub a b hab => by rw [Operand.size, Operand.size, hab.size]
end

/-- result of `parseValue` -/
def RelOpt (Pv : VarRef → VarRef → Prop) (k n : Nat) (r r' : Option (List (Item R))) : Prop :=
  (r = none ∧ r' = none) ∨ ∃ l l', r = some l ∧ r' = some l' ∧ RelItems Pv k n l l'

theorem safe_ok {α : Type} {x : Except Fault α} {P : α → Prop} {a : α} (hs : Safe x P) (hx : x = .ok a) :
    P a := by
  rw [hx] at hs; exact hs

theorem RelOpt.ite {Pv : VarRef → VarRef → Prop} {k n : Nat} {b : Bool} {l l' : List (Item R)}
    (h : RelItems Pv k n l l') :
    RelOpt Pv k n (if b then none else some l) (if b then none else some l') := by
  cases b
  · exact Or.inr ⟨l, l', rfl, rfl, h⟩
  · exact Or.inl ⟨rfl, rfl⟩

theorem scan_sim (cfg cfg' : ScanCfg R) (hrn : cfg'.readNum = cfg.readNum) (h : Reloc c c' k)
    (Pv : VarRef → VarRef → Prop)
    (hvar : ∀ off e, c[off]? = some cBOpen → off + 5 < e → c[e]? = some W1.inLineLastChar →
      Pv (scanVar cfg off e) (scanVar cfg' (k + off) (k + e))) : ∀ f,
    (∀ off endO, endO < c.length →
      Sim (parseExpressions cfg c f off endO) (parseExpressions cfg' c' f (k + off) (k + endO))
        (RelItems Pv k c.length)) ∧
    (∀ endO off exprs exprs' lastOp, endO < c.length → RelItems Pv k c.length exprs exprs' →
      Sim (parseLoop cfg c f endO off exprs lastOp) (parseLoop cfg' c' f (k + endO) (k + off) exprs' lastOp)
        (RelItems Pv k c.length)) ∧
    (∀ exprs exprs' oper lastOp off0 end0, end0 < c.length → RelItems Pv k c.length exprs exprs' →
      Sim (parseValue cfg c f exprs oper lastOp off0 end0)
        (parseValue cfg' c' f exprs' oper lastOp (k + off0) (k + end0)) (RelOpt Pv k c.length)) := by
  have noE : ReadsTo (fun _ => True) c c.length := fun _ _ _ => trivial
  intro f
  induction f with
  | zero =>
    refine ⟨?_, ?_, ?_⟩ <;> intros
    · rw [parseExpressions]; exact Sim.err
    · rw [parseLoop]; exact Sim.err
    · rw [parseValue]; exact Sim.err
  | succ f ih =>
    obtain ⟨ihE, ihL, ihV⟩ := ih
    refine ⟨?_, ?_, ?_⟩
    · intro off endO he
      rw [parseExpressions, parseExpressions]
      exact ihL _ _ _ _ _ he .nil
    · intro endO off exprs exprs' lastOp he hex
      rw [parseLoop, parseLoop, Nat.add_sub_add_left]
      refine Sim.ite (by omega) (fun hlt => ?_)
        (fun _ => Sim.ite (and_congr_left' (by omega)) (fun _ => Sim.ok hex) (fun _ => Sim.ok .nil))
      refine (getOperation_sim h endO _ off).bind (fun r _ hg hr => ?_)
      obtain ⟨oper, opOff⟩ := r
      subst hr
      have hpost := ((getOperation_ends noE he _ off (by omega) (Or.inl trivial)).of_eq hg).2.1
      refine Sim.ite Iff.rfl (fun _ => Sim.ok .nil) (fun _ => ?_)
      refine (ihV exprs exprs' oper lastOp off opOff (Nat.lt_of_le_of_lt hpost he) hex).bind
        (fun v v' _ hrel => ?_)
      rcases hrel with ⟨rfl, rfl⟩ | ⟨l, l', rfl, rfl, hll⟩
      · exact Sim.ok .nil
      · have := ihL endO (opOff + 1 + (if oper.rank < Op.greater.rank then 1 else 0)) l l' oper he hll
        rw [← Nat.add_assoc, ← Nat.add_assoc] at this
        exact this
    · intro exprs exprs' oper lastOp off0 end0 he hex
      have h1 : W1.inLineSuffixLength = 1 := rfl
      have none_ok : Sim (.ok (none : Option (List (Item R)))) (.ok (none : Option (List (Item R))))
          (RelOpt Pv k c.length) := Sim.ok (Or.inl ⟨rfl, rfl⟩)
      rw [parseValue, parseValue, Nat.add_sub_add_left]
      refine (trimLeft_sim h end0 _ off0).bind (fun off _ _ ho => ?_)
      subst ho
      refine (trimRight_sim h off end0).bind (fun endO _ hE hE' => ?_)
      subst hE'
      have hEle : endO ≤ end0 := (trimRight_ends noE off end0 (Nat.le_of_lt he)).of_eq hE
      refine Sim.ite (by omega) (fun hlt => ?_) (fun _ => none_ok)
      refine (rd_sim h off).bind_eq (fun ch hch => ?_)
      have e1 : k + endO - 1 = k + (endO - 1) := by omega
      refine Sim.ite Iff.rfl (fun _ => ?_) (fun _ => Sim.ite Iff.rfl (fun hbo => ?_) (fun _ => ?_))
      · rw [e1]
        refine (ihE (off + 1) (endO - 1) (by omega)).bind (fun sub sub' _ hrel => ?_)
        refine Sim.ite Iff.rfl (fun _ => Sim.ok ?_) (fun _ => Sim.ok ?_)
        · rw [← hrel.isEmpty]; exact RelOpt.ite (RelItems.snoc oper (.sub _ _ hrel) _ _ hex)
        · rw [← hrel.isEmpty]; exact RelOpt.ite hrel
      · rw [Nat.add_sub_add_left, h1, e1]
        refine Sim.ite Iff.rfl (fun hfl => ?_) (fun _ => none_ok)
        refine (rd_sim h (endO - 1)).bind_eq (fun last hlast => ?_)
        refine Sim.ite Iff.rfl (fun hl => Sim.ok (Or.inr ⟨_, _, rfl, rfl, RelItems.snoc oper ?_ _ _ hex⟩))
          (fun _ => none_ok)
        have hfl : endO - off > 6 := hfl
        exact .var _ _ (hvar off (endO - 1) ((rd_ok_iff _ _ _).mp (hbo ▸ hch)) (by omega)
          ((rd_ok_iff _ _ _).mp (show rd c (endO - 1) = .ok W1.inLineLastChar from hl ▸ hlast)))
      · rw [Nat.add_sub_add_left, hrn, h.slice off (endO - off) (by omega)]
        cases cfg.readNum ((c.drop off).take (endO - off)) with
        | some nn => exact Sim.ok (Or.inr ⟨_, _, rfl, rfl, RelItems.snoc oper (.num nn) _ _ hex⟩)
        | none =>
          exact Sim.ite Iff.rfl (fun _ => Sim.ok (Or.inr ⟨_, _, rfl, rfl,
            RelItems.snoc oper (.text off (endO - off) (by omega)) _ _ hex⟩)) (fun _ => none_ok)

theorem parseTop_relocV (cfg cfg' : ScanCfg R) (hrn : cfg'.readNum = cfg.readNum) (h : Reloc c c' k)
    (Pv : VarRef → VarRef → Prop)
    (hvar : ∀ off e, c[off]? = some cBOpen → off + 5 < e → c[e]? = some W1.inLineLastChar →
      Pv (scanVar cfg off e) (scanVar cfg' (k + off) (k + e)))
    (off endO : Nat) (he : endO < c.length)
    (items : List (Item R)) (hp : parseTop cfg c off endO = .ok items) :
    ∃ items', parseTop cfg' c' (k + off) (k + endO) = .ok items' ∧ RelItems Pv k c.length items items' := by
  unfold parseTop at hp ⊢
  rw [Nat.add_sub_add_left]
  exact (scan_sim cfg cfg' hrn h Pv hvar _).1 off endO he items hp

theorem parseTop_reloc (cfg cfg' : ScanCfg R) (hrn : cfg'.readNum = cfg.readNum) (h : Reloc c c' k)
    (hno : ∀ (i x : Nat), c[i]? = some x → x ≠ cBOpen) (off endO : Nat) (he : endO < c.length)
    (items : List (Item R)) (hp : parseTop cfg c off endO = .ok items) :
    ∃ items', parseTop cfg' c' (k + off) (k + endO) = .ok items' ∧ RelItems NoV k c.length items items' :=
  parseTop_relocV cfg cfg' hrn h NoV (fun off _ h1 _ _ => absurd rfl (hno off _ h1)) off endO he items hp

/-! ### evaluation of relocated lists -/

section

inductive RelVal (Pv : VarRef → VarRef → Prop) (k n : Nat) : Val R → Val R → Prop
  | num (x : Num R) : RelVal Pv k n (.num x) (.num x)
  | text (off len : Nat) : off + len ≤ n → RelVal Pv k n (.text off len) (.text (k + off) len)
  | var (v v' : VarRef) : Pv v v' → RelVal Pv k n (.var v) (.var v')

/-- the two environments: same number reader, the second content holds the first `k` units later -/
structure RelEnv (env env' : Env R) (k : Nat) : Prop where
  readNum : env'.readNum = env.readNum
  slice : ∀ off m, off + m ≤ env.content.length →
    (env'.content.drop (k + off)).take m = (env.content.drop off).take m

def RelLookup (Pv : VarRef → VarRef → Prop) (env env' : Env R) : Prop :=
  ∀ v v', Pv v v' → env'.lookup v' = env.lookup v

theorem setNumber_env {env env' : Env R} (h : env'.readNum = env.readNum) (x : VarVal R) :
    x.setNumber env' = x.setNumber env := by
  cases x <;> simp [VarVal.setNumber, h]

theorem eqSide_reloc {Pv : VarRef → VarRef → Prop} {env env' : Env R} {k : Nat} (he : RelEnv env env' k)
    (hlk : RelLookup Pv env env') {v v' : Val R}
    (hv : RelVal Pv k env.content.length v v') : eqSide env' v' = eqSide env v := by
  cases hv with
  | num x => rfl
  | text off len hl => simp [eqSide, he.slice off len hl]
  | var a b hab => simp only [eqSide, hlk a b hab, setNumber_env he.readNum]

theorem forceNumber_env {env env' : Env R} (h : env'.readNum = env.readNum) (s : EqSide R) :
    s.forceNumber env' = s.forceNumber env := by
  cases s with
  | number n => rfl
  | chars s v => cases v <;> simp [EqSide.forceNumber, setNumber_env h]

variable [RealLike R]

theorem isEqual_reloc {Pv : VarRef → VarRef → Prop} {env env' : Env R} {k : Nat} (he : RelEnv env env' k)
    (hlk : RelLookup Pv env env') {l l' r r' : Val R}
    (hl : RelVal Pv k env.content.length l l') (hr : RelVal Pv k env.content.length r r') :
    isEqual env' l' r' = isEqual env l r := by
  unfold isEqual
  rw [eqSide_reloc he hlk hl, eqSide_reloc he hlk hr]
  simp only [forceNumber_env he.readNum]

theorem applyOp_reloc {Pv : VarRef → VarRef → Prop} {env env' : Env R} {k : Nat} (he : RelEnv env env' k)
    (hlk : RelLookup Pv env env') (op : Op) {l l' r r' : Val R}
    (hl : RelVal Pv k env.content.length l l') (hr : RelVal Pv k env.content.length r r') :
    applyOp env' op l' r' = applyOp env op l r := by
  unfold applyOp
  have hi := isEqual_reloc he hlk hl hr
  by_cases h1 : op = .equal
  · subst h1; simp only [applyChk, hi]
  by_cases h2 : op = .notEqual
  · subst h2; simp only [applyChk, hi]
  -- the other operators look at numbers only, and a number is its own relocated copy
  cases hl <;> cases hr <;> simp [applyChk]

/-- results of `evaluate` / `loop`: a number (never a text or a variable) and the rest of the list -/
def RelCur (Pv : VarRef → VarRef → Prop) (k n : Nat) (r r' : Option (Cursor R)) : Prop :=
  (r = none ∧ r' = none) ∨
  ∃ x o rest rest', r = some (.num x, o, rest) ∧ r' = some (.num x, o, rest') ∧ RelItems Pv k n rest rest'

/-- results of `GetExpressionValue`: related values; a variable is handed on only to `==` / `!=` -/
def RelOV (Pv : VarRef → VarRef → Prop) (k n : Nat) (a : Op) (r r' : Option (Val R)) : Prop :=
  (r = none ∧ r' = none) ∨
  ∃ v v', r = some v ∧ r' = some v' ∧ RelVal Pv k n v v' ∧ (∀ w, v = .var w → a.isEq = true)

omit [RealLike R] in
theorem getVar_reloc {Pv : VarRef → VarRef → Prop} {env env' : Env R} {k : Nat} (he : RelEnv env env' k)
    (hlk : RelLookup Pv env env') (v v' : VarRef) (hv : Pv v v') (a b : Op) :
    RelOV Pv k env.content.length a (getVar env v a b) (getVar env' v' a b) := by
  unfold getVar
  by_cases ha : a.isEq = true
  · simp only [ha, if_true]
    exact Or.inr ⟨_, _, rfl, rfl, .var _ _ hv, fun _ _ => ha⟩
  · simp only [ha, Bool.false_eq_true, if_false, hlk v v' hv]
    have hs : (env.lookup v).bind (VarVal.setNumber env') = (env.lookup v).bind (VarVal.setNumber env) := by
      cases env.lookup v with
      | none => rfl
      | some x => simp only [Option.bind, setNumber_env he.readNum]
    rw [hs]
    cases (env.lookup v).bind (VarVal.setNumber env) with
    | some n => exact Or.inr ⟨_, _, rfl, rfl, .num n, fun w hw => by cases hw⟩
    | none =>
      simp only []
      by_cases hc : a = .noOp ∧ b = .noOp
      · simp only [hc, and_self, if_true]
        exact Or.inr ⟨_, _, rfl, rfl, .num _, fun w hw => by cases hw⟩
      · simp only [hc, if_false]
        exact Or.inl ⟨rfl, rfl⟩

theorem eval_reloc {Pv : VarRef → VarRef → Prop} {env env' : Env R} {k : Nat} (he : RelEnv env env' k)
    (hlk : RelLookup Pv env env') : ∀ f,
    (∀ prev items items', RelItems Pv k env.content.length items items' →
      RelCur Pv k env.content.length (evaluate env true f prev items) (evaluate env' true f prev items')) ∧
    (∀ prev left left' op rest rest', RelVal Pv k env.content.length left left' →
      (∀ w, left = .var w → op.isEq = true) →
      RelItems Pv k env.content.length rest rest' →
      RelCur Pv k env.content.length (loop env true f prev left op rest) (loop env' true f prev left' op rest')) ∧
    (∀ x x' a b, RelOperand Pv k env.content.length x x' →
      RelOV Pv k env.content.length a (getVal env true f x a b) (getVal env' true f x' a b)) := by
  intro f
  induction f with
  | zero =>
    refine ⟨?_, ?_, ?_⟩
    · intro prev items items' _; exact Or.inl ⟨by simp [evaluate], by simp [evaluate]⟩
    · intro prev left left' op rest rest' _ _ _; exact Or.inl ⟨by simp [loop], by simp [loop]⟩
    · intro x x' a b _; exact Or.inl ⟨by simp [getVal], by simp [getVal]⟩
  | succ f ih =>
    obtain ⟨ihE, ihL, ihV⟩ := ih
    refine ⟨?_, ?_, ?_⟩
    · intro prev items items' hrel
      cases hrel with
      | nil => exact Or.inl ⟨by simp [evaluate], by simp [evaluate]⟩
      | cons x y o a b hxy hab =>
        simp only [evaluate]
        rcases ihV x y o o hxy with ⟨h1, h2⟩ | ⟨v, v', h1, h2, hv, hw⟩
        · rw [h1, h2]; exact Or.inl ⟨rfl, rfl⟩
        · rw [h1, h2]; exact ihL prev v v' o a b hv hw hab
    · intro prev left left' op rest rest' hl hlw hrest
      by_cases hop : op = .noOp
      · simp only [loop, hop, if_true]
        cases hl with
        | num x => exact Or.inr ⟨x, .noOp, rest, rest', by simp [Val.isText], by simp [Val.isText], hrest⟩
        | text off len hb => exact Or.inl ⟨by simp [Val.isText], by simp [Val.isText]⟩
        | var a b hab =>
          have := hlw a rfl
          rw [hop] at this
          cases this
      · cases hrest with
        | nil => exact Or.inl ⟨by simp only [loop, hop, if_false], by simp only [loop, hop, if_false]⟩
        | cons x y o' a b hxy hab =>
          -- the tail the two branches share: the right operands are related, the scan stands at `o''`
          have step : ∀ (right right' : Val R) (o'' : Op) (r1 r2 : List (Item R)),
              RelVal Pv k env.content.length right right' → RelItems Pv k env.content.length r1 r2 →
              RelCur Pv k env.content.length (loopStep env f prev left op right o'' r1)
                (loopStep env' f prev left' op right' o'' r2) := by
            intro right right' o'' r1 r2 hv hr
            unfold loopStep
            rw [applyOp_reloc he hlk op hl hv]
            cases hap : applyOp env op left right with
            | none => exact Or.inl ⟨rfl, rfl⟩
            | some w =>
              obtain ⟨z, rfl⟩ := applyOp_isNum env op left right w hap
              simp only [Option.bind_some]
              by_cases hpr : prev.rank < o''.rank
              · rw [if_pos hpr, if_pos hpr]
                exact ihL prev _ _ o'' r1 r2 (.num z) (fun w hw => by cases hw) hr
              · rw [if_neg hpr, if_neg hpr]; exact Or.inr ⟨z, o'', r1, r2, rfl, rfl, hr⟩
          by_cases hrk : op.rank ≥ o'.rank
          · rw [loop_direct env f prev left op x o' a hop hrk, loop_direct env' f prev left' op y o' b hop hrk]
            rcases ihV x y op o' hxy with ⟨h1, h2⟩ | ⟨v, v', h1, h2, hv, _⟩
            · rw [h1, h2]; exact Or.inl ⟨rfl, rfl⟩
            · rw [h1, h2]; exact step v v' o' a b hv hab
          · rw [loop_rec env f prev left op x o' a hop hrk, loop_rec env' f prev left' op y o' b hop hrk]
            rcases ihE op ((x, o') :: a) ((y, o') :: b) (.cons _ _ _ _ _ hxy hab) with
              ⟨h1, h2⟩ | ⟨z, o'', r1, r2, h1, h2, hr12⟩
            · rw [h1, h2]; exact Or.inl ⟨rfl, rfl⟩
            · rw [h1, h2]; exact step (.num z) (.num z) o'' r1 r2 (.num z) hr12
    · intro x x' a b hxx
      cases hxx with
      | num n => exact Or.inr ⟨_, _, by simp [getVal], by simp [getVal], .num n, fun w hw => by cases hw⟩
      | text off len hb =>
        exact Or.inr ⟨_, _, by simp [getVal], by simp [getVal], .text off len hb, fun w hw => by cases hw⟩
      | var v v' hv =>
        simp only [getVal]
        exact getVar_reloc he hlk v v' hv a b
      | sub l l' hll =>
        simp only [getVal]
        rcases ihE .noOp l l' hll with ⟨h1, h2⟩ | ⟨z, o, r1, r2, h1, h2, _⟩
        · rw [h1, h2]; exact Or.inl ⟨rfl, rfl⟩
        · rw [h1, h2]; exact Or.inr ⟨_, _, rfl, rfl, .num z, fun w hw => by cases hw⟩

theorem evaluateTop_reloc {Pv : VarRef → VarRef → Prop} {env env' : Env R} {k : Nat} (he : RelEnv env env' k)
    (hlk : RelLookup Pv env env')
    (items items' : List (Item R)) (hrel : RelItems Pv k env.content.length items items') :
    evaluateTop env' true items' = evaluateTop env true items ∧
    (∀ v, evaluateTop env true items = some v → ∃ x, v = .num x) := by
  unfold evaluateTop fuelFor
  rw [hrel.size]
  rcases (eval_reloc he hlk (2 * sizeItems items + 2)).1 .noOp items items' hrel with
    ⟨h1, h2⟩ | ⟨z, o, r1, r2, h1, h2, _⟩
  · rw [h1, h2]; simp
  · rw [h1, h2]; simp

end

end Qentem.Expr
