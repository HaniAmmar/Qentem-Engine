import Qentem.Proofs.HashTableInv
import Qentem.Proofs.HashTableBasics
import Qentem.Proofs.HashTableLaws
/-!
What the per-operation refinement proofs share.  `generateHash` builds correct chains from scratch, for every item (live
or removed), so whatever reallocates (`resize`, `copy`, `sort`) re-establishes the link half of the invariant
(`rebuild_spec`, `resize_spec`, and `resize_if` for the optional resize of `growIfFull`, `expect`, `compress` and
`merge`).  The slot abstraction is a function of `stats` (`absSlots_eq`), and a key sits in it where its live item sits
(`key_cases`, `findKey_abs_some/none`).
-/
namespace Qentem.HashTable
variable {V : Type}

/-- Loop invariant of `generateHash`: the first `i` items are chained, the bucket heads describe
exactly those chains. -/
structure GenInv (s : HT V) (i : Nat) (ch : Nat → List Nat) : Prop where
  cap_pow : ∃ k, s.cap = 2 ^ k
  heads_size : s.heads.size = s.cap
  chain : ∀ b, b < s.cap → Chain (getLink s) (.head b) (ch b)
  nodup : ∀ b, b < s.cap → (ch b).Nodup
  bucket : ∀ b, b < s.cap → ∀ j ∈ ch b, j < i ∧ ∃ it : Item V, s.items[j]? = some it ∧ it.hash &&& (s.cap - 1) = b
  complete : ∀ (j : Nat) (it : Item V), j < i → s.items[j]? = some it → j ∈ ch (it.hash &&& (s.cap - 1))

/-- `GenInv` is `Chains` over the first `i` items, whatever their hash. -/
theorem genInv_iff {s : HT V} {i : Nat} {ch : Nat → List Nat} :
    GenInv s i ch ↔ (∃ k, s.cap = 2 ^ k) ∧ s.heads.size = s.cap ∧
      Chains (getLink s) (fun j => if j < i then hashAt s j else none) (fun _ => True) s.cap ch := by
  constructor
  · intro h
    refine ⟨h.cap_pow, h.heads_size, h.chain, h.nodup, fun b hb j hj => ?_, fun j x hj _ => ?_⟩
    · obtain ⟨hji, it, hit, e⟩ := h.bucket b hb j hj
      exact ⟨it.hash, by rw [if_pos hji, hashAt, hit]; rfl, e⟩
    · split at hj
      · obtain ⟨it, hit, rfl⟩ := Option.map_eq_some_iff.mp hj
        exact h.complete j it ‹_› hit
      · cases hj
  · intro ⟨h1, h2, h⟩
    refine ⟨h1, h2, h.chain, h.nodup, fun b hb j hj => ?_, fun j it hji hit => ?_⟩
    · obtain ⟨x, hx, e⟩ := h.bucket b hb j hj
      split at hx
      · obtain ⟨it, hit, rfl⟩ := Option.map_eq_some_iff.mp hx
        exact ⟨‹_›, it, hit, e⟩
      · cases hx
    · exact h.complete j it.hash (by rw [if_pos hji, hashAt, hit]; rfl) trivial

/-- The first store of the loop body, `item->Next = 0`, as an item update. -/
theorem setNext_eq {s : HT V} {i : Nat} {it : Item V} (hit : s.items[i]? = some it) :
    ({ s with items := s.items.setIfInBounds i { it with next := 0 } } : HT V) =
      modItem s i (fun it => { it with next := 0 }) := by
  obtain ⟨hi, rfl⟩ := Array.getElem?_eq_some_iff.mp hit
  refine congrArg (fun a => (⟨s.cap, s.heads, a⟩ : HT V)) (Array.ext_getElem? fun j => ?_)
  rw [Array.getElem?_setIfInBounds, Array.getElem?_modify]
  split
  · rename_i e; subst e; simp [hi]
  · rfl

theorem genStep {s : HT V} {i : Nat} {ch : Nat → List Nat} {it : Item V} (hG : GenInv s i ch)
    (hit : s.items[i]? = some it) :
    let s1 := modItem s i (fun it => { it with next := 0 })
    let b := it.hash &&& (s.cap - 1)
    let l := lastLink (.head b) (ch b)
    walkEnd s1 (s1.size + 1) (.head (it.hash &&& base s1)) = some l ∧
    GenInv (setLink s1 l (i + 1)) (i + 1) (fun b' => if b' = b then ch b ++ [i] else ch b') ∧
    stats (setLink s1 l (i + 1)) = stats s := by
  intro s1 b l
  obtain ⟨⟨k, hk⟩, hheads, hC⟩ := genInv_iff.mp hG
  have hb : b < s.cap := bucket_lt _ hk
  have hlt : ∀ b', b' < s.cap → ∀ x ∈ ch b', x < i := fun b' hb' x hx => (hG.bucket b' hb' x hx).1
  have hni : Link.next i ∉ links (.head b) (ch b) := fun hm => by
    rcases mem_links.mp hm with e | ⟨x, hx, e⟩
    · cases e
    · injection e with e; exact Nat.lt_irrefl i (e ▸ hlt b hb x hx)
  have g1 : ∀ l', getLink s1 l' = if l' = .next i then some 0 else getLink s l' := fun l' => by
    rw [getLink_modItem, hit]; rfl
  have hchain1 : Chain (getLink s1) (.head b) (ch b) :=
    chain_frame (hC.chain b hb) (fun l' hl' => by
      have hne : l' ≠ .next i := fun e => hni (e ▸ hl')
      rw [g1, if_neg hne])
  have hlen : (ch b).length < s1.size + 1 := by
    have := nodup_length_le (hC.nodup b hb) (hlt b hb)
    have := (Array.getElem?_eq_some_iff.mp hit).1
    simp only [HT.size, s1, modItem_size]; omega
  have hl0 : getLink s1 l = some 0 := chain_last hchain1
  have hln : l ≠ .next i := fun e => hni (e ▸ lastLink_mem _ _)
  have hcap : (setLink s1 l (i + 1)).cap = s.cap := setLink_cap
  have hhash : ∀ x, hashAt (setLink s1 l (i + 1)) x = hashAt s x := fun x => by
    rw [hashAt_setLink]; exact hashAt_setNext s i 0 x
  refine ⟨walkEnd_chain hchain1 hlen, genInv_iff.mpr ⟨⟨k, hcap.trans hk⟩, ?_, ?_⟩, ?_⟩
  · exact setLink_heads_size.trans (hheads.trans hcap.symm)
  · rw [hcap]
    refine hC.snoc (n := i) (h := it.hash) hb (if_neg (Nat.lt_irrefl i)) ?_ rfl (fun x hx => ?_) ?_ ?_
      (fun l' h1 h2 => ?_)
    · rw [if_pos (Nat.lt_succ_self i), hhash, hashAt, hit]; rfl
    · rw [hhash]
      by_cases h : x < i
      · rw [if_pos h, if_pos (Nat.lt_succ_of_lt h)]
      · rw [if_neg h, if_neg (by omega)]
    · rw [getLink_setLink, if_pos rfl, hl0]; rfl
    · rw [getLink_setLink, if_neg hln.symm, g1, if_pos rfl]
    · rw [getLink_setLink, if_neg h1, g1, if_neg h2]
  · rw [stats_setLink]; exact stats_setNext s i 0

theorem genLoop_spec : ∀ (n : Nat) (s : HT V) (i : Nat) (ch : Nat → List Nat),
    GenInv s i ch → i + n = s.items.size →
    ∃ s' ch', genLoop s n i = some s' ∧ GenInv s' s'.items.size ch' ∧ s'.cap = s.cap ∧ stats s' = stats s
  | 0, s, i, ch, hG, hn => ⟨s, ch, rfl, (show i = s.items.size by omega) ▸ hG, rfl, rfl⟩
  | n + 1, s, i, ch, hG, hn => by
    have hit : s.items[i]? = some s.items[i] := Array.getElem?_eq_getElem (by omega)
    obtain ⟨hw, hG', hst⟩ := genStep hG hit
    obtain ⟨s', ch', hrun, hG'', hcap, hst'⟩ := genLoop_spec n _ (i + 1) _ hG' (by rw [setLink_size, modItem_size]; omega)
    refine ⟨s', ch', ?_, hG'', hcap.trans setLink_cap, hst'.trans hst⟩
    rw [genLoop, hit]
    simp only [setNext_eq hit, hw]
    exact hrun

def slotOf (x : List Nat × Nat × V) : Option (List Nat × V) := if x.2.1 = 0 then none else some (x.1, x.2.2)

theorem absSlots_eq (s : HT V) : absSlots s = (stats s).map slotOf := by
  simp only [absSlots, stats, List.map_map]
  rfl

theorem genInv_to_chains {s : HT V} {ch : Nat → List Nat} (hG : GenInv s s.items.size ch) : ChainsOK s ch :=
  ⟨hG.chain, hG.nodup, fun b hb j hj => (hG.bucket b hb j hj).2,
   fun j it hit _ => hG.complete j it (Array.getElem?_eq_some_iff.mp hit).1 hit⟩

theorem genInv_zero {s : HT V} (hcap : ∃ k, s.cap = 2 ^ k) (hh : s.heads = Array.replicate s.cap 0) :
    GenInv s 0 (fun _ => []) :=
  ⟨hcap, by rw [hh]; exact Array.size_replicate,
    fun b hb => by rw [Chain, getLink, hh]; exact Array.getElem?_replicate.trans (if_pos hb),
    fun _ _ => List.nodup_nil, nofun, fun _ _ h => absurd h (Nat.not_lt_zero _)⟩

theorem generateHash_spec {t : HT V} (hcap : ∃ k, t.cap = 2 ^ k) (hh : t.heads = Array.replicate t.cap 0) :
    ∃ s', generateHash t = some s' ∧ s'.cap = t.cap ∧ s'.heads.size = s'.cap ∧ stats s' = stats t ∧
      ∃ ch, ChainsOK s' ch := by
  obtain ⟨s', ch', hrun, hG', hcap', hst⟩ := genLoop_spec t.items.size t 0 _ (genInv_zero hcap hh) (Nat.zero_add _)
  exact ⟨s', hrun, hcap', hG'.heads_size, hst, ch', genInv_to_chains hG'⟩

theorem rebuild_spec (n : Nat) (keep : Array (Item V)) (h : keep.size ≤ allocCap n) :
    ∃ s', rebuild n keep = some s' ∧ s'.cap = allocCap n ∧ s'.heads.size = s'.cap ∧
      stats s' = keep.toList.map stat ∧ ∃ ch, ChainsOK s' ch := by
  rw [rebuild, if_pos h]
  exact generateHash_spec (t := allocate n keep) (allocCap_pow n) rfl

theorem stats_length (s : HT V) : (stats s).length = s.items.size := by simp [stats]

theorem stats_filter_live (items : Array (Item V)) :
    (items.filter live).toList.map stat = (items.toList.map stat).filter (fun x => x.2.1 != 0) := by
  rw [Array.toList_filter, List.filter_map]
  rfl

theorem compact_map_slotOf (l : List (List Nat × Nat × V)) :
    Spec.compact (l.map slotOf) = (l.filter (fun x => x.2.1 != 0)).map slotOf := by
  unfold Spec.compact
  rw [List.filter_map]
  congr 1
  apply List.filter_congr
  intro x _
  simp only [Function.comp, slotOf]
  split <;> simp_all

/-- `resize` only looks at the items (the links are rebuilt), so `StatOK` is enough. -/
theorem resize_spec {H : List Nat → Nat} {s : HT V} (hst : StatOK H (stats s)) (n : Nat)
    (hfit : (s.items.filter live).size ≤ allocCap n) :
    ∃ s', resize s n = some s' ∧ Inv H s' ∧ abs s' = ⟨allocCap n, Spec.compact (absSlots s)⟩ := by
  obtain ⟨s', hrun, hcap, hheads, hst1, hch⟩ := rebuild_spec n (s.items.filter live) hfit
  have hst' : stats s' = (stats s).filter (fun x => x.2.1 != 0) := by rw [hst1, stats_filter_live]; rfl
  refine ⟨s', hrun, ?_, ?_⟩
  · refine inv_of_stat (Or.inr (hcap ▸ allocCap_pow n)) hheads ?_ (hst' ▸ hst.sublist List.filter_sublist) hch
    rw [← stats_length, hst1, List.length_map, Array.length_toList, hcap]; exact hfit
  · simp only [abs, hcap, absSlots_eq, hst', compact_map_slotOf]

theorem absSlots_length (s : HT V) : (absSlots s).length = s.items.size := by simp [absSlots]

theorem fit_of_le {s : HT V} {n : Nat} (h : s.items.size ≤ n) : (s.items.filter live).size ≤ allocCap n :=
  Nat.le_trans Array.size_filter_le (Nat.le_trans h (allocCap_ge n))

/-- An optional `resize(n)`: the shape `growIfFull`, `expect`, `compress` and `merge` share. -/
theorem resize_if {H : List Nat → Nat} {s : HT V} (hI : Inv H s) (c : Prop) [Decidable c] (n : Nat)
    (hfit : c → (s.items.filter live).size ≤ allocCap n) :
    ∃ s', (if c then resize s n else some s) = some s' ∧ Inv H s' ∧
      abs s' = (if c then Spec.realloc (abs s) n else abs s) ∧
      (c → s'.cap = allocCap n ∧ s'.items.size ≤ s.items.size) ∧ (¬ c → s' = s) := by
  by_cases h : c
  · simp only [h, if_true, not_true_eq_false, false_implies, and_true, true_implies]
    obtain ⟨s', hrun, hI', habs⟩ := resize_spec hI.statOK n (hfit h)
    refine ⟨s', hrun, hI', habs, congrArg Spec.cap habs, ?_⟩
    have := congrArg (fun sp => sp.slots.length) habs
    simp only [abs, absSlots_length] at this
    rw [this, ← absSlots_length s]; exact List.length_filter_le _ _
  · simp only [h, if_false, false_implies, true_and, not_false_eq_true, true_implies]
    exact ⟨s, rfl, hI, rfl, rfl⟩

theorem setVal_eq_modItem (s : HT V) (i : Nat) (v : V) :
    setVal s i v = modItem s i (fun it => { it with val := v }) := rfl

theorem inv_setVal {H : List Nat → Nat} {s : HT V} (hI : Inv H s) {i : Nat} {it : Item V}
    (hit : s.items[i]? = some it) (v : V) : Inv H (setVal s i v) := by
  obtain ⟨ch, hc⟩ := hI.chains
  have hst : (stats s)[i]? = some (stat it) := by rw [stats_getElem?, hit]; rfl
  have hg : getLink (setVal s i v) = getLink s := funext fun l => by
    rw [setVal_eq_modItem, getLink_modItem]
    split
    · rename_i e; rw [e, getLink, hit]
    · rfl
  have hh : hashAt (setVal s i v) = hashAt s := funext fun j => by
    rw [setVal_eq_modItem, hashAt_modItem]
    split
    · rename_i e; rw [e, hashAt, hit]
    · rfl
  refine inv_of_stat hI.cap_pow hI.heads_size ((modItem_size s i _).symm ▸ hI.size_le) ?_
    ⟨ch, chainsOK_iff.mpr (by rw [hg, hh]; exact chainsOK_iff.mp hc)⟩
  rw [setVal_eq_modItem,
    stats_modItem (fun x => (x.1, x.2.1, v)) (fun _ => rfl) hst]
  exact hI.statOK.set (hI.hash_ok i it hit) (hI.dead_key i it hit) (fun hl i' y hne hy hly =>
    (pairwise_iff_ne distinct_symm).mp hI.statOK.distinct i' i y (stat it) hne hy hst hly hl)

theorem absSlots_setVal {s : HT V} {i : Nat} {it : Item V} (v : V) (hit : s.items[i]? = some it) (hl : it.hash ≠ 0) :
    absSlots (setVal s i v) = (absSlots s).set i (some (it.key, v)) := by
  rw [absSlots_eq, setVal_eq_modItem,
    stats_modItem (fun x => (x.1, x.2.1, v)) (fun _ => rfl) (show _ = some (stat it) by rw [stats_getElem?, hit]; rfl),
    List.map_set, ← absSlots_eq]
  simp [slotOf, stat, hl]

theorem absSlots_getElem? (s : HT V) (j : Nat) :
    (absSlots s)[j]? = (s.items[j]?).map (fun it => if it.hash = 0 then none else some (it.key, it.val)) := by
  simp [absSlots]

theorem mem_keysOf_abs {s : HT V} {k : List Nat} :
    k ∈ keysOf (absSlots s) ↔ ∃ (j : Nat) (it : Item V), s.items[j]? = some it ∧ it.hash ≠ 0 ∧ it.key = k := by
  constructor
  · intro h
    obtain ⟨⟨k', v⟩, he, rfl⟩ := List.mem_map.mp h
    obtain ⟨o, ho, rfl⟩ := List.mem_filterMap.mp he
    obtain ⟨j, hj⟩ := List.mem_iff_getElem?.mp ho
    rw [absSlots_getElem?] at hj
    obtain ⟨it, hit, e⟩ := Option.map_eq_some_iff.mp hj
    by_cases hd : it.hash = 0
    · simp [hd] at e
    · simp only [hd, if_false, Option.some.injEq, Prod.mk.injEq] at e
      exact ⟨j, it, hit, hd, e.1⟩
  · rintro ⟨j, it, hit, hl, rfl⟩
    exact mem_keysOf_of_get (i := j) (v := it.val) (by rw [absSlots_getElem?, hit]; simp [hl])

theorem Inv.keysNodup {H : List Nat → Nat} {s : HT V} (hI : Inv H s) : KeysNodup (absSlots s) := by
  unfold KeysNodup keysOf entries absSlots
  rw [List.filterMap_map, List.nodup_iff_pairwise_ne, List.pairwise_map]
  refine List.Pairwise.filterMap _ ?_ hI.distinct
  intro a a' hR b hb b' hb'
  simp only [Function.comp, id] at hb hb'
  split at hb
  · cases hb
  · split at hb'
    · cases hb'
    · cases hb; cases hb'
      rename_i h1 h2
      exact hR h1 h2

theorem findKey_abs_some {H : List Nat → Nat} {s : HT V} (hI : Inv H s) {j : Nat} {it : Item V}
    (hit : s.items[j]? = some it) (hl : it.hash ≠ 0) : Spec.findKey (absSlots s) it.key = some j :=
  (findKey_eq_some_iff hI.keysNodup).mpr ⟨it.val, by rw [absSlots_getElem?, hit]; simp [hl]⟩

theorem findKey_abs_none {s : HT V} {key : List Nat}
    (hno : ∀ (j : Nat) (it : Item V), s.items[j]? = some it → it.hash ≠ 0 → it.key ≠ key) :
    Spec.findKey (absSlots s) key = none :=
  findKey_none_iff.mpr fun hm => by
    obtain ⟨j, it, hit, hl, hk⟩ := mem_keysOf_abs.mp hm
    exact hno j it hit hl hk

theorem key_cases (s : HT V) (key : List Nat) :
    (∃ (j : Nat) (it : Item V), s.items[j]? = some it ∧ it.hash ≠ 0 ∧ it.key = key) ∨
    (∀ (j : Nat) (it : Item V), s.items[j]? = some it → it.hash ≠ 0 → it.key ≠ key) := by
  by_cases h : ∃ (j : Nat) (it : Item V), s.items[j]? = some it ∧ it.hash ≠ 0 ∧ it.key = key
  · exact Or.inl h
  · right
    intro j it h1 h2 h3
    exact h ⟨j, it, h1, h2, h3⟩

end Qentem.HashTable
