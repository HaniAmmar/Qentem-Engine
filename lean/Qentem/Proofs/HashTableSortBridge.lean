import Qentem.Model.HashTableSpec
import Qentem.Proofs.Sort
import Qentem.Proofs.Order
/-!
Bridge between the two transcriptions of `Memory::Sort`: C15's checked `Qentem.Sort.sortSeg`
(`Option`, faults on out-of-range access) and the total `Qentem.HashTable.sortSeg` used by the hash
table model.  Whenever the checked one succeeds, the total one returns the same array for the same
fuel; `Qentem.Sort.sortSeg_spec` (Proofs/Sort) then gives the ordering the C13 statement `sort_orders_keys` needs.
Also `slotCmp_strict` (through `isLess_map` and the `Str.*` laws of `Proofs/Order`): the hypothesis `sortSeg_sorted` needs.
-/
namespace Qentem.HashTable
variable {α : Type}

theorem swapIfInBounds_of_swap? {arr arr' : Array α} {i j : Nat} (h : Sort.swap? arr i j = some arr') :
    arr.swapIfInBounds i j = arr' := by
  unfold Sort.swap? at h
  split at h
  · rename_i hb
    rw [Array.swapIfInBounds_def, dif_pos hb.1, dif_pos hb.2]
    exact Option.some.inj h
  · cases h

theorem sortPart_of_partLoopN (before : α → α → Bool) (start stop : Nat) :
    ∀ (n : Nat) (arr : Array α) (index offset : Nat) (r : Array α × Nat),
    n = stop - offset → Sort.partLoopN before n arr start index offset stop = some r →
    sortPart before start n arr index offset = r
  | 0, arr, index, offset, r, _, h => by
    simp only [Sort.partLoopN] at h
    split at h
    · cases h
    · simp only [sortPart]; exact Option.some.inj h
  | n + 1, arr, index, offset, r, hn, h => by
    have hlt : offset < stop := by omega
    simp only [Sort.partLoopN, hlt, if_true] at h
    simp only [sortPart]
    cases hx : arr[offset]? with
    | none => rw [hx] at h; simp at h
    | some x =>
      cases hp : arr[start]? with
      | none => rw [hx, hp] at h; simp at h
      | some p =>
        rw [hx, hp] at h
        simp only at h ⊢
        by_cases hb : before x p = true
        · simp only [hb, if_true] at h ⊢
          cases hs : Sort.swap? arr (index + 1) offset with
          | none => rw [hs] at h; simp at h
          | some arr' =>
            rw [hs] at h
            rw [swapIfInBounds_of_swap? hs]
            exact sortPart_of_partLoopN before start stop n arr' (index + 1) (offset + 1) r (by omega) h
        · simp only [hb, Bool.false_eq_true, if_false] at h ⊢
          exact sortPart_of_partLoopN before start stop n arr index (offset + 1) r (by omega) h

theorem sortSeg_of_checked (before : α → α → Bool) :
    ∀ (fuel : Nat) (arr : Array α) (start stop : Nat) (r : Array α),
    Sort.sortSeg before fuel arr start stop = some r → sortSeg before fuel arr start stop = r
  | 0, arr, start, stop, r, h => by
    simp only [Sort.sortSeg] at h
    split at h
    · simp only [sortSeg]; exact Option.some.inj h
    · cases h
  | fuel + 1, arr, start, stop, r, h => by
    simp only [Sort.sortSeg] at h
    simp only [sortSeg]
    by_cases hse : start = stop
    · simp only [hse, if_true] at h
      simp only [hse, ne_eq, not_true_eq_false, if_false]
      exact Option.some.inj h
    · simp only [hse, if_false] at h
      simp only [hse, ne_eq, not_false_eq_true, if_true]
      cases hpl : Sort.partLoop before arr start start (start + 1) stop with
      | none => rw [hpl] at h; simp at h
      | some pr =>
        obtain ⟨arr1, index⟩ := pr
        rw [hpl] at h
        simp only at h
        have hpart := sortPart_of_partLoopN before start stop (stop - (start + 1)) arr start (start + 1)
          (arr1, index) rfl hpl
        rw [hpart]
        simp only
        cases hsw : (if index ≠ start then Sort.swap? arr1 index start else some arr1) with
        | none => rw [hsw] at h; simp at h
        | some arr2 =>
          rw [hsw] at h
          simp only at h
          have harr2 : (if index ≠ start then arr1.swapIfInBounds index start else arr1) = arr2 := by
            by_cases hi : index = start
            · simp only [hi, ne_eq, not_true_eq_false, if_false] at hsw ⊢
              exact Option.some.inj hsw
            · simp only [hi, ne_eq, not_false_eq_true, if_true] at hsw ⊢
              exact swapIfInBounds_of_swap? hsw
          rw [harr2]
          cases h3 : Sort.sortSeg before fuel arr2 start index with
          | none => rw [h3] at h; simp at h
          | some arr3 =>
            rw [h3] at h
            simp only at h
            rw [sortSeg_of_checked before fuel arr2 start index arr3 h3]
            exact sortSeg_of_checked before fuel arr3 (index + 1) stop r h

theorem sortSeg_sorted (before : α → α → Bool) (P : α → Prop) (hord : Sort.StrictOn P before)
    (arr : Array α) (hP : ∀ x, x ∈ arr → P x) :
    (sortSeg before (arr.size + 1) arr 0 arr.size).toList.Pairwise (fun x y => before y x = false) := by
  obtain ⟨arr', h1, h2, h3⟩ := Sort.sortSeg_spec before P hord (arr.size + 1) arr 0 arr.size (Nat.zero_le _)
    (Nat.le_refl _) (by omega) (Sort.OnSeg.of_mem hP)
  rw [sortSeg_of_checked before _ arr 0 arr.size arr' h1]
  exact Sort.SortedSeg.pairwise (h2.size_eq ▸ h3)

theorem isLess_map (ord : Nat → Nat) : ∀ (a b : List Nat) (e : Bool),
    Hash.isLess ord a b e = Order.isLess (a.map ord) (b.map ord) e
  | [], b, e => by cases b <;> cases e <;> simp [Hash.isLess, Order.isLess]
  | a :: l, [], e => by simp [Hash.isLess, Order.isLess]
  | a :: l, b :: r, e => by
    simp only [Hash.isLess, Order.isLess, List.map_cons]
    rw [isLess_map ord l r e]

theorem slotCmp_strict {V : Type} (ord : Nat → Nat) :
    Sort.StrictOn (fun _ : Option (List Nat × V) => True) (Spec.slotCmp ord true) := by
  have hbase : Sort.StrictOn (fun _ : List Nat => True) (fun a b => Order.isLess a b false) :=
    Sort.StrictOn.of_irrefl_trans (fun x _ => Order.Str.lt_irrefl x) (fun x y z _ _ _ => Order.Str.lt_trans x y z)
  have := hbase.comap (fun o : Option (List Nat × V) => (Spec.slotKey o).map ord)
  refine ⟨?_, ?_⟩
  · intro x y hx hy h
    simp only [Spec.slotCmp, if_true, isLess_map] at h ⊢
    exact this.asymm x y trivial trivial h
  · intro x y z hx hy hz h1 h2
    simp only [Spec.slotCmp, if_true, isLess_map] at h1 h2 ⊢
    exact this.trans x y z trivial trivial trivial h1 h2

end Qentem.HashTable
