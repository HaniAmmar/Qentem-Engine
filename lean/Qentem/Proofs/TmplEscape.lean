import Qentem.Proofs.TmplRenderSafe
/-!
# C03 link — what the render model appends for `{var:}`, `{raw:}` and `{svar:}`

* `var_emits_escaped`: a Variable tag appends (after the literal text before it) either
  `escapeCfg auto x` with `x` the resolved string, the loop key or the tag's own source slice, or the
  text of a number / keyword (`numeral_safe`: no `& < > " '` in those, for integers and keywords; a
  real goes through the parameter `fmtReal`).
* `raw_emits_verbatim`: a Raw tag appends the resolved string / number text / its own source verbatim.
* `svar_emits`: a super variable appends a sequence of parts, each `escapeCfg auto` of a piece of the
  phrase or what one of its `{var:}` / `{raw:}` / `{math:}` sub tags appends.
-/
namespace Qentem.Tmpl
open Qentem.Expr (Fault VarRef RealLike Item)
open Qentem.Generated.Tmpl

/-- the five HTML specials -/
def isSpecial (c : Nat) : Bool := c == 38 || c == 60 || c == 62 || c == 34 || c == 39

theorem decimalF_digits : ∀ (f n : Nat) (acc : List Nat), (∀ c ∈ acc, 48 ≤ c ∧ c ≤ 57) →
    ∀ c ∈ decimalF f n acc, 48 ≤ c ∧ c ≤ 57 := by
  intro f
  induction f with
  | zero => intro n acc h; simpa [decimalF] using h
  | succ f ih =>
    intro n acc h
    simp only [decimalF]
    split
    · intro c hc
      simp only [List.mem_cons] at hc
      rcases hc with rfl | hc
      · omega
      · exact h c hc
    · apply ih
      intro c hc
      simp only [List.mem_cons] at hc
      rcases hc with rfl | hc
      · omega
      · exact h c hc

theorem decimal_digits (n : Nat) : ∀ c ∈ decimal n, 48 ≤ c ∧ c ≤ 57 :=
  decimalF_digits _ _ [] (by intro c hc; cases hc)

theorem decimal_safe (n : Nat) : ∀ c ∈ decimal n, isSpecial c = false := by
  intro c hc
  have := decimal_digits n c hc
  simp [isSpecial]; omega

theorem signedDecimal_safe (b : Nat) : ∀ c ∈ signedDecimal b, isSpecial c = false := by
  intro c hc
  unfold signedDecimal at hc
  split at hc
  · exact decimal_safe _ c hc
  · simp only [List.mem_cons] at hc
    rcases hc with rfl | hc
    · rfl
    · exact decimal_safe _ c hc

variable {R : Type}

/-- a value that prints as a number or a keyword (not a string, not a container) -/
def Doc.isNumeral : Doc → Bool
  | .nat _ | .int _ | .tru | .fals | .null => true
  | _ => false

theorem numeral_safe (cx : RCtx R) (esc : Bool) (d : Doc) (txt : List Nat) (hd : d.isNumeral = true)
    (h : copyValue cx esc d = some txt) : ∀ c ∈ txt, isSpecial c = false := by
  cases d <;> simp [Doc.isNumeral] at hd <;> simp only [copyValue, Option.some.injEq] at h <;> subst h
  · intro c hc; revert c; decide
  · intro c hc; revert c; decide
  · intro c hc; revert c; decide
  · exact decimal_safe _
  · exact signedDecimal_safe _

/-- where the text a Variable tag escapes comes from -/
inductive VarSource (cx : RCtx R) (st : RState) (v : VarRef) : List Nat → Prop
  | resolved (s : List Nat) : getValue cx st v = .ok (some (.str s)) → VarSource cx st v s
  | loopKey (it : LoopItem) : itemAt st v.level = .ok it → v.idLen ≠ 0 → VarSource cx st v it.key
  | source (src : List Nat) :
      slice cx.content (v.off - W1.variablePrefixLength)
        (v.off - W1.variablePrefixLength + (v.len + W1.variableFullLength)) = .ok src →
      VarSource cx st v src

/-- what a Variable tag appends after the literal text before it -/
inductive VarText (cx : RCtx R) (st : RState) (v : VarRef) : List Nat → Prop
  | escaped (x : List Nat) : VarSource cx st v x →
      VarText cx st v (Qentem.Escape.escapeCfg cx.autoEscape x)
  | numeral (d : Doc) (txt : List Nat) : getValue cx st v = .ok (some d) →
      (d.isNumeral = true ∨ ∃ b, d = .real b) → copyValue cx true d = some txt → VarText cx st v txt

theorem emit_out (st : RState) (s : List Nat) : (emit st s).out = st.out ++ s := rfl

theorem getValue_emit (cx : RCtx R) (st : RState) (s : List Nat) (v : VarRef) :
    getValue cx (emit st s) v = getValue cx st v := rfl

theorem itemAt_emit (st : RState) (s : List Nat) (l : Nat) : itemAt (emit st s) l = itemAt st l := rfl

theorem subChk_ok {a b o : Nat} (h : subChk a b = .ok o) : o = a - b := by
  unfold subChk at h
  by_cases hb : b ≤ a
  · rw [if_pos hb] at h; exact (Except.ok.inj h).symm
  · rw [if_neg hb] at h; cases h

theorem var_emits_escaped (cx : RCtx R) (st st' : RState) (v : VarRef) (offset off' : Nat)
    (h : renderVariable cx st v offset = .ok (st', off')) :
    ∃ pre txt, slice cx.content offset (v.off - W1.variablePrefixLength) = .ok pre ∧
      st'.out = st.out ++ pre ++ txt ∧ st'.items = st.items ∧ VarText cx st v txt := by
  unfold renderVariable at h
  cases h1 : subChk v.off W1.variablePrefixLength with
  | error e => simp [h1, bind, Except.bind] at h
  | ok tOff =>
    have htOff : tOff = v.off - W1.variablePrefixLength := subChk_ok h1
    subst htOff
    simp only [h1, bind, Except.bind] at h
    cases h2 : slice cx.content offset (v.off - W1.variablePrefixLength) with
    | error e => simp [h2] at h
    | ok pre =>
      simp only [h2] at h
      refine ⟨pre, ?_⟩
      cases h3 : getValue cx (emit st pre) v with
      | error e => simp [h3] at h
      | ok value =>
        simp only [h3] at h
        rw [getValue_emit] at h3
        cases h4 : value.bind (copyValue cx true) with
        | some txt =>
          simp only [h4, Except.ok.injEq, Prod.mk.injEq] at h
          obtain ⟨hs, _⟩ := h
          subst hs
          refine ⟨txt, rfl, by simp [emit_out, List.append_assoc], rfl, ?_⟩
          cases value with
          | none => simp at h4
          | some d =>
            simp only [Option.bind] at h4
            cases d with
            | str s =>
              simp only [copyValue, Option.some.injEq, if_true] at h4
              subst h4
              exact .escaped s (.resolved s h3)
            | nat n => exact .numeral _ _ h3 (Or.inl rfl) h4
            | int b => exact .numeral _ _ h3 (Or.inl rfl) h4
            | real b => exact .numeral _ _ h3 (Or.inr ⟨b, rfl⟩) h4
            | tru => exact .numeral _ _ h3 (Or.inl rfl) h4
            | fals => exact .numeral _ _ h3 (Or.inl rfl) h4
            | null => exact .numeral _ _ h3 (Or.inl rfl) h4
            | undefined => simp [copyValue] at h4
            | arr xs => simp [copyValue] at h4
            | obj ms => simp [copyValue] at h4
        | none =>
          simp only [h4] at h
          unfold loopKeyText at h
          by_cases hid : v.idLen = 0
          · simp only [hid, if_true] at h
            cases h6 : slice cx.content (v.off - W1.variablePrefixLength)
                (v.off - W1.variablePrefixLength + (v.len + W1.variableFullLength)) with
            | error e => simp [h6] at h
            | ok src =>
              simp only [h6, Except.ok.injEq, Prod.mk.injEq] at h
              obtain ⟨hs, _⟩ := h
              subst hs
              exact ⟨_, rfl, by simp [emit_out, List.append_assoc], rfl, .escaped _ (.source src h6)⟩
          · simp only [hid, if_false, itemAt_emit] at h
            cases h5 : itemAt st v.level with
            | error e => simp [h5] at h
            | ok it =>
              simp only [h5] at h
              by_cases hk : it.key.length = 0
              · simp only [hk, if_true] at h
                cases h6 : slice cx.content (v.off - W1.variablePrefixLength)
                    (v.off - W1.variablePrefixLength + (v.len + W1.variableFullLength)) with
                | error e => simp [h6] at h
                | ok src =>
                  simp only [h6, Except.ok.injEq, Prod.mk.injEq] at h
                  obtain ⟨hs, _⟩ := h
                  subst hs
                  exact ⟨_, rfl, by simp [emit_out, List.append_assoc], rfl, .escaped _ (.source src h6)⟩
              · simp only [hk, if_false, Except.ok.injEq, Prod.mk.injEq] at h
                obtain ⟨hs, _⟩ := h
                subst hs
                exact ⟨_, rfl, by simp [emit_out, List.append_assoc], rfl, .escaped _ (.loopKey it h5 hid)⟩

/-- what a Raw tag appends: nothing is escaped -/
inductive RawText (cx : RCtx R) (st : RState) (v : VarRef) : List Nat → Prop
  | resolved (d : Doc) (txt : List Nat) : getValue cx st v = .ok (some d) →
      copyValue cx false d = some txt → RawText cx st v txt
  | source (src : List Nat) :
      slice cx.content (v.off - W1.rawVariablePrefixLength)
        (v.off - W1.rawVariablePrefixLength + (v.len + W1.rawVariableFullLength)) = .ok src →
      RawText cx st v src

theorem copyValue_raw_string (cx : RCtx R) (s : List Nat) : copyValue cx false (.str s) = some s := by
  simp [copyValue]

theorem raw_emits_verbatim (cx : RCtx R) (st st' : RState) (v : VarRef) (offset off' : Nat)
    (h : renderRawVariable cx st v offset = .ok (st', off')) :
    ∃ pre txt, slice cx.content offset (v.off - W1.rawVariablePrefixLength) = .ok pre ∧
      st'.out = st.out ++ pre ++ txt ∧ st'.items = st.items ∧ RawText cx st v txt := by
  unfold renderRawVariable at h
  cases h1 : subChk v.off W1.rawVariablePrefixLength with
  | error e => simp [h1, bind, Except.bind] at h
  | ok tOff =>
    have htOff : tOff = v.off - W1.rawVariablePrefixLength := subChk_ok h1
    subst htOff
    simp only [h1, bind, Except.bind] at h
    cases h2 : slice cx.content offset (v.off - W1.rawVariablePrefixLength) with
    | error e => simp [h2] at h
    | ok pre =>
      simp only [h2] at h
      refine ⟨pre, ?_⟩
      cases h3 : getValue cx (emit st pre) v with
      | error e => simp [h3] at h
      | ok value =>
        simp only [h3] at h
        rw [getValue_emit] at h3
        cases h4 : value.bind (copyValue cx false) with
        | some txt =>
          simp only [h4, Except.ok.injEq, Prod.mk.injEq] at h
          obtain ⟨hs, _⟩ := h
          subst hs
          cases value with
          | none => simp at h4
          | some d =>
            simp only [Option.bind] at h4
            exact ⟨txt, rfl, by simp [emit_out, List.append_assoc], rfl, .resolved d txt h3 h4⟩
        | none =>
          simp only [h4] at h
          cases h6 : slice cx.content (v.off - W1.rawVariablePrefixLength)
              (v.off - W1.rawVariablePrefixLength + (v.len + W1.rawVariableFullLength)) with
          | error e => simp [h6] at h
          | ok src =>
            simp only [h6, Except.ok.injEq, Prod.mk.injEq] at h
            obtain ⟨hs, _⟩ := h
            subst hs
            exact ⟨_, rfl, by simp [emit_out, List.append_assoc], rfl, .source src h6⟩

theorem slice_self (c : List Nat) (a : Nat) (pre : List Nat) (h : slice c a a = .ok pre) : pre = [] := by
  unfold slice at h
  split at h
  · simp at h; exact h
  · simp at h

section
variable [RealLike R]

theorem renderMath_appends (cx : RCtx R) (st st' : RState) (ex : List (Item R)) (off endOff offset o : Nat)
    (h : renderMath cx st ex off endOff offset = .ok (st', o)) :
    ∃ pre txt, slice cx.content offset off = .ok pre ∧ st'.out = st.out ++ pre ++ txt ∧ st'.items = st.items := by
  unfold renderMath at h
  cases h2 : slice cx.content offset off with
  | error e => simp [h2, bind, Except.bind] at h
  | ok pre =>
    simp only [h2, bind, Except.bind] at h
    refine ⟨pre, ?_⟩
    cases h3 : evalExprs cx (emit st pre) ex with
    | error e => simp [h3] at h
    | ok r =>
      simp only [h3] at h
      split at h
      · simp only [Except.ok.injEq, Prod.mk.injEq] at h; obtain ⟨hs, _⟩ := h; subst hs
        exact ⟨_, rfl, by rw [emit_out, emit_out], rfl⟩
      · simp only [Except.ok.injEq, Prod.mk.injEq] at h; obtain ⟨hs, _⟩ := h; subst hs
        exact ⟨_, rfl, by rw [emit_out, emit_out], rfl⟩
      · simp only [Except.ok.injEq, Prod.mk.injEq] at h; obtain ⟨hs, _⟩ := h; subst hs
        exact ⟨_, rfl, by rw [emit_out, emit_out], rfl⟩
      · simp only [Except.ok.injEq, Prod.mk.injEq] at h; obtain ⟨hs, _⟩ := h; subst hs
        exact ⟨[], rfl, by rw [emit_out, List.append_nil], rfl⟩
      · cases h6 : slice cx.content off endOff with
        | error e => simp [h6] at h
        | ok src =>
          simp only [h6, Except.ok.injEq, Prod.mk.injEq] at h; obtain ⟨hs, _⟩ := h; subst hs
          exact ⟨_, rfl, by rw [emit_out, emit_out], rfl⟩

/-- the pieces a super variable appends: escaped pieces of the phrase, and what its
`{var:}` / `{raw:}` / `{math:}` sub tags append -/
inductive SvarParts (cx : RCtx R) (items : List LoopItem) (sub : List (Tag R)) : List Nat → Prop
  | nil : SvarParts cx items sub []
  | chunk (x rest : List Nat) : SvarParts cx items sub rest →
      SvarParts cx items sub (Qentem.Escape.escapeCfg cx.autoEscape x ++ rest)
  | var (v : VarRef) (st1 : RState) (txt rest : List Nat) : Tag.var v ∈ sub → st1.items = items →
      VarText cx st1 v txt → SvarParts cx items sub rest → SvarParts cx items sub (txt ++ rest)
  | raw (v : VarRef) (st1 : RState) (txt rest : List Nat) : Tag.raw v ∈ sub → st1.items = items →
      RawText cx st1 v txt → SvarParts cx items sub rest → SvarParts cx items sub (txt ++ rest)
  | math (ex : List (Item R)) (off endOff o : Nat) (st1 st2 : RState) (txt rest : List Nat) :
      Tag.math ex off endOff ∈ sub → st1.items = items →
      renderMath cx st1 ex off endOff off = .ok (st2, o) → st2.out = st1.out ++ txt →
      SvarParts cx items sub rest → SvarParts cx items sub (txt ++ rest)

theorem renderArg_emits (cx : RCtx R) (sub : List (Tag R)) (id : Nat) (st st2 : RState)
    (h : renderArg cx sub[id]? st = .ok st2) :
    ∃ t, st2.out = st.out ++ t ∧ st2.items = st.items ∧
      ∀ rest, SvarParts cx st.items sub rest → SvarParts cx st.items sub (t ++ rest) := by
  have hnone : st = st2 → ∃ t, st2.out = st.out ++ t ∧ st2.items = st.items ∧
      ∀ rest, SvarParts cx st.items sub rest → SvarParts cx st.items sub (t ++ rest) := by
    rintro rfl; exact ⟨[], (List.append_nil _).symm, rfl, fun rest hr => hr⟩
  cases hs : sub[id]? with
  | none => rw [hs] at h; exact hnone (Except.ok.inj h)
  | some tg =>
    rw [hs] at h
    cases tg with
    | var v =>
      simp only [renderArg] at h
      cases h1 : subChk v.off W1.variablePrefixLength with
      | error e => simp [h1, bind, Except.bind] at h
      | ok o =>
        simp only [h1, bind, Except.bind] at h
        cases h2 : renderVariable cx st v o with
        | error e => simp [h2] at h
        | ok r =>
          simp only [h2, pure, Except.pure, Except.ok.injEq] at h
          subst h
          rw [subChk_ok h1] at h2
          obtain ⟨pre, t, hp, hout, hit, hvt⟩ := var_emits_escaped cx _ r.1 v _ r.2 h2
          rw [slice_self _ _ _ hp, List.append_nil] at hout
          exact ⟨t, hout, hit, fun rest hr => .var v st t rest (List.mem_of_getElem? hs) rfl hvt hr⟩
    | raw v =>
      simp only [renderArg] at h
      cases h1 : subChk v.off W1.rawVariablePrefixLength with
      | error e => simp [h1, bind, Except.bind] at h
      | ok o =>
        simp only [h1, bind, Except.bind] at h
        cases h2 : renderRawVariable cx st v o with
        | error e => simp [h2] at h
        | ok r =>
          simp only [h2, pure, Except.pure, Except.ok.injEq] at h
          subst h
          rw [subChk_ok h1] at h2
          obtain ⟨pre, t, hp, hout, hit, hvt⟩ := raw_emits_verbatim cx _ r.1 v _ r.2 h2
          rw [slice_self _ _ _ hp, List.append_nil] at hout
          exact ⟨t, hout, hit, fun rest hr => .raw v st t rest (List.mem_of_getElem? hs) rfl hvt hr⟩
    | math ex off endOff =>
      simp only [renderArg] at h
      cases h2 : renderMath cx st ex off endOff off with
      | error e => simp [h2, bind, Except.bind] at h
      | ok r =>
        obtain ⟨st3, o2⟩ := r
        simp only [h2, bind, Except.bind, pure, Except.pure, Except.ok.injEq] at h
        subst h
        obtain ⟨pre, t, hp, hout, hit⟩ := renderMath_appends cx _ st3 ex off endOff off o2 h2
        rw [slice_self _ _ _ hp, List.append_nil] at hout
        exact ⟨t, hout, hit, fun rest hr => .math ex off endOff o2 st st3 t rest (List.mem_of_getElem? hs) rfl h2 hout hr⟩
    | svar _ _ _ _ => exact hnone (Except.ok.inj h)
    | iif _ _ _ => exact hnone (Except.ok.inj h)
    | loop _ _ => exact hnone (Except.ok.inj h)
    | ifT _ _ _ => exact hnone (Except.ok.inj h)

theorem svar_emits (cx : RCtx R) (sub : List (Tag R)) (txt : List Nat) :
    ∀ (fuel index lastIdx : Nat) (st st' : RState),
      svarLoop cx fuel sub txt index lastIdx st = .ok st' →
      ∃ app, st'.out = st.out ++ app ∧ st'.items = st.items ∧ SvarParts cx st.items sub app := by
  intro fuel
  induction fuel with
  | zero => intro index lastIdx st st' h; simp [svarLoop] at h
  | succ fuel ih =>
    intro index lastIdx st st' h
    by_cases h0 : index < txt.length
    · by_cases h1 : txt[index]? = some 123
      · by_cases hh : index + 2 < txt.length ∧ txt[index + 2]? = some 125 ∧ idOf (txt.getD (index + 1) 0) < sub.length
        · -- `{N}` with a sub tag number `N`: the chunk before it, what the sub tag appends, the rest
          rw [svarLoop_hit cx fuel sub txt index lastIdx st h0 h1 hh.1 hh.2.1 hh.2.2] at h
          cases h2 : renderArg cx sub[idOf (txt.getD (index + 1) 0)]?
              (emit st (Qentem.Escape.escapeCfg cx.autoEscape ((txt.drop lastIdx).take (index - lastIdx)))) with
          | error e => rw [h2] at h; cases h
          | ok st2 =>
            rw [h2] at h
            obtain ⟨t, o1, o2, o3⟩ := renderArg_emits cx sub _ _ st2 h2
            obtain ⟨app, a1, a2, a3⟩ := ih _ _ st2 st' h
            exact ⟨Qentem.Escape.escapeCfg cx.autoEscape ((txt.drop lastIdx).take (index - lastIdx)) ++ (t ++ app),
              by rw [a1, o1, emit_out, List.append_assoc, List.append_assoc], by rw [a2, o2]; rfl,
              .chunk _ _ (o3 app (by rw [o2] at a3; exact a3))⟩
        · rw [svarLoop_rej cx fuel sub txt index lastIdx st h0 h1 hh] at h
          obtain ⟨app, a1, a2, a3⟩ := ih _ _ _ st' h
          exact ⟨Qentem.Escape.escapeCfg cx.autoEscape ((txt.drop lastIdx).take (index - lastIdx)) ++ app,
            by rw [a1, emit_out, List.append_assoc], a2, .chunk _ app a3⟩
      · rw [svarLoop_other cx fuel sub txt index lastIdx st h0 h1] at h
        exact ih _ _ st st' h
    · rw [svarLoop_end cx fuel sub txt index lastIdx st h0, Except.ok.injEq] at h
      subst h
      exact ⟨_, rfl, rfl, by simpa using SvarParts.chunk (cx := cx) (items := st.items) (sub := sub) ((txt.drop lastIdx).take (index - lastIdx)) [] .nil⟩

end

end Qentem.Tmpl
