import Qentem.Proofs.BigIntBasic
/-! `Add(number, index)` and `Subtract(number, index)`: one word with carry or borrow, the carry and borrow loops, `Add`
under the weak and the full invariant, `Subtract` under the full one. -/
namespace Qentem.BigInt

theorem maxIndex_lt {ws : List Nat} (h : 0 < ws.length) (i : Nat) : i ≤ maxIndex ws ↔ i < ws.length := by
  unfold maxIndex; omega

/-- adding a non-zero word to a word: the result is above the word exactly when there is no carry -/
theorem add_word {B w n : Nat} (hw : w < B) (hn0 : 0 < n) (hn : n < B) :
    ((w + n) % B > w ∧ (w + n) % B = w + n) ∨ (¬ (w + n) % B > w ∧ (w + n) % B + B = w + n) := by
  by_cases h : w + n < B
  · rw [Nat.mod_eq_of_lt h]; exact Or.inl ⟨by omega, rfl⟩
  · rw [show w + n = w + n - B + B by omega, Nat.add_mod_right, Nat.mod_eq_of_lt (by omega)]
    exact Or.inr ⟨by omega, by omega⟩

/-- subtracting a non-zero word from a word: the result is below the word exactly when there is no borrow -/
theorem sub_word {B w n : Nat} (hw : w < B) (hn0 : 0 < n) (hn : n < B) :
    ((w + B - n) % B < w ∧ (w + B - n) % B + n = w) ∨ (¬ (w + B - n) % B < w ∧ (w + B - n) % B + n = w + B) := by
  by_cases h : n ≤ w
  · rw [show w + B - n = w - n + B by omega, Nat.add_mod_right, Nat.mod_eq_of_lt (by omega)]
    exact Or.inl ⟨by omega, by omega⟩
  · rw [Nat.mod_eq_of_lt (by omega)]; exact Or.inr ⟨by omega, by omega⟩

/-- The carry loop stops at a word `j` inside the storage, or runs off the end (`j = n`: the sum does not fit). -/
theorem addLoop_spec {W : Nat} : ∀ (fuel : Nat) (ws : List Nat) (number index : Nat),
    Bounded W ws → 0 < number → number < 2 ^ W → index ≤ ws.length → 0 < ws.length →
    ws.length - index < fuel →
    ∃ ws' j, addLoop W fuel ws number index = .ok (ws', j) ∧ ws'.length = ws.length ∧ Bounded W ws' ∧
      index ≤ j ∧ (∀ i, j < i → ws'.getD i 0 = ws.getD i 0) ∧ (∀ i, i < index → ws'.getD i 0 = ws.getD i 0) ∧
      ((j < ws.length ∧ valW W ws' = valW W ws + number * 2 ^ (W * index) ∧ ws'.getD j 0 ≠ 0) ∨
       (j = ws.length ∧ valW W ws' + 2 ^ (W * ws.length) ≤ valW W ws + number * 2 ^ (W * index)))
  | 0, _, _, _, _, _, _, _, _, hf => by omega
  | fuel + 1, ws, number, index, hb, hn0, hn, hi, hlen, hf => by
    unfold addLoop
    by_cases hlt : index < ws.length
    · simp only [if_pos ((maxIndex_lt hlen index).2 hlt), rd_ok hlt, wr_ok _ hlt, bind, Except.bind]
      have hnw : (ws[index] + number) % 2 ^ W < 2 ^ W := Nat.mod_lt _ (Nat.pow_pos (by decide))
      have hset := valW_set W ws index ((ws[index] + number) % 2 ^ W) hlt
      have hword := add_word (hb.getElem hlt) hn0 hn
      generalize (ws[index] + number) % 2 ^ W = nw at *
      rcases hword with ⟨hgt, he⟩ | ⟨hgt, he⟩
      · rw [if_pos hgt]
        refine ⟨_, _, rfl, List.length_set, hb.set _ hnw, Nat.le_refl _, fun i hi' => getD_set_ne (by omega),
          fun i hi' => getD_set_ne (by omega), Or.inl ⟨hlt, ?_, by rw [getD_set_eq hlt]; omega⟩⟩
        have e := congrArg (· * 2 ^ (W * index)) he
        simp only [Nat.add_mul] at e
        omega
      · rw [if_neg hgt]
        obtain ⟨ws', j, hrun, hl', hb', hij, hfr, hfr2, hcase⟩ :=
          addLoop_spec fuel (ws.set index nw) 1 (index + 1) (hb.set _ hnw) Nat.one_pos (Nat.lt_of_le_of_lt hn0 hn)
            (by rw [List.length_set]; omega) (by rw [List.length_set]; exact hlen) (by rw [List.length_set]; omega)
        rw [List.length_set] at hl' hcase
        have key : valW W (ws.set index nw) + 1 * 2 ^ (W * (index + 1)) = valW W ws + number * 2 ^ (W * index) := by
          have e := congrArg (· * 2 ^ (W * index)) he
          simp only [Nat.add_mul] at e
          rw [pow_mul_succ]
          omega
        refine ⟨ws', j, hrun, hl', hb', by omega, fun i hi' => by rw [hfr i hi']; exact getD_set_ne (by omega),
          fun i hi' => by rw [hfr2 i (by omega)]; exact getD_set_ne (by omega), ?_⟩
        rcases hcase with ⟨h1, h2, h3⟩ | ⟨h1, h2⟩
        · exact Or.inl ⟨h1, by omega, h3⟩
        · exact Or.inr ⟨h1, by omega⟩
    · have he : index = ws.length := by omega
      rw [if_neg (by rw [maxIndex_lt hlen]; exact hlt)]
      refine ⟨ws, index, rfl, rfl, hb, Nat.le_refl _, fun _ _ => rfl, fun _ _ => rfl, Or.inr ⟨he, ?_⟩⟩
      subst he
      have : 1 * 2 ^ (W * ws.length) ≤ number * 2 ^ (W * ws.length) := Nat.mul_le_mul_right _ hn0
      omega

theorem add_spec {W : Nat} (s : Big) (number index : Nat) (h : WInv W s) (hn : number < 2 ^ W)
    (hi : index ≤ s.words.length)
    (hfit : s.val W + number * 2 ^ (W * index) < 2 ^ (W * s.words.length)) :
    ∃ s', add W s number index = .ok s' ∧ WInv W s' ∧ s'.words.length = s.words.length ∧
      s'.val W = s.val W + number * 2 ^ (W * index) ∧ s.idx ≤ s'.idx ∧
      (∀ i, i < index → s'.words.getD i 0 = s.words.getD i 0) ∧
      ((s.idx ≠ 0 → s.words.getD s.idx 0 ≠ 0) → (s'.idx ≠ 0 → s'.words.getD s'.idx 0 ≠ 0)) := by
  unfold add
  by_cases h0 : number = 0
  · subst h0
    exact ⟨s, rfl, h, rfl, by simp, Nat.le_refl _, fun _ _ => rfl, id⟩
  · have hlen : 0 < s.words.length := h.length_pos
    obtain ⟨ws', j, hrun, hl', hb', hij, hfr, hfr2, hcase⟩ :=
      addLoop_spec (W := W) (s.words.length + 1) s.words number index h.bound (by omega) hn hi hlen (by omega)
    have hne : (number != 0) = true := by simp [h0]
    rw [if_pos hne, hrun]
    simp only [bind, Except.bind]
    rcases hcase with ⟨h1, h2, h3⟩ | ⟨h1, h2⟩
    · have hnot : ¬ j > maxIndex ws' := by
        unfold maxIndex
        omega
      rw [if_neg hnot]
      by_cases hj : j > s.idx
      · rw [if_pos hj]
        refine ⟨_, rfl, ⟨h.wpos, hb', by simpa [hl'] using h1, ?_⟩, hl', h2, Nat.le_of_lt hj, hfr2, fun _ _ => h3⟩
        intro i hi'
        have hi2 : j + 1 ≤ i := hi'
        rw [hfr i hi2]; exact h.above i (by omega)
      · rw [if_neg hj]
        refine ⟨_, rfl, ⟨h.wpos, hb', by simpa [hl'] using h.idx_lt, ?_⟩, hl', h2, Nat.le_refl _, hfr2, ?_⟩
        · intro i hi'
          have hi2 : s.idx + 1 ≤ i := hi'
          rw [hfr i (by omega)]; exact h.above i hi2
        · intro ht hne0
          simp only at hne0 ⊢
          by_cases hje : j = s.idx
          · rw [← hje]; exact h3
          · rw [hfr s.idx (by omega)]; exact ht hne0
    · exfalso
      unfold Big.val at hfit
      omega

theorem subLoop_spec {W : Nat} : ∀ (fuel : Nat) (ws : List Nat) (number index : Nat),
    Bounded W ws → 0 < number → number < 2 ^ W → index ≤ ws.length → 0 < ws.length →
    ws.length - index < fuel →
    ∃ ws' j, subLoop W fuel ws number index = .ok (ws', j) ∧ ws'.length = ws.length ∧ Bounded W ws' ∧
      index ≤ j ∧ (∀ i, j < i → ws'.getD i 0 = ws.getD i 0) ∧
      ((j < ws.length ∧ valW W ws' + number * 2 ^ (W * index) = valW W ws) ∨
       (j = ws.length ∧ valW W ws + 2 ^ (W * ws.length) ≤ valW W ws' + number * 2 ^ (W * index)))
  | 0, _, _, _, _, _, _, _, _, hf => by omega
  | fuel + 1, ws, number, index, hb, hn0, hn, hi, hlen, hf => by
    unfold subLoop
    by_cases hlt : index < ws.length
    · simp only [if_pos ((maxIndex_lt hlen index).2 hlt), rd_ok hlt, wr_ok _ hlt, bind, Except.bind]
      have hnw : (ws[index] + 2 ^ W - number) % 2 ^ W < 2 ^ W := Nat.mod_lt _ (Nat.pow_pos (by decide))
      have hset := valW_set W ws index ((ws[index] + 2 ^ W - number) % 2 ^ W) hlt
      have hword := sub_word (hb.getElem hlt) hn0 hn
      generalize (ws[index] + 2 ^ W - number) % 2 ^ W = nw at *
      rcases hword with ⟨hlt2, he⟩ | ⟨hlt2, he⟩
      · rw [if_pos hlt2]
        refine ⟨_, _, rfl, List.length_set, hb.set _ hnw, Nat.le_refl _, fun i hi' => getD_set_ne (by omega),
          Or.inl ⟨hlt, ?_⟩⟩
        have e := congrArg (· * 2 ^ (W * index)) he
        simp only [Nat.add_mul] at e
        omega
      · rw [if_neg hlt2]
        obtain ⟨ws', j, hrun, hl', hb', hij, hfr, hcase⟩ :=
          subLoop_spec fuel (ws.set index nw) 1 (index + 1) (hb.set _ hnw) Nat.one_pos (Nat.lt_of_le_of_lt hn0 hn)
            (by rw [List.length_set]; omega) (by rw [List.length_set]; exact hlen) (by rw [List.length_set]; omega)
        rw [List.length_set] at hl' hcase
        have key : valW W (ws.set index nw) + number * 2 ^ (W * index) = valW W ws + 1 * 2 ^ (W * (index + 1)) := by
          have e := congrArg (· * 2 ^ (W * index)) he
          simp only [Nat.add_mul] at e
          rw [pow_mul_succ]
          omega
        refine ⟨ws', j, hrun, hl', hb', by omega, fun i hi' => by rw [hfr i hi']; exact getD_set_ne (by omega), ?_⟩
        rcases hcase with ⟨h1, h2⟩ | ⟨h1, h2⟩
        · exact Or.inl ⟨h1, by omega⟩
        · exact Or.inr ⟨h1, by omega⟩
    · have he : index = ws.length := by omega
      rw [if_neg (by rw [maxIndex_lt hlen]; exact hlt)]
      refine ⟨ws, index, rfl, rfl, hb, Nat.le_refl _, fun _ _ => rfl, Or.inr ⟨he, ?_⟩⟩
      subst he
      have : 1 * 2 ^ (W * ws.length) ≤ number * 2 ^ (W * ws.length) := Nat.mul_le_mul_right _ hn0
      omega

theorem sub_spec {W : Nat} (s : Big) (number index : Nat) (h : Inv W s) (hn : number < 2 ^ W)
    (hi : index ≤ s.words.length) (hfit : number * 2 ^ (W * index) ≤ s.val W) :
    ∃ s', sub W s number index = .ok s' ∧ Inv W s' ∧ s'.words.length = s.words.length ∧
      s'.val W + number * 2 ^ (W * index) = s.val W := by
  unfold sub
  by_cases h0 : number = 0
  · subst h0
    exact ⟨s, rfl, h, rfl, by simp⟩
  · have hlen : 0 < s.words.length := h.length_pos
    obtain ⟨ws', j, hrun, hl', hb', hij, hfr, hcase⟩ :=
      subLoop_spec (W := W) (s.words.length + 1) s.words number index h.bound (by omega) hn hi hlen (by omega)
    have hne : (number != 0) = true := by simp [h0]
    rw [if_pos hne, hrun]
    simp only [bind, Except.bind]
    unfold Big.val at hfit
    rcases hcase with ⟨h1, h2⟩ | ⟨h1, h2⟩
    · have hnot : ¬ j > maxIndex ws' := by unfold maxIndex; omega
      rw [if_neg hnot]
      have hvlt : valW W ws' < 2 ^ (W * (s.idx + 1)) := by
        have := h.toWInv.val_lt; unfold Big.val at this; omega
      have hw : WInv W ⟨ws', s.idx⟩ :=
        ⟨h.wpos, hb', by simpa [hl'] using h.idx_lt, zeroFrom_of_val_lt _ hvlt⟩
      by_cases hj : j ≥ s.idx
      · rw [if_pos hj]
        obtain ⟨t, htrim, hinv⟩ := trim_inv _ hw
        simp only at htrim
        rw [htrim]
        exact ⟨_, rfl, hinv, hl', h2⟩
      · rw [if_neg hj]
        refine ⟨_, rfl, ⟨hw, ?_⟩, hl', h2⟩
        intro hne0
        simp only at hne0 ⊢
        rw [hfr s.idx (by omega)]; exact h.top hne0
    · exfalso
      have := valW_lt hb'
      rw [hl'] at this
      omega

theorem index_lt_of_pow_mul_lt {W index number n : Nat} (h0 : number ≠ 0)
    (h : 2 ^ (W * index) * number < 2 ^ (W * n)) : index < n := by
  have h1 : 2 ^ (W * index) * 1 ≤ 2 ^ (W * index) * number := Nat.mul_le_mul_left _ (by omega)
  exact lt_of_pow_le_of_lt (by omega) h

theorem addAt_spec {W : Nat} (s : Big) (x i : Nat) (h : Inv W s) (hx : x < 2 ^ W)
    (hfit : s.val W + x * 2 ^ (W * i) < 2 ^ (W * s.words.length)) :
    ∃ s', add W s x i = .ok s' ∧ Inv W s' ∧ s'.words.length = s.words.length ∧ s'.val W = s.val W + x * 2 ^ (W * i) := by
  by_cases h0 : x = 0
  · subst h0
    exact ⟨s, by simp [add]; rfl, h, rfl, by simp⟩
  · have hi : i < s.words.length := by
      apply index_lt_of_pow_mul_lt (W := W) h0
      rw [Nat.mul_comm]; omega
    obtain ⟨s', hrun, hw, hl, hv, _, _, htop⟩ := add_spec s x i h.toWInv hx (Nat.le_of_lt hi) hfit
    exact ⟨s', hrun, ⟨hw, htop h.top⟩, hl, hv⟩

theorem subAt_spec {W : Nat} (s : Big) (x i : Nat) (h : Inv W s) (hx : x < 2 ^ W)
    (hfit : x * 2 ^ (W * i) ≤ s.val W) :
    ∃ s', sub W s x i = .ok s' ∧ Inv W s' ∧ s'.words.length = s.words.length ∧ s'.val W = s.val W - x * 2 ^ (W * i) := by
  by_cases h0 : x = 0
  · subst h0
    exact ⟨s, by simp [sub]; rfl, h, rfl, by simp⟩
  · have hi : i < s.words.length := by
      apply index_lt_of_pow_mul_lt (W := W) h0
      rw [Nat.mul_comm]
      exact Nat.lt_of_le_of_lt hfit h.toWInv.val_lt_total
    obtain ⟨s', hrun, hinv, hl, hv⟩ := sub_spec s x i h hx (Nat.le_of_lt hi) hfit
    exact ⟨s', hrun, hinv, hl, by omega⟩

end Qentem.BigInt
