import Qentem.Proofs.JsonGrammar
import Qentem.Proofs.JsonDeps
import Qentem.Proofs.JsonStringify
import Qentem.Proofs.StrToNumReloc
/-! Token contracts of C06 discharged for the concrete sub-routine models:
decimal integers (C09 theorems), every RFC 8259 numeral with the result of the scanner's run on the numeral alone
(`numSpec_of_standalone`, by relocation), string bodies produced by `JSONUtils::Escape` (the inverse theorem of
`Proofs/JsonStringify.lean`) and string bodies made of any tokens the un-escaper accepts (`strSpec_tokens`). -/
namespace Qentem.Json
open Qentem.StrToNum Qentem.Props.C09

theorem _root_.Qentem.StrToNum.rd_list (l : List Nat) (p : Nat) (hp : p < l.length) : Qentem.StrToNum.rd l l.length p = some l[p] := by
  unfold Qentem.StrToNum.rd; rw [if_pos hp]; exact List.getElem?_eq_getElem hp

theorem _root_.Qentem.StrToNum.rd_of_lt (c : Array Nat) (p : Nat) (h : p < c.size) : Qentem.StrToNum.rd c.toList c.size p = some c[p] :=
  rd_list c.toList p h

theorem unitsAt_of_At (c : Array Nat) : ∀ (l : List Nat) (o : Nat), At c o l → unitsAt c.toList c.size o l
  | [], _, _ => trivial
  | x :: l, o, h => by
    obtain ⟨hlt, hc, h'⟩ := At.cons h
    exact ⟨hc ▸ rd_of_lt c o hlt, unitsAt_of_At c l (o + 1) h'⟩

theorem endsAt_of_follow (c : Array Nat) (p : Nat) (cont : Nat → Bool)
    (hcont : ∀ x, isDelim x = true → cont x = false) (h : FollowOK c p) : endsAt c.toList c.size p cont := by
  rcases h with h | ⟨hlt, hd⟩
  · exact Or.inl h
  · exact Or.inr ⟨c[p], rd_of_lt c p hlt, hcont _ hd⟩

theorem delim_cases (x : Nat) (h : isDelim x = true) :
    x = 32 ∨ x = 10 ∨ x = 9 ∨ x = 13 ∨ x = 44 ∨ x = 93 ∨ x = 125 := by
  simp only [isDelim, isWs, Bool.or_eq_true, beq_iff_eq] at h
  rcases h with (((((h | h) | h) | h) | h) | h) | h
  exacts [.inl h, .inr (.inl h), .inr (.inr (.inl h)), .inr (.inr (.inr (.inl h))), .inr (.inr (.inr (.inr (.inl h)))),
    .inr (.inr (.inr (.inr (.inr (.inl h))))), .inr (.inr (.inr (.inr (.inr (.inr h)))))]

theorem delim_not_contInt (x : Nat) (h : isDelim x = true) : contInt x = false := by
  rcases delim_cases x h with rfl | rfl | rfl | rfl | rfl | rfl | rfl <;> decide

theorem delim_not_contZero (x : Nat) (h : isDelim x = true) : contZero x = false := by
  rcases delim_cases x h with rfl | rfl | rfl | rfl | rfl | rfl | rfl <;> decide

theorem digit_head_ok (x : Nat) (h : isDigit x = true) :
    x ≠ 123 ∧ x ≠ 91 ∧ x ≠ 34 ∧ x ≠ 116 ∧ x ≠ 102 ∧ x ≠ 110 ∧ isDelim x = false := by
  simp only [isDigit, Bool.and_eq_true, decide_eq_true_eq] at h
  refine ⟨by omega, by omega, by omega, by omega, by omega, by omega, ?_⟩
  simp [isDelim, isWs]; omega

theorem numSpec_natural (w d1 : Nat) (xs : List Nat) (h1 : isNonZeroDigit d1 = true) (hxs : AllDigits xs)
    (hv : decVal (d1 :: xs) < 2 ^ 64) : NumSpec (jsonDeps w) (d1 :: xs) .natural (decVal (d1 :: xs)) := by
  refine ⟨by simp, ⟨d1, xs, rfl, digit_head_ok d1 (isNonZeroDigit_isDigit h1)⟩, ?_⟩
  intro c o hsz hat hf
  have hu := unitsAt_of_At c _ o hat
  have hend := endsAt_of_follow c (o + (d1 :: xs).length) contInt delim_not_contInt hf
  have e1 : o + (d1 :: xs).length = o + b2n false + 1 + xs.length := by simp [b2n]; omega
  rw [e1] at hend
  have := int_exact_natural c.toList o c.size false d1 xs hsz h1 hxs (by simpa using hu) hend hv
  rw [strToNumDep_of_run w this, e1]
  rfl

theorem numSpec_negative (w d1 : Nat) (xs : List Nat) (h1 : isNonZeroDigit d1 = true) (hxs : AllDigits xs)
    (hv : decVal (d1 :: xs) ≤ 2 ^ 63) : NumSpec (jsonDeps w) (45 :: d1 :: xs) .integer (2 ^ 64 - decVal (d1 :: xs)) := by
  refine ⟨by simp, ⟨45, d1 :: xs, rfl, by decide, by decide, by decide, by decide, by decide, by decide, by decide⟩, ?_⟩
  intro c o hsz hat hf
  have hu := unitsAt_of_At c _ o hat
  have hend := endsAt_of_follow c (o + (45 :: d1 :: xs).length) contInt delim_not_contInt hf
  have e1 : o + (45 :: d1 :: xs).length = o + 2 + xs.length := by simp; omega
  rw [e1] at hend
  have := int_exact_negative c.toList o c.size d1 xs hsz h1 hxs hu hend hv
  rw [strToNumDep_of_run w this, e1]
  rfl

theorem numSpec_zero (w : Nat) : NumSpec (jsonDeps w) [48] .natural 0 := by
  refine ⟨by simp, ⟨48, [], rfl, by decide, by decide, by decide, by decide, by decide, by decide, by decide⟩, ?_⟩
  intro c o hsz hat hf
  obtain ⟨hlt, hc, _⟩ := At.cons hat
  have hend := endsAt_of_follow c (o + [48].length) contZero delim_not_contZero hf
  have := (int_exact_zero c.toList o c.size hsz).1 (by rw [rd_of_lt c o hlt, hc]) (by simpa using hend)
  rw [strToNumDep_of_run w this]
  rfl

open Qentem.Unicode in
/-- From the un-escaper on a list to the contract on a buffer: a body that decodes to `text` whatever follows its
closing quote meets `StrSpec`. -/
theorem strSpec_of_unEscapeB (w : Nat) (body text : List Nat) (h : ∀ t, Decodes w body t text) :
    StrSpec (jsonDeps w) body text := by
  intro c o hat
  obtain ⟨t, ht⟩ := hat
  have htake : c.toList.drop o = body ++ 34 :: t := by rw [← ht]; simp
  obtain ⟨h1, h2⟩ := h t
  show ∃ stream, unEscapeDep w c o (c.size - o) = _ ∧ _
  rw [unEscapeDep_rest, htake]
  refine ⟨(unEscapeB w (body ++ 34 :: t) [] [] 0).1, by rw [← h1], ?_⟩
  have hslice : (c.extract o (o + (body.length + 1 - 1))).toList = body := by
    have : (c.extract o (o + (body.length + 1 - 1))).toList = (c.toList.drop o).take body.length := by
      simp [Array.toList_extract, List.take_drop]
    rw [this, ← ht]; simp
  rw [stringOf, hslice, ← h2]
  cases (unEscapeB w (body ++ 34 :: t) [] [] 0).1.isEmpty <;> rfl

theorem strSpec_escaped (w : Nat) (s : List Nat) : StrSpec (jsonDeps w) (escapeJson s) s :=
  strSpec_of_unEscapeB w _ s (unescape_escape w s)

open Qentem.Unicode

theorem strSpec_tokens (w : Nat) (ts : List Tok) (hok : ∀ t ∈ ts, t.ok = true) :
    StrSpec (jsonDeps w) (ts.flatMap Tok.src) (ts.flatMap (Tok.out w)) :=
  strSpec_of_unEscapeB w _ _ (unEscapeB_tokens w ts hok)

end Qentem.Json

namespace Qentem.Json
open Qentem.StrToNum

/-! ## The number token of RFC 8259: what the scanner returns on the numeral alone is what it returns inside a document -/

theorem delim_stopChar {x : Nat} (h : isDelim x = true) : stopChar x = true := by
  rcases delim_cases x h with rfl | rfl | rfl | rfl | rfl | rfl | rfl <;> decide

theorem emb_of_at (c : Array Nat) (o : Nat) (tok : List Nat) (hsz : c.size < 2 ^ 32) (hat : At c o tok)
    (hf : FollowOK c (o + tok.length)) (hne : tok ≠ []) : Emb c.toList c.size tok tok.length o := by
  have hlen := At.len hat hne
  obtain ⟨t, ht⟩ := hat
  refine ⟨?_, hlen, ?_, hsz⟩
  · intro p hp
    refine ⟨tok[p], rd_list tok p hp, ?_⟩
    unfold Qentem.StrToNum.rd
    rw [if_pos (by omega)]
    have h1 : c.toList[o + p]? = (c.toList.drop o)[p]? := by rw [List.getElem?_drop]
    rw [h1, ← ht, List.getElem?_append_left hp]
    exact List.getElem?_eq_getElem hp
  · rcases hf with hf | ⟨hlt, hd⟩
    · exact Or.inl hf
    · exact Or.inr ⟨c[o + tok.length], rd_of_lt c _ hlt, delim_stopChar hd⟩

/-- RFC 8259 §6: `[-] (0 | [1-9][0-9]*) [. [0-9]+] [(e|E) [+|-] [0-9]+]` -/
def RfcNumeral (tok : List Nat) : Prop :=
  ∃ sign ip fp ex : List Nat, tok = sign ++ ip ++ fp ++ ex ∧ (sign = [] ∨ sign = [45]) ∧
    (ip = [48] ∨ ∃ d ds, ip = d :: ds ∧ isNonZeroDigit d = true ∧ AllDigits ds) ∧
    (fp = [] ∨ ∃ ds, fp = 46 :: ds ∧ ds ≠ [] ∧ AllDigits ds) ∧
    (ex = [] ∨ ∃ m sg ds, ex = m :: sg ++ ds ∧ (m = 101 ∨ m = 69) ∧ (sg = [] ∨ sg = [43] ∨ sg = [45]) ∧
      ds ≠ [] ∧ AllDigits ds)

/-- units an RFC numeral can contain -/
def numUnit (u : Nat) : Prop := isDigit u = true ∨ u = 45 ∨ u = 43 ∨ u = 46 ∨ u = 101 ∨ u = 69

theorem rfc_facts {tok : List Nat} (h : RfcNumeral tok) :
    (∀ u ∈ tok, numUnit u) ∧ (∃ pre l, tok = pre ++ [l] ∧ isDigit l = true) ∧
    (∃ x xs, tok = x :: xs ∧ (x = 45 ∨ isDigit x = true)) := by
  obtain ⟨sign, ip, fp, ex, rfl, hs, hip, hfp, hex⟩ := h
  have hdig : ∀ ds : List Nat, AllDigits ds → ∀ u ∈ ds, numUnit u := fun ds hd u hu => Or.inl (hd u hu)
  have hlastd : ∀ ds : List Nat, ds ≠ [] → AllDigits ds → ∃ pre l, ds = pre ++ [l] ∧ isDigit l = true := by
    intro ds hne hd
    refine ⟨ds.dropLast, ds.getLast hne, (List.dropLast_append_getLast hne).symm, hd _ (List.getLast_mem hne)⟩
  have hipLast : ∃ pre l, ip = pre ++ [l] ∧ isDigit l = true := by
    rcases hip with rfl | ⟨d, ds, rfl, hd, hds⟩
    · exact ⟨[], 48, rfl, by decide⟩
    · exact hlastd (d :: ds) (by simp) (fun u hu => by
        rcases List.mem_cons.1 hu with hu | hu
        · subst hu; exact isNonZeroDigit_isDigit hd
        · exact hds u hu)
  refine ⟨?_, ?_, ?_⟩
  · simp only [List.forall_mem_append]
    refine ⟨⟨⟨?_, ?_⟩, ?_⟩, ?_⟩
    · rcases hs with rfl | rfl
      · exact fun _ h => nomatch h
      · exact List.forall_mem_cons.2 ⟨.inr (.inl rfl), fun _ h => nomatch h⟩
    · rcases hip with rfl | ⟨d, ds, rfl, hd, hds⟩
      · exact List.forall_mem_cons.2 ⟨.inl (by decide), fun _ h => nomatch h⟩
      · exact List.forall_mem_cons.2 ⟨.inl (isNonZeroDigit_isDigit hd), hdig ds hds⟩
    · rcases hfp with rfl | ⟨ds, rfl, _, hds⟩
      · exact fun _ h => nomatch h
      · exact List.forall_mem_cons.2 ⟨.inr (.inr (.inr (.inl rfl))), hdig ds hds⟩
    · rcases hex with rfl | ⟨m, sg, ds, rfl, hm, hsg, _, hds⟩
      · exact fun _ h => nomatch h
      · refine List.forall_mem_cons.2 ⟨.inr (.inr (.inr (.inr hm))), List.forall_mem_append.2 ⟨?_, hdig ds hds⟩⟩
        rcases hsg with rfl | rfl | rfl
        · exact fun _ h => nomatch h
        · exact List.forall_mem_cons.2 ⟨.inr (.inr (.inl rfl)), fun _ h => nomatch h⟩
        · exact List.forall_mem_cons.2 ⟨.inr (.inl rfl), fun _ h => nomatch h⟩
  · rcases hex with rfl | ⟨m, sg, ds, rfl, hm, hsg, hne, hds⟩
    · rcases hfp with rfl | ⟨ds, rfl, hne, hds⟩
      · obtain ⟨pre, l, hp, hl⟩ := hipLast
        exact ⟨sign ++ pre, l, by rw [hp]; simp, hl⟩
      · obtain ⟨pre, l, hp, hl⟩ := hlastd ds hne hds
        exact ⟨sign ++ ip ++ 46 :: pre, l, by rw [hp]; simp, hl⟩
    · obtain ⟨pre, l, hp, hl⟩ := hlastd ds hne hds
      exact ⟨sign ++ ip ++ fp ++ m :: sg ++ pre, l, by rw [hp]; simp, hl⟩
  · obtain ⟨pre, l, hp, hl⟩ := hipLast
    rcases hs with rfl | rfl
    · rcases hip with rfl | ⟨d, ds, rfl, hd, hds⟩
      · exact ⟨48, fp ++ ex, by simp, Or.inr (by decide)⟩
      · exact ⟨d, ds ++ fp ++ ex, by simp, Or.inr (isNonZeroDigit_isDigit hd)⟩
    · exact ⟨45, ip ++ fp ++ ex, by simp, Or.inl rfl⟩

theorem numSpec_of_standalone (w : Nat) (tok : List Nat) (k : Qentem.StrToNum.Kind) (bits : Nat) (hrfc : RfcNumeral tok)
    (hrun : Qentem.StrToNum.strToNum tok 0 tok.length = some ⟨k, bits, tok.length⟩) (hk : k ≠ .notANumber) :
    NumSpec (jsonDeps w) tok (kindOf k) bits := by
  obtain ⟨hunits, ⟨pre, l, hlast, hld⟩, ⟨x, xs, hx, hx1⟩⟩ := rfc_facts hrfc
  have hne : tok ≠ [] := by rw [hx]; simp
  refine ⟨by cases k <;> simp [kindOf] at hk ⊢, ⟨x, xs, hx, ?_⟩, ?_⟩
  · rcases hx1 with rfl | hx1
    · decide
    · exact digit_head_ok x hx1
  · intro c o hsz hat hf
    have hemb := emb_of_at c o tok hsz hat hf hne
    have hnox : ∀ p y, Qentem.StrToNum.rd tok tok.length p = some y → y ≠ 120 ∧ y ≠ 88 := by
      intro p y hy
      have hp := rd_lt hy
      rw [rd_list tok p hp] at hy
      injection hy with hy
      have hu := hunits y (by rw [← hy]; exact List.getElem_mem hp)
      rcases hu with hu | hu | hu | hu | hu | hu
      · simp [isDigit] at hu; omega
      all_goals omega
    have hdot : ∀ p, Qentem.StrToNum.rd tok tok.length p = some 46 → p + 1 < tok.length := by
      intro p hp
      have hlt := rd_lt hp
      rw [rd_list tok p hlt] at hp
      injection hp with hp
      by_cases hpl : p + 1 < tok.length
      · exact hpl
      · exfalso
        have hlen : tok.length = pre.length + 1 := by rw [hlast]; simp
        have hpe : p = pre.length := by omega
        have : tok[p] = l := by
          subst hpe
          simp [hlast]
        rw [this] at hp; subst hp; simp [isDigit] at hld
    have hsim := strToNum_sim hemb (List.length_pos_iff.mpr hne) hnox hdot
    rw [hrun] at hsim
    cases hA : Qentem.StrToNum.strToNum c.toList o c.size with
    | none => rw [hA] at hsim; exact hsim.elim
    | some a =>
      rw [hA] at hsim
      obtain ⟨h1, h2, h3⟩ := hsim
      rw [strToNumDep_of_run w hA, h1, h2, h3]

end Qentem.Json
