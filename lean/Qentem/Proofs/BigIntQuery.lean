import Qentem.Proofs.BigIntBasic
/-! The operations that only read the object: comparisons with a word, predicates, the narrowing conversions, `FindLastBit`
(`Nat.log2` of the value) and `FindFirstBit` (its 2-adic valuation). -/
namespace Qentem.BigInt

theorem Inv.val_of_idx_zero {W : Nat} {s : Big} (h : Inv W s) (h0 : s.idx = 0) :
    s.val W = s.words[0]'(Nat.lt_of_le_of_lt (Nat.zero_le _) h.idx_lt) := by
  have hlt := h.toWInv.val_lt
  rw [h0, Nat.zero_add, Nat.mul_one] at hlt
  rw [← getD_eq_getElem, h.getD_eq_digit, digit_zero, Nat.mod_eq_of_lt hlt]

theorem Inv.top_ne_zero {W : Nat} {s : Big} (h : Inv W s) (hv : s.val W ≠ 0) : s.words[s.idx]'h.idx_lt ≠ 0 := by
  by_cases hi : s.idx = 0
  · intro hz
    apply hv
    rw [h.val_of_idx_zero hi]
    have e : s.words[0]'h.length_pos = s.words[s.idx]'h.idx_lt := by congr 1; exact hi.symm
    rw [e]; exact hz
  · have := h.top hi
    rwa [getD_eq_getElem h.idx_lt] at this

theorem Inv.big_of_idx_ne_zero {W : Nat} {s : Big} (h : Inv W s) (h0 : s.idx ≠ 0) : 2 ^ W ≤ s.val W := by
  have := h.le_val h0
  have h2 : 2 ^ W ≤ 2 ^ (W * s.idx) := Nat.pow_le_pow_right (by decide) (Nat.le_mul_of_pos_right _ (by omega))
  omega

theorem cmpWord_spec {W : Nat} (s : Big) (r : Cmp) (x : Nat) (h : Inv W s) (hx : x < 2 ^ W) :
    cmpWord s r x = .ok (cmpSpec r (s.val W) x) := by
  have h0 : 0 < s.words.length := h.length_pos
  unfold cmpWord
  rw [rd_ok h0]
  simp only [bind, Except.bind, pure, Except.pure]
  congr 1
  by_cases hi : s.idx = 0
  · have hv := h.val_of_idx_zero hi
    cases r <;> simp [cmpSpec, hi, hv]
  · have hv := h.big_of_idx_ne_zero hi
    have hw : s.words[0] < 2 ^ W := h.bound.getElem h0
    have hb1 : (s.idx == 0) = false := by simp [hi]
    have hb2 : (s.idx != 0) = true := by simp [hi]
    cases r <;> simp [cmpSpec, hb1, hb2] <;> omega

theorem rcmpWord_spec {W : Nat} (s : Big) (r : Cmp) (x : Nat) (h : Inv W s) (hx : x < 2 ^ W) :
    rcmpWord s r x = .ok (cmpSpec r x (s.val W)) := by
  unfold rcmpWord
  rw [cmpWord_spec s r.mirror x h hx]
  congr 1
  cases r
  · rfl
  · rfl
  · rfl
  · rfl
  · show (s.val W == x) = (x == s.val W)
    exact BEq.comm
  · show (s.val W != x) = (x != s.val W)
    simp only [bne, BEq.comm (a := x)]

theorem isBig_spec {W : Nat} (s : Big) (h : Inv W s) : isBig s = decide (s.val W ≥ 2 ^ W) := by
  have h0 : 0 < s.words.length := h.length_pos
  unfold isBig
  by_cases hi : s.idx = 0
  · have hv := h.val_of_idx_zero hi
    have hw : s.words[0] < 2 ^ W := h.bound.getElem h0
    simp [hi]; omega
  · have hv := h.big_of_idx_ne_zero hi
    have hb2 : (s.idx != 0) = true := by simp [hi]
    simp [hb2]; omega

theorem number_spec {W : Nat} (s : Big) (h : Inv W s) : number s = .ok (s.val W % 2 ^ W) := by
  have h0 : 0 < s.words.length := h.length_pos
  unfold number
  rw [rd_ok h0, ← getD_eq_getElem h0, h.getD_eq_digit, digit_zero]

theorem narrow_small_spec {W K : Nat} (s : Big) (h : Inv W s) (hK : K ≤ W) :
    narrow W K s = .ok (s.val W % 2 ^ K) := by
  have h0 : 0 < s.words.length := h.length_pos
  unfold narrow
  rw [if_pos hK, rd_ok h0]
  simp only [bind, Except.bind, pure, Except.pure]
  rw [← getD_eq_getElem h0, h.getD_eq_digit, digit_zero, Nat.mod_mod_of_dvd _ (Nat.pow_dvd_pow 2 hK)]

/-- Horner loop of the narrowing conversion: `num = 2^W · (words i+1 … index)` -/
theorem narrowLoop_spec {W K : Nat} (ws : List Nat) (hb : Bounded W ws) (index : Nat) (hidx : index < ws.length)
    (hK : 2 ^ (W * (index + 1)) ≤ 2 ^ K) : ∀ (i : Nat) (num : Nat), i ≤ index →
    num = 2 ^ W * valW W ((ws.take (index + 1)).drop (i + 1)) →
    narrowLoop W K ws i num = .ok (2 ^ W * valW W ((ws.take (index + 1)).drop 1))
  | 0, num, _, hnum => by rw [hnum]; rfl
  | i + 1, num, hi, hnum => by
    unfold narrowLoop
    rw [rd_ok (by omega : i + 1 < ws.length)]
    simp only [bind, Except.bind]
    apply narrowLoop_spec ws hb index hidx hK i _ (by omega)
    have hB : 0 < 2 ^ W := Nat.pow_pos (by decide)
    have hw : ws[i + 1]'(by omega) < 2 ^ W := hb.getElem _
    have hTl : (ws.take (index + 1)).length = index + 1 := by rw [List.length_take]; omega
    have hcons := valW_drop_cons W (ws.take (index + 1)) (i + 1) (by omega)
    have hget : (ws.take (index + 1))[i + 1]'(by omega) = ws[i + 1]'(by omega) := by simp
    rw [hget] at hcons
    rw [hnum, Nat.mul_comm (2 ^ W), Nat.or_comm, lor_eq_add_of_lt hw, Nat.shiftLeft_eq]
    have e : (valW W (List.drop (i + 1 + 1) (List.take (index + 1) ws)) * 2 ^ W + ws[i + 1]) * 2 ^ W
        = 2 ^ W * valW W (List.drop (i + 1) (List.take (index + 1) ws)) := by rw [hcons]; ring
    rw [e]
    apply Nat.mod_eq_of_lt
    have hbT : Bounded W ((ws.take (index + 1)).drop (i + 1)) :=
      fun w hw' => hb w (List.mem_of_mem_take (List.mem_of_mem_drop hw'))
    have hlt := valW_lt hbT
    rw [List.length_drop, hTl] at hlt
    have e1 : 2 ^ W * valW W ((ws.take (index + 1)).drop (i + 1)) < 2 ^ W * 2 ^ (W * (index + 1 - (i + 1))) :=
      Nat.mul_lt_mul_of_pos_left hlt hB
    have e2 : 2 ^ W * 2 ^ (W * (index + 1 - (i + 1))) ≤ 2 ^ (W * (index + 1)) := by
      rw [← pow_mul_succ]
      exact Nat.pow_le_pow_right (by decide) (Nat.mul_le_mul_left _ (by omega))
    omega

theorem narrow_wide_spec {W K : Nat} (s : Big) (h : Inv W s) (hdvd : W ∣ K) (hm : K / W > 1) :
    narrow W K s = .ok (s.val W % 2 ^ K) := by
  have hW := h.wpos
  have hlt := h.idx_lt
  have h0 : 0 < s.words.length := by omega
  have hKe : K = W * (K / W) := (Nat.mul_div_cancel' hdvd).symm
  have hnle : ¬ K ≤ W := by
    intro hle
    have : K / W ≤ 1 := by
      rcases Nat.eq_or_lt_of_le hle with e | l
      · rw [e, Nat.div_self hW]
      · rw [Nat.div_eq_of_lt l]; omega
    omega
  unfold narrow
  rw [if_neg hnle]
  dsimp only
  generalize hidx : (if K / W - 1 ≤ s.idx then K / W - 1 else s.idx) = index
  have hile : index ≤ K / W - 1 := by rw [← hidx]; split <;> omega
  have hiidx : index ≤ s.idx := by rw [← hidx]; split <;> omega
  have hilt : index < s.words.length := by omega
  have hK : 2 ^ (W * (index + 1)) ≤ 2 ^ K := by
    apply Nat.pow_le_pow_right (by decide)
    conv_rhs => rw [hKe]
    exact Nat.mul_le_mul_left _ (by omega)
  have hrun := narrowLoop_spec (K := K) s.words h.bound index hilt hK index 0 (Nat.le_refl _) (by
    have : (s.words.take (index + 1)).drop (index + 1) = [] := by
      apply List.drop_eq_nil_of_le; rw [List.length_take]; omega
    rw [this]; simp [valW])
  rw [hrun, rd_ok h0]
  simp only [bind, Except.bind, pure, Except.pure]
  congr 1
  have hw0 : s.words[0] < 2 ^ W := h.bound.getElem h0
  rw [Nat.mul_comm, Nat.or_comm, lor_eq_add_of_lt hw0]
  have hTl : (s.words.take (index + 1)).length = index + 1 := by rw [List.length_take]; omega
  have hcons := valW_drop_cons W (s.words.take (index + 1)) 0 (by omega)
  have hget : (s.words.take (index + 1))[0]'(by omega) = s.words[0] := by simp
  rw [hget, List.drop_zero] at hcons
  rw [Nat.mul_comm, Nat.add_comm, ← hcons]
  -- the low index+1 words are the value modulo 2^K
  rw [valW_take_eq_mod h.bound (index + 1) hilt]
  show s.val W % 2 ^ (W * (index + 1)) = s.val W % 2 ^ K
  by_cases hcase : index = s.idx
  · have h1 := h.toWInv.val_lt
    rw [← hcase] at h1
    rw [Nat.mod_eq_of_lt h1, Nat.mod_eq_of_lt (Nat.lt_of_lt_of_le h1 hK)]
  · have hie : index = K / W - 1 := by
      by_cases hc : K / W - 1 ≤ s.idx
      · rw [if_pos hc] at hidx; exact hidx.symm
      · rw [if_neg hc] at hidx; exact absurd hidx.symm hcase
    have hKp : 2 ^ K = 2 ^ (W * (index + 1)) := by
      conv_lhs => rw [hKe]
      congr 2; omega
    rw [hKp]

theorem log2_add_mul_pow (t low k : Nat) (ht : t ≠ 0) (hlow : low < 2 ^ k) :
    (low + t * 2 ^ k).log2 = t.log2 + k := by
  have hpos : 0 < 2 ^ k := Nat.pow_pos (by decide)
  have hne : low + t * 2 ^ k ≠ 0 := by
    have : 1 * 2 ^ k ≤ t * 2 ^ k := Nat.mul_le_mul_right _ (by omega)
    omega
  rw [Nat.log2_eq_iff hne]
  have h1 := Nat.log2_self_le ht
  have h2 := @Nat.lt_log2_self t
  constructor
  · rw [Nat.pow_add]
    have : 2 ^ t.log2 * 2 ^ k ≤ t * 2 ^ k := Nat.mul_le_mul_right _ h1
    omega
  · have e : 2 ^ (t.log2 + k + 1) = 2 ^ (t.log2 + 1) * 2 ^ k := by rw [← Nat.pow_add]; congr 1; omega
    rw [e]
    have : (t + 1) * 2 ^ k ≤ 2 ^ (t.log2 + 1) * 2 ^ k := Nat.mul_le_mul_right _ h2
    rw [Nat.add_mul] at this
    omega

theorem findLastBit_spec {W : Nat} (s : Big) (h : Inv W s) (hv : s.val W ≠ 0) :
    findLastBit W s = .ok (s.val W).log2 := by
  have hlt := h.idx_lt
  have htop := h.top_ne_zero hv
  have hval := h.toWInv.val_eq_top
  have hlow : valW W (s.words.take s.idx) < 2 ^ (W * s.idx) := valW_take_lt h.bound s.idx (Nat.le_of_lt hlt)
  unfold findLastBit platFindLastBit
  rw [rd_ok hlt]
  simp only [bind, Except.bind, pure, Except.pure]
  have hne : (s.words[s.idx] == 0) = false := by simp [htop]
  simp only [hne, Bool.false_eq_true, if_false]
  congr 1
  rw [hval, log2_add_mul_pow _ _ _ htop hlow, Nat.mul_comm W]

/-! ### `FindFirstBit`: the 2-adic valuation of a non-zero value -/

theorem ctzAux_spec : ∀ (f v : Nat), v ≠ 0 → v < 2 ^ f →
    2 ^ ctzAux f v ∣ v ∧ ¬ 2 ^ (ctzAux f v + 1) ∣ v
  | 0, v, h0, hlt => by simp at hlt; omega
  | f + 1, v, h0, hlt => by
    unfold ctzAux
    by_cases hodd : v % 2 = 1
    · simp only [hodd, beq_self_eq_true, if_true]
      refine ⟨by simp, ?_⟩
      intro hd
      have : v % 2 = 0 := Nat.mod_eq_zero_of_dvd (by simpa using hd)
      omega
    · have hev : v % 2 = 0 := by omega
      have hne : (v % 2 == 1) = false := by simp [hev]
      simp only [hne, Bool.false_eq_true, if_false]
      obtain ⟨q, hq⟩ : ∃ q, v = 2 * q := ⟨v / 2, by omega⟩
      subst hq
      have hq2 : 2 * q / 2 = q := Nat.mul_div_cancel_left q (by decide)
      rw [hq2]
      obtain ⟨ih1, ih2⟩ := ctzAux_spec f q (by omega) (by rw [Nat.pow_succ] at hlt; omega)
      constructor
      · rw [Nat.add_comm, Nat.pow_succ, Nat.mul_comm]
        exact Nat.mul_dvd_mul_left 2 ih1
      · intro hd
        apply ih2
        have e : 2 ^ (1 + ctzAux f q + 1) = 2 * 2 ^ (ctzAux f q + 1) := by
          rw [Nat.add_comm 1, Nat.pow_succ, Nat.mul_comm]
        rw [e] at hd
        exact Nat.dvd_of_mul_dvd_mul_left (by decide : 0 < 2) hd

theorem val2_unique {n a b : Nat} (ha : 2 ^ a ∣ n) (ha' : ¬ 2 ^ (a + 1) ∣ n) (hb : 2 ^ b ∣ n)
    (hb' : ¬ 2 ^ (b + 1) ∣ n) : a = b := by
  rcases Nat.lt_trichotomy a b with h | h | h
  · exact absurd (Nat.dvd_trans (Nat.pow_dvd_pow 2 h) hb) ha'
  · exact h
  · exact absurd (Nat.dvd_trans (Nat.pow_dvd_pow 2 h) ha) hb'

theorem ctz_spec (w : Nat) (hw : w ≠ 0) : 2 ^ ctz w ∣ w ∧ ¬ 2 ^ (ctz w + 1) ∣ w :=
  ctzAux_spec _ w hw Nat.lt_log2_self

theorem val2_spec (a : Nat) (ha : a ≠ 0) : 2 ^ val2 a ∣ a ∧ ¬ 2 ^ (val2 a + 1) ∣ a :=
  ctzAux_spec _ a ha (Nat.lt_of_lt_of_le Nat.lt_two_pow_self (Nat.pow_le_pow_right (by decide) (Nat.le_succ _)))

theorem firstNonZero_spec (idx : Nat) (ws : List Nat) (hidx : idx < ws.length) :
    ∀ (fuel index : Nat), index ≤ idx → idx - index < fuel → (∀ k, k < index → ws.getD k 0 = 0) →
    ∃ j, firstNonZero idx fuel ws index = .ok j ∧ j ≤ idx ∧ (∀ k, k < j → ws.getD k 0 = 0) ∧
      (j < idx → ws.getD j 0 ≠ 0)
  | 0, _, _, hf, _ => by omega
  | fuel + 1, index, hle, hf, hz => by
    unfold firstNonZero
    by_cases hlt : index < idx
    · rw [if_pos hlt, rd_ok (by omega : index < ws.length)]
      simp only [bind, Except.bind]
      by_cases hw : ws[index]'(by omega) = 0
      · simp only [hw, beq_self_eq_true, if_true]
        apply firstNonZero_spec idx ws hidx fuel (index + 1) (by omega) (by omega)
        intro k hk
        by_cases hki : k = index
        · subst hki; rw [getD_eq_getElem (by omega)]; exact hw
        · exact hz k (by omega)
      · have hne : (ws[index]'(by omega) == 0) = false := beq_false_of_ne hw
        simp only [hne, Bool.false_eq_true, if_false]
        exact ⟨index, rfl, hle, hz, fun _ => by rw [getD_eq_getElem (by omega)]; exact hw⟩
    · rw [if_neg hlt]
      exact ⟨index, rfl, hle, hz, fun h => by omega⟩

theorem findFirstBit_spec {W : Nat} (s : Big) (h : Inv W s) (hv : s.val W ≠ 0) :
    findFirstBit W s = .ok (val2 (s.val W)) := by
  have hlt := h.idx_lt
  obtain ⟨j, hrun, hj, hz, hnz⟩ := firstNonZero_spec s.idx s.words hlt (s.idx + 1) 0 (Nat.zero_le _) (by omega)
    (fun k hk => by omega)
  have hjl : j < s.words.length := by omega
  have hw : s.words[j] ≠ 0 := by
    by_cases hji : j < s.idx
    · have := hnz hji; rwa [getD_eq_getElem hjl] at this
    · have e : s.words[s.idx] = s.words[j] := by congr 1; omega
      exact e ▸ h.top_ne_zero hv
  have hwB : s.words[j] < 2 ^ W := h.bound.getElem hjl
  -- value = 2^(W j) · (w + 2^W · rest)
  have hlow : valW W (s.words.take j) = 0 := by
    apply valW_eq_zero_of_zeroFrom0
    intro k _
    by_cases hk : k < j
    · have := hz k hk
      simpa [List.getD_eq_getElem?_getD, List.getElem?_take, hk] using this
    · simp [List.getD_eq_getElem?_getD, hk]
  have hval : s.val W = 2 ^ (W * j) * (s.words[j] + 2 ^ W * valW W (s.words.drop (j + 1))) := by
    unfold Big.val
    rw [valW_eq_at W s.words j hjl, hlow]; simp
  obtain ⟨c1, c2⟩ := ctz_spec _ hw
  obtain ⟨v1, v2⟩ := val2_spec _ hv
  have hcW : ctz s.words[j] < W := by
    by_contra hcon
    have h1 : 2 ^ W ∣ s.words[j] := Nat.dvd_trans (Nat.pow_dvd_pow 2 (by omega)) c1
    have := Nat.le_of_dvd (by omega) h1
    omega
  have hres : ctz s.words[j] + j * W = val2 (s.val W) := by
    apply val2_unique (n := s.val W) _ _ v1 v2
    · rw [hval, Nat.add_comm, Nat.mul_comm j W, Nat.pow_add]
      apply Nat.mul_dvd_mul_left
      exact (Nat.dvd_add_right c1).2 (Nat.dvd_trans (Nat.pow_dvd_pow 2 (Nat.le_of_lt hcW)) (Nat.dvd_mul_right _ _))
    · intro hd
      apply c2
      have e : 2 ^ (ctz s.words[j] + j * W + 1) = 2 ^ (W * j) * 2 ^ (ctz s.words[j] + 1) := by
        rw [← Nat.pow_add]; congr 1; rw [Nat.mul_comm j W]; omega
      rw [hval, e] at hd
      have hd' := Nat.dvd_of_mul_dvd_mul_left (Nat.pow_pos (by decide)) hd
      exact (Nat.dvd_add_left (Nat.dvd_trans (Nat.pow_dvd_pow 2 hcW) (Nat.dvd_mul_right _ _))).1 hd'
  unfold findFirstBit platFindFirstBit
  rw [hrun]
  simp only [bind, Except.bind]
  rw [rd_ok hjl]
  simp only []
  have hne : (s.words[j] == 0) = false := beq_false_of_ne hw
  simp only [hne, Bool.false_eq_true, if_false, pure, Except.pure]
  rw [hres]

end Qentem.BigInt
