import Qentem.Proofs.UnicodeEncode
/-!
Helper lemmas for C20 about `HexStringToNumber` and `UnEscape`:
hex digits, the suffix model `unEscapeB` on plain runs and on one `\u` escape, the link
between the cursor model `unEscapeLoop` (what the driver runs) and `unEscapeB`, and the token layer
(`unEscapeB_tok`, `unEscapeB_toks_end`, `unEscapeB_string`: what the routine does on any sequence of accepted tokens),
which is what the JSON files use.
-/
namespace Qentem.Unicode

theorem hexVal?_lt {d v : Nat} (h : hexVal? d = some v) : v < 16 := by
  unfold hexVal? at h
  split at h
  · injection h; omega
  split at h
  · injection h; omega
  split at h
  · injection h; omega
  · cases h

theorem hexVal?_hexChar : ∀ up d, d < 16 → hexVal? (hexChar up d) = some d := by decide

/-- One iteration of `number <<= 4; number |= digit` in a `k`-bit `Number_T`, without overflow. -/
theorem hexStepW (k num v : Nat) (hn : num * 16 < 2 ^ k) (hv : v < 16) :
    ((num <<< 4) % 2 ^ k) ||| v = num * 16 + v := by
  have h1 : num <<< 4 = 2 ^ 4 * num := by rw [Nat.shiftLeft_eq, Nat.mul_comm]
  rw [h1, Nat.mod_eq_of_lt (by omega), ← Nat.two_pow_add_eq_or_of_lt (by simpa using hv) num]
  omega

theorem hexStep (num v : Nat) (hn : num < 2 ^ 28) (hv : v < 16) :
    ((num <<< 4) % 4294967296) ||| v = num * 16 + v :=
  hexStepW 32 num v (by omega) hv

theorem hexFold_four (a b x d va vb vx vd : Nat) (ha : hexVal? a = some va) (hb : hexVal? b = some vb)
    (hx : hexVal? x = some vx) (hd : hexVal? d = some vd) :
    hexFold [a, b, x, d] 0 = va * 4096 + vb * 256 + vx * 16 + vd := by
  have la := hexVal?_lt ha; have lb := hexVal?_lt hb; have lx := hexVal?_lt hx; have ld := hexVal?_lt hd
  simp only [hexFold, ha, hb, hx, hd]
  rw [hexStep 0 va (by omega) la, hexStep _ vb (by omega) lb, hexStep _ vx (by omega) lx, hexStep _ vd (by omega) ld]
  omega

theorem base16_4 (u : Nat) : u / 4096 * 4096 + u / 256 % 16 * 256 + u / 16 % 16 * 16 + u % 16 = u := by
  have h3 : u / 256 * 256 + u / 16 % 16 * 16 + u % 16 = u :=
    digits_step 16 16 (Nat.div_div_eq_div_mul u 16 16 ▸ Nat.div_add_mod' (u / 16) 16) (Nat.div_add_mod' u 16)
  have h := digits_step (a := u / 4096) (b := u / 256 % 16) (c := u / 16 % 16 * 16 + u % 16) (q := u / 256) (u := u) 16 256
    (Nat.div_div_eq_div_mul u 256 16 ▸ Nat.div_add_mod' (u / 256) 16) (by rw [← Nat.add_assoc]; exact h3)
  rw [← Nat.add_assoc] at h; exact h

theorem hexFold_hex4 (up : Bool) (v : Nat) (h : v < 0x10000) : hexFold (hex4 up v) 0 = v := by
  unfold hex4
  rw [hexFold_four _ _ _ _ _ _ _ _ (hexVal?_hexChar up _ (Nat.mod_lt _ (by decide)))
    (hexVal?_hexChar up _ (Nat.mod_lt _ (by decide))) (hexVal?_hexChar up _ (Nat.mod_lt _ (by decide)))
    (hexVal?_hexChar up _ (Nat.mod_lt _ (by decide))),
    Nat.mod_eq_of_lt (Nat.div_lt_of_lt_mul h : v / 4096 < 16), base16_4]

theorem toUTF_ne_nil (w u : Nat) : toUTF w u ≠ [] := by
  simp only [toUTF, toUTF8, toUTF16, toUTF32, ne_eq, apply_ite (· = ([] : List Nat)), List.cons_ne_nil, ite_self,
    not_false_eq_true]

theorem isPlain_iff (c : Nat) : isPlain c = true ↔ (c ≠ 34 ∧ c ≠ 92 ∧ c ≠ 10 ∧ c ≠ 9 ∧ c ≠ 13) := by
  simp [isPlain, and_assoc]

theorem unEscapeB_plain_cons (w c : Nat) (s pend st : List Nat) (n : Nat) (hc : isPlain c = true) :
    unEscapeB w (c :: s) pend st n = unEscapeB w s (pend ++ [c]) st (n + 1) := by
  obtain ⟨h1, h2, h3, h4, h5⟩ := (isPlain_iff c).1 hc
  rw [unEscapeB.eq_def]; simp [h1, h2, h3, h4, h5]

theorem unEscapeB_plain (w : Nat) (p : List Nat) (hp : ∀ c ∈ p, isPlain c = true) :
    ∀ (s pend st : List Nat) (n : Nat),
      unEscapeB w (p ++ s) pend st n = unEscapeB w s (pend ++ p) st (n + p.length) := by
  induction p with
  | nil => intros; simp
  | cons c t ih =>
    intro s pend st n
    rw [List.cons_append, unEscapeB_plain_cons w c _ _ _ _ (hp c (by simp)),
      ih (fun x hx => hp x (by simp [hx]))]
    simp [Nat.add_assoc, Nat.add_comm 1]

theorem unEscapeB_nil (w : Nat) (pend st : List Nat) (n : Nat) : unEscapeB w [] pend st n = finishB pend st n := by
  rw [unEscapeB]

theorem unEscapeB_quote (w : Nat) (s pend st : List Nat) (n : Nat) :
    unEscapeB w (34 :: s) pend st n = finishB pend st (n + 1) := by
  rw [unEscapeB.eq_def]; simp

/-- The routine's chain of tests on the unit after a backslash is a case split on `simpleOut`. -/
theorem simpleOut_chain {α : Type} (e : Nat) (k : Nat → α) (r : α) :
    (if e = 34 ∨ e = 92 ∨ e = 47 then k e else if e = 98 then k 8 else if e = 116 then k 9
      else if e = 110 then k 10 else if e = 102 then k 12 else if e = 114 then k 13 else r) =
      (simpleOut e).elim r k := by
  simp only [simpleOut, apply_ite (fun o : Option Nat => o.elim r k), Option.elim_some, Option.elim_none]

theorem unEscapeB_simple (w e v : Nat) (s pend st : List Nat) (n : Nat) (h : simpleOut e = some v) :
    unEscapeB w (92 :: e :: s) pend st n = unEscapeB w s [] (st ++ pend ++ [v]) (n + 2) := by
  rw [unEscapeB.eq_def]
  simp only [show (92 : Nat) ≠ 34 by decide, if_false, if_true]
  rw [simpleOut_chain e (fun v => unEscapeB w s [] (st ++ pend ++ [v]) (n + 2)), h]; rfl

theorem unEscapeB_u (w e a b x d : Nat) (s pend st : List Nat) (n : Nat) (he : e = 85 ∨ e = 117)
    (hc : hexFold [a, b, x, d] 0 &&& 0xFC00 ≠ 0xD800) :
    unEscapeB w (92 :: e :: a :: b :: x :: d :: s) pend st n =
      unEscapeB w s [] (st ++ pend ++ toUTF w (hexFold [a, b, x, d] 0)) (n + 6) := by
  rw [unEscapeB.eq_def]
  rcases he with rfl | rfl <;> simp [hc]

/-- A high surrogate escape followed by six more units: two are skipped, four are read as hex. -/
theorem unEscapeB_pair (w e a b x d y z a2 b2 x2 d2 : Nat) (s pend st : List Nat) (n : Nat) (he : e = 85 ∨ e = 117)
    (hc : hexFold [a, b, x, d] 0 &&& 0xFC00 = 0xD800) :
    unEscapeB w (92 :: e :: a :: b :: x :: d :: y :: z :: a2 :: b2 :: x2 :: d2 :: s) pend st n =
      unEscapeB w s [] (st ++ pend ++ toUTF w
        ((((((hexFold [a, b, x, d] 0 ^^^ 0xD800) <<< 10) % 4294967296 + (hexFold [a2, b2, x2, d2] 0 &&& 0x3FF)) % 4294967296)
          + 0x10000) % 4294967296)) (n + 12) := by
  rw [unEscapeB.eq_def]
  rcases he with rfl | rfl <;> simp [hc]

theorem tl_length (c : List Nat) (len off : Nat) (hlen : len ≤ c.length) :
    ((c.take len).drop off).length = len - off := by
  simp [List.length_drop, List.length_take, Nat.min_eq_left hlen]

theorem tl_cons (c : List Nat) (len off : Nat) (hlen : len ≤ c.length) (h : off < len) :
    ∃ ch, c[off]? = some ch ∧ (c.take len).drop off = ch :: (c.take len).drop (off + 1) := by
  have hl : off < (c.take len).length := by simp [List.length_take, Nat.min_eq_left hlen, h]
  refine ⟨c[off]'(by omega), List.getElem?_eq_getElem (by omega), ?_⟩
  rw [List.drop_eq_getElem_cons hl, List.getElem_take]

theorem tl_nil (c : List Nat) (len off : Nat) (hlen : len ≤ c.length) (h : len ≤ off) :
    (c.take len).drop off = [] := by
  apply List.drop_eq_nil_of_le; simp [List.length_take, Nat.min_eq_left hlen, h]

theorem slice_eq (c : List Nat) (len off2 off : Nat) (hlen : len ≤ c.length) (h2 : off2 ≤ off) (h : off ≤ len) :
    slice c off2 off = some ((c.drop off2).take (off - off2)) := by
  unfold slice
  rw [if_neg (by omega)]
  split
  · subst_vars; simp
  · rw [if_pos (by omega)]

theorem getElem?_of_tl (c : List Nat) (len h : Nat) (l : List Nat)
    (e : (c.take len).drop h = l) (i : Nat) (hi : i < l.length) : c[h + i]? = l[i]? := by
  subst e
  rw [List.getElem?_drop, List.getElem?_take]
  simp [List.length_drop, List.length_take] at hi
  rw [if_pos (by omega)]

theorem hexLoop_fold (c : List Nat) : ∀ (ds : List Nat) (off num : Nat), (∀ i, i < ds.length → c[off + i]? = ds[i]?) →
    (hexLoop c ds.length off num).map (·.1) = some (hexFold ds num) := by
  intro ds
  induction ds with
  | nil => intro off num _; simp [hexLoop, hexFold]
  | cons d t ih =>
    intro off num h
    have h0 : c[off]? = some d := by simpa using h 0 (by simp)
    simp only [List.length_cons, hexLoop, h0, hexFold]
    cases hv : hexVal? d with
    | none => simp
    | some v =>
      simp only
      apply ih
      intro i hi
      have := h (i + 1) (by simp; omega)
      simpa [Nat.add_assoc, Nat.add_comm 1] using this

theorem hexToNumber_eq (c : List Nat) (len h a b x d : Nat) (r : List Nat)
    (e : (c.take len).drop h = a :: b :: x :: d :: r) : hexToNumber c h = some (hexFold [a, b, x, d] 0) := by
  unfold hexToNumber
  apply hexLoop_fold c [a, b, x, d] h 0
  intro i hi
  have := getElem?_of_tl c len h _ e i (by simp at hi ⊢; omega)
  rw [this]
  simp at hi
  rcases i with _ | _ | _ | _ | i <;> simp at hi ⊢
  omega

theorem finish_eq (c : List Nat) (len off2 off : Nat) (st : List Nat) (ret : Nat) (hlen : len ≤ c.length)
    (h2 : off2 ≤ off) (h : off ≤ len) :
    finish c off2 off st ret = some (finishB ((c.drop off2).take (off - off2)) st ret) := by
  unfold finish finishB; rw [slice_eq c len off2 off hlen h2 h]; split <;> rfl

theorem take_snoc_of_getElem? (c : List Nat) (off2 off ch : Nat) (h2 : off2 ≤ off) (hch : c[off]? = some ch) :
    (c.drop off2).take (off + 1 - off2) = (c.drop off2).take (off - off2) ++ [ch] := by
  have e : off + 1 - off2 = (off - off2) + 1 := by omega
  rw [e, List.take_add_one, List.getElem?_drop]
  have : off2 + (off - off2) = off := by omega
  rw [this, hch]; rfl

theorem drop_of_tl (c : List Nat) (len h k : Nat) (l r : List Nat) (e : (c.take len).drop h = l ++ r) (hk : l.length = k) :
    (c.take len).drop (h + k) = r := by
  have := congrArg (List.drop k) e
  rw [List.drop_drop] at this
  rw [this, ← hk]; simp

theorem unEscapeLoop_eq_B (w : Nat) (c : List Nat) (len : Nat) (hlen : len ≤ c.length) :
    ∀ (fuel off off2 : Nat) (st : List Nat), off2 ≤ off → off ≤ len → len - off < fuel →
      unEscapeLoop w c len fuel off off2 st =
        some (unEscapeB w ((c.take len).drop off) ((c.drop off2).take (off - off2)) st off) := by
  intro fuel
  induction fuel with
  | zero => intro off off2 st _ _ h; omega
  | succ fuel ih =>
    intro off off2 st h2 hl hf
    rw [unEscapeLoop]
    by_cases hlt : off < len
    · obtain ⟨ch, hch, hcons⟩ := tl_cons c len off hlen hlt
      rw [if_pos hlt, hch, hcons, unEscapeB.eq_def]
      dsimp only
      by_cases q : ch = 34
      · simp only [q, if_true]; exact finish_eq c len off2 off st _ hlen h2 hl
      · rw [if_neg q, if_neg q]
        by_cases bs : ch = 92
        · rw [if_pos bs, if_pos bs, slice_eq c len off2 off hlen h2 hl]
          dsimp only
          generalize (c.drop off2).take (off - off2) = pend
          by_cases ho : off + 1 ≥ len
          · rw [if_pos ho, tl_nil c len (off + 1) hlen ho]
          · obtain ⟨e, he, hcons1⟩ := tl_cons c len (off + 1) hlen (by omega)
            rw [if_neg ho, he, hcons1]
            dsimp only
            have simple : ∀ v : Nat, unEscapeLoop w c len fuel (off + 1 + 1) (off + 1 + 1) (st ++ pend ++ [v]) =
                some (unEscapeB w ((c.take len).drop (off + 1 + 1)) [] (st ++ pend ++ [v]) (off + 2)) := by
              intro v
              rw [ih (off + 1 + 1) (off + 1 + 1) _ (Nat.le_refl _) (by omega) (by omega)]; simp
            rw [simpleOut_chain e (fun v => unEscapeLoop w c len fuel (off + 1 + 1) (off + 1 + 1) (st ++ pend ++ [v])),
              simpleOut_chain e (fun v => unEscapeB w ((c.take len).drop (off + 1 + 1)) [] (st ++ pend ++ [v]) (off + 2))]
            cases simpleOut e with
            | some v => exact simple v
            | none =>
            simp only [Option.elim_none]
            by_cases hu : e = 85 ∨ e = 117
            · rw [if_pos hu, if_pos hu]
              generalize hr : (c.take len).drop (off + 1 + 1) = rest1
              have hlen1 := tl_length c len (off + 1 + 1) hlen
              rw [hr] at hlen1
              rcases rest1 with _ | ⟨a, _ | ⟨b, _ | ⟨x, _ | ⟨d, rest2⟩⟩⟩⟩ <;>
                simp only [List.length_cons, List.length_nil] at hlen1
              -- fewer than four units left: both sides reject
              iterate 4 rw [if_neg (by omega)]
              · rw [if_pos (by omega), hexToNumber_eq c len _ a b x d rest2 hr]
                dsimp only
                have hr2 : (c.take len).drop (off + 1 + 1 + 4) = rest2 :=
                  drop_of_tl c len (off + 1 + 1) 4 [a, b, x, d] rest2 hr rfl
                by_cases hs : hexFold [a, b, x, d] 0 &&& 0xFC00 ≠ 0xD800
                · rw [if_pos hs, if_pos hs, ih (off + 1 + 1 + 4) (off + 1 + 1 + 4) _ (Nat.le_refl _) (by omega) (by omega), hr2]
                  simp
                · rw [if_neg hs, if_neg hs]
                  have hlen2 := tl_length c len (off + 1 + 1 + 4) hlen
                  rw [hr2] at hlen2
                  rcases rest2 with _ | ⟨y, _ | ⟨z, _ | ⟨a2, _ | ⟨b2, _ | ⟨x2, _ | ⟨d2, rest3⟩⟩⟩⟩⟩⟩ <;>
                    simp only [List.length_cons, List.length_nil] at hlen2
                  iterate 6 rw [if_neg (by omega)]
                  · have hr3 : (c.take len).drop (off + 1 + 1 + 4 + 2) = a2 :: b2 :: x2 :: d2 :: rest3 :=
                      drop_of_tl c len (off + 1 + 1 + 4) 2 [y, z] _ hr2 rfl
                    have hr4 : (c.take len).drop (off + 1 + 1 + 4 + 6) = rest3 :=
                      drop_of_tl c len (off + 1 + 1 + 4) 6 [y, z, a2, b2, x2, d2] rest3 hr2 rfl
                    rw [if_pos (by omega), hexToNumber_eq c len _ a2 b2 x2 d2 rest3 hr3]
                    dsimp only
                    rw [ih (off + 1 + 1 + 4 + 6) (off + 1 + 1 + 4 + 6) _ (Nat.le_refl _) (by omega) (by omega), hr4]
                    simp
            · rw [if_neg hu, if_neg hu]
        · rw [if_neg bs, if_neg bs]
          by_cases ctl : ch = 10 ∨ ch = 9 ∨ ch = 13
          · rw [if_pos ctl, if_pos ctl]
          · rw [if_neg ctl, if_neg ctl, ih (off + 1) off2 st (by omega) (by omega) (by omega),
              take_snoc_of_getElem? c off2 off ch h2 hch]
    · rw [if_neg hlt, tl_nil c len off hlen (by omega), unEscapeB_nil]
      exact finish_eq c len off2 off st _ hlen h2 hl

/-- The routine on a buffer `c` with `len ≤ |c|`: no out-of-range read, fuel suffices, and the
result is the suffix model run on the first `len` units. -/
theorem unEscapeA_eq_B (w : Nat) (c : List Nat) (len : Nat) (st : List Nat) (hlen : len ≤ c.length) :
    unEscapeA w c len st = some (unEscapeB w (c.take len) [] st 0) := by
  unfold unEscapeA
  rw [unEscapeLoop_eq_B w c len hlen (len + 1) 0 0 st (Nat.le_refl _) (Nat.zero_le _) (by omega)]
  simp

theorem unEscape_eq_B (w : Nat) (c : List Nat) : unEscape c w = some (unEscapeB w c [] [] 0) := by
  unfold unEscape
  rw [unEscapeA_eq_B w c c.length [] (Nat.le_refl _), List.take_length]

/-- The `SizeT32` arithmetic that combines a surrogate pair, without the masks. -/
theorem pair_arith (hi lo : Nat) (hh : 0xD800 ≤ hi ∧ hi ≤ 0xDBFF) (hl : 0xDC00 ≤ lo ∧ lo ≤ 0xDFFF) :
    (((((hi ^^^ 0xD800) <<< 10) % 4294967296 + (lo &&& 0x3FF)) % 4294967296) + 0x10000) % 4294967296 =
      0x10000 + (hi - 0xD800) * 0x400 + (lo - 0xDC00) := by
  rw [xorD800 hi hh, and3FF, Nat.shiftLeft_eq]
  omega

/-- One accepted token: a plain unit joins the pending block, an escape flushes it and appends its output. -/
theorem unEscapeB_tok (w : Nat) (t : Tok) (ht : t.ok = true) (s pend st : List Nat) (n : Nat) :
    unEscapeB w (t.src ++ s) pend st n =
      if t.isPlainTok then unEscapeB w s (pend ++ t.out w) st (n + t.src.length)
      else unEscapeB w s [] (st ++ pend ++ t.out w) (n + t.src.length) := by
  cases t with
  | plain c =>
    simp only [Tok.ok] at ht
    simp [Tok.src, Tok.isPlainTok, Tok.out, unEscapeB_plain_cons w c s pend st n ht]
  | simple e =>
    simp only [Tok.ok, Option.isSome_iff_exists] at ht
    obtain ⟨v, hv⟩ := ht
    simp [Tok.src, Tok.isPlainTok, Tok.out, unEscapeB_simple w e v s pend st n hv, hv]
  | u e a b x d =>
    simp only [Tok.ok, Bool.and_eq_true, Bool.or_eq_true, beq_iff_eq, bne_iff_ne] at ht
    simp [Tok.src, Tok.isPlainTok, Tok.out, unEscapeB_u w e a b x d s pend st n ht.1 ht.2]
  | pair e a b x d y z a2 b2 x2 d2 =>
    simp only [Tok.ok, Bool.and_eq_true, Bool.or_eq_true, beq_iff_eq] at ht
    simp [Tok.src, Tok.isPlainTok, Tok.out, pairCode,
      unEscapeB_pair w e a b x d y z a2 b2 x2 d2 s pend st n ht.1 ht.2]

theorem Tok.out_ne_nil (w : Nat) (t : Tok) (ht : t.ok = true) : t.out w ≠ [] := by
  cases t with
  | plain c => simp [Tok.out]
  | simple e =>
    simp only [Tok.ok, Option.isSome_iff_exists] at ht
    obtain ⟨v, hv⟩ := ht
    simp [Tok.out, hv]
  | u e a b x d | pair e a b x d y z a2 b2 x2 d2 => exact toUTF_ne_nil _ _

theorem flatMap_out_of_allPlain (w : Nat) (ts : List Tok) (h : ts.all Tok.isPlainTok = true) :
    ts.flatMap (Tok.out w) = ts.flatMap Tok.src := by
  induction ts with
  | nil => rfl
  | cons t r ih =>
    rw [List.all_cons, Bool.and_eq_true] at h
    rw [List.flatMap_cons, List.flatMap_cons, ih h.2]
    cases t with
    | plain c => rfl
    | simple e => exact absurd h.1 Bool.false_ne_true
    | u e a b x d => exact absurd h.1 Bool.false_ne_true
    | pair e a b x d y z a2 b2 x2 d2 => exact absurd h.1 Bool.false_ne_true

/-- a body with an escape among its tokens does not decode to the empty text -/
theorem flatMap_out_ne_nil (w : Nat) (ts : List Tok) (hok : ∀ t ∈ ts, t.ok = true) (hall : ts.all Tok.isPlainTok = false) :
    ts.flatMap (Tok.out w) ≠ [] := by
  intro he
  obtain ⟨t0, ht0, _⟩ : ∃ t ∈ ts, t.isPlainTok = false := by simpa using hall
  have hmem : ∀ x ∈ t0.out w, x ∈ ts.flatMap (Tok.out w) := fun x hx => List.mem_flatMap.2 ⟨t0, ht0, hx⟩
  rw [he] at hmem
  cases hcase : t0.out w with
  | nil => exact Tok.out_ne_nil w t0 (hok t0 ht0) hcase
  | cons a b => exact absurd (hmem a (by simp [hcase])) (by simp)

/-- **A body of accepted tokens before an end of text** (`s` = a quote and anything, or nothing: what `unEscapeB` answers
with `finishB` after `k` more units): stream ++ pending ++ the tokens' outputs, except that a stream that was empty
stays empty when every token is plain (the routine then never touches the stream). -/
theorem unEscapeB_toks_end (w : Nat) (s : List Nat) (k : Nat)
    (hs : ∀ pend st n, unEscapeB w s pend st n = finishB pend st (n + k)) (ts : List Tok) (h : ∀ t ∈ ts, t.ok = true) :
    ∀ (pend st : List Nat) (n : Nat),
      unEscapeB w (ts.flatMap Tok.src ++ s) pend st n =
        (if st = [] ∧ ts.all Tok.isPlainTok = true then [] else st ++ pend ++ ts.flatMap (Tok.out w),
          n + (ts.flatMap Tok.src).length + k) := by
  induction ts with
  | nil =>
    intro pend st n
    rw [List.flatMap_nil, List.nil_append, hs]
    unfold finishB
    cases st <;> simp
  | cons t r ih =>
    intro pend st n
    have iht := ih (fun t' ht' => h t' (by simp [ht']))
    rw [List.flatMap_cons, List.flatMap_cons, List.append_assoc, unEscapeB_tok w t (h t (by simp)), List.all_cons]
    cases hp : t.isPlainTok with
    | true => rw [if_pos rfl, iht]; simp [Nat.add_assoc]
    | false =>
      have hne := Tok.out_ne_nil w t (h t (by simp))
      rw [if_neg (by simp), iht]; simp [Nat.add_assoc, hne]

theorem unEscapeB_string (w : Nat) (ts : List Tok) (h : ∀ t ∈ ts, t.ok = true) (rest : List Nat) :
    unEscapeB w (ts.flatMap Tok.src ++ 34 :: rest) [] [] 0 =
      (if ts.all Tok.isPlainTok then [] else ts.flatMap (Tok.out w), (ts.flatMap Tok.src).length + 1) := by
  rw [unEscapeB_toks_end w (34 :: rest) 1 (fun pend st n => unEscapeB_quote w rest pend st n) ts h]; simp

theorem unEscapeB_string_eoi (w : Nat) (ts : List Tok) (h : ∀ t ∈ ts, t.ok = true) :
    unEscapeB w (ts.flatMap Tok.src) [] [] 0 =
      (if ts.all Tok.isPlainTok then [] else ts.flatMap (Tok.out w), (ts.flatMap Tok.src).length) := by
  have := unEscapeB_toks_end w [] 0 (fun pend st n => unEscapeB_nil w pend st n) ts h [] [] 0
  simpa using this

theorem unEscapeB_ctx (w : Nat) (t : Tok) (ht : t.ok = true) (hnp : t.isPlainTok = false) (pre post : List Nat)
    (hpre : ∀ c ∈ pre, isPlain c = true) (hpost : ∀ c ∈ post, isPlain c = true) :
    unEscapeB w (pre ++ (t.src ++ (post ++ [34]))) [] [] 0 =
      (pre ++ t.out w ++ post, pre.length + t.src.length + post.length + 1) := by
  rw [unEscapeB_plain w pre hpre, unEscapeB_tok w t ht, hnp, if_neg Bool.false_ne_true, unEscapeB_plain w post hpost,
    unEscapeB_quote]
  simp [finishB, Tok.out_ne_nil w t ht]

def Item.toTok : Item → Tok
  | .unit c => .plain c
  | .esc cp bigU up =>
    let e := if bigU then 85 else 117
    if cp < 0x10000 then
      .u e (hexChar up (cp / 4096 % 16)) (hexChar up (cp / 256 % 16)) (hexChar up (cp / 16 % 16)) (hexChar up (cp % 16))
    else
      let hi := 0xD800 + (cp - 0x10000) / 0x400
      let lo := 0xDC00 + (cp - 0x10000) % 0x400
      .pair e (hexChar up (hi / 4096 % 16)) (hexChar up (hi / 256 % 16)) (hexChar up (hi / 16 % 16)) (hexChar up (hi % 16))
        92 e (hexChar up (lo / 4096 % 16)) (hexChar up (lo / 256 % 16)) (hexChar up (lo / 16 % 16)) (hexChar up (lo % 16))

theorem Item.toTok_src (i : Item) : i.toTok.src = i.src := by
  cases i with
  | unit c => rfl
  | esc cp bigU up =>
    simp only [Item.toTok, Item.src, jsonEscape]
    split <;> simp [Tok.src, uEscape, hex4]

theorem Item.toTok_plain (i : Item) : i.toTok.isPlainTok = i.isUnit := by
  cases i with
  | unit c => rfl
  | esc cp bigU up => simp only [Item.toTok, Item.isUnit]; split <;> rfl

theorem Item.toTok_ok_out (w : Nat) (i : Item) (h : i.ok) : i.toTok.ok = true ∧ i.toTok.out w = i.out w := by
  cases i with
  | unit c => exact ⟨h, rfl⟩
  | esc cp bigU up =>
    obtain ⟨h1, h2⟩ := h
    have hU : ((if bigU = true then 85 else 117 : Nat) == 85 || (if bigU = true then 85 else 117 : Nat) == 117) = true := by
      cases bigU <;> simp
    simp only [Item.toTok, Item.out]
    split
    · have hv := hexFold_hex4 up cp (by omega)
      unfold hex4 at hv
      simp only [Tok.ok, Tok.out, hv, hU, Bool.true_and]
      refine ⟨?_, trivial⟩
      simp only [bne_iff_ne, ne_eq]
      intro hc; have := (isHigh_iff cp (by omega)).1 hc; omega
    · have hh : 0xD800 ≤ 0xD800 + (cp - 0x10000) / 0x400 ∧ 0xD800 + (cp - 0x10000) / 0x400 ≤ 0xDBFF := by omega
      have hl : 0xDC00 ≤ 0xDC00 + (cp - 0x10000) % 0x400 ∧ 0xDC00 + (cp - 0x10000) % 0x400 ≤ 0xDFFF := by omega
      have hv := hexFold_hex4 up (0xD800 + (cp - 0x10000) / 0x400) (by omega)
      have hv2 := hexFold_hex4 up (0xDC00 + (cp - 0x10000) % 0x400) (by omega)
      unfold hex4 at hv hv2
      simp only [Tok.ok, Tok.out, hv, hv2, hU, Bool.true_and, pairCode]
      refine ⟨?_, ?_⟩
      · simp only [beq_iff_eq]; exact (isHigh_iff _ (by omega)).2 hh
      · rw [pair_arith _ _ hh hl]; exact congrArg (toUTF w) (by omega)

theorem flatMap_toTok_src (items : List Item) : (items.map Item.toTok).flatMap Tok.src = items.flatMap Item.src := by
  induction items with
  | nil => rfl
  | cons i r ih => simp [List.flatMap_cons, Item.toTok_src, ih]

theorem flatMap_toTok_out (w : Nat) (items : List Item) (h : ∀ i ∈ items, i.ok) :
    (items.map Item.toTok).flatMap (Tok.out w) = items.flatMap (Item.out w) := by
  induction items with
  | nil => rfl
  | cons i r ih =>
    simp [List.flatMap_cons, (Item.toTok_ok_out w i (h i (by simp))).2, ih (fun j hj => h j (by simp [hj]))]

theorem all_toTok_plain (items : List Item) : (items.map Item.toTok).all Tok.isPlainTok = items.all Item.isUnit := by
  induction items with
  | nil => rfl
  | cons i r ih => simp [Item.toTok_plain, ih]

theorem finishB_ret (pend st : List Nat) (r : Nat) : (finishB pend st r).2 = r := by
  unfold finishB; split <;> rfl

theorem unEscapeB_ret_le (w : Nat) (s pend st : List Nat) (n : Nat) :
    (unEscapeB w s pend st n).2 ≤ n + s.length := by
  fun_induction unEscapeB w s pend st n <;> simp only [finishB_ret, List.length_cons, List.length_nil] <;> omega

theorem unEscapeA_ret_le (w : Nat) (c : List Nat) (len : Nat) (st s : List Nat) (r : Nat)
    (hlen : len ≤ c.length) (h : unEscapeA w c len st = some (s, r)) : r ≤ len := by
  rw [unEscapeA_eq_B w c len st hlen] at h
  injection h with h
  have := unEscapeB_ret_le w (c.take len) [] st 0
  rw [h] at this
  simp [List.length_take, Nat.min_eq_left hlen] at this
  exact this

/-- `\uXXXX` written with `hex4` (either case) for a value that is not a high surrogate, e.g.
the control escapes `\u0000`..`\u001f`. -/
theorem unEscapeB_u_hex4 (w e cp : Nat) (up : Bool) (s pend st : List Nat) (n : Nat) (he : e = 85 ∨ e = 117)
    (hcp : cp < 0x10000) (hnh : ¬ (0xD800 ≤ cp ∧ cp ≤ 0xDBFF)) :
    unEscapeB w (92 :: e :: (hex4 up cp ++ s)) pend st n = unEscapeB w s [] (st ++ pend ++ toUTF w cp) (n + 6) := by
  have hv := hexFold_hex4 up cp hcp
  unfold hex4 at hv ⊢
  have hc : hexFold [hexChar up (cp / 4096 % 16), hexChar up (cp / 256 % 16), hexChar up (cp / 16 % 16), hexChar up (cp % 16)] 0
      &&& 0xFC00 ≠ 0xD800 := by
    rw [hv]; intro h; exact hnh ((isHigh_iff cp hcp).1 h)
  have := unEscapeB_u w e _ _ _ _ s pend st n he hc
  rw [hv] at this
  simpa using this

theorem hexLoopW_eq_hexLoop (c : List Nat) : ∀ n off num, hexLoopW 4294967296 c n off num = hexLoop c n off num := by
  intro n
  induction n with
  | zero => intros; rfl
  | succ n ih => intro off num; simp only [hexLoopW, hexLoop, ih]

theorem hexLoopW_value (k : Nat) (c : List Nat) : ∀ (ds : List Nat) (off num : Nat),
    (∀ i, i < ds.length → c[off + i]? = ds[i]?) → (∀ d ∈ ds, (hexVal? d).isSome) →
    (num + 1) * 16 ^ ds.length ≤ 2 ^ k →
    hexLoopW (2 ^ k) c ds.length off num = some (hexValue ds num, off + ds.length) := by
  intro ds
  induction ds with
  | nil => intro off num _ _ _; simp [hexLoopW, hexValue]
  | cons d t ih =>
    intro off num h hd hb
    have h0 : c[off]? = some d := by simpa using h 0 (by simp)
    obtain ⟨v, hv⟩ := Option.isSome_iff_exists.1 (hd d (by simp))
    have lv := hexVal?_lt hv
    have hb' : (num + 1) * (16 * 16 ^ t.length) ≤ 2 ^ k := by simpa [Nat.pow_succ, Nat.mul_comm] using hb
    have hpos : 0 < 16 ^ t.length := Nat.pow_pos (by omega)
    have hlt : num * 16 < 2 ^ k := by
      have : num * 16 < (num + 1) * (16 * 16 ^ t.length) := by
        calc num * 16 < (num + 1) * 16 := by omega
          _ ≤ (num + 1) * (16 * 16 ^ t.length) := Nat.mul_le_mul_left _ (Nat.le_mul_of_pos_right _ hpos)
      omega
    simp only [List.length_cons, hexLoopW, h0, hv, hexValue, Option.getD_some]
    rw [hexStepW k num v hlt lv]
    rw [ih (off + 1) (num * 16 + v) (by
        intro i hi
        have := h (i + 1) (by simp; omega)
        simpa [Nat.add_assoc, Nat.add_comm 1] using this) (fun x hx => hd x (by simp [hx])) (by
        calc (num * 16 + v + 1) * 16 ^ t.length ≤ ((num + 1) * 16) * 16 ^ t.length := Nat.mul_le_mul_right _ (by omega)
          _ = (num + 1) * (16 * 16 ^ t.length) := by rw [Nat.mul_assoc]
          _ ≤ 2 ^ k := hb')]
    simp [Nat.add_assoc, Nat.add_comm 1]

end Qentem.Unicode
