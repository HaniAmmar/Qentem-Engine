import Qentem.Model.Ledger
/-! C16, the statements about the ledger itself (`checks/c16.py` registers them from this module): what `step`
rejects, and that traces compose.  Also the facts about `isLive` that the
statements here and the container ledger (`Proofs/SeqLedger`) use. -/
namespace Qentem.Ledger

theorem run_append (a b : List Ev) (h : Heap) :
    run (a ++ b) h = (run a h).bind (run b) := by
  induction a generalizing h with
  | nil => simp [run]
  | cons e rest ih =>
    simp only [List.cons_append, run]
    cases step h e with
    | none => simp
    | some h' => simpa using ih h'

/-- Traces of consecutive object lifetimes compose: balanced followed by balanced is balanced. -/
theorem balanced_append (a b : List Ev) (ha : Balanced a) (hb : Balanced b) : Balanced (a ++ b) := by
  unfold Balanced at *
  rw [run_append, ha]; simpa using hb

theorem isLive_iff (h : Heap) (id : Nat) : isLive h id = true ↔ ∃ e ∈ h, e.1 = id := by
  simp [isLive]

theorem isLive_cons (h : Heap) (id id' size : Nat) : isLive ((id', size) :: h) id = (id' == id || isLive h id) := by
  simp [isLive]

theorem isLive_release (h : Heap) (b id : Nat) : isLive (release h b) id = (id != b && isLive h id) := by
  rw [Bool.eq_iff_iff]
  simp only [Bool.and_eq_true, bne_iff_ne, ne_eq, isLive_iff, release, List.mem_filter]
  constructor
  · rintro ⟨e, ⟨he, hne⟩, rfl⟩; exact ⟨hne, e, he, rfl⟩
  · rintro ⟨hne, e, he, rfl⟩; exact ⟨e, ⟨he, hne⟩, rfl⟩

theorem release_not_live (h : Heap) (id : Nat) : isLive (release h id) id = false := by
  rw [isLive_release, bne_self_eq_false, Bool.false_and]

/-- Directly after a block was released, a second `free` of it is a violation. -/
theorem no_double_free (h : Heap) (id : Nat) (h' : Heap) (h1 : step h (.free id) = some h') :
    step h' (.free id) = none := by
  simp only [step] at h1 ⊢
  split at h1
  · injection h1 with h1; subst h1; simp [release_not_live]
  · simp at h1

/-- Directly after a block was released, a `touch` of it is a violation. -/
theorem no_use_after_free (h : Heap) (id : Nat) (h' : Heap) (h1 : step h (.free id) = some h') :
    step h' (.touch id) = none := by
  simp only [step] at h1 ⊢
  split at h1
  · injection h1 with h1; subst h1; simp [release_not_live]
  · simp at h1

/-- On the empty heap every `free` is a violation. -/
theorem no_free_of_unallocated (id : Nat) : step [] (.free id) = none := by
  simp [step, isLive]

/-- The lifetime of one owned block — allocate, use any number of times, release — is balanced
on top of any heap that does not hold that id, and leaves that heap as it was. -/
theorem lifetime_frame (h : Heap) (id size n : Nat) (hfresh : isLive h id = false) :
    run (.alloc id size :: (List.replicate n (.touch id) ++ [.free id])) h = some h := by
  have touches : ∀ n, run (List.replicate n (Ev.touch id) ++ [.free id]) ((id, size) :: h) = some h := by
    intro n
    induction n with
    | zero =>
      simp only [List.replicate, List.nil_append, run, step, isLive_cons, beq_self_eq_true, Bool.true_or, ↓reduceIte]
      have : release ((id, size) :: h) id = h := by
        simp only [release, List.filter, bne_self_eq_false]
        rw [List.filter_eq_self]
        intro b hb
        simp only [isLive, List.any_eq_false] at hfresh
        have := hfresh b hb
        simpa [bne] using this
      simp [this]
    | succ n ih =>
      simp only [List.replicate_succ, List.cons_append, run, step, isLive_cons, beq_self_eq_true, Bool.true_or, ↓reduceIte]
      exact ih
  simp only [run, step, hfresh]
  exact touches n

end Qentem.Ledger
