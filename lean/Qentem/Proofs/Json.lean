import Qentem.Model.Json
/-! The JSON parser model one step at a time; C05: it runs to completion inside the buffer; C07: it returns
all or nothing.

The five mutually recursive routines are unfolded once, here (`parseValue_succ` … `objLoop_succ`;
`parseValue_obj/_arr/_str`: `parseValue_succ` at a first unit `{`, `[`, `"`), into a few small pieces — the leaves
`kwValue`, `stringValue`, `numValue`, and what the two containers share: `opened` (after the bracket), `elem` (an
element and what follows it), `readKey` (name and colon of a member).  Every induction over the parser (safety and
all-or-nothing here, the grammar, prefixes) goes through these equations and the lemmas of the pieces. -/
namespace Qentem.Json

section
variable (c : Array Nat)

theorem rd_ok (i : Nat) (h : i < c.size) : rd c i = .ok c[i] := by
  simp [rd, h]; rfl

/-- `offset < length && content[offset] …` : the bounds test in front of every read. -/
theorem rd_guard {α : Type} (o : Nat) (x : M α) (f : Nat → M α) :
    (if o ≥ c.size then x else rd c o >>= f) = if h : o < c.size then f c[o] else x := by
  by_cases h : o < c.size
  · rw [if_neg (by omega), dif_pos h, rd_ok c o h]; rfl
  · rw [if_pos (by omega), dif_neg h]

theorem trimLeft_ge (o : Nat) : o ≤ trimLeft c o := by
  fun_induction trimLeft c o <;> omega

theorem trimLeft_le (o : Nat) (h : o ≤ c.size) : trimLeft c o ≤ c.size := by
  fun_induction trimLeft c o <;> omega

theorem trimLeft_end (o : Nat) (h : c.size ≤ o) : trimLeft c o = o := by
  rw [trimLeft, dif_neg (by omega)]

theorem trimLeft_stop (o : Nat) (h : o < c.size) (hx : isWs c[o] = false) : trimLeft c o = o := by
  rw [trimLeft, dif_pos h, hx]; rfl

theorem trimLeft_step (o : Nat) (h : o < c.size) (hx : isWs c[o] = true) : trimLeft c o = trimLeft c (o + 1) := by
  rw [trimLeft, dif_pos h, if_pos hx]

theorem matchKeyword_ge (o : Nat) (ks : List Nat) : o ≤ (matchKeyword c o ks).1 := by
  fun_induction matchKeyword c o ks <;> first | omega | simp

theorem matchKeyword_le (o : Nat) (ks : List Nat) (h : o ≤ c.size) :
    (matchKeyword c o ks).1 ≤ c.size := by
  fun_induction matchKeyword c o ks <;> first | omega | simp_all

end

theorem objInsert_append_new (acc : List (List Nat × JVal)) (k : List Nat) (v : JVal)
    (hnew : ∀ p ∈ acc, p.1 ≠ k) : objInsert acc k v = acc ++ [(k, v)] := by
  induction acc with
  | nil => simp [objInsert]
  | cons p acc ih =>
    have hp : p.1 ≠ k := hnew p (by simp)
    obtain ⟨pk, pv⟩ := p
    simp only [objInsert, List.cons_append]
    rw [if_neg hp, ih (fun q hq => hnew q (by simp [hq]))]

/-! ## One step of each routine -/

/-- A keyword after its first letter: `ks` is the rest of the literal, `v` its value. -/
def kwValue (c : Array Nat) (o : Nat) (ks : List Nat) (v : JVal) : M (JVal × Nat) :=
  if (matchKeyword c o ks).2.isEmpty then .ok (v, (matchKeyword c o ks).1) else .ok (.undef, c.size)

/-- A string value after its opening quote. -/
def stringValue (d : Deps) (c : Array Nat) (o : Nat) : M (JVal × Nat) :=
  d.unEscape c o (c.size - o) >>= fun (len, stream) =>
    if len ≠ 0 then .ok (.str (stringOf c o len stream), o + len) else .ok (.undef, c.size)

def numValue (d : Deps) (c : Array Nat) (o : Nat) : M (JVal × Nat) :=
  d.strToNum c o c.size >>= fun r =>
    match r.kind with
    | .natural => .ok (.nat r.bits, r.newOffset)
    | .integer => .ok (.int r.bits, r.newOffset)
    | .real => .ok (.real r.bits, r.newOffset)
    | .notANumber => .ok (.undef, c.size)

/-- A container after its opening bracket and whitespace, at `T`: the closing bracket right away
gives the empty container, anything else (the end of input too) is left to the loop. -/
def opened (c : Array Nat) (T close : Nat) (loop : M (JVal × Nat)) (empty : JVal) : M (JVal × Nat) :=
  if h : T < c.size then (if c[T] ≠ close then loop else .ok (empty, T + 1)) else loop

/-- An element and what follows it: the value read by `r`, whitespace, then a comma continues the
loop behind further whitespace, the closing bracket ends the container with value `done v`,
everything else fails. -/
def elem (c : Array Nat) (r : M (JVal × Nat)) (close : Nat) (next : JVal → Nat → M (JVal × Nat)) (done : JVal → JVal) :
    M (JVal × Nat) :=
  r >>= fun (v, o1) =>
    if h : trimLeft c o1 < c.size then
      if c[trimLeft c o1] = 44 then next v (trimLeft c (trimLeft c o1 + 1))
      else if c[trimLeft c o1] = close then .ok (done v, trimLeft c o1 + 1)
      else .ok (.undef, c.size)
    else .ok (.undef, c.size)

/-- A member up to its value: `"name" ws : ws`, then `k name offset`. -/
def readKey (d : Deps) (c : Array Nat) (o : Nat) (k : List Nat → Nat → M (JVal × Nat)) : M (JVal × Nat) :=
  if h : o < c.size then
    if c[o] ≠ 34 then .ok (.undef, c.size) else
    d.unEscape c (o + 1) (c.size - (o + 1)) >>= fun (len, stream) =>
      if len = 0 then .ok (.undef, c.size) else
      if h1 : trimLeft c (o + 1 + len) < c.size then
        if c[trimLeft c (o + 1 + len)] ≠ 58 then .ok (.undef, c.size)
        else k (stringOf c (o + 1) len stream) (trimLeft c (trimLeft c (o + 1 + len) + 1))
      else .ok (.undef, c.size)
  else .ok (.undef, c.size)

section
variable (d : Deps) (c : Array Nat)

theorem parseValue_succ (fuel o : Nat) :
    parseValue d c (fuel + 1) o =
      if h : o < c.size then
        if c[o] = 123 then parseObject d c fuel (o + 1)
        else if c[o] = 91 then parseArray d c fuel (o + 1)
        else if c[o] = 34 then stringValue d c (o + 1)
        else if c[o] = 116 then kwValue c (o + 1) trueTail .tru
        else if c[o] = 102 then kwValue c (o + 1) falseTail .fals
        else if c[o] = 110 then kwValue c (o + 1) nullTail .null
        else numValue d c o
      else .ok (.undef, c.size) := by
  rw [parseValue]
  exact rd_guard c o _ _

/-- the first unit decides: `{`, `[` and `"` hand over to the object, the array, the string -/
theorem parseValue_obj (fuel : Nat) {o : Nat} (hlt : o < c.size) (hc : c[o] = 123) :
    parseValue d c (fuel + 1) o = parseObject d c fuel (o + 1) := by
  rw [parseValue_succ, dif_pos hlt, hc]
  simp only [↓reduceIte]

theorem parseValue_arr (fuel : Nat) {o : Nat} (hlt : o < c.size) (hc : c[o] = 91) :
    parseValue d c (fuel + 1) o = parseArray d c fuel (o + 1) := by
  rw [parseValue_succ, dif_pos hlt, hc]
  simp only [Nat.reduceEqDiff, ↓reduceIte]

theorem parseValue_str (fuel : Nat) {o : Nat} (hlt : o < c.size) (hc : c[o] = 34) :
    parseValue d c (fuel + 1) o = stringValue d c (o + 1) := by
  rw [parseValue_succ, dif_pos hlt, hc]
  simp only [Nat.reduceEqDiff, ↓reduceIte]

theorem parseArray_succ (fuel o : Nat) :
    parseArray d c (fuel + 1) o = opened c (trimLeft c o) 93 (arrLoop d c fuel (trimLeft c o) []) (.arr []) := by
  rw [parseArray]
  exact rd_guard c _ _ _

theorem parseObject_succ (fuel o : Nat) :
    parseObject d c (fuel + 1) o = opened c (trimLeft c o) 125 (objLoop d c fuel (trimLeft c o) []) (.obj []) := by
  rw [parseObject]
  exact rd_guard c _ _ _

theorem arrLoop_succ (fuel o : Nat) (items : List JVal) :
    arrLoop d c (fuel + 1) o items =
      if o ≥ c.size then .ok (.undef, c.size) else
      elem c (parseValue d c fuel o) 93 (fun v o' => arrLoop d c fuel o' (v :: items)) fun v => .arr (v :: items).reverse := by
  rw [arrLoop]
  simp only [rd_guard]
  rfl

theorem objLoop_succ (fuel o : Nat) (ms : List (List Nat × JVal)) :
    objLoop d c (fuel + 1) o ms =
      readKey d c o fun key o2 =>
        elem c (parseValue d c fuel o2) 125 (fun v o' => objLoop d c fuel o' (objInsert ms key v)) fun v => .obj (objInsert ms key v) := by
  rw [objLoop]
  simp only [rd_guard]
  rfl

end

/-! A run that returned had fuel. -/

section
variable {d : Deps} {c : Array Nat} {fuel o : Nat} {r : JVal × Nat}

theorem parseValue_fuel (h : parseValue d c fuel o = .ok r) :
    ∃ f, fuel = f + 1 := by
  cases fuel with
  | zero => rw [parseValue] at h; cases h
  | succ f => exact ⟨f, rfl⟩

theorem parseArray_fuel (h : parseArray d c fuel o = .ok r) :
    ∃ f, fuel = f + 1 := by
  cases fuel with
  | zero => rw [parseArray] at h; cases h
  | succ f => exact ⟨f, rfl⟩

theorem parseObject_fuel (h : parseObject d c fuel o = .ok r) :
    ∃ f, fuel = f + 1 := by
  cases fuel with
  | zero => rw [parseObject] at h; cases h
  | succ f => exact ⟨f, rfl⟩

theorem arrLoop_fuel {items : List JVal} (h : arrLoop d c fuel o items = .ok r) : ∃ f, fuel = f + 1 := by
  cases fuel with
  | zero => rw [arrLoop] at h; cases h
  | succ f => exact ⟨f, rfl⟩

theorem objLoop_fuel {ms : List (List Nat × JVal)} (h : objLoop d c fuel o ms = .ok r) : ∃ f, fuel = f + 1 := by
  cases fuel with
  | zero => rw [objLoop] at h; cases h
  | succ f => exact ⟨f, rfl⟩

end

theorem parse_of_value {d : Deps} {c : Array Nat} {v : JVal} {o : Nat} (hne : c.size ≠ 0)
    (h : parseValue d c (fuelFor c) (trimLeft c 0) = .ok (v, o)) :
    parse d c = .ok (if trimLeft c o = c.size then v else .undef) := by
  rw [parse, if_neg hne]
  simp only [h, bind, Except.bind]
  split <;> rfl

/-! ## Case analysis of one step

Whatever holds of every way a step can end holds of the step; `P` is a property of results.  An
error of `UnEscape`, `StringToNumber` or of the value inside an element is passed on. -/

/-- `iteInduction` for a test whose branches use its outcome. -/
theorem diteInduction {α : Sort _} {c : Prop} [Decidable c] {P : α → Prop} {t : c → α} {e : ¬c → α}
    (ht : ∀ h, P (t h)) (he : ∀ h, P (e h)) : P (dite c t e) := by
  by_cases h : c
  · rw [dif_pos h]; exact ht h
  · rw [dif_neg h]; exact he h

section
variable {P : M (JVal × Nat) → Prop} (d : Deps) (c : Array Nat)

theorem parseValue_cases (fuel o : Nat)
    (hend : c.size ≤ o → P (.ok (.undef, c.size)))
    (hobj : o < c.size → P (parseObject d c fuel (o + 1)))
    (harr : o < c.size → P (parseArray d c fuel (o + 1)))
    (hstr : o < c.size → P (stringValue d c (o + 1)))
    (hkw : ∀ ks v, o < c.size → v = .tru ∨ v = .fals ∨ v = .null → P (kwValue c (o + 1) ks v))
    (hnum : o < c.size → P (numValue d c o)) : P (parseValue d c (fuel + 1) o) := by
  rw [parseValue_succ]
  exact diteInduction (fun h => iteInduction (fun _ => hobj h) fun _ => iteInduction (fun _ => harr h) fun _ =>
    iteInduction (fun _ => hstr h) fun _ => iteInduction (fun _ => hkw _ _ h (.inl rfl)) fun _ =>
    iteInduction (fun _ => hkw _ _ h (.inr (.inl rfl))) fun _ => iteInduction (fun _ => hkw _ _ h (.inr (.inr rfl))) fun _ =>
    hnum h) fun h => hend (Nat.not_lt.1 h)

theorem kwValue_cases (o : Nat) (ks : List Nat) (v : JVal)
    (hfail : P (.ok (.undef, c.size))) (hok : P (.ok (v, (matchKeyword c o ks).1))) : P (kwValue c o ks v) :=
  iteInduction (fun _ => hok) fun _ => hfail

theorem stringValue_cases (o : Nat)
    (herr : ∀ e, d.unEscape c o (c.size - o) = .error e → P (.error e))
    (hfail : P (.ok (.undef, c.size)))
    (hok : ∀ len stream, d.unEscape c o (c.size - o) = .ok (len, stream) → len ≠ 0 →
      P (.ok (.str (stringOf c o len stream), o + len))) : P (stringValue d c o) := by
  unfold stringValue
  cases hu : d.unEscape c o (c.size - o) with
  | error e => exact herr e hu
  | ok k => exact iteInduction (fun h => hok k.1 k.2 hu h) fun _ => hfail

theorem numValue_cases (o : Nat)
    (herr : ∀ e, d.strToNum c o c.size = .error e → P (.error e))
    (hfail : P (.ok (.undef, c.size)))
    (hok : ∀ r v, d.strToNum c o c.size = .ok r → r.kind ≠ .notANumber → (v = .nat r.bits ∨ v = .int r.bits ∨ v = .real r.bits) →
      P (.ok (v, r.newOffset))) : P (numValue d c o) := by
  unfold numValue
  cases hn : d.strToNum c o c.size with
  | error e => exact herr e hn
  | ok r =>
    show P (match r.kind with | .natural => _ | .integer => _ | .real => _ | .notANumber => _)
    cases hk : r.kind with
    | notANumber => exact hfail
    | natural => exact hok r _ hn (by simp [hk]) (.inl rfl)
    | integer => exact hok r _ hn (by simp [hk]) (.inr (.inl rfl))
    | real => exact hok r _ hn (by simp [hk]) (.inr (.inr rfl))

theorem opened_cases (T close : Nat) (loop : M (JVal × Nat)) (empty : JVal)
    (hloop : P loop) (hempty : T < c.size → P (.ok (empty, T + 1))) : P (opened c T close loop empty) :=
  diteInduction (fun h => iteInduction (fun _ => hloop) fun _ => hempty h) fun _ => hloop

theorem elem_cases (r : M (JVal × Nat)) (close : Nat) (next : JVal → Nat → M (JVal × Nat)) (done : JVal → JVal)
    (herr : ∀ e, r = .error e → P (.error e))
    (hfail : P (.ok (.undef, c.size)))
    (hnext : ∀ v o1, r = .ok (v, o1) → trimLeft c o1 < c.size → P (next v (trimLeft c (trimLeft c o1 + 1))))
    (hdone : ∀ v o1, r = .ok (v, o1) → trimLeft c o1 < c.size → P (.ok (done v, trimLeft c o1 + 1))) :
    P (elem c r close next done) := by
  unfold elem
  cases r with
  | error e => exact herr e rfl
  | ok p =>
    exact diteInduction (fun h => iteInduction (fun _ => hnext p.1 p.2 rfl h) fun _ =>
      iteInduction (fun _ => hdone p.1 p.2 rfl h) fun _ => hfail) fun _ => hfail

theorem readKey_cases (o : Nat) (k : List Nat → Nat → M (JVal × Nat))
    (herr : ∀ e, o < c.size → d.unEscape c (o + 1) (c.size - (o + 1)) = .error e → P (.error e))
    (hfail : P (.ok (.undef, c.size)))
    (hk : ∀ len stream, o < c.size → d.unEscape c (o + 1) (c.size - (o + 1)) = .ok (len, stream) → len ≠ 0 →
      trimLeft c (o + 1 + len) < c.size →
      P (k (stringOf c (o + 1) len stream) (trimLeft c (trimLeft c (o + 1 + len) + 1)))) : P (readKey d c o k) := by
  unfold readKey
  refine diteInduction (fun h => iteInduction (fun _ => hfail) fun _ => ?_) fun _ => hfail
  cases hu : d.unEscape c (o + 1) (c.size - (o + 1)) with
  | error e => exact herr e h hu
  | ok p =>
    exact iteInduction (fun _ => hfail) fun h0 =>
      diteInduction (fun h1 => iteInduction (fun _ => hfail) fun _ => hk p.1 p.2 h hu h0 h1) fun _ => hfail

end

/-! ## C05: enough fuel, no read outside the buffer -/

/-- A sub-parse started at `o` ended normally at some `o' ≤ n`, having advanced when `o < n`. -/
def Good (n o : Nat) (r : M (JVal × Nat)) : Prop :=
  ∃ v o', r = .ok (v, o') ∧ o' ≤ n ∧ o ≤ o' ∧ (o < n → o < o')

/-- A loop / container body started at `o` ended normally at some `o'` with `o ≤ o' ≤ n`. -/
def GoodL (n o : Nat) (r : M (JVal × Nat)) : Prop :=
  ∃ v o', r = .ok (v, o') ∧ o' ≤ n ∧ o ≤ o'

theorem Good.fail {n o : Nat} (h : o ≤ n) : Good n o (.ok (.undef, n)) := ⟨_, _, rfl, Nat.le_refl _, h, id⟩

theorem GoodL.fail {n o : Nat} (h : o ≤ n) : GoodL n o (.ok (.undef, n)) := ⟨_, _, rfl, Nat.le_refl _, h⟩

theorem GoodL.mono {n o o1 : Nat} {r : M (JVal × Nat)} (h : GoodL n o1 r) (ho : o ≤ o1) : GoodL n o r :=
  let ⟨v, o', hr, h1, h2⟩ := h; ⟨v, o', hr, h1, Nat.le_trans ho h2⟩

theorem GoodL.good {n o : Nat} {r : M (JVal × Nat)} (h : GoodL n (o + 1) r) : Good n o r :=
  let ⟨v, o', hr, h1, h2⟩ := h; ⟨v, o', hr, h1, by omega, fun _ => by omega⟩

theorem kwValue_good (c : Array Nat) (o : Nat) (hlt : o < c.size) (ks : List Nat) (v : JVal) :
    Good c.size o (kwValue c (o + 1) ks v) :=
  have m1 := matchKeyword_ge c (o + 1) ks
  kwValue_cases c (o + 1) ks v (.fail (by omega))
    ⟨_, _, rfl, matchKeyword_le c (o + 1) ks hlt, by omega, fun _ => by omega⟩

theorem stringValue_good {d : Deps} (hd : DepsSafe d) (c : Array Nat) (o : Nat) (hlt : o < c.size) :
    Good c.size o (stringValue d c (o + 1)) := by
  obtain ⟨r, s, hu, hr⟩ := hd.unEscape_ok c (o + 1) (c.size - (o + 1)) (by omega)
  refine stringValue_cases d c (o + 1) (fun e he => ?_) (.fail (by omega)) fun len stream hl _ => ?_
  · rw [hu] at he; cases he
  · rw [hu] at hl; cases hl
    exact ⟨_, _, rfl, by omega, by omega, fun _ => by omega⟩

theorem numValue_good {d : Deps} (hd : DepsSafe d) (c : Array Nat) (hsz : c.size < 2 ^ 32) (o : Nat) (hlt : o < c.size) :
    Good c.size o (numValue d c o) := by
  obtain ⟨r, hr, hk⟩ := hd.strToNum_ok c o hsz hlt
  refine numValue_cases d c o (fun e he => ?_) (.fail (by omega)) fun r' v hr' hkind _ => ?_
  · rw [hr] at he; cases he
  · rw [hr] at hr'; cases hr'
    have := hk hkind
    exact ⟨_, _, rfl, by omega, by omega, fun _ => by omega⟩

theorem opened_goodL {c : Array Nat} {T close : Nat} {loop : M (JVal × Nat)} {empty : JVal}
    (hloop : GoodL c.size T loop) : GoodL c.size T (opened c T close loop empty) :=
  opened_cases c T close loop empty hloop fun h => ⟨_, _, rfl, h, by omega⟩

theorem elem_goodL {c : Array Nat} {r : M (JVal × Nat)} {o close : Nat} {next : JVal → Nat → M (JVal × Nat)} {done : JVal → JVal}
    (hr : Good c.size o r)
    (hnext : ∀ v o', o ≤ o' → (o < c.size → o < o') → o' ≤ c.size → GoodL c.size o' (next v o')) :
    GoodL c.size o (elem c r close next done) := by
  obtain ⟨v, o1, h1, hle, hge, hadv⟩ := hr
  have t1 := trimLeft_ge c o1
  have t3 := trimLeft_ge c (trimLeft c o1 + 1)
  refine elem_cases c r close next done (fun e he => ?_) (.fail (by omega)) (fun v' o1' h' hT => ?_) (fun v' o1' h' hT => ?_)
  · rw [h1] at he; cases he
  · rw [h1] at h'; cases h'
    exact (hnext v _ (by omega) (by omega) (trimLeft_le c (trimLeft c o1 + 1) hT)).mono (by omega)
  · rw [h1] at h'; cases h'
    exact ⟨_, _, rfl, by omega, by omega⟩

theorem readKey_goodL {d : Deps} (hd : DepsSafe d) {c : Array Nat} {o : Nat} {k : List Nat → Nat → M (JVal × Nat)}
    (ho : o ≤ c.size) (hk : ∀ key o2, o < o2 → o2 ≤ c.size → GoodL c.size o2 (k key o2)) :
    GoodL c.size o (readKey d c o k) := by
  refine readKey_cases d c o k (fun e hlt he => ?_) (.fail ho) fun len stream hlt hu _ hT => ?_
  · obtain ⟨r, s, hu, _⟩ := hd.unEscape_ok c (o + 1) (c.size - (o + 1)) (by omega)
    rw [hu] at he; cases he
  · have t1 := trimLeft_ge c (o + 1 + len)
    have t2 := trimLeft_ge c (trimLeft c (o + 1 + len) + 1)
    exact (hk _ _ (by omega) (trimLeft_le c (trimLeft c (o + 1 + len) + 1) hT)).mono (by omega)

/-- Fuel needed at offset `o` by `parseValue`, by a loop iteration and by `parseObject` / `parseArray`: three per unit
of input, because a value, the container it opens and that container's loop each burn one unit of fuel on the same offset. -/
def needV (n o : Nat) : Nat := 3 * (n - o) + 1
def needL (n o : Nat) : Nat := 3 * (n - o) + 2
def needC (n o : Nat) : Nat := 3 * (n - o) + 3

/-- All five routines run to completion inside the buffer when given enough fuel. -/
theorem all_good (d : Deps) (hd : DepsSafe d) (c : Array Nat) (hsz : c.size < 2 ^ 32) : ∀ fuel,
    (∀ o, o ≤ c.size → needV c.size o ≤ fuel → Good c.size o (parseValue d c fuel o)) ∧
    (∀ o, o ≤ c.size → needC c.size o ≤ fuel → GoodL c.size o (parseArray d c fuel o)) ∧
    (∀ o, o ≤ c.size → needC c.size o ≤ fuel → GoodL c.size o (parseObject d c fuel o)) ∧
    (∀ o items, o ≤ c.size → needL c.size o ≤ fuel → GoodL c.size o (arrLoop d c fuel o items)) ∧
    (∀ o ms, o ≤ c.size → needL c.size o ≤ fuel → GoodL c.size o (objLoop d c fuel o ms)) := by
  intro fuel
  unfold needV needL needC
  induction fuel with
  | zero => exact ⟨fun _ _ h => by omega, fun _ _ h => by omega, fun _ _ h => by omega, fun _ _ _ h => by omega, fun _ _ _ h => by omega⟩
  | succ fuel ih =>
    obtain ⟨ihV, ihA, ihO, ihAL, ihOL⟩ := ih
    refine ⟨fun o ho hf => ?_, fun o ho hf => ?_, fun o ho hf => ?_, fun o items ho hf => ?_, fun o ms ho hf => ?_⟩
    · exact parseValue_cases d c fuel o (fun _ => .fail ho) (fun h => (ihO (o + 1) h (by omega)).good)
        (fun h => (ihA (o + 1) h (by omega)).good) (stringValue_good hd c o) (fun ks v h _ => kwValue_good c o h ks v)
        (numValue_good hd c hsz o)
    · have t1 := trimLeft_ge c o
      rw [parseArray_succ]
      exact (opened_goodL (ihAL _ [] (trimLeft_le c o ho) (by omega))).mono t1
    · have t1 := trimLeft_ge c o
      rw [parseObject_succ]
      exact (opened_goodL (ihOL _ [] (trimLeft_le c o ho) (by omega))).mono t1
    · rw [arrLoop_succ]
      by_cases h : o ≥ c.size
      · rw [if_pos h]; exact .fail ho
      · rw [if_neg h]; exact elem_goodL (ihV o ho (by omega)) fun v o' _ h1 h2 => ihAL o' _ h2 (by omega)
    · rw [objLoop_succ]
      exact readKey_goodL hd ho fun key o2 h1 h2 =>
        elem_goodL (ihV o2 h2 (by omega)) fun v o' h3 _ h4 => ihOL o' _ h4 (by omega)

theorem parse_run {d : Deps} (hd : DepsSafe d) {c : Array Nat} (hsz : c.size < 2 ^ 32) (hne : c.size ≠ 0) :
    ∃ v o, parseValue d c (fuelFor c) (trimLeft c 0) = .ok (v, o) ∧
      parse d c = .ok (if trimLeft c o = c.size then v else .undef) := by
  obtain ⟨v, o, h, _⟩ := (all_good d hd c hsz (fuelFor c)).1 (trimLeft c 0) (trimLeft_le c 0 (Nat.zero_le _))
    (by unfold needV fuelFor; omega)
  exact ⟨v, o, h, parse_of_value hne h⟩

theorem parse_no_fault (d : Deps) (hd : DepsSafe d) (c : Array Nat) (hsz : c.size < 2 ^ 32) : ∃ v, parse d c = .ok v := by
  by_cases hne : c.size = 0
  · exact ⟨.undef, by rw [parse, if_pos hne]; rfl⟩
  · obtain ⟨v, o, _, h⟩ := parse_run hd hsz hne
    exact ⟨_, h⟩

/-! ## C07: undefined with the cursor at the end, or a complete tree

Whatever the parser returns is either `undef` (with the offset forced to the end of the input, so every
caller fails too) or a tree without any undefined member — never a partially built tree. -/

mutual
def complete : JVal → Bool
  | .undef => false
  | .ptr _ => false
  | .arr xs => completeList xs
  | .obj ms => completeMembers ms
  | _ => true
def completeList : List JVal → Bool
  | [] => true
  | v :: rest => complete v && completeList rest
def completeMembers : List (List Nat × JVal) → Bool
  | [] => true
  | (_, v) :: rest => complete v && completeMembers rest
end

theorem completeList_append (a b : List JVal) :
    completeList (a ++ b) = (completeList a && completeList b) := by
  induction a with
  | nil => simp [completeList]
  | cons v rest ih => simp [completeList, ih, Bool.and_assoc]

theorem completeList_reverse (a : List JVal) : completeList a.reverse = completeList a := by
  induction a with
  | nil => rfl
  | cons v rest ih => simp [completeList_append, completeList, ih, Bool.and_comm]

theorem completeList_cons {v : JVal} {items : List JVal} (hv : complete v = true) (hc : completeList items = true) :
    completeList (v :: items) = true := by
  rw [completeList, hv, hc]; rfl

theorem completeMembers_insert (ms : List (List Nat × JVal)) (k : List Nat) (v : JVal)
    (hm : completeMembers ms = true) (hv : complete v = true) :
    completeMembers (objInsert ms k v) = true := by
  induction ms with
  | nil => simp [objInsert, completeMembers, hv]
  | cons kv rest ih =>
    obtain ⟨k', v'⟩ := kv
    simp only [completeMembers, Bool.and_eq_true] at hm
    simp only [objInsert]
    split
    · simp [completeMembers, hv, hm.2]
    · simp [completeMembers, hm.1, ih hm.2]

/-- Post-condition of every sub-parse over a buffer of `n` units: a run that returns has failed
with the cursor at the end, or has read a complete value. -/
def AllOrNone (n : Nat) (r : M (JVal × Nat)) : Prop :=
  ∀ v o', r = .ok (v, o') → (v = .undef ∧ o' = n) ∨ complete v = true

theorem AllOrNone.fail (n : Nat) : AllOrNone n (.ok (.undef, n)) := fun _ _ h => by cases h; exact .inl ⟨rfl, rfl⟩

theorem AllOrNone.error (n : Nat) (e : Fault) : AllOrNone n (.error e) := fun _ _ h => by cases h

theorem AllOrNone.ok {n : Nat} {v : JVal} (o : Nat) (h : complete v = true) : AllOrNone n (.ok (v, o)) :=
  fun _ _ h' => by cases h'; exact .inr h

theorem AllOrNone.complete {c : Array Nat} {r : M (JVal × Nat)} {v : JVal} {o : Nat} (hr : AllOrNone c.size r) (h : r = .ok (v, o))
    (hT : trimLeft c o < c.size) : complete v = true := by
  rcases hr v o h with ⟨_, h2⟩ | h2
  · rw [h2, trimLeft_end c c.size (Nat.le_refl _)] at hT; omega
  · exact h2

theorem elem_allOrNone {c : Array Nat} {r : M (JVal × Nat)} {close : Nat} {next : JVal → Nat → M (JVal × Nat)} {done : JVal → JVal}
    (hr : AllOrNone c.size r) (hnext : ∀ v o', complete v = true → AllOrNone c.size (next v o'))
    (hdone : ∀ v, complete v = true → complete (done v) = true) : AllOrNone c.size (elem c r close next done) :=
  elem_cases c r close next done (fun e _ => .error _ e) (.fail _)
    (fun v _ h hT => hnext v _ (hr.complete h hT)) (fun v _ h hT => .ok _ (hdone v (hr.complete h hT)))

theorem all_allOrNone (d : Deps) (c : Array Nat) : ∀ fuel,
    (∀ o, AllOrNone c.size (parseValue d c fuel o)) ∧
    (∀ o, AllOrNone c.size (parseArray d c fuel o)) ∧
    (∀ o, AllOrNone c.size (parseObject d c fuel o)) ∧
    (∀ o items, completeList items = true → AllOrNone c.size (arrLoop d c fuel o items)) ∧
    (∀ o ms, completeMembers ms = true → AllOrNone c.size (objLoop d c fuel o ms)) := by
  intro fuel
  induction fuel with
  | zero =>
    refine ⟨fun o v o' h => ?_, fun o v o' h => ?_, fun o v o' h => ?_, fun o items _ v o' h => ?_, fun o ms _ v o' h => ?_⟩
    · obtain ⟨_, e⟩ := parseValue_fuel h; cases e
    · obtain ⟨_, e⟩ := parseArray_fuel h; cases e
    · obtain ⟨_, e⟩ := parseObject_fuel h; cases e
    · obtain ⟨_, e⟩ := arrLoop_fuel h; cases e
    · obtain ⟨_, e⟩ := objLoop_fuel h; cases e
  | succ fuel ih =>
    obtain ⟨ihV, ihA, ihO, ihAL, ihOL⟩ := ih
    refine ⟨fun o => ?_, fun o => ?_, fun o => ?_, fun o items hc => ?_, fun o ms hc => ?_⟩
    · refine parseValue_cases d c fuel o (fun _ => .fail _) (fun _ => ihO _) (fun _ => ihA _) (fun _ => ?_) (fun ks v _ hv => ?_)
        (fun _ => ?_)
      · exact stringValue_cases d c (o + 1) (fun e _ => .error _ e) (.fail _) fun _ _ _ _ => .ok _ rfl
      · exact kwValue_cases c (o + 1) ks v (.fail _) (.ok _ (by rcases hv with rfl | rfl | rfl <;> rfl))
      · exact numValue_cases d c o (fun e _ => .error _ e) (.fail _)
          fun r v _ _ hv => .ok _ (by rcases hv with rfl | rfl | rfl <;> rfl)
    · rw [parseArray_succ]
      exact opened_cases c _ 93 _ _ (ihAL _ [] rfl) fun _ => .ok _ rfl
    · rw [parseObject_succ]
      exact opened_cases c _ 125 _ _ (ihOL _ [] rfl) fun _ => .ok _ rfl
    · rw [arrLoop_succ]
      by_cases h : o ≥ c.size
      · rw [if_pos h]; exact .fail _
      · rw [if_neg h]
        exact elem_allOrNone (ihV o) (fun v o' hv => ihAL o' _ (completeList_cons hv hc)) fun v hv => by
          rw [complete, completeList_reverse]; exact completeList_cons hv hc
    · rw [objLoop_succ]
      exact readKey_cases d c o _ (fun e _ _ => .error _ e) (.fail _) fun len stream _ _ _ _ =>
        elem_allOrNone (ihV _) (fun v o' hv => ihOL o' _ (completeMembers_insert _ _ _ hc hv)) fun v hv => by
          rw [complete]; exact completeMembers_insert _ _ _ hc hv

theorem parse_all_or_nothing (d : Deps) (c : Array Nat) (v : JVal) (h : parse d c = .ok v) :
    v = .undef ∨ (complete v = true ∧
      ∃ o', parseValue d c (fuelFor c) (trimLeft c 0) = .ok (v, o') ∧ trimLeft c o' = c.size) := by
  by_cases hne : c.size = 0
  · rw [parse, if_pos hne] at h; cases h; exact .inl rfl
  · cases hv : parseValue d c (fuelFor c) (trimLeft c 0) with
    | error e => rw [parse, if_neg hne] at h; simp only [hv, bind, Except.bind] at h; cases h
    | ok r =>
      obtain ⟨v1, o1⟩ := r
      rw [parse_of_value hne hv] at h
      by_cases hend : trimLeft c o1 = c.size
      · rw [if_pos hend] at h; cases h
        rcases (all_allOrNone d c (fuelFor c)).1 _ _ _ hv with ⟨h1, _⟩ | h2
        · exact .inl h1
        · exact .inr ⟨h2, o1, rfl, hend⟩
      · rw [if_neg hend] at h; cases h; exact .inl rfl

end Qentem.Json
