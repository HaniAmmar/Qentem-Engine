import Qentem.Proofs.NumToStrIdent
/-! C11, **interface for the parser half** (used by the StrToNum area).  Everything here is about the reference
(`FmtSpec`) and plain ℚ; no part of the formatter's code occurs.  The `%.{p}g` text of a finite non-zero pattern denotes
a rational within `2^mb/10^(P-1)` ulp of the value; every rational within `ε` ulp of that, `2^mb/10^(P-1) + 2ε < 1/2`,
lies strictly between the two rounding midpoints around the value (the tie-free zone), so any rounding that is
correct away from ties — nearest-even, half-up, … — returns the pattern (`margin_format`; `ε = 0`: `readBits_format`). -/
namespace Qentem.Proofs.Ident
open Qentem.Proofs.NumToStr

/-- biased exponent field, read as 1 for subnormals -/
def expField (mb eb bits : Nat) : Nat := if (bits / 2 ^ mb) % 2 ^ eb = 0 then 1 else (bits / 2 ^ mb) % 2 ^ eb
/-- integer significand (hidden bit included for normal numbers) -/
def sigField (mb eb bits : Nat) : Nat :=
  if (bits / 2 ^ mb) % 2 ^ eb = 0 then bits % 2 ^ mb else 2 ^ mb + bits % 2 ^ mb
/-- exponent of the unit in the last place -/
def ulpExp (mb eb bits : Nat) : Int := (expField mb eb bits : Int) - ((2 : Int) ^ (eb - 1) - 1) - mb
/-- `|value(bits)|` -/
def magQ (mb eb bits : Nat) : ℚ := (sigField mb eb bits : ℚ) * 2 ^ ulpExp mb eb bits
/-- `ulp(bits)` -/
def ulpQ (mb eb bits : Nat) : ℚ := 2 ^ ulpExp mb eb bits

theorem ulpQ_pos (mb eb bits : Nat) : 0 < ulpQ mb eb bits := by unfold ulpQ; positivity

theorem magQ_eq (mb eb bits : Nat) : magQ mb eb bits = sigField mb eb bits * ulpQ mb eb bits := rfl

theorem expField_bounds (mb : Nat) {eb bits : Nat} (heb : 2 ≤ eb) (hfin : (bits / 2 ^ mb) % 2 ^ eb ≠ 2 ^ eb - 1) :
    1 ≤ expField mb eb bits ∧ expField mb eb bits + 2 ≤ 2 ^ eb := by
  have he : (bits / 2 ^ mb) % 2 ^ eb < 2 ^ eb := Nat.mod_lt _ (Nat.two_pow_pos _)
  have h4 : 2 ^ 2 ≤ 2 ^ eb := Nat.pow_le_pow_right (by decide) heb
  unfold expField
  split <;> omega

theorem sigField_bounds {mb eb bits : Nat} (hnz : (bits / 2 ^ mb) % 2 ^ eb ≠ 0 ∨ bits % 2 ^ mb ≠ 0) :
    0 < sigField mb eb bits ∧ sigField mb eb bits < 2 ^ (mb + 1) ∧
      (1 < expField mb eb bits → 2 ^ mb ≤ sigField mb eb bits) := by
  have hf : bits % 2 ^ mb < 2 ^ mb := Nat.mod_lt _ (Nat.two_pow_pos _)
  unfold sigField expField
  rw [Nat.pow_succ]
  by_cases h : (bits / 2 ^ mb) % 2 ^ eb = 0
  · rw [if_pos h, if_pos h]; omega
  · rw [if_neg h, if_neg h]; omega

theorem bits_eq_fields {mb eb bits : Nat} (hb : bits < 2 ^ (mb + eb + 1)) :
    bits = (if decide ((bits / 2 ^ (mb + eb)) % 2 = 1) then 2 ^ (mb + eb) else 0) +
      ((expField mb eb bits - 1) * 2 ^ mb + sigField mb eb bits) := by
  have hrec : bits = 2 ^ (mb + eb) * (bits / 2 ^ (mb + eb)) +
      (2 ^ mb * ((bits / 2 ^ mb) % 2 ^ eb) + bits % 2 ^ mb) := by
    rw [Nat.pow_add, ← Nat.div_div_eq_div_mul, Nat.mul_assoc, ← Nat.add_assoc, ← Nat.mul_add, Nat.div_add_mod,
      Nat.div_add_mod]
  have hsg : bits / 2 ^ (mb + eb) < 2 := Nat.div_lt_of_lt_mul (by rw [← Nat.pow_succ]; exact hb)
  unfold expField sigField
  generalize bits / 2 ^ (mb + eb) = sg at *
  generalize (bits / 2 ^ mb) % 2 ^ eb = e at *
  have hsign : (if decide (sg % 2 = 1) then 2 ^ (mb + eb) else 0) = 2 ^ (mb + eb) * sg := by
    have : sg = 0 ∨ sg = 1 := by omega
    rcases this with h | h <;> simp [h]
  rw [hsign]
  by_cases h : e = 0
  · rw [if_pos h, if_pos h]; subst h; omega
  · rw [if_neg h, if_neg h]
    have h1 : (e - 1) * 2 ^ mb + 2 ^ mb = 2 ^ mb * e := by
      rw [← Nat.succ_mul, Nat.succ_eq_add_one, Nat.sub_add_cancel (by omega), Nat.mul_comm]
    omega

theorem decode_eq (mb eb bits : Nat) (hfin : (bits / 2 ^ mb) % 2 ^ eb ≠ 2 ^ eb - 1) :
    FmtSpec.decode mb eb bits =
      if 2 ^ (eb - 1) - 1 + mb ≤ expField mb eb bits then
        .fin (decide ((bits / 2 ^ (mb + eb)) % 2 = 1))
          (sigField mb eb bits * 2 ^ (expField mb eb bits - (2 ^ (eb - 1) - 1 + mb))) 1
      else .fin (decide ((bits / 2 ^ (mb + eb)) % 2 = 1)) (sigField mb eb bits)
        (2 ^ (2 ^ (eb - 1) - 1 + mb - expField mb eb bits)) := by
  unfold FmtSpec.decode expField sigField
  simp only [hfin, if_false]

theorem generalBody_zero (den p : Nat) (hd : 0 < den) : FmtSpec.generalBody 0 den p = D 0 := by
  unfold FmtSpec.generalBody
  simp only [if_true]
  rw [if_pos ⟨by decide, by split <;> omega⟩]
  have := fixedBody_int 0 hd (((if p = 0 then 1 else p : Nat) : Int) - 1 - 0).toNat
  rw [Nat.zero_mul] at this
  rw [this, stripFraction_int]

theorem format_zero (mb eb p bits : Nat) (heb : 2 ≤ eb) (hb : bits < 2 ^ (mb + eb + 1))
    (he : (bits / 2 ^ mb) % 2 ^ eb = 0) (hf : bits % 2 ^ mb = 0) :
    FmtSpec.formatVal (FmtSpec.decode mb eb bits) p .default =
      FmtSpec.signed (decide ((bits / 2 ^ (mb + eb)) % 2 = 1)) (D 0) ∧
    bits = if decide ((bits / 2 ^ (mb + eb)) % 2 = 1) then 2 ^ (mb + eb) else 0 := by
  have h4 : 2 ^ 2 ≤ 2 ^ eb := Nat.pow_le_pow_right (by decide) heb
  have hbits := bits_eq_fields hb
  rw [decode_eq mb eb bits (by omega)]
  unfold expField sigField at *
  rw [if_pos he, if_pos he, hf] at *
  constructor
  · split
    · rw [Nat.zero_mul]; exact congrArg (FmtSpec.signed _) (generalBody_zero 1 p Nat.one_pos)
    · exact congrArg (FmtSpec.signed _) (generalBody_zero _ p (Nat.two_pow_pos _))
  · simpa using hbits

theorem decode_fin (mb eb bits : Nat) (hfin : (bits / 2 ^ mb) % 2 ^ eb ≠ 2 ^ eb - 1)
    (hnz : (bits / 2 ^ mb) % 2 ^ eb ≠ 0 ∨ bits % 2 ^ mb ≠ 0) :
    ∃ num den : Nat, FmtSpec.decode mb eb bits = .fin (decide ((bits / 2 ^ (mb + eb)) % 2 = 1)) num den ∧
      0 < num ∧ 0 < den ∧ (num : ℚ) / den = magQ mb eb bits ∧ den ≤ num * 2 ^ (2 ^ (eb - 1) - 1 + mb) := by
  obtain ⟨hM0, -, -⟩ := sigField_bounds hnz
  have hbiasc : ((2 : Int) ^ (eb - 1) - 1) = ((2 ^ (eb - 1) - 1 : Nat) : Int) := by
    rw [Nat.cast_sub Nat.one_le_two_pow]; push_cast; ring
  rw [decode_eq mb eb bits hfin]
  unfold magQ ulpExp
  rw [hbiasc]
  generalize expField mb eb bits = e1 at *
  generalize sigField mb eb bits = M at *
  generalize 2 ^ (eb - 1) - 1 = bias at *
  by_cases hbig : bias + mb ≤ e1
  · rw [if_pos hbig]
    refine ⟨_, 1, rfl, Nat.mul_pos hM0 (Nat.two_pow_pos _), Nat.one_pos, ?_,
      Nat.mul_pos (Nat.mul_pos hM0 (Nat.two_pow_pos _)) (Nat.two_pow_pos _)⟩
    push_cast
    rw [div_one, ← zpow_natCast (2 : ℚ) (e1 - (bias + mb))]
    congr 2
    omega
  · rw [if_neg hbig]
    refine ⟨M, _, rfl, hM0, Nat.two_pow_pos _, ?_, ?_⟩
    · push_cast
      rw [div_eq_mul_inv, ← zpow_natCast (2 : ℚ) (bias + mb - e1), ← zpow_neg]
      congr 2
      omega
    · calc 2 ^ (bias + mb - e1) ≤ 2 ^ (bias + mb) := Nat.pow_le_pow_right (by decide) (by omega)
        _ ≤ M * 2 ^ (bias + mb) := Nat.le_mul_of_pos_left _ hM0

theorem magQ_range (mb eb bits : Nat) (bias : Int) (hbias : bias = 2 ^ (eb - 1) - 1) (heb : 2 ≤ eb)
    (hfin : (bits / 2 ^ mb) % 2 ^ eb ≠ 2 ^ eb - 1) (hnz : (bits / 2 ^ mb) % 2 ^ eb ≠ 0 ∨ bits % 2 ^ mb ≠ 0) :
    (2 : ℚ) ^ (1 - bias - mb) ≤ magQ mb eb bits ∧ magQ mb eb bits < 2 ^ ((2 : Int) ^ eb - 1 - bias) := by
  obtain ⟨he1, he1'⟩ := expField_bounds mb heb hfin
  obtain ⟨hM0, hM, -⟩ := sigField_bounds hnz
  unfold magQ ulpExp
  rw [← hbias]
  generalize expField mb eb bits = e1 at *
  generalize sigField mb eb bits = M at *
  have hM1 : (1 : ℚ) ≤ M := by exact_mod_cast hM0
  have hMq : (M : ℚ) < 2 ^ ((mb : Int) + 1) := by rw [← Nat.cast_succ, zpow_natCast]; exact_mod_cast hM
  have he : (e1 : Int) + 2 ≤ 2 ^ eb := by exact_mod_cast he1'
  constructor
  · calc (2 : ℚ) ^ (1 - bias - mb) ≤ 2 ^ ((e1 : Int) - bias - mb) := zpow_le_zpow_right₀ (by norm_num) (by omega)
      _ ≤ M * 2 ^ ((e1 : Int) - bias - mb) := le_mul_of_one_le_left (by positivity) hM1
  · calc (M : ℚ) * 2 ^ ((e1 : Int) - bias - mb) < 2 ^ ((mb : Int) + 1) * 2 ^ ((e1 : Int) - bias - mb) :=
          mul_lt_mul_of_pos_right hMq (by positivity)
      _ = 2 ^ ((e1 : Int) - bias + 1) := zpow_mul_zpow_eq (by norm_num) (by ring)
      _ ≤ 2 ^ ((2 : Int) ^ eb - 1 - bias) := zpow_le_zpow_right₀ (by norm_num) (by omega)

/-- **the `%.{p}g` reference text of a finite non-zero pattern denotes a rational within `2^mb/10^(P-1)` ulp of the
value** (strictly; within half of that when the significand is the power of two at the bottom of a binade): the
relative error `½·10^(1-P)` of `P` correctly rounded digits, and a significand below `2^(mb+1)`.
For binary64 at 17 digits: `2^52/10^16 < 0.4504`; for binary32 at 9 digits: `2^23/10^8 < 0.084`. -/
theorem text_value_close (mb eb p P bits : Nat) (hP : P = if p = 0 then 1 else p)
    (hrange : 2 ^ (2 ^ (eb - 1) - 1 + mb) ≤ 10 ^ 1199)
    (hfin : (bits / 2 ^ mb) % 2 ^ eb ≠ 2 ^ eb - 1) (hnz : (bits / 2 ^ mb) % 2 ^ eb ≠ 0 ∨ bits % 2 ^ mb ≠ 0) :
    ∃ m d : Nat, 0 < d ∧
      FmtSpec.readDecimal (FmtSpec.formatVal (FmtSpec.decode mb eb bits) p .default) =
        some (decide ((bits / 2 ^ (mb + eb)) % 2 = 1), m, d) ∧
      |(m : ℚ) / d - magQ mb eb bits| < (2 : ℚ) ^ mb / 10 ^ (P - 1) * ulpQ mb eb bits ∧
      (sigField mb eb bits = 2 ^ mb →
        |(m : ℚ) / d - magQ mb eb bits| ≤ (2 : ℚ) ^ mb / 10 ^ (P - 1) / 2 * ulpQ mb eb bits) := by
  obtain ⟨num, den, hdec, hnum, hden, hv, hdb⟩ := decode_fin mb eb bits hfin hnz
  obtain ⟨-, hM, -⟩ := sigField_bounds hnz
  obtain ⟨m, d, hd, hread, hclose⟩ := generalBody_value num den p P hP (decide ((bits / 2 ^ (mb + eb)) % 2 = 1))
    hnum hden (le_trans hdb (Nat.mul_le_mul_left _ hrange))
  rw [hv] at hclose
  have hu := ulpQ_pos mb eb bits
  have hT : (0 : ℚ) < 10 ^ (P - 1) := by positivity
  rw [magQ_eq] at hclose ⊢
  generalize ulpQ mb eb bits = u at *
  refine ⟨m, d, hd, by rw [hdec]; exact hread, lt_of_le_of_lt hclose ?_, fun hs => le_of_le_of_eq hclose ?_⟩
  · have hMq : (sigField mb eb bits : ℚ) < 2 * 2 ^ mb := by
      rw [Nat.pow_succ, Nat.mul_comm] at hM; exact_mod_cast hM
    calc (sigField mb eb bits : ℚ) * u / 10 ^ (P - 1) / 2 = sigField mb eb bits / 2 * (u / 10 ^ (P - 1)) := by ring
      _ < 2 ^ mb * (u / 10 ^ (P - 1)) := mul_lt_mul_of_pos_right (by linarith) (div_pos hu hT)
      _ = 2 ^ mb / 10 ^ (P - 1) * u := by ring
  · rw [hs]; push_cast; ring

/-- **the tie-free zone** (plain ℚ): if `V` is within `δ` ulp of the value (`δ/2` at the bottom of a binade) and `y`
within `ε` ulp of `V`, `δ + 2ε < 1/2`, then `y` lies strictly between the rounding midpoints around the value —
half an ulp above, half an ulp below, a quarter below when the significand is `2^mb` (where the spacing halves;
relevant for normal numbers above the lowest binade, harmless otherwise).  Any rounding that is correct away from
ties (nearest-even, half-up, …) therefore maps `y` to the pattern. -/
theorem tie_free_zone (mb eb bits : Nat) (δ ε V y : ℚ) (hδ : δ + 2 * ε < 1 / 2) (hε : 0 ≤ ε)
    (hV : |V - magQ mb eb bits| < δ * ulpQ mb eb bits)
    (hVb : sigField mb eb bits = 2 ^ mb → |V - magQ mb eb bits| ≤ δ / 2 * ulpQ mb eb bits)
    (hy : |y - V| ≤ ε * ulpQ mb eb bits) :
    magQ mb eb bits - ulpQ mb eb bits / 2 < y ∧ y < magQ mb eb bits + ulpQ mb eb bits / 2 ∧
    (sigField mb eb bits = 2 ^ mb → magQ mb eb bits - ulpQ mb eb bits / 4 < y) := by
  have hu := ulpQ_pos mb eb bits
  generalize ulpQ mb eb bits = u at *
  generalize magQ mb eb bits = v at *
  rw [abs_lt] at hV
  rw [abs_le] at hy
  have h1 : (δ + 2 * ε) * u < 1 / 2 * u := mul_lt_mul_of_pos_right hδ hu
  have h2 : 0 ≤ ε * u := mul_nonneg hε hu.le
  refine ⟨by linarith, by linarith, fun hs => ?_⟩
  have := hVb hs
  rw [abs_le] at this
  linarith

theorem nearestBits_closed_bits (mb eb bits rn rd : Nat) (heb : 2 ≤ eb) (hb : bits < 2 ^ (mb + eb + 1))
    (hfin : (bits / 2 ^ mb) % 2 ^ eb ≠ 2 ^ eb - 1) (hnz : (bits / 2 ^ mb) % 2 ^ eb ≠ 0 ∨ bits % 2 ^ mb ≠ 0)
    (hrd : 0 < rd)
    (hlo : magQ mb eb bits - ulpQ mb eb bits / 2 ≤ (rn : ℚ) / rd)
    (hloe : magQ mb eb bits - ulpQ mb eb bits / 2 = (rn : ℚ) / rd → sigField mb eb bits % 2 = 0)
    (hhi : (rn : ℚ) / rd ≤ magQ mb eb bits + ulpQ mb eb bits / 2)
    (hhie : (rn : ℚ) / rd = magQ mb eb bits + ulpQ mb eb bits / 2 → sigField mb eb bits % 2 = 0)
    (hq : sigField mb eb bits = 2 ^ mb → 1 < expField mb eb bits →
      magQ mb eb bits - ulpQ mb eb bits / 4 ≤ (rn : ℚ) / rd) :
    FmtSpec.nearestBits mb eb (decide ((bits / 2 ^ (mb + eb)) % 2 = 1)) rn rd = bits := by
  obtain ⟨he1, he1'⟩ := expField_bounds mb heb hfin
  obtain ⟨hM0, hM, hnorm⟩ := sigField_bounds hnz
  have hbits := bits_eq_fields hb
  have hu := ulpQ_pos mb eb bits
  unfold magQ ulpQ ulpExp at *
  generalize expField mb eb bits = e1 at *
  generalize sigField mb eb bits = M at *
  generalize hbias : (2 : Int) ^ (eb - 1) - 1 = bias at *
  have hrn : 0 < rn := by
    have hrdq : (0 : ℚ) < rd := by exact_mod_cast hrd
    have hM0q : (1 : ℚ) ≤ M := by exact_mod_cast hM0
    have := le_mul_of_one_le_left hu.le hM0q
    have := (div_pos_iff_of_pos_right hrdq).mp (by linarith only [this, hlo, hu] : (0 : ℚ) < (rn : ℚ) / rd)
    exact_mod_cast this
  rw [nearestBits_eq_closed mb eb _ rn rd hrn hrd e1 M bias hbias.symm he1 he1' hM hnorm (by linarith only [hlo])
    (fun h => hloe (by rw [← h]; ring)) (by linarith only [hhi]) (fun h => hhie (by rw [h]; ring))
    (fun h h' => by linarith only [hq h h']), ← hbits]


theorem nearestBits_zero (mb eb : Nat) (neg : Bool) (rd : Nat) :
    FmtSpec.nearestBits mb eb neg 0 rd = (if neg then 2 ^ (mb + eb) else 0) := by
  unfold FmtSpec.nearestBits; simp

theorem margin_format (mb eb p P bits : Nat) (ε : ℚ) (hP : P = if p = 0 then 1 else p) (heb : 2 ≤ eb)
    (hrange : 2 ^ (2 ^ (eb - 1) - 1 + mb) ≤ 10 ^ 1199) (hb : bits < 2 ^ (mb + eb + 1))
    (hε : 0 ≤ ε) (hδ : (2 : ℚ) ^ mb / 10 ^ (P - 1) + 2 * ε < 1 / 2)
    (hfin : (bits / 2 ^ mb) % 2 ^ eb ≠ 2 ^ eb - 1) (hnz : (bits / 2 ^ mb) % 2 ^ eb ≠ 0 ∨ bits % 2 ^ mb ≠ 0) :
    ∃ m d : Nat, 0 < d ∧
      FmtSpec.readDecimal (FmtSpec.formatVal (FmtSpec.decode mb eb bits) p .default) =
        some (decide ((bits / 2 ^ (mb + eb)) % 2 = 1), m, d) ∧
      |(m : ℚ) / d - magQ mb eb bits| < (2 : ℚ) ^ mb / 10 ^ (P - 1) * ulpQ mb eb bits ∧
      (∀ y : ℚ, |y - (m : ℚ) / d| ≤ ε * ulpQ mb eb bits →
        magQ mb eb bits - ulpQ mb eb bits / 2 < y ∧ y < magQ mb eb bits + ulpQ mb eb bits / 2 ∧
        (sigField mb eb bits = 2 ^ mb → magQ mb eb bits - ulpQ mb eb bits / 4 < y)) ∧
      (∀ rn rd : Nat, 0 < rd → |(rn : ℚ) / rd - (m : ℚ) / d| ≤ ε * ulpQ mb eb bits →
        FmtSpec.nearestBits mb eb (decide ((bits / 2 ^ (mb + eb)) % 2 = 1)) rn rd = bits) := by
  obtain ⟨m, d, hd, hread, hV, hVb⟩ := text_value_close mb eb p P bits hP hrange hfin hnz
  have hzone : ∀ y : ℚ, |y - (m : ℚ) / d| ≤ ε * ulpQ mb eb bits →
      magQ mb eb bits - ulpQ mb eb bits / 2 < y ∧ y < magQ mb eb bits + ulpQ mb eb bits / 2 ∧
      (sigField mb eb bits = 2 ^ mb → magQ mb eb bits - ulpQ mb eb bits / 4 < y) :=
    fun y hy => tie_free_zone mb eb bits _ ε _ y hδ hε hV hVb hy
  refine ⟨m, d, hd, hread, hV, hzone, ?_⟩
  intro rn rd hrd hy
  obtain ⟨h1, h2, h3⟩ := hzone _ hy
  exact nearestBits_closed_bits mb eb bits rn rd heb hb hfin hnz hrd h1.le (fun h => absurd h h1.ne) h2.le
    (fun h => absurd h h2.ne) (fun h _ => (h3 h).le)

/-- **A finite value of a binary format with `mb` stored significand bits, printed with `%.{p}g` where
`2^(mb+1) < 10^(P-1)`, reads back (exactly, then round-to-nearest-even) as the same bit pattern**: the text's value
itself lies in the tie-free zone; the two zeros are printed as `0` and `-0`. -/
theorem readBits_format (mb eb p P bits : Nat) (hP : P = if p = 0 then 1 else p) (heb : 2 ≤ eb)
    (hdig : 2 ^ (mb + 1) < 10 ^ (P - 1)) (hrange : 2 ^ (2 ^ (eb - 1) - 1 + mb) ≤ 10 ^ 1199)
    (hb : bits < 2 ^ (mb + eb + 1)) (hfin : (bits / 2 ^ mb) % 2 ^ eb ≠ 2 ^ eb - 1) :
    FmtSpec.readBits mb eb (FmtSpec.formatVal (FmtSpec.decode mb eb bits) p .default) = some bits := by
  by_cases hnz : (bits / 2 ^ mb) % 2 ^ eb ≠ 0 ∨ bits % 2 ^ mb ≠ 0
  · have hδ : (2 : ℚ) ^ mb / 10 ^ (P - 1) + 2 * 0 < 1 / 2 := by
      have : ((2 ^ (mb + 1) : Nat) : ℚ) < ((10 ^ (P - 1) : Nat) : ℚ) := by exact_mod_cast hdig
      push_cast at this
      rw [mul_zero, add_zero, div_lt_iff₀ (by positivity)]
      rw [pow_succ] at this; linarith
    obtain ⟨m, d, hd, hread, -, -, hnb⟩ := margin_format mb eb p P bits 0 hP heb hrange hb le_rfl hδ hfin hnz
    rw [readBits_of_readDecimal mb eb hread, hnb m d hd (by rw [sub_self, abs_zero, zero_mul])]
  · simp only [not_or, ne_eq, not_not] at hnz
    obtain ⟨ht, hbits⟩ := format_zero mb eb p bits heb hb hnz.1 hnz.2
    rw [ht, readBits_of_readDecimal mb eb (readDecimal_signed_D _ 0), nearestBits_zero, ← hbits]

/-- `hrange` for binary64: its smallest positive value, `2^-(1023+52-1)`, is within the reach `10^-1199` of the reference (`exists_decExp`) -/
theorem range64 : 2 ^ (2 ^ (11 - 1) - 1 + 52) ≤ 10 ^ 1199 :=
  le_trans (Nat.pow_le_pow_right (by decide) (show 2 ^ (11 - 1) - 1 + 52 ≤ 1199 by decide))
    (Nat.pow_le_pow_left (by decide) 1199)

theorem range32 : 2 ^ (2 ^ (8 - 1) - 1 + 23) ≤ 10 ^ 1199 :=
  le_trans (Nat.pow_le_pow_right (by decide) (show 2 ^ (8 - 1) - 1 + 23 ≤ 1199 by decide))
    (Nat.pow_le_pow_left (by decide) 1199)

theorem zero_text9 :
    FmtSpec.readDecimal (FmtSpec.format32 0 9 .default) = some (false, 0, 1) ∧
    FmtSpec.readDecimal (FmtSpec.format32 (2 ^ 31) 9 .default) = some (true, 0, 1) ∧
    FmtSpec.nearestBits 23 8 false 0 1 = 0 ∧ FmtSpec.nearestBits 23 8 true 0 1 = 2 ^ 31 := by
  decide +kernel

end Qentem.Proofs.Ident
