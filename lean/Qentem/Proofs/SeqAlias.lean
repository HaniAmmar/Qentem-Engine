/-!
# Explicit-heap A-model of `Array::operator+=(const Array &src)` (Array.hpp:131-150)

The value-level model (`Model/Seq.lean`) reads the source before it updates the destination, so it
cannot exhibit an ordering defect between the two when they are the same object.  This file models
just that one function over an explicit heap (blocks of cells, object records `{ptr, size, cap}` in a
table, so `src` may be the destination), once with the statement order the tree had before commit 5f6da32
(`appendShipped`) and once with the order of that commit (`appendPatched`, the current code), in
checked semantics (`Except Fault`).

Proved for every list and capacity: `patched_self_append : PatchedSelfAppend` (loop invariant
`copyLoop_self` over the heap).  By kernel evaluation on concrete worlds (labelled tests, `decide`,
names ending `_partial`): the old order writes past the block on `a += a` with an exact-fit block,
over-copies inside spare capacity, and is correct for distinct objects.
-/
namespace Qentem.SeqAlias

inductive Fault where
  | nullDeref | oobRead | oobWrite | useAfterFree | uninitRead
deriving DecidableEq, Repr

instance {β : Type} [DecidableEq β] : DecidableEq (Except Fault β) := fun a b =>
  match a, b with
  | .ok x, .ok y => if h : x = y then isTrue (by rw [h]) else isFalse (by intro e; cases e; exact h rfl)
  | .error x, .error y => if h : x = y then isTrue (by rw [h]) else isFalse (by intro e; cases e; exact h rfl)
  | .ok _, .error _ => isFalse (by intro e; cases e)
  | .error _, .ok _ => isFalse (by intro e; cases e)

structure Obj where
  ptr : Option Nat     -- block id
  size : Nat
  cap : Nat
deriving DecidableEq, Repr

/-- A heap block: `none` once freed; a cell is `none` until constructed. -/
abbrev Block := Option (List (Option Nat))

structure World where
  objs : List Obj
  heap : List Block
deriving DecidableEq, Repr

def getObj (w : World) (r : Nat) : Except Fault Obj :=
  match w.objs[r]? with
  | some o => .ok o
  | none => .error .nullDeref

def setObj (w : World) (r : Nat) (o : Obj) : World := { w with objs := w.objs.set r o }

/-- `Memory::Allocate(n)`: a fresh block of `n` unconstructed cells. -/
def alloc (w : World) (n : Nat) : World × Nat :=
  ({ w with heap := w.heap ++ [some (List.replicate n none)] }, w.heap.length)

def free (w : World) (p : Option Nat) : World :=
  match p with
  | none => w
  | some b => { w with heap := w.heap.set b none }

def readCell (w : World) (p : Option Nat) (i : Nat) : Except Fault Nat :=
  match p with
  | none => .error .nullDeref
  | some b =>
    match w.heap[b]? with
    | some (some cells) =>
      match cells[i]? with
      | some (some v) => .ok v
      | some none => .error .uninitRead
      | none => .error .oobRead
    | _ => .error .useAfterFree

def writeCell (w : World) (p : Option Nat) (i v : Nat) : Except Fault World :=
  match p with
  | none => .error .nullDeref
  | some b =>
    match w.heap[b]? with
    | some (some cells) =>
      if i < cells.length then .ok { w with heap := w.heap.set b (some (cells.set i (some v))) }
      else .error .oobWrite
    | _ => .error .useAfterFree

/-- Raw `Memory::Copy` of the first `n` cells (constructed or not) of block `from` into block `to`. -/
def rawCopy (w : World) (to frm : Option Nat) (n : Nat) : Except Fault World :=
  if n = 0 then .ok w else
  match to, frm with
  | some t, some f =>
    match w.heap[t]?, w.heap[f]? with
    | some (some tc), some (some fc) =>
      if n ≤ tc.length ∧ n ≤ fc.length then .ok { w with heap := w.heap.set t (some (fc.take n ++ tc.drop n)) }
      else .error .oobWrite
    | _, _ => .error .useAfterFree
  | _, _ => .error .nullDeref

/-- private `resize(new_size)` (372-381) of object `r`. -/
def resize (w : World) (r n : Nat) : Except Fault World := do
  let o ← getObj w r
  let (w1, b) := alloc w n
  let w2 := setObj w1 r { o with ptr := some b, cap := n }
  let w3 ← rawCopy w2 (some b) o.ptr o.size
  pure (free w3 o.ptr)

/-- The copy loop `while (src_item < src_end) { Initialize(storage, *src_item); ++storage; ++src_item; }`
as `k` rounds from source cell `i` to destination cell `j`. -/
def copyLoop (w : World) (dst src : Option Nat) : Nat → Nat → Nat → Except Fault World
  | 0, _, _ => .ok w
  | k + 1, i, j => do
    let v ← readCell w src i
    let w' ← writeCell w dst j v
    copyLoop w' dst src k (i + 1) (j + 1)

/-- The function as it was between ea6fc6e and 5f6da32: `src.Size()` is read three times; the third
read comes after `index_ += …`. -/
def appendShipped (w : World) (r s : Nat) : Except Fault World := do
  let d ← getObj w r
  let sr ← getObj w s
  let nSize := d.size + sr.size                          -- n_size = Size() + src.Size()
  let w1 ← if nSize > d.cap then resize w r nSize else pure w
  let d1 ← getObj w1 r
  let off := d1.size                                      -- storage = Storage() + Size()
  let s1 ← getObj w1 s
  let w2 := setObj w1 r { d1 with size := d1.size + s1.size }   -- index_ += src.Size()
  let s2 ← getObj w2 s                                    -- src.First(), src.Size() read again
  copyLoop w2 d1.ptr s2.ptr s2.size 0 off

/-- The current code (5f6da32): `src.Size()` is read once, before anything moves. -/
def appendPatched (w : World) (r s : Nat) : Except Fault World := do
  let d ← getObj w r
  let sr ← getObj w s
  let srcSize := sr.size
  let nSize := d.size + srcSize
  let w1 ← if nSize > d.cap then resize w r nSize else pure w
  let d1 ← getObj w1 r
  let off := d1.size
  let s1 ← getObj w1 s                                    -- src.First() after the reallocation
  let w2 := setObj w1 r { d1 with size := d1.size + srcSize }
  copyLoop w2 d1.ptr s1.ptr srcSize 0 off

/-- The constructed items of object `r` (`none` if a cell in `[0, size)` is missing or unconstructed). -/
def content (w : World) (r : Nat) : Option (List Nat) :=
  match w.objs[r]? with
  | some o =>
    match o.ptr with
    | none => if o.size = 0 then some [] else none
    | some b =>
      match w.heap[b]? with
      | some (some cells) => if o.size ≤ cells.length then (cells.take o.size).mapM id else none
      | _ => none
  | none => none

/-- Constructed cells beyond `size` (items that will never be destroyed — a leak for owning types). -/
def strayCells (w : World) (r : Nat) : Nat :=
  match w.objs[r]? with
  | some o =>
    match o.ptr with
    | some b =>
      match w.heap[b]? with
      | some (some cells) => ((cells.drop o.size).filter Option.isSome).length
      | _ => 0
    | none => 0
  | none => 0

/-- A world with one array holding `l` in a block of `cap` cells (object 0) and a second one holding `m`. -/
def world (l : List Nat) (cap : Nat) (m : List Nat) : World :=
  { objs := [⟨some 0, l.length, cap⟩, ⟨some 1, m.length, m.length⟩],
    heap := [some (l.map some ++ List.replicate (cap - l.length) none), some (m.map some)] }

def outcome (r : Except Fault World) (obj : Nat) : Except Fault (Option (List Nat) × Nat) :=
  r.map fun w => (content w obj, strayCells w obj)

/-- The full-strength statement for the repaired function (proved below: `patched_self_append`). -/
def PatchedSelfAppend : Prop :=
  ∀ (l : List Nat) (cap : Nat), l.length ≤ cap →
    outcome (appendPatched (world l cap []) 0 0) 0 = .ok (some (l ++ l), 0)

/-- `a=[1,2,3]` exact fit, `a += a`, order before 5f6da32: write past the new 6-cell block. -/
theorem shipped_self_append_overflows_partial :
    appendShipped (world [1, 2, 3] 3 []) 0 0 = .error .oobWrite := by decide

/-- Same with spare capacity (8 cells): no fault, size 4 is right, but two surplus items were
constructed beyond `size`. -/
theorem shipped_self_append_overcopies_partial :
    outcome (appendShipped (world [1, 2] 8 []) 0 0) 0 = .ok (some [1, 2, 1, 2], 2) := by decide

/-- Distinct objects: the order before 5f6da32 is right (this is what ea6fc6e repaired). -/
theorem shipped_distinct_ok_partial :
    outcome (appendShipped (world [1, 2] 2 [3, 4]) 0 1) 0 = .ok (some [1, 2, 3, 4], 0) := by decide

/-- Patched order: `l ++ l`, nothing stray — across a reallocation and inside spare capacity. -/
theorem patched_self_append_partial :
    outcome (appendPatched (world [1, 2, 3] 3 []) 0 0) 0 = .ok (some [1, 2, 3, 1, 2, 3], 0) ∧
    outcome (appendPatched (world [1, 2] 8 []) 0 0) 0 = .ok (some [1, 2, 1, 2], 0) ∧
    outcome (appendPatched (world [] 0 []) 0 0) 0 = .ok (some [], 0) ∧
    outcome (appendPatched (world [1, 2] 2 [3, 4]) 0 1) 0 = .ok (some [1, 2, 3, 4], 0) := by decide

theorem set_same_of_get {α : Type} (l : List α) (b : Nat) (x : α) (h : l[b]? = some x) : l.set b x = l := by
  have hb : b < l.length := (List.getElem?_eq_some_iff.1 h).1
  rw [List.getElem?_eq_getElem hb] at h
  injection h with h
  rw [← h]; exact List.set_getElem_self hb

theorem copyLoop_self (l : List Nat) (b : Nat) : ∀ (k i m : Nat) (w : World), i + k = l.length → k ≤ m →
    w.heap[b]? = some (some (l.map some ++ (l.take i).map some ++ List.replicate m none)) →
    ∃ w', copyLoop w (some b) (some b) k i (l.length + i) = .ok w' ∧ w'.objs = w.objs ∧
      w'.heap = w.heap.set b (some (l.map some ++ l.map some ++ List.replicate (m - k) none)) := by
  intro k
  induction k with
  | zero =>
    intro i m w hik _ hb
    have : i = l.length := by omega
    subst this
    refine ⟨w, rfl, rfl, ?_⟩
    rw [List.take_length] at hb
    simp only [Nat.sub_zero]
    exact (set_same_of_get _ _ _ hb).symm
  | succ k ih =>
    intro i m w hik hkm hb
    have hi : i < l.length := by omega
    have hbl : b < w.heap.length := (List.getElem?_eq_some_iff.1 hb).1
    obtain ⟨m', rfl⟩ : ∃ m', m = m' + 1 := ⟨m - 1, by omega⟩
    have hread : readCell w (some b) i = .ok l[i] := by
      simp only [readCell, hb]
      rw [List.append_assoc, List.getElem?_append_left (by simp; exact hi)]
      simp [hi]
    let cells := l.map some ++ (l.take i).map some ++ List.replicate (m' + 1) (none : Option Nat)
    have hlen : l.length + i < cells.length := by simp [cells]; omega
    have hset : cells.set (l.length + i) (some l[i]) =
        l.map some ++ (l.take (i + 1)).map some ++ List.replicate m' none := by
      have h1 : (l.map some ++ (l.take i).map some).length = l.length + i := by simp; omega
      simp only [cells]
      rw [List.set_append_right _ _ (by omega), h1, Nat.sub_self, List.replicate_succ, List.set_cons_zero]
      have e : (l.take (i + 1)).map some = (l.take i).map some ++ [some l[i]] := by
        rw [List.take_succ_eq_append_getElem hi, List.map_append]; rfl
      rw [e]; simp only [List.append_assoc, List.cons_append, List.nil_append]
    have hwrite : writeCell w (some b) (l.length + i) l[i] =
        .ok { w with heap := w.heap.set b (some (l.map some ++ (l.take (i + 1)).map some ++ List.replicate m' none)) } := by
      simp only [writeCell, hb]
      rw [if_pos hlen, hset]
    obtain ⟨w', h1, h2, h3⟩ := ih (i + 1) m'
      { w with heap := w.heap.set b (some (l.map some ++ (l.take (i + 1)).map some ++ List.replicate m' none)) }
      (by omega) (by omega) (by simp [hbl])
    refine ⟨w', ?_, by simpa using h2, ?_⟩
    · simp only [copyLoop, hread, bind, Except.bind, hwrite]
      exact h1
    · rw [h3]; simp [List.set_set]

theorem mapM_id_some (l : List Nat) : (l.map some).mapM id = some l := by
  induction l with
  | nil => rfl
  | cons a t ih => simp [List.mapM_cons, ih]

theorem outcome_done (l : List Nat) (w : World) (b cap m : Nat) (o1 : Obj)
    (hobjs : w.objs = [⟨some b, l.length + l.length, cap⟩, o1])
    (hheap : w.heap[b]? = some (some (l.map some ++ l.map some ++ List.replicate m none))) :
    outcome (.ok w) 0 = .ok (some (l ++ l), 0) := by
  have e1 : (l.map some ++ l.map some ++ List.replicate m (none : Option Nat)).take (l.length + l.length) = (l ++ l).map some := by
    rw [List.take_left' (by simp)]; simp
  have e2 : (l.map some ++ l.map some ++ List.replicate m (none : Option Nat)).drop (l.length + l.length) = List.replicate m none := by
    rw [List.drop_left' (by simp)]
  simp only [outcome, Except.map, content, strayCells, hobjs, List.getElem?_cons_zero, hheap, e1, e2, mapM_id_some]
  have e3 : l.length + l.length ≤ (l.map some ++ l.map some ++ List.replicate m (none : Option Nat)).length := by simp
  rw [if_pos e3]
  simp

theorem patched_self_append : PatchedSelfAppend := by
  intro l cap hcap
  by_cases hg : l.length + l.length > cap
  · -- reallocation: new block 2, old block 0 released
    have hn : l.length ≠ 0 := by omega
    have hloop := copyLoop_self l 2 l.length 0 l.length
      { objs := [⟨some 2, l.length + l.length, l.length + l.length⟩, ⟨some 1, 0, 0⟩],
        heap := [none, some [], some (l.map some ++ List.replicate l.length none)] }
      (by omega) (by omega) (by simp)
    obtain ⟨w', h1, h2, h3⟩ := hloop
    have hrun : appendPatched (world l cap []) 0 0 = .ok w' := by
      simp only [Nat.add_zero] at h1
      rw [← h1]
      simp [appendPatched, getObj, world, hg, bind, Except.bind, pure, Except.pure, setObj, resize, alloc, rawCopy, hn, free]
    rw [hrun]
    exact outcome_done l w' 2 (l.length + l.length) (l.length - l.length) _ h2 (by rw [h3]; simp)
  · -- in place
    have hloop := copyLoop_self l 0 l.length 0 (cap - l.length)
      { objs := [⟨some 0, l.length + l.length, cap⟩, ⟨some 1, 0, 0⟩],
        heap := [some (l.map some ++ List.replicate (cap - l.length) none), some []] }
      (by omega) (by omega) (by simp)
    obtain ⟨w', h1, h2, h3⟩ := hloop
    have hrun : appendPatched (world l cap []) 0 0 = .ok w' := by
      simp only [Nat.add_zero] at h1
      rw [← h1]
      simp [appendPatched, getObj, world, hg, bind, Except.bind, pure, Except.pure, setObj]
    rw [hrun]
    exact outcome_done l w' 0 cap (cap - l.length - l.length) _ h2 (by rw [h3]; simp)

end Qentem.SeqAlias
