import Qentem.Proofs.NumToStrReadBack
import Qentem.Props.C09Outcome
/-! C11 helper: the round trip through the **real parser model** (`Qentem.StrToNum.strToNum`, property C09)
for doubles that hold an integer below 2^53: `format17` prints the plain numeral, and the scan of a whole integer numeral
(`strToNum_int_text`, either sign) reads it back exactly. -/
namespace Qentem.StrToNum
open Qentem.Props.C09

/-- the optional minus sign of `FmtSpec.signed` as a prefix -/
def sgOf (neg : Bool) : List Nat := if neg then [45] else []

theorem signed_eq (neg : Bool) (body : List Nat) : FmtSpec.signed neg body = sgOf neg ++ body := by
  cases neg <;> simp [FmtSpec.signed, sgOf, FmtSpec.cMinus]

theorem sgOf_two (neg : Bool) : sgOf neg = [] ∨ sgOf neg = [45] := by cases neg <;> simp [sgOf]

theorem sgOf_cases (neg : Bool) : sgOf neg = [] ∨ sgOf neg = [43] ∨ sgOf neg = [45] :=
  (sgOf_two neg).imp_right Or.inr

theorem sgOf_dec (neg : Bool) : decide (sgOf neg = [45]) = neg := by cases neg <;> simp [sgOf]

theorem sgOf_le (neg : Bool) : (sgOf neg).length ≤ 1 := by cases neg <;> decide

theorem strToNum_int_text (neg : Bool) (d1 : Nat) (xs : List Nat) (h1 : isNonZeroDigit d1 = true)
    (hxs : AllDigits xs) (hlen : xs.length ≤ 17) (t : List Nat) (ht : FmtSpec.signed neg (d1 :: xs) = t) :
    strToNum t 0 t.length =
      some ⟨if neg then .integer else .natural, if neg then 2 ^ 64 - decVal (d1 :: xs) else decVal (d1 :: xs),
        t.length⟩ := by
  rw [signed_eq] at ht
  have hsl := sgOf_le neg
  have htl : 0 + (sgOf neg).length + 1 + xs.length = t.length := by
    rw [← ht, List.length_append, List.length_cons]; omega
  have hv : decVal (d1 :: xs) < 2 ^ 63 :=
    Nat.lt_of_lt_of_le (mantissa_bounds d1 xs _ h1 hxs rfl).2
      (Nat.le_trans (Nat.pow_le_pow_right (by decide) (by omega : xs.length + 1 ≤ 18)) (by decide))
  obtain ⟨hsg, hM⟩ := strToNum_signed t 0 t.length (sgOf neg) d1 (d1 :: xs) (sgOf_cases neg)
    (digit_not_sign (isNonZeroDigit_isDigit h1)) rfl (by rw [ht]; exact unitsAt_self t)
  rw [hsg, sgOf_dec, afterSign_int t t.length neg _ d1 xs (by omega) h1 hxs hM (Or.inl htl) (by omega) (fun _ => by omega),
    htl]

end Qentem.StrToNum

namespace Qentem.Proofs.NumToStr
open Qentem.NumToStr Qentem.Generated.NumToStr

theorem roundtrip17_int_parser (bits j : Nat)
    (h : IntValued64 ((bits / 2 ^ 52) % 2 ^ 11) (bits % 2 ^ 52) j) (hsmall : (bits / 2 ^ 52) % 2 ^ 11 - 1023 ≤ 52) :
    ∃ t n den, 0 < den ∧ format17 bits = .ok t ∧
      FmtSpec.decode64 bits = .fin (decide (bits / 2 ^ 63 % 2 = 1)) (n * den) den ∧
      StrToNum.strToNum t 0 t.length =
        some (if bits / 2 ^ 63 % 2 = 1 then ⟨.integer, 2 ^ 64 - n, t.length⟩ else ⟨.natural, n, t.length⟩) := by
  obtain ⟨den, hden, hdec⟩ := decode64_int h
  have hfmt := format17_small_int bits j h hsmall
  generalize hn : intValue64 ((bits / 2 ^ 52) % 2 ^ 11) (bits % 2 ^ 52) = n at *
  have hnlt : n < 10 ^ 17 := by
    rw [← hn, intValue64_small h.he1 (by omega)]
    have hf := h.hf
    calc (2 ^ 52 + bits % 2 ^ 52) / 2 ^ (52 - ((bits / 2 ^ 52) % 2 ^ 11 - 1023)) ≤ 2 ^ 52 + bits % 2 ^ 52 := Nat.div_le_self _ _
      _ < 10 ^ 17 := by omega
  obtain ⟨d1, xs, hD, hnz, hxs⟩ := D_pos_head n (by rw [← hn]; exact intValue64_pos h)
  have hv : StrToNum.decVal (d1 :: xs) = n := by rw [← hD]; exact digitsValue_D n
  have hlen : xs.length ≤ 17 := by
    have := D_length_le n 17 (by decide) hnlt; rw [hD] at this; simp at this; omega
  refine ⟨_, n, den, hden, hfmt, hdec, ?_⟩
  rw [hD, StrToNum.strToNum_int_text _ d1 xs hnz hxs hlen _ rfl, hv]
  by_cases hs : bits / 2 ^ 63 % 2 = 1
  · simp only [hs, decide_true, if_true]
  · simp only [hs, decide_false, if_false, Bool.false_eq_true]

end Qentem.Proofs.NumToStr
