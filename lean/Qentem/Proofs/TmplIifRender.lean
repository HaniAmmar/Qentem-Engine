import Qentem.Proofs.TmplGenRenderBase
import Qentem.Proofs.TmplIifParse
/-!
# C02 — rendering a printed inline `{if}`

A value is rendered as a closed run of segment tags (`render_val`).  The tag has three shapes, by which of the two values
is present (`iifTag_T`, `iifTag_F`, `iifTag_TT`); `renderIif_env` is the whole tag under enclosing loops.
-/
namespace Qentem.Tmpl
open Qentem.Expr (Fault rd ScanCfg VarRef Item Num Val Env RealLike)
open Qentem.Generated.Tmpl

variable {R : Type}

section
variable [RealLike R]

/-- what the document says a value of an inline-if prints -/
def expVal (cx : RCtx R) (sc : List Binding) (v : Option (List Seg)) : List Nat :=
  match v with
  | some l => expSegsB cx sc l
  | none => []

/-- what the document says an inline-if prints -/
def expIif (cx : RCtx R) (sc : List Binding) (e : List Nat) (ts fs : Option (List Seg)) : List Nat :=
  match isTrue (evalText (specOf cx) sc e 34) with
  | none => []
  | some true => expVal cx sc ts
  | some false => expVal cx sc fs

/-- path conditions of a value -/
def ValPath (rn : List Nat → Option (Num R)) (Vs : List (List Nat)) (v : Option (List Seg)) : Prop :=
  ∀ l, v = some l → ∀ s ∈ l, s.pathV rn Vs

theorem render_val (cx : RCtx R) (cfg : ScanCfg R) (hg : cx.guardIndexRead = true) (hrn : cfg.readNum = cx.readNum)
    (E : List EnvE) (hD : ChainD cx.content (dOf E)) (l : List Seg) (p : Nat) (h : At cx.content p (printSegs l))
    (hp : ∀ s ∈ l, s.pathV cfg.readNum (vsOf E))
    (st : RState) (hit : ItemsOk st.items E) (g : Nat) (hg1 : nTags l + 1 ≤ g) :
    render cx g (tagsOfD cfg cx.content (dOf E) p l) p (p + (printSegs l).length) st =
      .ok (emit st (expSegsB cx (scOf E) l)) := by
  obtain ⟨o2, st2, r, r5⟩ := render_segs_more_env cx cfg hg hrn [] (p + (printSegs l).length) E hD l p p st (g - nTags l) h
    (Nat.le_refl _) (fun s hs => Seg.pathW_of_pathV (hp s hs)) (by omega) hit
  obtain ⟨f, hf⟩ : ∃ f, g - nTags l = f + 1 := ⟨g - nTags l - 1, by omega⟩
  rw [List.append_nil, Nat.sub_add_cancel (by omega)] at r5
  rw [r5, hf, r.finish h f]
  exact congrArg Except.ok (RState.ext' _ _ (r.out.trans (by rw [pend_self, List.nil_append]; rfl)) (r.items.eq trivial))

omit [RealLike R] in
theorem tagsOfD_length (cfg : ScanCfg R) (c : List Nat) (D : List LoopD) : ∀ (l : List Seg) (p : Nat),
    (tagsOfD cfg c D p l : List (Tag R)).length = nTags l := by
  intro l
  induction l with
  | nil => intro p; rfl
  | cons s r ih => intro p; cases s <;> simp [tagsOfD, nTags, ih]

theorem trunc32_id (n : Nat) (h : n < 4294967296) :
    trunc bits_InLineIfTag_FalseTagsStartID n = n ∧ trunc bits_InLineIfTag_TrueTagsStartID n = n := by
  simp only [trunc, show bits_InLineIfTag_FalseTagsStartID = 32 by decide, show bits_InLineIfTag_TrueTagsStartID = 32 by decide]
  exact ⟨Nat.mod_eq_of_lt (by omega), Nat.mod_eq_of_lt (by omega)⟩

/-! The offsets in the three shapes are word lengths: `{if case="` 10, the case text and its closing quote `e.length + 1`,
` true="` 7, ` false="` 8, the quote behind a value 1, the closing `}` 1. -/

omit [RealLike R] in
theorem iifTag_F (cfg : ScanCfg R) (c : List Nat) (D : List LoopD) (p : Nat) (e : List Nat) (lf : List Seg) :
    iifTag cfg c D p e none (some lf) =
      .iif (itemsAtC cfg c (refsD D) (p + 10) (p + 10 + e.length)) (tagsOfD cfg c D (p + 11 + e.length + 8) lf)
        { off := p, len := 12 + e.length + (9 + (printSegs lf).length), falseOff := 19 + e.length,
          falseLen := (printSegs lf).length } := by
  have h : p + 11 + e.length + 8 - p = 19 + e.length := by omega
  simp only [iifTag, iifFinal, iifF2, attrFields, iifId, tagsVal, tLen, fLen, List.nil_append, Nat.add_zero, h,
    show (0 : Nat) < 19 + e.length by omega, if_true, List.length_nil, (trunc32_id 0 (by omega)).1]

omit [RealLike R] in
theorem iifTag_T (cfg : ScanCfg R) (c : List Nat) (D : List LoopD) (p : Nat) (e : List Nat) (lt : List Seg) :
    iifTag cfg c D p e (some lt) none =
      .iif (itemsAtC cfg c (refsD D) (p + 10) (p + 10 + e.length)) (tagsOfD cfg c D (p + 11 + e.length + 7) lt)
        { off := p, len := 12 + e.length + (8 + (printSegs lt).length), trueOff := 18 + e.length,
          trueLen := (printSegs lt).length } := by
  have h : p + 11 + e.length + 7 - p = 18 + e.length := by omega
  simp only [iifTag, iifFinal, iifF2, attrFields, iifId, tagsVal, tLen, fLen, List.append_nil, Nat.add_zero, h,
    show ¬ (18 + e.length < 0) by omega, if_false, (trunc32_id 0 (by omega)).2]

omit [RealLike R] in
theorem iifTag_TT (cfg : ScanCfg R) (c : List Nat) (D : List LoopD) (p : Nat) (e : List Nat) (lt lf : List Seg)
    (hsz : nTags lt < 4294967296) :
    iifTag cfg c D p e (some lt) (some lf) =
      .iif (itemsAtC cfg c (refsD D) (p + 10) (p + 10 + e.length))
        (tagsOfD cfg c D (p + 11 + e.length + 7) lt ++ tagsOfD cfg c D (p + 11 + e.length + (8 + (printSegs lt).length) + 8) lf)
        { off := p, len := 12 + e.length + (8 + (printSegs lt).length) + (9 + (printSegs lf).length),
          trueOff := 18 + e.length, trueLen := (printSegs lt).length,
          falseOff := 27 + e.length + (printSegs lt).length, falseLen := (printSegs lf).length,
          falseStart := nTags lt } := by
  have h : p + 11 + e.length + 7 - p = 18 + e.length := by omega
  have h2 : p + 11 + e.length + (8 + (printSegs lt).length) + 8 - p = 27 + e.length + (printSegs lt).length := by omega
  simp only [iifTag, iifFinal, iifF2, attrFields, iifId, tagsVal, tLen, fLen, h, h2,
    show 18 + e.length < 27 + e.length + (printSegs lt).length by omega, if_true, tagsOfD_length,
    (trunc32_id (nTags lt) hsz).1]

theorem renderIif_env (cx : RCtx R) (cfg : ScanCfg R) (hg : cx.guardIndexRead = true) (hrn : cfg.readNum = cx.readNum)
    (E : List EnvE) (hD : ChainD cx.content (dOf E)) (o p : Nat) (e : List Nat) (ts fs : Option (List Seg))
    (ho : o ≤ p) (h : At cx.content p (printIif e ts fs))
    (he16 : e.length < 65536) (hvo : varsOkV cfg.readNum (vsOf E) e 34)
    (hpt : ValPath cfg.readNum (vsOf E) ts) (hpf : ValPath cfg.readNum (vsOf E) fs)
    (hone : ts ≠ none ∨ fs ≠ none) (hsz : (printIif e ts fs).length < 65536)
    (st : RState) (hit : ItemsOk st.items E) (fuel : Nat) (hf : nTagsVal ts + nTagsVal fs + 3 ≤ fuel) :
    renderTag cx fuel (iifTag cfg cx.content (dOf E) p e ts fs) o st =
      .ok (emit (emit st (pend cx.content o p)) (expIif cx (scOf E) e ts fs), p + (printIif e ts fs).length) := by
  obtain ⟨g, rfl⟩ : ∃ g, fuel = g + 1 := ⟨fuel - 1, by omega⟩
  have hlen := printIif_len e ts fs
  have hple : p ≤ cx.content.length := Nat.le_trans (Nat.le_add_right _ _) h.le
  have hsl := slice_pend ho hple
  have hq : At cx.content (p + 9) (34 :: (e ++ [34])) :=
    (show At cx.content p ([123, 105, 102, 32, 99, 97, 115, 101, 61] ++ ((34 :: (e ++ [34])) ++ (attrText ts fs ++ [125]))) by
      simpa [printIif, IIF1] using h).right.left
  obtain ⟨⟨v, hv, hvt⟩, _⟩ := case_val_env cx cfg hg hrn (emit st (pend cx.content o p)) e _ _ hq rfl E hD hit (Or.inr he16) hvo
  have hslp : slice cx.content p p = .ok [] := by
    simp only [slice, Nat.le_refl, hple, and_self, if_true, Nat.sub_self, List.take_zero]
  -- where the two values stand
  have hAt : At cx.content (p + 11 + e.length) (attrText ts fs) :=
    (show At cx.content (p + 10 + e.length + 1) (attrText ts fs ++ [125]) from
      h.right.right.right).left.cast
      (by omega)
  have hrT : ∀ lt, ts = some lt → ∀ s1 : RState, ItemsOk s1.items E → ∀ k, nTags lt + 1 ≤ k →
      render cx k (tagsOfD cfg cx.content (dOf E) (p + 11 + e.length + 7) lt)
        (p + 11 + e.length + 7) (p + 11 + e.length + 7 + (printSegs lt).length) s1 =
        .ok (emit s1 (expSegsB cx (scOf E) lt)) := by
    intro lt h s1 hi k hk
    subst h
    exact render_val cx cfg hg hrn E hD lt _
      (show At cx.content _ ((TRUEA ++ (printSegs lt ++ [34])) ++ _) from hAt).left.right.left (hpt lt rfl)
      s1 hi k hk
  have hrF : ∀ lf, fs = some lf → ∀ s1 : RState, ItemsOk s1.items E → ∀ k, nTags lf + 1 ≤ k →
      render cx k (tagsOfD cfg cx.content (dOf E) (p + 11 + e.length + tLen ts + 8) lf)
        (p + 11 + e.length + tLen ts + 8) (p + 11 + e.length + tLen ts + 8 + (printSegs lf).length) s1 =
        .ok (emit s1 (expSegsB cx (scOf E) lf)) := by
    intro lf h s1 hi k hk
    subst h
    exact render_val cx cfg hg hrn E hD lf _
      ((show At cx.content _ (_ ++ (FALSEA ++ (printSegs lf ++ [34]))) from hAt).right.right.left.cast (by
        cases ts <;> simp only [tLen, List.length_append, TRUEA, FALSEA, List.length_cons, List.length_nil] <;> omega))
      (hpf lf rfl) s1 hi k hk
  have hempty : ∀ s1 : RState, ∀ k, 1 ≤ k → render cx k ([] : List (Tag R)) p p s1 = .ok (emit s1 []) := by
    intro s1 k hk
    obtain ⟨k', rfl⟩ : ∃ k', k = k' + 1 := ⟨k - 1, by omega⟩
    simp only [render, hslp, bind, Except.bind]
  simp only [expIif, ← hvt]
  cases ts with
  | none =>
    cases fs with
    | none => rcases hone with h | h <;> exact absurd rfl h
    | some lf =>
      simp only [nTagsVal] at hf
      simp only [tLen, Nat.add_zero] at hrF
      rw [iifTag_F]
      simp only [renderTag, hsl, bind, Except.bind, hv, hlen, tLen, fLen, Nat.add_zero]
      cases htv : truth v with
      | none => simp [emit_nil]
      | some pos =>
        cases pos with
        | true =>
          simp only [if_true, show (0 : Nat) < 19 + e.length by omega, takeChk, Nat.zero_le, List.take_zero, 
            hempty _ g (by omega), expVal, emit_nil]
        | false =>
          simp only [Bool.false_eq_true, if_false, show ¬ (19 + e.length < 0) by omega, dropChk, Nat.zero_le, if_true,
            List.drop_zero]
          rw [show p + (19 + e.length) = p + 11 + e.length + 8 by omega,
            hrF lf rfl (emit st (pend cx.content o p)) hit g (by omega)]
          simp [expVal]
  | some lt =>
    have hnt := nTags_le lt
    cases fs with
    | none =>
      simp only [nTagsVal] at hf
      rw [iifTag_T]
      simp only [renderTag, hsl, bind, Except.bind, hv, hlen, tLen, fLen, Nat.add_zero]
      cases htv : truth v with
      | none => simp [emit_nil]
      | some pos =>
        cases pos with
        | true =>
          simp only [if_true, show ¬ (18 + e.length < 0) by omega, if_false, dropChk, Nat.zero_le, List.drop_zero]
          rw [show p + (18 + e.length) = p + 11 + e.length + 7 by omega,
            hrT lt rfl (emit st (pend cx.content o p)) hit g (by omega)]
          simp [expVal]
        | false =>
          simp only [Bool.false_eq_true, if_false, show (0 : Nat) < 18 + e.length by omega, if_true, takeChk, Nat.zero_le,
            List.take_zero, hempty _ g (by omega), expVal, emit_nil]
    | some lf =>
      simp only [nTagsVal] at hf
      have hszl : (printSegs lt).length < 65536 := by rw [hlen] at hsz; simp only [tLen] at hsz; omega
      simp only [tLen] at hrF
      rw [iifTag_TT _ _ _ _ _ _ _ (by omega)]
      have htk : takeChk (tagsOfD cfg cx.content (dOf E) (p + 11 + e.length + 7) lt ++
          tagsOfD cfg cx.content (dOf E) (p + 11 + e.length + (8 + (printSegs lt).length) + 8) lf) (nTags lt) =
          .ok (tagsOfD cfg cx.content (dOf E) (p + 11 + e.length + 7) lt) := by
        simp only [takeChk, List.length_append, tagsOfD_length, Nat.le_add_right, if_true,
          List.take_left' (tagsOfD_length cfg cx.content (dOf E) lt _)]
      have hdk : dropChk (tagsOfD cfg cx.content (dOf E) (p + 11 + e.length + 7) lt ++
          tagsOfD cfg cx.content (dOf E) (p + 11 + e.length + (8 + (printSegs lt).length) + 8) lf) (nTags lt) =
          .ok (tagsOfD cfg cx.content (dOf E) (p + 11 + e.length + (8 + (printSegs lt).length) + 8) lf) := by
        simp only [dropChk, List.length_append, tagsOfD_length, Nat.le_add_right, if_true,
          List.drop_left' (tagsOfD_length cfg cx.content (dOf E) lt _)]
      simp only [renderTag, hsl, bind, Except.bind, hv, hlen, tLen, fLen]
      cases htv : truth v with
      | none => simp [emit_nil]
      | some pos =>
        cases pos with
        | true =>
          simp only [if_true, show 18 + e.length < 27 + e.length + (printSegs lt).length by omega, htk]
          rw [show p + (18 + e.length) = p + 11 + e.length + 7 by omega,
            hrT lt rfl (emit st (pend cx.content o p)) hit g (by omega)]
          simp [expVal]
        | false =>
          simp only [Bool.false_eq_true, if_false, show ¬ (27 + e.length + (printSegs lt).length < 18 + e.length) by omega,
            hdk]
          rw [show p + (27 + e.length + (printSegs lt).length) =
            p + 11 + e.length + (8 + (printSegs lt).length) + 8 by omega,
            hrF lf rfl (emit st (pend cx.content o p)) hit g (by omega)]
          simp [expVal]

end

end Qentem.Tmpl
