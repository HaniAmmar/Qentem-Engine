import Qentem.Proofs.Order
/-! `Value` comparisons (`Val.lt/gt/le/ge/eq` over `JVal`): every operator compares the pointed-to values (`val_base`), and the
laws of the base comparisons are read off one case split over the pairs of kinds (`base_cases`). -/
namespace Qentem.Order

theorem nat_le_eq (a b : Nat) : decide (a ≤ b) = (decide (a < b) || a == b) := by
  rw [Bool.eq_iff_iff, Bool.or_eq_true, decide_eq_true_eq, decide_eq_true_eq, beq_iff_eq]; omega

theorem int_le_eq (a b : Int) : decide (a ≤ b) = (decide (a < b) || a == b) := by
  rw [Bool.eq_iff_iff, Bool.or_eq_true, decide_eq_true_eq, decide_eq_true_eq, beq_iff_eq]; omega

theorem realLe_eq (a b : Option Int) : realLe a b = (realLt a b || realEq a b) := by
  cases a <;> cases b <;> simp [realLe, realLt, realEq, int_le_eq]

theorem realEq_comm (a b : Option Int) : realEq a b = realEq b a := by
  cases a <;> cases b <;> simp [realEq]
  exact BEq.comm

/-! ### Reduction to pointer-free values: every operator compares the pointed-to values -/

theorem depth_zero_strip (a : JVal) (h : depth a = 0) : strip a = a := by
  cases a with
  | ptr t => cases h
  | _ => rfl

theorem depth_strip (a : JVal) : depth (strip a) = 0 := by
  induction a with
  | ptr t ih => exact ih
  | _ => rfl

theorem strip_strip (a : JVal) : strip (strip a) = strip a :=
  depth_zero_strip _ (depth_strip a)

theorem noNaN_strip (a : JVal) : noNaN (strip a) = noNaN a := by
  induction a with
  | ptr t ih => exact ih
  | _ => rfl

theorem derefRight_strip (f : JVal → JVal → Bool) (a b : JVal) : derefRight f a b = f a (strip b) := by
  induction b with
  | ptr t ih => exact ih
  | _ => rfl

/-- An operator defined by the three clauses of `Value`'s comparisons (both pointers, left pointer,
otherwise dereference the right operand) is the base comparison of the pointed-to values. -/
theorem val_base (V B : JVal → JVal → Bool)
    (hV : ∀ a b, V a b = match a, b with
      | .ptr a, .ptr b => V a b
      | .ptr a, b => V a b
      | a, b => derefRight B a b)
    (a b : JVal) : V a b = B (strip a) (strip b) := by
  induction a generalizing b with
  | ptr t ih => rw [hV]; cases b <;> exact ih _
  | _ => rw [hV]; cases b <;> exact derefRight_strip B _ _

theorem val_lt_base (a b : JVal) : Val.lt a b = Base.lt (strip a) (strip b) := val_base _ _ Val.lt.eq_def a b
theorem val_gt_base (a b : JVal) : Val.gt a b = Base.gt (strip a) (strip b) := val_base _ _ Val.gt.eq_def a b
theorem val_le_base (a b : JVal) : Val.le a b = Base.le (strip a) (strip b) := val_base _ _ Val.le.eq_def a b
theorem val_ge_base (a b : JVal) : Val.ge a b = Base.ge (strip a) (strip b) := val_base _ _ Val.ge.eq_def a b
theorem val_eq_base (a b : JVal) : Val.eq a b = Base.eq (strip a) (strip b) := val_base _ _ Val.eq.eq_def a b

theorem obsVal_base (a b : JVal) : obsVal a b =
    { lt := Base.lt (strip a) (strip b), le := Base.le (strip a) (strip b),
      gt := Base.gt (strip a) (strip b), ge := Base.ge (strip a) (strip b),
      eq := Base.eq (strip a) (strip b) } := by
  simp only [obsVal, val_lt_base, val_gt_base, val_le_base, val_ge_base, val_eq_base]

/-! ### Laws of the base comparisons

Two values are either of one kind with a content to compare, or they are compared by kind rank
alone.  `base_cases` is that case split; each law below is read off it. -/

/-- What the comparisons return for two values of different kinds (and for two pointers). -/
structure ByRank (a b : JVal) : Prop where
  lt : Base.lt a b = decide (rank a < rank b)
  gt : Base.gt a b = decide (rank a > rank b)
  le : Base.le a b = decide (rank a < rank b)
  ge : Base.ge a b = decide (rank a > rank b)
  eq : Base.eq a b = false
  ne : depth a = 0 → rank a ≠ rank b

theorem base_cases {motive : JVal → JVal → Prop}
    (obj : ∀ n m, motive (.obj n) (.obj m)) (arr : ∀ n m, motive (.arr n) (.arr m)) (str : ∀ s t, motive (.str s) (.str t))
    (nat : ∀ n m, motive (.nat n) (.nat m)) (int : ∀ n m, motive (.int n) (.int m)) (real : ∀ x y, motive (.real x) (.real y))
    (tru : motive .tru .tru) (fls : motive .fls .fls) (null : motive .null .null) (undefined : motive .undefined .undefined)
    (other : ∀ a b, ByRank a b → ByRank b a → motive a b) (a b : JVal) : motive a b := by
  cases a <;> cases b
  case obj.obj n m => exact obj n m
  case arr.arr n m => exact arr n m
  case str.str s t => exact str s t
  case nat.nat n m => exact nat n m
  case int.int n m => exact int n m
  case real.real x y => exact real x y
  case tru.tru => exact tru
  case fls.fls => exact fls
  case null.null => exact null
  case undefined.undefined => exact undefined
  case ptr.ptr t u =>
    exact other _ _ ⟨rfl, rfl, rfl, rfl, rfl, fun h => Nat.noConfusion h⟩ ⟨rfl, rfl, rfl, rfl, rfl, fun h => Nat.noConfusion h⟩
  all_goals
    exact other _ _ ⟨rfl, rfl, rfl, rfl, rfl, fun _ => Nat.ne_of_beq_eq_false rfl⟩
      ⟨rfl, rfl, rfl, rfl, rfl, fun _ => Nat.ne_of_beq_eq_false rfl⟩

theorem base_le_eq (a b : JVal) : Base.le a b = (Base.lt a b || Base.eq a b) := by
  induction a, b using base_cases with
  | obj n m | arr n m | nat n m => exact nat_le_eq n m
  | str s t => exact Str.le_eq s t
  | int n m => exact int_le_eq n m
  | real x y => exact realLe_eq x y
  | other a b h _ => rw [h.le, h.lt, h.eq, Bool.or_false]
  | _ => rfl

theorem nat_tri (n m : Nat) : tri3 (decide (n < m)) (n == m) (decide (n > m)) = true :=
  tri_of (p := n < m) (q := n = m) (r := n > m) (by omega)

theorem int_tri (n m : Int) : tri3 (decide (n < m)) (n == m) (decide (m < n)) = true :=
  tri_of (p := n < m) (q := n = m) (r := m < n) (by omega)

theorem base_tri (a b : JVal) (da : depth a = 0) (ha : noNaN a = true) (hb : noNaN b = true) :
    tri3 (Base.lt a b) (Base.eq a b) (Base.gt a b) = true := by
  induction a, b using base_cases with
  | obj n m | arr n m | nat n m => exact nat_tri n m
  | str s t => exact Str.tri s t
  | int n m => exact int_tri n m
  | real x y =>
    cases x with
    | none => cases ha
    | some n =>
      cases y with
      | none => cases hb
      | some m => exact int_tri n m
  | other a b h _ =>
    have t := nat_tri (rank a) (rank b)
    rw [beq_false_of_ne (h.ne da)] at t
    rw [h.lt, h.eq, h.gt]; exact t
  | _ => rfl

theorem base_gt_eq_lt_swap (a b : JVal) : Base.gt a b = Base.lt b a := by
  induction a, b using base_cases with
  | str s t => exact Str.gt_eq_lt_swap s t
  | other a b h h' => rw [h.gt, h'.lt]
  | _ => rfl

theorem base_eq_comm (a b : JVal) : Base.eq a b = Base.eq b a := by
  induction a, b using base_cases with
  | obj n m | arr n m | nat n m => exact BEq.comm
  | str s t => exact Str.eq_comm s t
  | int n m => exact BEq.comm
  | real x y => exact realEq_comm x y
  | other a b h h' => rw [h.eq, h'.eq]
  | _ => rfl

theorem base_ge_eq_le_swap (a b : JVal) : Base.ge a b = Base.le b a := by
  induction a, b using base_cases with
  | str s t => exact Str.ge_eq_le_swap s t
  | other a b h h' => rw [h.ge, h'.le]
  | _ => rfl

theorem base_ge_eq (a b : JVal) : Base.ge a b = (Base.gt a b || Base.eq a b) := by
  rw [base_ge_eq_le_swap, base_gt_eq_lt_swap, base_eq_comm]; exact base_le_eq b a

theorem base_lt_of_rank_lt (a b : JVal) (hr : rank a < rank b) : Base.lt a b = true := by
  induction a, b using base_cases with
  | other a b h _ => rw [h.lt]; exact decide_eq_true hr
  | _ => exact absurd hr (Nat.lt_irrefl _)

theorem base_rank_le_of_lt (a b : JVal) (hl : Base.lt a b = true) : rank a ≤ rank b := by
  induction a, b using base_cases with
  | other a b h _ => exact Nat.le_of_lt (of_decide_eq_true (h.lt ▸ hl))
  | _ => exact Nat.le_refl _

theorem realLt_trans (a b c : Option Int) : realLt a b = true → realLt b c = true → realLt a c = true := by
  cases a <;> cases b <;> cases c <;> simp [realLt]; omega

/-- Two values of one kind lie on the same side of every value of another kind, so only a first
value of that kind needs the content order. -/
theorem base_lt_trans (a b c : JVal) (h1 : Base.lt a b = true) (h2 : Base.lt b c = true) : Base.lt a c = true := by
  have nat {n m k : Nat} (h1 : decide (n < m) = true) (h2 : decide (m < k) = true) : decide (n < k) = true :=
    decide_eq_true (Nat.lt_trans (of_decide_eq_true h1) (of_decide_eq_true h2))
  induction b, c using base_cases generalizing a with
  | obj m k => cases a with
    | obj n => exact nat h1 h2
    | _ => exact h1
  | arr m k => cases a with
    | arr n => exact nat h1 h2
    | _ => exact h1
  | str t u => cases a with
    | str s => exact Str.lt_trans s t u h1 h2
    | _ => exact h1
  | nat m k => cases a with
    | nat n => exact nat h1 h2
    | _ => exact h1
  | int m k => cases a with
    | int n => exact decide_eq_true (Int.lt_trans (of_decide_eq_true h1) (of_decide_eq_true h2))
    | _ => exact h1
  | real y z => cases a with
    | real x => exact realLt_trans x y z h1 h2
    | _ => exact h1
  | other b c h _ =>
    rw [h.lt] at h2
    exact base_lt_of_rank_lt a c (Nat.lt_of_le_of_lt (base_rank_le_of_lt a b h1) (of_decide_eq_true h2))
  | _ => cases h2

theorem base_lt_irrefl (a : JVal) : Base.lt a a = false := by
  cases a <;> simp [Base.lt, Str.lt_irrefl, rank]
  rename_i k; cases k <;> simp [realLt]

theorem base_eq_true_imp_eq (a b : JVal) (h : Base.eq a b = true) : a = b := by
  induction a, b using base_cases with
  | obj n m => exact congrArg JVal.obj (eq_of_beq h)
  | arr n m => exact congrArg JVal.arr (eq_of_beq h)
  | str s t => exact congrArg JVal.str (of_decide_eq_true (Str.eq_eq_decide s t ▸ h))
  | nat n m => exact congrArg JVal.nat (eq_of_beq h)
  | int n m => exact congrArg JVal.int (eq_of_beq h)
  | real x y =>
    cases x with
    | none => cases h
    | some n =>
      cases y with
      | none => cases h
      | some m => exact congrArg (JVal.real ∘ some) (eq_of_beq h)
  | other a b r _ => rw [r.eq] at h; cases h
  | _ => rfl

theorem base_trans (a b c : JVal) :
    Obs.trans
      { lt := Base.lt a b, le := Base.le a b, gt := Base.gt a b, ge := Base.ge a b, eq := Base.eq a b }
      { lt := Base.lt b c, le := Base.le b c, gt := Base.gt b c, ge := Base.ge b c, eq := Base.eq b c }
      { lt := Base.lt a c, le := Base.le a c, gt := Base.gt a c, ge := Base.ge a c, eq := Base.eq a c } = true :=
  Obs.trans_of base_le_eq base_eq_true_imp_eq base_lt_irrefl base_lt_trans a b c

theorem val_tri (a b : JVal) (ha : noNaN a = true) (hb : noNaN b = true) : tri3 (Val.lt a b) (Val.eq a b) (Val.gt a b) = true := by
  rw [val_lt_base, val_eq_base, val_gt_base]
  exact base_tri _ _ (depth_strip a) (by rw [noNaN_strip]; exact ha) (by rw [noNaN_strip]; exact hb)

theorem val_ge_eq_le_swap (a b : JVal) : Val.ge a b = Val.le b a := by
  rw [val_ge_base, val_le_base]; exact base_ge_eq_le_swap _ _

theorem val_le_of_not_lt (x y : JVal) (hx : noNaN x = true) (hy : noNaN y = true) (h : Val.lt y x = false) :
    Val.le x y = true := by
  rw [val_lt_base] at h; rw [val_le_base]
  exact le_of_not_lt_of base_le_eq base_gt_eq_lt_swap _ _
    (base_tri _ _ (depth_strip x) (by rw [noNaN_strip]; exact hx) (by rw [noNaN_strip]; exact hy)) h

end Qentem.Order
