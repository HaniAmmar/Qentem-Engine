import Qentem.Proofs.TmplGenRenderBase
import Qentem.Proofs.TmplSvarParse
/-!
# C02 — rendering `{svar:path, a1, …}`: the phrase loop against a structural `{i}` replacement,
the arguments, the whole tag

The code flushes and escapes the pending text at every `{`, the document only where a `{i}` is replaced.  No entity
contains a `{`, so escaping a text that is cut right before a `{` gives the same units as escaping the two pieces
(`escapeCfg_append_brace`).  First the render side (`svarLoop_phrase`, `renderSvar_env`), then the reference side
(`phraseLoop_eq`, `expandTpl_svar`), which needs the units of a phrase below `2^32`; at the end the values reachable in
the document (`Reach`, `resolve_reach`), over which that bound is asked — by `expand_gt` for loops as well.
-/
namespace Qentem.Escape

theorem prefix_stop : ∀ (pat rest b r1 : List Nat), 123 ∉ pat → rest ++ 123 :: b = pat ++ r1 → ∃ r', rest = pat ++ r' := by
  intro pat
  induction pat with
  | nil => intro rest b r1 _ _; exact ⟨rest, rfl⟩
  | cons p ps ih =>
    intro rest b r1 hp h
    cases rest with
    | nil =>
      simp only [List.nil_append, List.cons_append, List.cons.injEq] at h
      exact absurd h.1.symm (fun hh => hp (by simp [hh]))
    | cons x rest' =>
      simp only [List.cons_append, List.cons.injEq] at h
      obtain ⟨r', hr'⟩ := ih rest' b r1 (fun hh => hp (List.mem_cons_of_mem _ hh)) h.2
      exact ⟨r', by rw [h.1, hr']; rfl⟩

theorem escape_append_brace (b : List Nat) : ∀ (a : List Nat), escape (a ++ 123 :: b) = escape a ++ escape (123 :: b) := by
  intro a
  induction a using escape.induct with
  | case1 rest ih => simp only [List.cons_append, escape, ih]
  | case2 rest ih => simp only [List.cons_append, escape, ih]
  | case3 rest ih => simp only [List.cons_append, escape, ih]
  | case4 rest ih => simp only [List.cons_append, escape, ih]
  | case5 rest ih => simp only [List.cons_append, escape, ih]
  | case6 rest h1 h2 h3 h4 h5 ih =>
    have g : ∀ (pat : List Nat), 123 ∉ pat → (∀ r', rest = pat ++ r' → False) →
        ∀ r1, rest ++ 123 :: b = pat ++ r1 → False := by
      intro pat hp hno r1 h
      obtain ⟨r', hr'⟩ := prefix_stop pat rest b r1 hp h
      exact hno r' hr'
    rw [List.cons_append, escape.eq_6 _ (g [113, 117, 111, 116, 59] (by decide) h1) (g [97, 112, 111, 115, 59] (by decide) h2)
      (g [97, 109, 112, 59] (by decide) h3) (g [108, 116, 59] (by decide) h4) (g [103, 116, 59] (by decide) h5),
      escape.eq_6 _ h1 h2 h3 h4 h5, ih]
    rfl
  | case7 rest ih => simp only [List.cons_append, escape, ih]
  | case8 rest ih => simp only [List.cons_append, escape, ih]
  | case9 rest ih => simp only [List.cons_append, escape, ih]
  | case10 rest ih => simp only [List.cons_append, escape, ih]
  | case11 c rest h1 h2 h3 h4 h5 h6 h7 h8 h9 h10 ih =>
    rw [List.cons_append, escape.eq_11 _ _ (fun r hc => absurd hc h6) (fun r hc => absurd hc h6) (fun r hc => absurd hc h6)
      (fun r hc => absurd hc h6) (fun r hc => absurd hc h6) h6 h7 h8 h9 h10,
      escape.eq_11 _ _ h1 h2 h3 h4 h5 h6 h7 h8 h9 h10, ih]
    rfl
  | case12 => simp [escape]

theorem escapeCfg_append_brace (ae : Bool) (a b : List Nat) :
    escapeCfg ae (a ++ 123 :: b) = escapeCfg ae a ++ escapeCfg ae (123 :: b) := by
  cases ae
  · simp [escapeCfg]
  · simp [escapeCfg, escape_append_brace]

end Qentem.Escape

namespace Qentem.Tmpl
open Qentem.Expr (Fault rd ScanCfg VarRef Item Num Val Env RealLike)
open Qentem.Generated.Tmpl
open Qentem.Escape (escapeCfg)
variable {R : Type} [RealLike R]

/-- `{i}` replacement in a phrase (`outs` = the expansions of the arguments); the counter is
structural only -/
def expPhrase (ae : Bool) (outs : List (List Nat)) : Nat → List Nat → List Nat → List Nat
  | 0, _, pend => escapeCfg ae pend
  | _ + 1, [], pend => escapeCfg ae pend
  | n + 1, ch :: rest, pend =>
    if ch = 123 then
      match rest with
      | d :: e :: r =>
        if e = 125 ∧ idOf d < outs.length then escapeCfg ae pend ++ (outs.getD (idOf d) [] ++ expPhrase ae outs n r [])
        else expPhrase ae outs n rest (pend ++ [123])
      | _ => expPhrase ae outs n rest (pend ++ [123])
    else expPhrase ae outs n rest (pend ++ [ch])

theorem expPhrase_split (ae : Bool) (outs : List (List Nat)) : ∀ (n : Nat) (txt Q P : List Nat),
    expPhrase ae outs n txt (P ++ 123 :: Q) = escapeCfg ae P ++ expPhrase ae outs n txt (123 :: Q) := by
  intro n
  induction n with
  | zero => intro txt Q P; simp only [expPhrase]; exact Qentem.Escape.escapeCfg_append_brace ae P Q
  | succ n ih =>
    intro txt Q P
    cases txt with
    | nil => simp only [expPhrase]; exact Qentem.Escape.escapeCfg_append_brace ae P Q
    | cons ch rest =>
      simp only [expPhrase]
      by_cases hch : ch = 123
      · simp only [hch, if_true]
        have hrej : expPhrase ae outs n rest (P ++ 123 :: Q ++ [123]) =
            escapeCfg ae P ++ expPhrase ae outs n rest (123 :: Q ++ [123]) := by
          have := ih rest (Q ++ [123]) P
          simpa [List.append_assoc] using this
        cases rest with
        | nil => exact hrej
        | cons d r1 =>
          cases r1 with
          | nil => exact hrej
          | cons e r =>
            simp only []
            by_cases hc : e = 125 ∧ idOf d < outs.length
            · simp only [hc, and_self, if_true]
              rw [Qentem.Escape.escapeCfg_append_brace ae P Q, List.append_assoc]
            · simp only [hc, if_false]; exact hrej
      · simp only [hch, if_false]
        have := ih rest (Q ++ [ch]) P
        simpa [List.append_assoc] using this

theorem expPhrase_two (ae : Bool) (outs : List (List Nat)) : ∀ (n m : Nat) (txt pend : List Nat), txt.length + 1 ≤ n →
    txt.length + 1 ≤ m → expPhrase ae outs n txt pend = expPhrase ae outs m txt pend := by
  intro n
  induction n with
  | zero => intro m txt pend h; omega
  | succ n ih =>
    intro m txt pend h hm
    obtain ⟨m', rfl⟩ : ∃ m', m = m' + 1 := ⟨m - 1, by omega⟩
    cases txt with
    | nil => simp [expPhrase]
    | cons ch rest =>
      simp only [List.length_cons] at h hm
      have e1 : ∀ p, expPhrase ae outs n rest p = expPhrase ae outs m' rest p := fun p => ih m' rest p (by omega) (by omega)
      simp only [expPhrase]
      by_cases hch : ch = 123
      · simp only [hch, if_true]
        cases rest with
        | nil => exact e1 _
        | cons d r1 =>
          cases r1 with
          | nil => exact e1 _
          | cons e r =>
            simp only [List.length_cons] at h hm ⊢
            by_cases hc : e = 125 ∧ idOf d < outs.length
            · simp only [hc, and_self, if_true]
              rw [ih m' r [] (by omega) (by omega)]
            · simp only [hc, if_false]; exact e1 _
      · simp only [hch, if_false]; exact e1 _

/-- the expansion of a phrase -/
def expPhr (ae : Bool) (outs : List (List Nat)) (txt : List Nat) : List Nat :=
  expPhrase ae outs (txt.length + 1) txt []

theorem take_succ_drop (txt : List Nat) (a i : Nat) (ha : a ≤ i) (hi : i < txt.length) :
    (txt.drop a).take (i + 1 - a) = (txt.drop a).take (i - a) ++ [txt[i]] := by
  have h1 : i + 1 - a = (i - a) + 1 := by omega
  have hl : i - a < (txt.drop a).length := by simp; omega
  rw [h1, List.take_succ_eq_append_getElem hl]
  simp [show a + (i - a) = i by omega]

theorem svarLoop_phrase (cx : RCtx R) (sub : List (Tag R)) (outs : List (List Nat)) (Inv : RState → Prop)
    (hInv : ∀ st t, Inv st → Inv (emit st t)) (hlen : sub.length = outs.length)
    (harg : ∀ id, id < sub.length → ∀ st, Inv st → renderArg cx sub[id]? st = .ok (emit st (outs.getD id [])))
    (txt : List Nat) : ∀ (n index lastIdx : Nat) (st : RState), lastIdx ≤ index → index ≤ txt.length →
      txt.length - index + 1 ≤ n → Inv st →
      svarLoop cx n sub txt index lastIdx st =
        .ok (emit st (expPhrase cx.autoEscape outs n (txt.drop index) ((txt.drop lastIdx).take (index - lastIdx)))) := by
  intro n
  induction n with
  | zero => intro index lastIdx st _ _ h _; omega
  | succ n ih =>
    intro index lastIdx st hli hil hn hI
    by_cases h0 : index < txt.length
    · have hdrop : txt.drop index = txt[index] :: txt.drop (index + 1) := List.drop_eq_getElem_cons h0
      have hget : txt[index]? = some txt[index] := List.getElem?_eq_getElem h0
      rw [hdrop]
      simp only [expPhrase]
      by_cases hch : txt[index] = 123
      · simp only [hch, if_true]
        have h1 : txt[index]? = some 123 := by rw [hget, hch]
        have hI1 := hInv st (escapeCfg cx.autoEscape ((txt.drop lastIdx).take (index - lastIdx))) hI
        have hpend1 : (txt.drop index).take (index + 1 - index) = [123] := by
          rw [hdrop, show index + 1 - index = 1 by omega, hch]; rfl
        -- what a rejected `{` gives
        have hrej : ¬ (index + 2 < txt.length ∧ txt[index + 2]? = some 125 ∧ idOf (txt.getD (index + 1) 0) < sub.length) →
            svarLoop cx (n + 1) sub txt index lastIdx st =
              .ok (emit st (expPhrase cx.autoEscape outs n (txt.drop (index + 1))
                ((txt.drop lastIdx).take (index - lastIdx) ++ [123]))) := by
          intro hno
          rw [svarLoop_rej cx n sub txt index lastIdx st h0 h1 hno,
            ih (index + 1) index _ (by omega) (by omega) (by omega) hI1, hpend1, emit_emit]
          have := expPhrase_split cx.autoEscape outs n (txt.drop (index + 1)) [] ((txt.drop lastIdx).take (index - lastIdx))
          rw [this]
        cases hr : txt.drop (index + 1) with
        | nil =>
          have hl : (txt.drop (index + 1)).length = 0 := by rw [hr]; rfl
          simp only [List.length_drop] at hl
          have := hrej (by omega)
          rw [hr] at this; exact this
        | cons d r1 =>
          cases r1 with
          | nil =>
            have hl : (txt.drop (index + 1)).length = 1 := by rw [hr]; rfl
            simp only [List.length_drop] at hl
            have := hrej (by omega)
            rw [hr] at this; exact this
          | cons e r =>
            have hl : (txt.drop (index + 1)).length = r.length + 2 := by rw [hr]; rfl
            simp only [List.length_drop] at hl
            have hd : txt[index + 1]? = some d := by
              have : (txt.drop (index + 1))[0]? = some d := by rw [hr]; rfl
              simpa using this
            have he : txt[index + 2]? = some e := by
              have : (txt.drop (index + 1))[1]? = some e := by rw [hr]; rfl
              simpa [Nat.add_assoc] using this
            have hgd : txt.getD (index + 1) 0 = d := by simp [List.getD, hd]
            have hr3 : txt.drop (index + 3) = r := by
              have : (txt.drop (index + 1)).drop 2 = r := by rw [hr]; rfl
              simpa [Nat.add_assoc] using this
            simp only []
            by_cases hc : e = 125 ∧ idOf d < outs.length
            · simp only [hc, and_self, if_true]
              have hid : idOf (txt.getD (index + 1) 0) < sub.length := by rw [hgd, hlen]; exact hc.2
              rw [svarLoop_hit cx n sub txt index lastIdx st h0 h1 (by omega) (by rw [he, hc.1]) hid,
                harg _ hid _ hI1]
              simp only [Except.bind]
              rw [ih (index + 3) (index + 3) _ (Nat.le_refl _) (by omega) (by omega) (hInv _ _ hI1), hr3, hgd,
                Nat.sub_self, List.take_zero, emit_emit, emit_emit]
            · simp only [hc, if_false]
              have := hrej (by
                rintro ⟨_, h5, h6⟩
                rw [he] at h5
                rw [hgd, hlen] at h6
                exact hc ⟨Option.some.inj h5, h6⟩)
              rw [hr] at this; exact this
      · simp only [hch, if_false]
        have h1 : txt[index]? ≠ some 123 := by rw [hget]; intro h; exact hch (Option.some.inj h)
        rw [svarLoop_other cx n sub txt index lastIdx st h0 h1,
          ih (index + 1) lastIdx st (by omega) (by omega) (by omega) hI, take_succ_drop txt lastIdx index hli h0]
    · have he : txt.drop index = [] := List.drop_eq_nil_iff.mpr (by omega)
      rw [svarLoop_end cx n sub txt index lastIdx st h0, he]
      simp only [expPhrase]

theorem renderArg_args (cx : RCtx R) (cfg : ScanCfg R) (hg : cx.guardIndexRead = true) (hrn : cfg.readNum = cx.readNum)
    (E : List EnvE) (hD : ChainD cx.content (dOf E)) :
    ∀ (args : List Seg) (q : Nat), At cx.content q (printSegs (argSegs args)) →
      (∀ a ∈ args, a.isArg ∧ a.pathV cfg.readNum (vsOf E)) →
      ∀ id, id < args.length → ∀ st : RState, ItemsOk st.items E →
        renderArg cx (tagsOfD cfg cx.content (dOf E) q (argSegs args))[id]? st =
          .ok (emit st ((args.map (expSegB cx (scOf E))).getD id [])) := by
  intro args
  induction args with
  | nil => intro q _ _ id h; simp at h
  | cons a r ih =>
    intro q h hok id hid st hit
    have h' : At cx.content q ([44, 32] ++ (printSeg a ++ printSegs (argSegs r))) := by
      simpa [argSegs, printSegs, printSeg, List.append_assoc] using h
    have ha := hok a (List.mem_cons_self ..)
    have hrest : ∀ t : Tag R, ∀ q', q' = q + 2 + (printSeg a).length →
        id ≠ 0 → renderArg cx (t :: tagsOfD cfg cx.content (dOf E) q' (argSegs r))[id]? st =
          .ok (emit st (((a :: r).map (expSegB cx (scOf E))).getD id [])) := by
      intro t q' hq hne
      obtain ⟨j, rfl⟩ : ∃ j, id = j + 1 := ⟨id - 1, by omega⟩
      subst hq
      simp only [List.getElem?_cons_succ, List.map_cons, List.getD_cons_succ]
      exact ih _ h'.right.right (fun x hx => hok x (List.mem_cons_of_mem _ hx)) j (by simpa using hid) st hit
    cases a with
    | text t => exact absurd ha.1 (by simp [Seg.isArg])
    | var pa =>
      simp only [argSegs, tagsOfD, List.length_cons, List.length_nil]
      by_cases h0 : id = 0
      · subst h0
        have := renderVariable_env cx hg st (q + 2) (q + 2) pa (Nat.le_refl _) h'.right.left E ha.2 hit
        rw [pend_self] at this
        simp only [List.getElem?_cons_zero, renderArg, refD_off, subChk, show W1.variablePrefixLength = 5 by decide,
          show 5 ≤ q + 2 + 5 by omega, if_true, Nat.add_sub_cancel, bind, Except.bind, this, emit_nil]
        rfl
      · exact hrest _ _ (by simp [printSeg]; omega) h0
    | raw pa =>
      simp only [argSegs, tagsOfD, List.length_cons, List.length_nil]
      by_cases h0 : id = 0
      · subst h0
        have := renderRaw_env cx hg st (q + 2) (q + 2) pa (Nat.le_refl _) h'.right.left E ha.2 hit
        rw [pend_self] at this
        simp only [List.getElem?_cons_zero, renderArg, refD_off, subChk, show W1.rawVariablePrefixLength = 5 by decide,
          show 5 ≤ q + 2 + 5 by omega, if_true, Nat.add_sub_cancel, bind, Except.bind, this, emit_nil]
        rfl
      · exact hrest _ _ (by simp [printSeg]; omega) h0
    | math e =>
      simp only [argSegs, tagsOfD, List.length_cons, List.length_nil]
      by_cases h0 : id = 0
      · subst h0
        have := renderMath_env cx cfg hg hrn st (q + 2) (q + 2) e (Nat.le_refl _) h'.right.left E hD hit (Or.inr ha.2.2) ha.2.1
        rw [pend_self] at this
        simp only [List.getElem?_cons_zero, renderArg, bind, Except.bind, this, emit_nil]
        rfl
      · exact hrest _ _ (by simp [printSeg]; omega) h0

/-- the phrase of a super variable: a string, or the text of `true` / `false` / `null` -/
def phraseOf (d : Option Doc) : Option (List Nat) :=
  d.bind (fun d => match d with
    | .str s => some s | .tru => some Qentem.Expr.trueStr | .fals => some Qentem.Expr.falseStr
    | .null => some Qentem.Expr.nullStr | _ => none)

/-- the documented expansion of a super variable -/
def expSvar (cx : RCtx R) (sc : List Binding) (path : List Nat) (args : List Seg) : List Nat :=
  match phraseOf (resolve cx.root sc path).1 with
  | some s => expPhr cx.autoEscape (args.map (expSegB cx sc)) s
  | none => printSvar path args

/-- fuel the renderer needs for a super variable -/
def svarNeed (cx : RCtx R) (sc : List Binding) (path : List Nat) : Nat :=
  match phraseOf (resolve cx.root sc path).1 with
  | some s => s.length + 2
  | none => 1

omit [RealLike R] in
theorem tagsOfD_argSegs_len (cfg : ScanCfg R) (c : List Nat) (D : List LoopD) : ∀ (args : List Seg) (p : Nat),
    (∀ a ∈ args, a.isArg) → (tagsOfD cfg c D p (argSegs args)).length = args.length := by
  intro args
  induction args with
  | nil => intro p _; rfl
  | cons a r ih =>
    intro p h
    have ha := h a (List.mem_cons_self ..)
    have hr := fun q => ih q (fun x hx => h x (List.mem_cons_of_mem _ hx))
    cases a with
    | text t => exact absurd ha (by simp [Seg.isArg])
    | var pa => simp [argSegs, tagsOfD, hr]
    | raw pa => simp [argSegs, tagsOfD, hr]
    | math e => simp [argSegs, tagsOfD, hr]

theorem renderSvar_env (cx : RCtx R) (cfg : ScanCfg R) (hg : cx.guardIndexRead = true) (hrn : cfg.readNum = cx.readNum)
    (E : List EnvE) (hD : ChainD cx.content (dOf E)) (o p : Nat) (path : List Nat) (args : List Seg)
    (ho : o ≤ p) (h : At cx.content p (printSvar path args))
    (hp : PathOkV (vsOf E) path) (hfind : findV (dOf E) path = none)
    (hargs : ∀ a ∈ args, a.isArg ∧ a.pathV cfg.readNum (vsOf E))
    (st : RState) (hit : ItemsOk st.items E) (fuel : Nat) (hf : svarNeed cx (scOf E) path + 1 ≤ fuel) :
    renderTag cx fuel (svarTag cfg cx.content (dOf E) p path args) o st =
      .ok (emit (emit st (pend cx.content o p)) (expSvar cx (scOf E) path args), p + (printSvar path args).length) := by
  obtain ⟨g, rfl⟩ : ∃ g, fuel = g + 1 := ⟨fuel - 1, by omega⟩
  have hsl := slice_pend ho (Nat.le_trans (Nat.le_add_right _ _) h.le)
  have hw : At cx.content p (SVAR1 ++ (path ++ (printSegs (argSegs args) ++ [125]))) := by
    simpa [printSvar, List.append_assoc] using h
  have hgv := (getValue_at cx hg st (p + 6) path hw.right.left E hp hit).1
  have href : refD (dOf E) (p + 6) path = ⟨p + 6, path.length, 0, 0⟩ := by
    simp only [refD, hfind, mkV]
  rw [href] at hgv
  simp only [svarTag, renderTag, hgv, hsl, bind, Except.bind]
  generalize hgen : Option.bind (resolve cx.root (scOf E) path).1 _ = ph
  have hph : phraseOf (resolve cx.root (scOf E) path).1 = ph := by rw [← hgen]; rfl
  cases ph with
  | some s =>
    simp only [svarNeed, hph] at hf
    have hloop := svarLoop_phrase cx (tagsOfD cfg cx.content (dOf E) (p + 6 + path.length) (argSegs args))
      (args.map (expSegB cx (scOf E))) (fun s => ItemsOk s.items E) (fun _ _ h => h)
      (by rw [tagsOfD_argSegs_len cfg _ _ args _ (fun a ha => (hargs a ha).1)]; simp)
      (by
        intro id hid st' hst'
        exact renderArg_args cx cfg hg hrn E hD args (p + 6 + path.length) hw.right.right.left hargs id
          (by rw [tagsOfD_argSegs_len cfg _ _ args _ (fun a ha => (hargs a ha).1)] at hid; exact hid) st' hst')
      s g 0 0 (emit st (pend cx.content o p)) (Nat.le_refl _) (Nat.zero_le _) (by omega) hit
    simp only []
    rw [hloop]
    simp only [List.drop_zero, Nat.sub_self, List.take_zero]
    rw [expPhrase_two _ _ g _ s [] (by omega) (Nat.le_refl _)]
    simp only [expSvar, hph, expPhr]
  | none =>
    simp only [h.slice_ok, expSvar, hph]

theorem idOf_test (d n : Nat) (hd : d < 2 ^ 32) (hn : n ≤ 10) :
    (48 ≤ d ∧ d ≤ 57 ∧ d - 48 < n) ↔ idOf d < n := by
  have h1 : (2 : Nat) ^ sizeTBits = 4294967296 := by decide
  have h2 : W1.digitZero = 48 := by decide
  simp only [idOf, h1, h2]
  have h3 : (2 : Nat) ^ 32 = 4294967296 := by decide
  rw [h3] at hd
  constructor
  · rintro ⟨a, b, c⟩
    rw [show d + 4294967296 - 48 = (d - 48) + 4294967296 by omega, Nat.add_mod_right, Nat.mod_eq_of_lt (by omega)]
    exact c
  · intro h
    by_cases hlt : d < 48
    · rw [Nat.mod_eq_of_lt (by omega)] at h; omega
    · rw [show d + 4294967296 - 48 = (d - 48) + 4294967296 by omega, Nat.add_mod_right, Nat.mod_eq_of_lt (by omega)] at h
      omega

theorem idOf_val (d : Nat) (hd : d < 2 ^ 32) (h48 : 48 ≤ d) : idOf d = d - 48 := by
  have h1 : (2 : Nat) ^ sizeTBits = 4294967296 := by decide
  have h2 : W1.digitZero = 48 := by decide
  have h3 : (2 : Nat) ^ 32 = 4294967296 := by decide
  rw [h3] at hd
  simp only [idOf, h1, h2]
  rw [show d + 4294967296 - 48 = (d - 48) + 4294967296 by omega, Nat.add_mod_right, Nat.mod_eq_of_lt (by omega)]

theorem phraseLoop_eq (cx : RCtx R) (sc : List Binding) (args : List Seg) (h10 : args.length ≤ 10) :
    ∀ (n fuel : Nat) (txt pend : List Nat), n + 1 ≤ fuel → (∀ x ∈ txt, x < 2 ^ 32) →
      phraseLoop (specOf cx) fuel sc (segsTpl args) txt pend n =
        expPhrase cx.autoEscape (args.map (expSegB cx sc)) n txt pend := by
  intro n
  induction n with
  | zero =>
    intro fuel txt pend hf _
    obtain ⟨f, rfl⟩ : ∃ f, fuel = f + 1 := ⟨fuel - 1, by omega⟩
    simp [phraseLoop, expPhrase, escapeS]; rfl
  | succ n ih =>
    intro fuel txt pend hf hu
    obtain ⟨f, rfl⟩ : ∃ f, fuel = f + 1 := ⟨fuel - 1, by omega⟩
    cases txt with
    | nil => simp [phraseLoop, expPhrase, escapeS]; rfl
    | cons ch rest =>
      have hur : ∀ x ∈ rest, x < 2 ^ 32 := fun x hx => hu x (List.mem_cons_of_mem _ hx)
      have hother : ∀ p, phraseLoop (specOf cx) f sc (segsTpl args) rest p n =
          expPhrase cx.autoEscape (args.map (expSegB cx sc)) n rest p := fun p => ih f rest p (by omega) hur
      simp only [expPhrase]
      by_cases hch : ch = 123
      · subst hch
        simp only [if_true]
        cases rest with
        | nil => simp only [phraseLoop]; exact hother _
        | cons d r1 =>
          cases r1 with
          | nil => simp only [phraseLoop]; exact hother _
          | cons e r =>
            by_cases he : e = 125
            · subst he
              have hd : d < 2 ^ 32 := hur d (List.mem_cons_self ..)
              have hlen : (segsTpl args).length = args.length := by
                clear h10 ih hf hu hur hother hd
                induction args with
                | nil => rfl
                | cons a r ih => simp [segsTpl, ih]
              simp only [phraseLoop, true_and, hlen, List.length_map]
              by_cases ht : 48 ≤ d ∧ d ≤ 57 ∧ d - 48 < args.length
              · have hid := (idOf_test d args.length hd h10).mp ht
                simp only [ht, and_self, if_true, hid]
                rw [ih f r [] (by omega) (fun x hx => hur x (List.mem_cons_of_mem _ (List.mem_cons_of_mem _ hx))),
                  idOf_val d hd ht.1, List.append_assoc]
                congr 2
                have hget : ∀ (l : List Seg) (i : Nat), i < l.length →
                    (match (segsTpl l)[i]? with | some a => expandTpl (specOf cx) f sc a | none => []) =
                      (l.map (expSegB cx sc)).getD i [] := by
                  intro l
                  induction l with
                  | nil => intro i hi; simp at hi
                  | cons a r ihl =>
                    intro i hi
                    cases i with
                    | zero => simp [segsTpl, expandTpl_segB cx sc a f (by omega)]
                    | succ j => simpa [segsTpl] using ihl j (by simpa using hi)
                exact hget args (d - 48) ht.2.2
              · have hid : ¬ idOf d < args.length := fun h => ht ((idOf_test d args.length hd h10).mpr h)
                simp only [ht, if_false, hid]
                exact hother _
            · have : phraseLoop (specOf cx) (f + 1) sc (segsTpl args) (123 :: d :: e :: r) pend (n + 1) =
                  phraseLoop (specOf cx) f sc (segsTpl args) (d :: e :: r) (pend ++ [123]) n := by
                rw [phraseLoop]
                intro d' rest' _ h
                simp only [List.cons.injEq] at h
                exact he h.2.1
              rw [this]
              simp only [he, false_and, if_false]
              exact hother _
      · simp only [hch, if_false]
        have : phraseLoop (specOf cx) (f + 1) sc (segsTpl args) (ch :: rest) pend (n + 1) =
            phraseLoop (specOf cx) f sc (segsTpl args) rest (pend ++ [ch]) n := by
          rw [phraseLoop]
          intro d' rest' h _
          exact hch h
        rw [this]
        exact hother _

theorem expPhrase_plain (ae : Bool) (outs : List (List Nat)) : ∀ (n : Nat) (txt pend : List Nat), (∀ x ∈ txt, x ≠ 123) →
    txt.length + 1 ≤ n → expPhrase ae outs n txt pend = escapeCfg ae (pend ++ txt) := by
  intro n
  induction n with
  | zero => intro txt pend _ h; omega
  | succ n ih =>
    intro txt pend hno h
    cases txt with
    | nil => simp [expPhrase]
    | cons ch rest =>
      have hch : ch ≠ 123 := hno ch (List.mem_cons_self ..)
      simp only [expPhrase, hch, if_false]
      rw [ih rest _ (fun x hx => hno x (List.mem_cons_of_mem _ hx)) (by simp at h; omega)]
      simp [List.append_assoc]

theorem expandTpl_svar (cx : RCtx R) (sc : List Binding) (path : List Nat) (args : List Seg) (h10 : args.length ≤ 10)
    (hu : ∀ s, (resolve cx.root sc path).1 = some (.str s) → ∀ x ∈ s, x < 2 ^ 32)
    (fuel : Nat) (hf : svarNeed cx sc path + 1 ≤ fuel) :
    expandTpl (specOf cx) fuel sc (.svar path (segsTpl args)) = expSvar cx sc path args := by
  obtain ⟨f, rfl⟩ : ∃ f, fuel = f + 1 := ⟨fuel - 1, by simp [svarNeed] at hf; omega⟩
  have hpr : printTpl (.svar path (segsTpl args)) = printSvar path args := by
    simp only [printTpl, printArgs_segs, printSvar, SVAR1]
    simp [str, List.append_assoc]
  simp only [expandTpl, show (specOf cx).root = cx.root from rfl, expSvar, svarNeed] at hf ⊢
  cases hres : (resolve cx.root sc path).1 with
  | none => simp only [phraseOf, Option.bind]; exact hpr
  | some d =>
    rw [hres] at hf
    cases d with
    | str s =>
      simp only [phraseOf, Option.bind] at hf ⊢
      rw [phraseLoop_eq cx sc args h10 (s.length + 1) f s [] (by omega) (hu s hres)]
      rfl
    | tru =>
      simp only [phraseOf, Option.bind, expPhr]
      rw [expPhrase_plain _ _ _ _ _ (by decide) (Nat.le_refl _)]
      rfl
    | fals =>
      simp only [phraseOf, Option.bind, expPhr]
      rw [expPhrase_plain _ _ _ _ _ (by decide) (Nat.le_refl _)]
      rfl
    | null =>
      simp only [phraseOf, Option.bind, expPhr]
      rw [expPhrase_plain _ _ _ _ _ (by decide) (Nat.le_refl _)]
      rfl
    | undefined => simp only [phraseOf, Option.bind]; exact hpr
    | nat n => simp only [phraseOf, Option.bind]; exact hpr
    | int b => simp only [phraseOf, Option.bind]; exact hpr
    | real b => simp only [phraseOf, Option.bind]; exact hpr
    | arr xs => simp only [phraseOf, Option.bind]; exact hpr
    | obj ms => simp only [phraseOf, Option.bind]; exact hpr

/-- the values a template can reach in a document -/
inductive Reach (root : Doc) : Doc → Prop
  | root : Reach root root
  | key (d d' : Doc) (k : List Nat) : Reach root d → d.getKey k = some d' → Reach root d'
  | item (xs : List Doc) (x : Doc) : Reach root (.arr xs) → x ∈ xs → Reach root x
  | mem (ms : List (List Nat × Doc)) (k : List Nat) (x : Doc) : Reach root (.obj ms) → (k, x) ∈ ms → Reach root x

theorem follow_reach (root : Doc) : ∀ (keys : List (List Nat)) (d0 : Option Doc) (d : Doc),
    (∀ d1, d0 = some d1 → Reach root d1) → follow d0 keys = some d → Reach root d := by
  intro keys
  induction keys with
  | nil => intro d0 d h hf; cases d0 <;> simp [follow] at hf; exact h _ (by rw [hf])
  | cons k ks ih =>
    intro d0 d h hf
    cases d0 with
    | none => simp [follow] at hf
    | some d1 =>
      simp only [follow] at hf
      exact ih (d1.getKey k) d (fun d2 h2 => Reach.key d1 d2 k (h d1 rfl) h2) hf

theorem resolve_reach (root : Doc) (sc : List Binding) (hsc : ∀ b ∈ sc, Reach root b.item) (p : List Nat) (d : Doc)
    (h : (resolve root sc p).1 = some d) : Reach root d := by
  simp only [resolve] at h
  cases hf : sc.find? (fun b => b.name == (splitPath p).1) with
  | some b =>
    rw [hf] at h
    exact follow_reach root _ _ d (fun d1 h1 => by cases h1; exact hsc b (List.mem_of_find?_eq_some hf)) h
  | none =>
    rw [hf] at h
    exact follow_reach root _ _ d (fun d1 h1 => Reach.key root d1 _ Reach.root h1) h

end Qentem.Tmpl
