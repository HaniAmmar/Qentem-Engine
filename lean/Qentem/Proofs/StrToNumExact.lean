import Qentem.Proofs.StrToNumPosPath
import Qentem.Proofs.StrToNumNegPath
import Mathlib.Tactic.Positivity
/-! C09/C11: **the rounding theorem, exact part** (`MarginPair`, `round_exact`: within 1/8 of a quarter unit of an exact
value that keeps 1/32 ulp away from the half-way points, the code's pattern is the correctly rounded one), and its use
on both paths: the positive-exponent scaling is correctly rounded under the margin, the negative-exponent scaling when
the big integer has at least 61 bits (a quarter unit of which outweighs eight times the accumulated error). -/
namespace Qentem.Round
open Qentem.StrToNum

/-- `A/B` has a fractional part `≤ 1/2 − 1/32` or `≥ 1/2 + 1/32` -/
def MarginPair (A B : Nat) : Prop := 32 * (A % B) + B ≤ 16 * B ∨ 17 * B ≤ 32 * (A % B)

theorem MarginPair_scale (A B c : Nat) (hc : 0 < c) : MarginPair (A * c) (B * c) ↔ MarginPair A B := by
  unfold MarginPair
  rw [Nat.mul_mod_mul_right]
  generalize A % B = r
  rw [show 32 * (r * c) + B * c = (32 * r + B) * c by ring, show 16 * (B * c) = 16 * B * c by ring,
    show 17 * (B * c) = 17 * B * c by ring, show 32 * (r * c) = 32 * r * c by ring,
    Nat.mul_le_mul_right_iff hc, Nat.mul_le_mul_right_iff hc]

/-- same unit `4g`, the code within (strictly) 1/32 of a unit of the exact `N/D`, the exact value
1/32 away from the half-way points: the code's half-up equals round-half-even -/
theorem rat_same_unit_exact (b N D g : Nat) (hD : 0 < D) (hg : 0 < g)
    (h1 : 8 * (b * D) < 8 * N + g * D) (h2 : 8 * N < 8 * (b * D) + g * D)
    (hm : MarginPair N (D * (4 * g))) :
    halfUp b (2 * g) = rne N (D * (4 * g)) := by
  obtain ⟨M1, M2⟩ := halfUp_bounds_mul b g D hg hD
  have hX : 0 < g * D := Nat.mul_pos hg hD
  have hden : D * (4 * g) = 4 * (g * D) := by ring
  generalize halfUp b (2 * g) = m at *
  obtain ⟨q, r, hN, hr⟩ : ∃ q r, N = D * (4 * g) * q + r ∧ r < D * (4 * g) :=
    ⟨N / (D * (4 * g)), N % (D * (4 * g)), (Nat.div_add_mod N _).symm, Nat.mod_lt _ (by rw [hden]; omega)⟩
  have hmod : N % (D * (4 * g)) = r := by rw [hN, Nat.mul_add_mod, Nat.mod_eq_of_lt hr]
  unfold MarginPair at hm
  rw [hmod, hden] at hm
  have hNq : N = 4 * (g * D * q) + r := by rw [hN]; ring
  rw [hN, rne_decomp q r (D * (4 * g)) hr, hden]
  rw [hden] at hr
  -- `m` against `q` from their multiples of `g·D`
  have key : ∀ a c : Nat, g * D * a < g * D * c + g * D → g * D * c < g * D * a + g * D → a = c := by
    intro a c k1 k2
    rw [← Nat.mul_succ] at k1 k2
    have := Nat.lt_of_mul_lt_mul_left k1
    have := Nat.lt_of_mul_lt_mul_left k2
    omega
  rcases hm with hm | hm
  · rw [if_pos (by omega)]
    exact key m q (by omega) (by omega)
  · rw [if_neg (by omega), if_pos (by omega)]
    exact key m (q + 1) (by rw [Nat.mul_succ]; omega) (by rw [Nat.mul_succ]; omega)

theorem raw_exact_rat (b sh N D L : Nat) (hD : 0 < D) (hb54 : 2 ^ 54 ≤ b) (h : Near 8 b N D)
    (hL1 : D * 2 ^ L ≤ N) (hL2 : N < D * 2 ^ (L + 1))
    (hm : MarginPair N (D * 2 ^ (max L (sh - 1022) - 52))) :
    ratRaw N D sh L = codeRawNeg b sh := by
  rcases raw_rat_cases b sh N D L hD hb54 (h.weaken (by decide)) hL1 hL2 with e | ⟨g, E, hg, he, hc, hr⟩
  · exact e
  · obtain ⟨h1', h2'⟩ := h
    have hgD := Nat.mul_le_mul_right D hg
    rw [he] at hm
    rw [hc, hr, rat_same_unit_exact b N D g hD (Nat.lt_of_lt_of_le (Nat.pow_pos (by decide)) hg) (by omega) (by omega) hm]

theorem MarginPair_cross (a b c d : Nat) (hb : 0 < b) (hd : 0 < d) (h : a * d = c * b) :
    MarginPair a b ↔ MarginPair c d := by
  rw [← MarginPair_scale a b d hd, h, Nat.mul_comm b d, MarginPair_scale c d b hb]

/-- the pair rounded by the specification for `n/d` and the pair in big-integer units have the same margin (they are
the same fraction up to powers of two) -/
theorem margin_units (n d sh L : Nat) (hn : 0 < n) (hd : 0 < d) (hL : 52 ≤ L)
    (h1 : d * 2 ^ L ≤ n * 2 ^ sh) (h2 : n * 2 ^ sh < d * 2 ^ (L + 1)) :
    MarginPair (roundPair n d).1 (roundPair n d).2 ↔ MarginPair (n * 2 ^ sh) (d * 2 ^ (max L (sh - 1022) - 52)) :=
  MarginPair_cross _ _ _ _ (roundPair_pos n d hd) (Nat.mul_pos hd (Nat.two_pow_pos _))
    (roundPair_units n d sh L hn hd hL h1 h2)

theorem round_exact (b sh n d : Nat) (hn : 0 < n) (hd : 0 < d) (hb54 : 2 ^ 54 ≤ b) (h : Near 8 b (n * 2 ^ sh) d)
    (hm : MarginPair (roundPair n d).1 (roundPair n d).2) : cap (codeRawNeg b sh) = nearestMag n d := by
  obtain ⟨L, hL52, hL1, hL2, hspec⟩ := exists_units n d sh hn hd ((h.weaken (by decide)).low hb54)
  rw [hspec, raw_exact_rat b sh _ d L hd hb54 h hL1 hL2 ((margin_units n d sh L hn hd hL52 hL1 hL2).1 hm)]

end Qentem.Round

namespace Qentem.StrToNum
open Qentem.Round Qentem.Generated.StrToNum

theorem powerOfNegativeTen_exact_wide (num x : Nat) (hn0 : 0 < num) (hn : num < 2 ^ 64) (hx : x ≤ 350)
    (hb60 : 2 ^ 60 ≤ negBig num x)
    (hm : MarginPair (roundPair num (10 ^ x)).1 (roundPair num (10 ^ x)).2) :
    powerOfNegativeTen num x = some (nearestMag num (10 ^ x)) := by
  obtain ⟨hcode, hnear⟩ := negPath num x hn hx hb60
  rw [hcode, round_exact _ _ num (10 ^ x) hn0 (Nat.pow_pos (by decide)) (Nat.le_trans (by decide) hb60) hnear hm]

/-- a condition on the mantissa alone: `2^(x/27+1) ≤ num` (or `2^(x/27) ≤ 2·num` when `x < 216`) gives the big integer 63 bits -/
theorem powerOfNegativeTen_exact (num x : Nat) (hn0 : 0 < num)
    (hnx : (x < 216 ∧ 2 ^ (x / 27) ≤ 2 * num) ∨ 2 ^ (x / 27 + 1) ≤ num) (hn : num < 2 ^ 64)
    (hx : x ≤ 350) (hm : MarginPair (roundPair num (10 ^ x)).1 (roundPair num (10 ^ x)).2) :
    powerOfNegativeTen num x = some (nearestMag num (10 ^ x)) := by
  have hlow := negBig_lower num x
  refine powerOfNegativeTen_exact_wide num x hn0 hn hx ?_ hm
  have h3 : 2 ^ (x / 27 + 1) * 2 ^ 60 ≤ num * 2 ^ 64 := by
    rcases hnx with ⟨_, h2⟩ | h2
    · calc 2 ^ (x / 27 + 1) * 2 ^ 60 ≤ 2 ^ (x / 27 + 1) * 2 ^ 62 := Nat.mul_le_mul_left _ (by decide)
        _ = 2 ^ (x / 27) * 2 ^ 63 := by rw [Nat.pow_succ]; ring
        _ ≤ 2 * num * 2 ^ 63 := Nat.mul_le_mul_right _ h2
        _ = num * 2 ^ 64 := by rw [show (2 : Nat) ^ 64 = 2 * 2 ^ 63 by decide]; ring
    · exact Nat.le_trans (Nat.mul_le_mul_left _ (by decide)) (Nat.mul_le_mul_right _ h2)
  have h4 : 2 ^ (x / 27 + 1) * 2 ^ 60 < 2 ^ (x / 27 + 1) * (negBig num x + 1) := by omega
  have := Nat.lt_of_mul_lt_mul_left h4
  omega

theorem powerOfPositiveTen_exact (num x : Nat) (hn0 : 0 < num) (hn : num < 2 ^ 64) (hx : x ≤ 2 ^ 20)
    (hm : MarginPair (roundPair (num * 10 ^ x) 1).1 (roundPair (num * 10 ^ x) 1).2) :
    powerOfPositiveTen num x = some (nearestMag (num * 10 ^ x) 1) := by
  obtain ⟨B, hB54, hcode, hnear⟩ := posPath num x hn0 hn hx
  rw [hcode, round_exact B 54 (num * 10 ^ x) 1 (Nat.mul_pos hn0 (Nat.pow_pos (by decide))) Nat.one_pos hB54 hnear hm]

theorem codeRawNeg_zero (b s : Nat) (hb : b ≠ 0) (hbit : 52 < Nat.log2 b) : codeRawNeg (b * 2 ^ s) 0 = codeRaw b s :=
  codeRawNeg_shift b s 0 hb hbit (by decide)

end Qentem.StrToNum
