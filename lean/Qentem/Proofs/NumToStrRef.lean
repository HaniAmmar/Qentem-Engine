import Qentem.Proofs.NumToStrInt
/-! C10: the reference `FmtSpec` in the terms the proofs use — `%.{p}f` is the text `fixedText` of the rounded
integer, the decimal exponent of a fraction a relation (`DecExp`), `%.{p}g` the text `gText` of a significand and an
exponent.  Nothing here speaks of the model. -/
namespace Qentem.Proofs.NumToStr
open Qentem

theorem D_split {b k : Nat} (h : 10 ^ k ≤ b) : D b = D (b / 10 ^ k) ++ Dk k (b % 10 ^ k) := by
  have hq : 0 < b / 10 ^ k := Nat.div_pos h (Nat.pow_pos (by decide))
  have hr : b % 10 ^ k < 10 ^ k := Nat.mod_lt _ (Nat.pow_pos (by decide))
  conv_lhs => rw [← Nat.div_add_mod b (10 ^ k), Nat.mul_comm]
  exact D_mul_pow_add k _ _ hq hr

theorem D_length_div {n d : Nat} (h : 10 ^ d ≤ n) : (D n).length = (D (n / 10 ^ d)).length + d := by
  rw [D_split h, List.length_append, Dk_length]

theorem D_length_gt {b k : Nat} (h : 10 ^ k ≤ b) : k < (D b).length := by
  have := D_length_div h
  have := D_length_pos (b / 10 ^ k)
  omega

theorem D_length_le_iff {b k : Nat} (hk : 0 < k) : (D b).length ≤ k ↔ b < 10 ^ k := by
  constructor
  · intro h; by_contra hcon
    have := D_length_gt (Nat.le_of_not_lt hcon); omega
  · exact D_length_le b k hk

theorem pow_le_of_len {b k : Nat} (hk0 : 0 < k) (hk : k < (D b).length) : 10 ^ k ≤ b := by
  by_contra hcon
  have := (D_length_le_iff hk0).mpr (by omega : b < 10 ^ k); omega

/-- the top digit: a number of at most `k + 1` digits is below `10` after dropping `k` of them -/
theorem top_digit_lt {b k : Nat} (h : (D b).length ≤ k + 1) : b / 10 ^ k < 10 := by
  have : b < 10 ^ (k + 1) := (D_length_le_iff (by omega)).mp h
  rw [Nat.div_lt_iff_lt_mul (Nat.pow_pos (by decide)), Nat.mul_comm, ← Nat.pow_succ]; exact this

theorem D_take_drop {b k : Nat} (h : 10 ^ k ≤ b) :
    (D b).take ((D b).length - k) = D (b / 10 ^ k) ∧ (D b).drop ((D b).length - k) = Dk k (b % 10 ^ k) := by
  have hl : (D b).length - k = (D (b / 10 ^ k)).length := by have := D_length_div h; omega
  rw [hl]
  constructor <;> conv_lhs => rw [D_split h]
  · exact List.take_left' rfl
  · exact List.drop_left' rfl

theorem Dk_mul_pow (k t x : Nat) : Dk (k + t) (x * 10 ^ t) = Dk k x ++ List.replicate t 48 := by
  induction t with
  | zero => simp
  | succ t ih =>
    have e1 : x * 10 ^ (t + 1) / 10 = x * 10 ^ t := by
      rw [Nat.pow_succ, ← Nat.mul_assoc, Nat.mul_div_cancel _ (by decide)]
    have e2 : x * 10 ^ (t + 1) % 10 = 0 := by
      rw [Nat.pow_succ, ← Nat.mul_assoc]; exact Nat.mul_mod_left _ _
    rw [← Nat.add_assoc, Dk, e1, e2, ih, List.replicate_succ']
    simp

theorem padLeft_D {p y : Nat} (hp : 0 < p) (hy : y < 10 ^ p) : FmtSpec.padLeft p (D y) = Dk p y := by
  rw [Dk_eq_pad p y hy hp]; rfl

theorem dropWhile_replicate_append (k : Nat) (t : List Nat) :
    List.dropWhile (· == FmtSpec.cZero) (List.replicate k 48 ++ t) = List.dropWhile (· == FmtSpec.cZero) t := by
  induction k with
  | zero => rfl
  | succ k ih => simp [List.replicate_succ, FmtSpec.cZero]

/-- a text without a point is left as it is -/
theorem stripFraction_noDot {A : List Nat} (h : 46 ∉ A) : FmtSpec.stripFraction A = A := by
  have hc : A.contains FmtSpec.cDot = false := by
    simp only [FmtSpec.cDot, List.contains_eq_mem, decide_eq_false_iff_not]; exact h
  unfold FmtSpec.stripFraction
  rw [if_neg (by rw [hc]; decide)]

/-- a fraction of zeros goes with its point -/
theorem stripFraction_zeros (A : List Nat) (t : Nat) :
    FmtSpec.stripFraction (A ++ 46 :: List.replicate t 48) = A := by
  unfold FmtSpec.stripFraction
  have hc : (A ++ 46 :: List.replicate t 48).contains FmtSpec.cDot = true := by simp [FmtSpec.cDot]
  have hrev : (A ++ 46 :: List.replicate t 48).reverse = List.replicate t 48 ++ 46 :: A.reverse := by
    simp [List.reverse_append, List.reverse_replicate]
  rw [if_pos hc, hrev, dropWhile_replicate_append]
  simp [List.dropWhile, FmtSpec.cZero, FmtSpec.cDot]

/-- the zeros after the last fractional character that is not a zero go -/
theorem stripFraction_keep (A B : List Nat) {c : Nat} (t : Nat) (h0 : c ≠ 48) (hd : c ≠ 46) :
    FmtSpec.stripFraction (A ++ 46 :: (B ++ c :: List.replicate t 48)) = A ++ 46 :: (B ++ [c]) := by
  unfold FmtSpec.stripFraction
  have hc : (A ++ 46 :: (B ++ c :: List.replicate t 48)).contains FmtSpec.cDot = true := by simp [FmtSpec.cDot]
  have hrev : (A ++ 46 :: (B ++ c :: List.replicate t 48)).reverse =
      List.replicate t 48 ++ (c :: (B.reverse ++ 46 :: A.reverse)) := by
    simp [List.reverse_append, List.reverse_replicate]
  rw [if_pos hc, hrev, dropWhile_replicate_append]
  have hne : (c == FmtSpec.cZero) = false := by simp [FmtSpec.cZero]; exact h0
  have hnd : (c == FmtSpec.cDot) = false := by simp [FmtSpec.cDot]; exact hd
  simp only [List.dropWhile, hne, hnd, Bool.false_eq_true, if_false]
  simp [List.reverse_append]

theorem stripFraction_exact (A : List Nat) (k x t : Nat) (hx : x % 10 ≠ 0) :
    FmtSpec.stripFraction (A ++ 46 :: (Dk (k + 1) x ++ List.replicate t 48)) = A ++ 46 :: Dk (k + 1) x := by
  rw [Dk, List.append_assoc]
  exact stripFraction_keep A _ t (by omega) (by omega)

theorem roundHalfEven_mul (k : Nat) {d : Nat} (hd : 0 < d) : FmtSpec.roundHalfEven (k * d) d = k := by
  simp [FmtSpec.roundHalfEven, Nat.mul_div_cancel _ hd, Nat.mul_mod_left]
  omega

theorem D_mem_range (n : Nat) : ∀ c ∈ D n, 48 ≤ c ∧ c ≤ 57 := fun c hc => by
  simpa [FmtSpec.isDigit] using Decimal.isDigit_digitsOf n c hc

theorem stripFraction_int (n p : Nat) :
    FmtSpec.stripFraction (D n ++ (if p = 0 then [] else 46 :: List.replicate p 48)) = D n := by
  by_cases hp : p = 0
  · rw [if_pos hp, List.append_nil]
    exact stripFraction_noDot fun h => by have := D_mem_range n 46 h; omega
  · rw [if_neg hp]; exact stripFraction_zeros _ p

/-- integer part, point, `p` fractional digits of `r / 10^p` -/
def fixedText (r p : Nat) : List Nat := D (r / 10 ^ p) ++ (if p = 0 then [] else 46 :: Dk p (r % 10 ^ p))

theorem fixedBody_eq_text (num den p : Nat) :
    FmtSpec.fixedBody num den p = fixedText (FmtSpec.roundHalfEven (num * 10 ^ p) den) p := by
  unfold FmtSpec.fixedBody fixedText
  by_cases hp : p = 0
  · simp [hp]
  · simp only [hp, if_false, FmtSpec.cDot]
    rw [show FmtSpec.digitsOf (FmtSpec.roundHalfEven (num * 10 ^ p) den % 10 ^ p) = D (FmtSpec.roundHalfEven (num * 10 ^ p) den % 10 ^ p) from rfl,
      padLeft_D (by omega) (Nat.mod_lt _ (Nat.pow_pos (by decide)))]

theorem fixedText_shift (T c w : Nat) (hc : 0 < c) :
    fixedText (T * 10 ^ w) (c + w) = D (T / 10 ^ c) ++ 46 :: (Dk c (T % 10 ^ c) ++ List.replicate w 48) := by
  unfold fixedText
  rw [if_neg (by omega), Nat.pow_add, Nat.mul_div_mul_right _ _ (Nat.pow_pos (by decide)), Nat.mul_mod_mul_right,
    Dk_mul_pow]

theorem strip_fixedText_shift (T c w : Nat) (hc : 0 < c) (hT10 : T % 10 ≠ 0) :
    FmtSpec.stripFraction (fixedText (T * 10 ^ w) (c + w)) = D (T / 10 ^ c) ++ 46 :: Dk c (T % 10 ^ c) := by
  obtain ⟨k, rfl⟩ : ∃ k, c = k + 1 := ⟨c - 1, by omega⟩
  rw [fixedText_shift T _ w hc]
  refine stripFraction_exact _ k _ w ?_
  rwa [Nat.mod_mod_of_dvd _ (by rw [Nat.pow_succ]; exact Nat.dvd_mul_left _ _)]

theorem fixedText_whole (T z q : Nat) (h : q ≤ z) :
    fixedText (T * 10 ^ z) q = D (T * 10 ^ (z - q)) ++ (if q = 0 then [] else 46 :: List.replicate q 48) := by
  unfold fixedText
  rw [show z = (z - q) + q by omega, Nat.pow_add, ← Nat.mul_assoc, Nat.mul_div_cancel _ (Nat.pow_pos (by decide)),
    Nat.mul_mod_left, Dk_zero, show z - q + q - q = z - q by omega]

theorem fixedText_int (n p : Nat) :
    fixedText (n * 10 ^ p) p = D n ++ (if p = 0 then [] else 46 :: List.replicate p 48) := by
  rw [fixedText_whole n p p (Nat.le_refl _), Nat.sub_self, Nat.pow_zero, Nat.mul_one]

/-- the reference on an integer: the numeral, then the point and `p` zeros -/
theorem fixedBody_int (n : Nat) {den : Nat} (hd : 0 < den) (p : Nat) :
    FmtSpec.fixedBody (n * den) den p = D n ++ (if p = 0 then [] else 46 :: List.replicate p 48) := by
  rw [fixedBody_eq_text, show n * den * 10 ^ p = (n * 10 ^ p) * den by ring, roundHalfEven_mul _ hd, fixedText_int]

theorem fixedText_pow (a q : Nat) (h : q ≤ a) :
    FmtSpec.stripFraction (fixedText (10 ^ a) q) = D (10 ^ (a - q)) := by
  have hq : 10 ^ a / 10 ^ q = 10 ^ (a - q) := Nat.pow_div h (by decide)
  have hm : 10 ^ a % 10 ^ q = 0 := by
    rw [show a = (a - q) + q by omega, Nat.pow_add]; exact Nat.mul_mod_left _ _
  unfold fixedText
  rw [hq, hm, Dk_zero, stripFraction_int]

theorem fixedText_low (T d w : Nat) :
    fixedText (T * 10 ^ w) (d + (D T).length + w) =
      48 :: 46 :: (List.replicate d 48 ++ D T ++ List.replicate w 48) := by
  have hLpos := D_length_pos T
  have hT : T < 10 ^ (d + (D T).length) :=
    lt_of_lt_of_le ((D_length_le_iff hLpos).mp (Nat.le_refl _)) (Nat.pow_le_pow_right (by decide) (by omega))
  rw [fixedText_shift T _ w (by omega), Nat.div_eq_of_lt hT, Nat.mod_eq_of_lt hT, Dk_eq_pad _ T hT (by omega),
    Nat.add_sub_cancel]
  rfl

theorem strip_fixedText_low (T d w : Nat) (hT10 : T % 10 ≠ 0) :
    FmtSpec.stripFraction (fixedText (T * 10 ^ w) (d + (D T).length + w)) = 48 :: 46 :: (List.replicate d 48 ++ D T) := by
  have hLpos := D_length_pos T
  have hT : T < 10 ^ (d + (D T).length) :=
    lt_of_lt_of_le ((D_length_le_iff hLpos).mp (Nat.le_refl _)) (Nat.pow_le_pow_right (by decide) (by omega))
  rw [strip_fixedText_shift T _ w (by omega) hT10, Nat.div_eq_of_lt hT, Nat.mod_eq_of_lt hT, Dk_eq_pad _ T hT (by omega),
    Nat.add_sub_cancel]
  rfl

/-- `0.` + `x - 1` zeros + the digits of `T`; the bare numeral when `x = 0` -/
def lowText (T x : Nat) : List Nat := if x = 0 then D T else 48 :: 46 :: (List.replicate (x - 1) 48 ++ D T)

/-- a digit string with the point after its first digit (no point for a single digit) -/
def dotAfterFirst : List Nat → List Nat
  | [] => []
  | t0 :: r => if r = [] then [t0] else t0 :: 46 :: r

theorem sciBody_eq (num den P : Nat) :
    FmtSpec.sciBody num den P =
      (dotAfterFirst (FmtSpec.padLeft P (FmtSpec.digitsOf (if num = 0 then 0 else (FmtSpec.sciDigits num den P).1))),
       (if num = 0 then (0 : Int) else (FmtSpec.sciDigits num den P).2)) := by
  unfold FmtSpec.sciBody
  by_cases h0 : num = 0
  · simp only [h0, if_true]
    cases FmtSpec.padLeft P (FmtSpec.digitsOf 0) with
    | nil => rfl
    | cons a l => cases l <;> simp [dotAfterFirst, FmtSpec.cDot]
  · simp only [h0, if_false]
    cases FmtSpec.padLeft P (FmtSpec.digitsOf (FmtSpec.sciDigits num den P).1) with
    | nil => rfl
    | cons a l => cases l <;> simp [dotAfterFirst, FmtSpec.cDot]

theorem D_mul_pow (T z : Nat) (hT : 0 < T) : D (T * 10 ^ z) = D T ++ List.replicate z 48 := by
  have := D_mul_pow_add z T 0 hT (Nat.pow_pos (by decide))
  rw [Nat.add_zero] at this
  rw [this, Dk_zero]

theorem D_last (T : Nat) : ∃ l, D T = l ++ [48 + T % 10] := by
  by_cases h : T < 10
  · exact ⟨[], by rw [D_lt10 h, Nat.mod_eq_of_lt h]; rfl⟩
  · exact ⟨D (T / 10), D_step (by omega)⟩

theorem strip_sci (T z : Nat) (hT : 0 < T) (hT10 : T % 10 ≠ 0) :
    FmtSpec.stripFraction (dotAfterFirst (D (T * 10 ^ z))) = dotAfterFirst (D T) := by
  rw [D_mul_pow T z hT]
  obtain ⟨l, hl⟩ := D_last T
  cases hDT : D T with
  | nil => exact absurd hDT (D_ne_nil T)
  | cons t0 r =>
    have ht0 : t0 ≠ 46 := by have := D_mem_range T t0 (by rw [hDT]; simp); omega
    by_cases hr : r = []
    · subst hr
      cases z with
      | zero => exact stripFraction_noDot (by simpa [dotAfterFirst] using fun h => ht0 h.symm)
      | succ z =>
        simp only [List.cons_append, dotAfterFirst, if_true, List.nil_append]
        exact stripFraction_zeros [t0] (z + 1)
    · have hne : ¬ (r ++ List.replicate z 48 = []) := by simp [hr]
      obtain ⟨r', hr'⟩ : ∃ r', r = r' ++ [48 + T % 10] := by
        rw [hDT] at hl
        cases l with
        | nil => simp at hl; exact absurd hl.2 hr
        | cons a l' => simp at hl; exact ⟨l', hl.2⟩
      simp only [List.cons_append, dotAfterFirst, hr, hne, if_false]
      rw [hr', List.append_assoc]
      exact stripFraction_keep [t0] r' z (by omega) (by omega)

theorem padLeft_full (k : Nat) (l : List Nat) (h : k ≤ l.length) : FmtSpec.padLeft k l = l := by
  unfold FmtSpec.padLeft; rw [Nat.sub_eq_zero_of_le h]; simp

theorem padLeft_two (X : Nat) : FmtSpec.padLeft 2 (FmtSpec.digitsOf X) = (if X < 10 then [48] else []) ++ D X := by
  by_cases h10 : X < 10
  · simp [h10, D_lt10 h10, FmtSpec.padLeft, FmtSpec.cZero]
  · have : 2 ≤ (D X).length := by
      have := D_length_gt (b := X) (k := 1) (by omega); omega
    simp [h10, padLeft_full 2 _ this]

theorem expText_nat (X : Nat) : FmtSpec.expText (X : Int) = [101, 43] ++ (if X < 10 then [48] else []) ++ D X := by
  unfold FmtSpec.expText
  have h0 : ¬ ((X : Int) < 0) := by omega
  simp only [h0, if_false, Int.natAbs_natCast, FmtSpec.cE, FmtSpec.cPlus, padLeft_two]
  rfl

theorem expText_neg (X : Nat) (hX : 0 < X) :
    FmtSpec.expText (-(X : Int)) = [101, 45] ++ (if X < 10 then [48] else []) ++ D X := by
  unfold FmtSpec.expText
  have h0 : (-(X : Int) < 0) := by omega
  simp only [h0, if_true, Int.natAbs_neg, Int.natAbs_natCast, FmtSpec.cE, FmtSpec.cMinus, padLeft_two]
  rfl

/-- significand `T` with the point after its first digit, then `e±XX` -/
def sciText (pos : Bool) (T X : Nat) : List Nat :=
  dotAfterFirst (D T) ++ [101, if pos then 43 else 45] ++ (if X < 10 then [48] else []) ++ D X

theorem sciText_pos (T X : Nat) : dotAfterFirst (D T) ++ FmtSpec.expText (X : Int) = sciText true T X := by
  rw [expText_nat]; simp [sciText, List.append_assoc]

theorem sciText_neg (T : Nat) {X : Nat} (hX : 0 < X) :
    dotAfterFirst (D T) ++ FmtSpec.expText (-(X : Int)) = sciText false T X := by
  rw [expText_neg X hX]; simp [sciText, List.append_assoc]

theorem strip_sci_pad {T z P : Nat} (hT0 : 0 < T) (hT10 : T % 10 ≠ 0) (hlen : P ≤ (D T).length + z) :
    FmtSpec.stripFraction (dotAfterFirst (FmtSpec.padLeft P (D (T * 10 ^ z)))) = dotAfterFirst (D T) := by
  rw [padLeft_full P _ (by rw [D_mul_pow T z hT0]; simp; exact hlen)]
  exact strip_sci T z hT0 hT10

theorem roundHalfEven_carry_down {N den A : Nat} (hd : 0 < den) (hA : 0 < A)
    (hlt : N < A * den) (h : FmtSpec.roundHalfEven (N * 10) den = 10 * A) :
    FmtSpec.roundHalfEven N den = A := by
  unfold FmtSpec.roundHalfEven at h ⊢
  simp only at h ⊢
  have hdm := Nat.div_add_mod (N * 10) den
  have hr : N * 10 % den < den := Nat.mod_lt _ hd
  have hqlt : N * 10 / den < 10 * A := by
    rw [Nat.div_lt_iff_lt_mul hd]
    calc N * 10 < A * den * 10 := Nat.mul_lt_mul_of_pos_right hlt (by decide)
      _ = 10 * A * den := by ring
  generalize hq : N * 10 / den = q at *
  generalize N * 10 % den = r at *
  have hq1 : q + 1 = 10 * A ∧ den ≤ 2 * r := by
    split at h
    · rename_i hc; refine ⟨h, ?_⟩; rcases hc with hc | hc <;> omega
    · omega
  obtain ⟨X, hXd⟩ : ∃ X, X = A * den := ⟨_, rfl⟩
  have hX : den * q = 10 * X - den := by
    have : q = 10 * A - 1 := by omega
    rw [this, Nat.mul_sub, Nat.mul_one, hXd]; congr 1; ring
  have hXge : den ≤ X := by rw [hXd]; exact Nat.le_mul_of_pos_left _ hA
  rw [← hXd] at hlt
  have hA1 : (A - 1) * den = X - den := by rw [Nat.sub_mul, Nat.one_mul, hXd]
  have hlo : (A - 1) * den ≤ N := by rw [hA1]; omega
  have hhi : N < (A - 1 + 1) * den := by rw [show A - 1 + 1 = A by omega, ← hXd]; exact hlt
  have hdiv : N / den = A - 1 := Nat.div_eq_of_lt_le hlo hhi
  have hmod : N % den = N - (X - den) := by rw [Nat.mod_def, hdiv, Nat.mul_comm, hA1]
  rw [hdiv, hmod, if_pos (Or.inl (by omega))]
  omega

theorem roundHalfEven_scale (n d c : Nat) (hc : 0 < c) : FmtSpec.roundHalfEven (n * c) (d * c) = FmtSpec.roundHalfEven n d := by
  unfold FmtSpec.roundHalfEven
  rw [Nat.mul_div_mul_right _ _ hc, Nat.mul_mod_mul_right]
  have e1 : (d * c < 2 * (n % d * c)) ↔ (d < 2 * (n % d)) := by
    rw [show 2 * (n % d * c) = (2 * (n % d)) * c by ring]
    exact Nat.mul_lt_mul_right hc
  have e2 : (2 * (n % d * c) = d * c) ↔ (2 * (n % d) = d) := by
    rw [show 2 * (n % d * c) = (2 * (n % d)) * c by ring]
    exact Nat.mul_left_inj (by omega)
  simp only [e1, e2]

theorem scaleRound_natCast (num den q : Nat) :
    FmtSpec.scaleRound num den (q : Int) = FmtSpec.roundHalfEven (num * 10 ^ q) den := by
  rw [FmtSpec.scaleRound, if_pos (Int.natCast_nonneg q), Int.toNat_natCast]

theorem scaleRound_neg (num den q : Nat) :
    FmtSpec.scaleRound num den (-(q : Int)) = FmtSpec.roundHalfEven num (den * 10 ^ q) := by
  rcases Nat.eq_zero_or_pos q with rfl | hq
  · rw [Int.natCast_zero, Int.neg_zero, ← Int.natCast_zero, scaleRound_natCast, Nat.pow_zero, Nat.mul_one, Nat.mul_one]
  · rw [FmtSpec.scaleRound, if_neg (by omega), Int.neg_neg, Int.toNat_natCast]

/-- `10^x ≤ num/den < 10^(x+1)`, over the naturals -/
def DecExp (num den : Nat) (x : Int) : Prop :=
  ∀ q a : Nat, ((q : Int) + x = a → 10 ^ a * den ≤ num * 10 ^ q) ∧ ((q : Int) + x + 1 = a → num * 10 ^ q < 10 ^ a * den)

theorem DecExp.mk' {num den n k n' k' : Nat} {x : Int} (hx : x = (n : Int) - k) (hx' : x + 1 = (n' : Int) - k')
    (hlo : den * 10 ^ n ≤ num * 10 ^ k) (hhi : num * 10 ^ k' < den * 10 ^ n') : DecExp num den x := by
  intro q a
  constructor
  · intro h
    -- compare after multiplying by 10^(q + k): both sides are the witness times a common power
    have e1 : a + k = n + q := by omega
    have := Nat.mul_le_mul_right (10 ^ q) hlo
    have h2 : 10 ^ a * den * 10 ^ k ≤ num * 10 ^ q * 10 ^ k := by
      calc 10 ^ a * den * 10 ^ k = den * 10 ^ n * 10 ^ q := by
            rw [Nat.mul_assoc, Nat.mul_comm (10 ^ a), Nat.mul_assoc, ← Nat.pow_add, Nat.mul_assoc, ← Nat.pow_add,
              Nat.add_comm k a, e1]
        _ ≤ num * 10 ^ k * 10 ^ q := this
        _ = num * 10 ^ q * 10 ^ k := by ring
    exact Nat.le_of_mul_le_mul_right h2 (Nat.pow_pos (by decide))
  · intro h
    have e1 : a + k' = n' + q := by omega
    have := Nat.mul_lt_mul_of_pos_right hhi (Nat.pow_pos (n := q) (by decide : 0 < 10))
    have h2 : num * 10 ^ q * 10 ^ k' < 10 ^ a * den * 10 ^ k' := by
      calc num * 10 ^ q * 10 ^ k' = num * 10 ^ k' * 10 ^ q := by ring
        _ < den * 10 ^ n' * 10 ^ q := this
        _ = 10 ^ a * den * 10 ^ k' := by
            rw [Nat.mul_assoc (10 ^ a), Nat.mul_comm (10 ^ a), Nat.mul_assoc den, ← Nat.pow_add, Nat.mul_assoc den,
              ← Nat.pow_add, Nat.add_comm k' a, e1]
    exact Nat.lt_of_mul_lt_mul_right h2

theorem firstScale_eq {num den : Nat} : ∀ (fuel start K : Nat), start ≤ K → K - start < fuel → den ≤ num * 10 ^ K →
    (∀ k, start ≤ k → k < K → ¬ den ≤ num * 10 ^ k) → FmtSpec.firstScale num den fuel start = K := by
  intro fuel
  induction fuel with
  | zero => intro start K _ h; omega
  | succ n ih =>
    intro start K h1 h2 h3 h4
    rw [FmtSpec.firstScale]
    by_cases he : start = K
    · subst he; rw [if_pos h3]
    · rw [if_neg (h4 start (Nat.le_refl _) (by omega))]
      exact ih (start + 1) K (by omega) (by omega) h3 (fun k hk1 hk2 => h4 k (by omega) hk2)

/-- `-1200`: the reference's search has fuel for 1200 places -/
theorem floorLog10_eq {num den : Nat} {x : Int} (hd : 0 < den) (hx : DecExp num den x) (hlow : -1200 < x) :
    FmtSpec.floorLog10 num den = x := by
  unfold FmtSpec.floorLog10
  by_cases h0 : 0 ≤ x
  · obtain ⟨n, rfl⟩ : ∃ n : Nat, x = n := ⟨x.toNat, by omega⟩
    have h1 := (hx 0 n).1 (by omega)
    have h2 := (hx 0 (n + 1)).2 (by omega)
    rw [Nat.pow_zero, Nat.mul_one] at h1 h2
    have hge : den ≤ num := le_trans (Nat.le_mul_of_pos_left _ (Nat.pow_pos (by decide))) h1
    rw [if_pos hge]
    have h3 : 10 ^ n ≤ num / den := (Nat.le_div_iff_mul_le hd).mpr h1
    have h4 : num / den < 10 ^ (n + 1) := (Nat.div_lt_iff_lt_mul hd).mpr h2
    have := D_length_gt h3
    have := (D_length_le_iff (k := n + 1) (by omega)).mpr h4
    show (((D (num / den)).length - 1 : Nat) : Int) = n
    omega
  · obtain ⟨k, rfl⟩ : ∃ k : Nat, x = -((k : Int) + 1) := ⟨(-x).toNat - 1, by omega⟩
    have h1 := (hx (k + 1) 0).1 (by omega)
    have h2 := (hx k 0).2 (by omega)
    rw [Nat.pow_zero, Nat.one_mul] at h1 h2
    have hlt : ¬ den ≤ num := by
      have : num ≤ num * 10 ^ k := Nat.le_mul_of_pos_right _ (Nat.pow_pos (by decide))
      omega
    rw [if_neg hlt, firstScale_eq 1200 1 (k + 1) (by omega) (by omega) h1]
    · omega
    · intro k' _ hk' hc
      have : num * 10 ^ k' ≤ num * 10 ^ k := Nat.mul_le_mul_left _ (Nat.pow_le_pow_right (by decide) (by omega))
      omega

/-- `%g` of the value `K · 10^(x - (P-1))`, `K` of `P` digits -/
def gBody (P K : Nat) (x : Int) : List Nat :=
  if -4 ≤ x ∧ x < (P : Int) then FmtSpec.stripFraction (fixedText K ((P : Int) - 1 - x).toNat)
  else FmtSpec.stripFraction (dotAfterFirst (FmtSpec.padLeft P (D K))) ++ FmtSpec.expText x

/-- the same when `K` may also be `10^P`, a rounding that carried into a new leading digit: that is `10^(P-1)` one
exponent higher, and may cross from one notation to the other -/
def gText (P K : Nat) (x : Int) : List Nat :=
  if K = 10 ^ P then gBody P (10 ^ (P - 1)) (x + 1) else gBody P K x

theorem gBody_pos {P K : Nat} {x : Int} (h : -4 ≤ x ∧ x < (P : Int)) :
    gBody P K x = FmtSpec.stripFraction (fixedText K ((P : Int) - 1 - x).toNat) := if_pos h

theorem gBody_exp {P T z : Nat} {x : Int} (hT0 : 0 < T) (hT10 : T % 10 ≠ 0) (hlen : P ≤ (D T).length + z)
    (h : ¬ (-4 ≤ x ∧ x < (P : Int))) : gBody P (T * 10 ^ z) x = dotAfterFirst (D T) ++ FmtSpec.expText x := by
  rw [gBody, if_neg h, strip_sci_pad hT0 hT10 hlen]

theorem gBody_sci {P T z X : Nat} (hT0 : 0 < T) (hT10 : T % 10 ≠ 0) (hlen : P ≤ (D T).length + z) (hX : P ≤ X) :
    gBody P (T * 10 ^ z) (X : Int) = sciText true T X := by
  rw [gBody_exp hT0 hT10 hlen (by omega), sciText_pos]

theorem gBody_neg {P T z n : Nat} (hT0 : 0 < T) (hT10 : T % 10 ≠ 0) (hlen : (D T).length + z = P) (hn : 0 < n) :
    gBody P (T * 10 ^ z) (-(n : Int)) = if n ≤ 4 then lowText T n else sciText false T n := by
  by_cases h4 : n ≤ 4
  · rw [gBody_pos (by omega), if_pos h4, show ((P : Int) - 1 - -(n : Int)).toNat = (n - 1) + (D T).length + z by omega,
      strip_fixedText_low T (n - 1) z hT10, lowText, if_neg (by omega)]
  · rw [gBody_exp hT0 hT10 (by omega) (by omega), if_neg h4, sciText_neg T hn]

theorem gText_of_lt {P K : Nat} (h : K < 10 ^ P) (x : Int) : gText P K x = gBody P K x := if_neg (Nat.ne_of_lt h)

theorem gText_carry (P : Nat) (x : Int) : gText P (10 ^ P) x = gBody P (10 ^ (P - 1)) (x + 1) := if_pos rfl

/-- the reference `%.{p}g` of any positive fraction -/
theorem generalBody_gText {num den p : Nat} {x : Int} (hd : 0 < den) (hn : 0 < num)
    (hx : DecExp num den x) (hlow : -1200 < x) :
    FmtSpec.generalBody num den p =
      gText (if p = 0 then 1 else p)
        (FmtSpec.scaleRound num den ((((if p = 0 then 1 else p) : Nat) : Int) - 1 - x)) x := by
  generalize hP : (if p = 0 then 1 else p) = P
  have hPpos : 0 < P := by rw [← hP]; split <;> omega
  have hnd : num ≠ 0 := by omega
  unfold FmtSpec.generalBody gText gBody
  simp only [hP, hnd, if_false]
  rw [sciBody_eq]
  simp only [hnd, if_false]
  unfold FmtSpec.sciDigits
  simp only [floorLog10_eq hd hx hlow]
  generalize hK : FmtSpec.scaleRound num den ((P : Int) - 1 - x) = K
  by_cases hc : K = 10 ^ P
  · simp only [hc, if_true]
    by_cases hr : -4 ≤ x + 1 ∧ x + 1 < (P : Int)
    · rw [if_pos hr, if_pos hr, fixedBody_eq_text]
      -- one digit less: the value is below `10^(x+1)`, so it rounds to `10^(P-1)` there
      obtain ⟨q, hq⟩ : ∃ q : Nat, (P : Int) - 1 - (x + 1) = q := ⟨((P : Int) - 1 - (x + 1)).toNat, by omega⟩
      rw [hq, Int.toNat_natCast]
      congr 2
      refine roundHalfEven_carry_down hd (Nat.pow_pos (by decide)) ((hx q (P - 1)).2 (by omega)) ?_
      rw [← Nat.pow_succ', show (P - 1).succ = P by omega, ← hc, ← hK, FmtSpec.scaleRound, if_pos (by omega),
        show ((P : Int) - 1 - x).toNat = q + 1 by omega, Nat.pow_succ, Nat.mul_assoc]
    · rw [if_neg hr, if_neg hr]
  · simp only [hc, if_false]
    by_cases hr : -4 ≤ x ∧ x < (P : Int)
    · rw [if_pos hr, if_pos hr, fixedBody_eq_text, ← hK, FmtSpec.scaleRound, if_pos (by omega)]
    · rw [if_neg hr, if_neg hr]

end Qentem.Proofs.NumToStr
