import Qentem.Proofs.NumToStrIntClass
import Qentem.Proofs.TextAt
import Qentem.Proofs.StrToNumBasic
/-! Helper lemmas for C11.  The reference reader after the sign (`readCore`, with `readDecimal_signed`, `readCore_plain`,
`readCore_exp`: a plain and an exponent text read as their digits' value; `readDecimal_int`: a run of digits; namespace
`Ident`); the numeral `D n` under reader and parser (`digitsValue_D`, `allDigits_D`, `D_pos_head`); integers of
magnitude below 2^53, formatted with 17 significant digits, print exactly their decimal numeral (`format17_small_int`),
and that numeral reads back (exactly) as the same value (`readDecimal_signed_D`, `decode64_int`). -/
namespace Qentem.Proofs.Ident

/-- `readDecimal` after the sign -/
def readCore (neg : Bool) (t : List Nat) : Option (Bool × Nat × Nat) :=
  let ip := t.takeWhile FmtSpec.isDigit
  let t := t.dropWhile FmtSpec.isDigit
  if ip.isEmpty then none else
  let (fp, t, okf) := match t with
    | 46 :: r => (r.takeWhile FmtSpec.isDigit, r.dropWhile FmtSpec.isDigit, !(r.takeWhile FmtSpec.isDigit).isEmpty)
    | _ => ([], t, true)
  if !okf then none else
  let mant := FmtSpec.digitsValue (ip ++ fp)
  match t with
  | [] => some (neg, mant, 10 ^ fp.length)
  | 101 :: r =>
    let (eneg, r) := match r with
      | 45 :: r' => (true, r')
      | 43 :: r' => (false, r')
      | _ => (false, r)
    if r.isEmpty || !(r.all FmtSpec.isDigit) then none else
    let e := FmtSpec.digitsValue r
    if eneg then some (neg, mant, 10 ^ fp.length * 10 ^ e)
    else some (neg, mant * 10 ^ e, 10 ^ fp.length)
  | _ => none

theorem readDecimal_neg (t : List Nat) : FmtSpec.readDecimal (45 :: t) = readCore true t := by
  unfold FmtSpec.readDecimal readCore; rfl

theorem readDecimal_pos (t : List Nat) (h : ∀ r, t ≠ 45 :: r) : FmtSpec.readDecimal t = readCore false t := by
  unfold FmtSpec.readDecimal readCore
  split
  · rename_i r heq
    split at heq
    · rename_i r'
      exact absurd rfl (h r')
    · simp only [Prod.mk.injEq] at heq
      obtain ⟨h1, h2⟩ := heq
      subst h2; subst h1; rfl

theorem readDecimal_signed (neg : Bool) (t : List Nat) (h : ∀ r, t ≠ 45 :: r) :
    FmtSpec.readDecimal (FmtSpec.signed neg t) = readCore neg t := by
  cases neg
  · simpa [FmtSpec.signed] using readDecimal_pos t h
  · simpa [FmtSpec.signed, FmtSpec.cMinus] using readDecimal_neg t

theorem readCore_plain (neg : Bool) (ip fp : List Nat) (hip0 : ip ≠ []) (hip : ∀ c ∈ ip, FmtSpec.isDigit c = true)
    (hfp : ∀ c ∈ fp, FmtSpec.isDigit c = true) :
    readCore neg (ip ++ (if fp = [] then [] else 46 :: fp)) =
      some (neg, FmtSpec.digitsValue (ip ++ fp), 10 ^ fp.length) := by
  unfold readCore
  by_cases hf : fp = []
  · subst hf
    obtain ⟨t1, t2⟩ := takeWhile_run FmtSpec.isDigit ip [] hip (fun _ h => nomatch h)
    simp only [if_true, t1, t2]
    simp [hip0]
  · obtain ⟨t1, t2⟩ := takeWhile_run FmtSpec.isDigit ip (46 :: fp) hip (fun _ h => Option.some.inj h ▸ rfl)
    obtain ⟨u1, u2⟩ := takeWhile_run FmtSpec.isDigit fp [] hfp (fun _ h => nomatch h)
    rw [List.append_nil] at u1 u2
    simp only [hf, if_false, t1, t2, u1, u2]
    simp [hip0, hf]

theorem readCore_exp (neg : Bool) (ip fp r : List Nat) (eneg : Bool) (hip0 : ip ≠ [])
    (hip : ∀ c ∈ ip, FmtSpec.isDigit c = true) (hfp : ∀ c ∈ fp, FmtSpec.isDigit c = true)
    (hr0 : r ≠ []) (hr : ∀ c ∈ r, FmtSpec.isDigit c = true) :
    readCore neg (ip ++ (if fp = [] then [] else 46 :: fp) ++ 101 :: (if eneg then 45 else 43) :: r) =
      some (if eneg then (neg, FmtSpec.digitsValue (ip ++ fp), 10 ^ fp.length * 10 ^ FmtSpec.digitsValue r)
            else (neg, FmtSpec.digitsValue (ip ++ fp) * 10 ^ FmtSpec.digitsValue r, 10 ^ fp.length)) := by
  have hrall : r.all FmtSpec.isDigit = true := by simpa using hr
  unfold readCore
  by_cases hf : fp = []
  · subst hf
    obtain ⟨t1, t2⟩ := takeWhile_run FmtSpec.isDigit ip (101 :: (if eneg then 45 else 43) :: r) hip
      (fun _ h => Option.some.inj h ▸ rfl)
    simp only [if_true, List.append_nil, t1, t2]
    cases eneg <;> simp [hip0, hr0, hrall]
  · obtain ⟨t1, t2⟩ := takeWhile_run FmtSpec.isDigit ip (46 :: fp ++ 101 :: (if eneg then 45 else 43) :: r) hip
      (fun _ h => Option.some.inj h ▸ rfl)
    obtain ⟨u1, u2⟩ := takeWhile_run FmtSpec.isDigit fp (101 :: (if eneg then 45 else 43) :: r) hfp
      (fun _ h => Option.some.inj h ▸ rfl)
    simp only [hf, if_false, List.append_assoc, List.cons_append] at t1 t2 ⊢
    simp only [t1, t2, u1, u2]
    cases eneg <;> simp [hip0, hf, hr0, hrall]

theorem digits_head_not_minus {ds : List Nat} (hds : ∀ c ∈ ds, FmtSpec.isDigit c = true) (hne : ds ≠ [])
    (rest : List Nat) : ∀ r, ds ++ rest ≠ 45 :: r := by
  intro r h
  cases ds with
  | nil => exact hne rfl
  | cons a t =>
    have ha := hds a (by simp)
    simp only [List.cons_append, List.cons.injEq] at h
    rw [h.1] at ha
    exact absurd ha (by decide)

/-- a run of digits, with or without the minus sign, reads as its value over 1 -/
theorem readDecimal_int (neg : Bool) {ds : List Nat} (hds : ∀ c ∈ ds, FmtSpec.isDigit c = true) (hne : ds ≠ []) :
    FmtSpec.readDecimal (FmtSpec.signed neg ds) = some (neg, FmtSpec.digitsValue ds, 1) := by
  have h := readCore_plain neg ds [] hne hds (fun _ h => nomatch h)
  rw [if_pos rfl, List.append_nil] at h
  rw [readDecimal_signed neg ds (by simpa using digits_head_not_minus hds hne []), h]; rfl

end Qentem.Proofs.Ident

namespace Qentem.Proofs.NumToStr
open Qentem.NumToStr Qentem.Generated.NumToStr

theorem digitsValue_D (n : Nat) : FmtSpec.digitsValue (D n) = n := Decimal.decVal_digitsOf n

theorem allDigits_D (n : Nat) : StrToNum.AllDigits (D n) := Decimal.allDigits_digitsOf n

theorem D_pos_head (n : Nat) (hn : 0 < n) :
    ∃ d1 xs, D n = d1 :: xs ∧ StrToNum.isNonZeroDigit d1 = true ∧ StrToNum.AllDigits xs := Decimal.digitsOf_head hn

/-- integers below 2^53 as doubles: `NumberToString(17 digits)` prints exactly their decimal numeral (with the sign) -/
theorem format17_small_int (bits j : Nat)
    (h : IntValued64 ((bits / 2 ^ 52) % 2 ^ 11) (bits % 2 ^ 52) j) (hsmall : (bits / 2 ^ 52) % 2 ^ 11 - 1023 ≤ 52) :
    format17 bits = .ok (FmtSpec.signed (decide (bits / 2 ^ 63 % 2 = 1))
      (D (intValue64 ((bits / 2 ^ 52) % 2 ^ 11) (bits % 2 ^ 52)))) := by
  obtain ⟨he1, he0, hfin, h0⟩ := h.fields
  have hf := h.hf
  have he2 := h.he2
  have hv := intValue64_eq h
  have hpos := intValue64_pos h
  have hn : intValue64 ((bits / 2 ^ 52) % 2 ^ 11) (bits % 2 ^ 52) < 10 ^ 17 := by
    rw [intValue64_small he1 (by omega)]
    calc (2 ^ 52 + bits % 2 ^ 52) / 2 ^ (52 - ((bits / 2 ^ 52) % 2 ^ 11 - 1023)) ≤ 2 ^ 52 + bits % 2 ^ 52 := Nat.div_le_self _ _
      _ < 10 ^ 17 := by omega
  have hl := D_length_le _ 17 (by decide) hn
  have key := realToString_finite masks64 [] bits 17 fmtDefault hfin (Or.inl he0)
  rw [show (if fmtDefault = fmtDefault ∧ 17 = 0 then 1 else 17) = 17 from rfl] at key
  generalize (bits / 2 ^ 52) % 2 ^ 11 = e at *
  generalize bits % 2 ^ 52 = f at *
  rw [hv] at hl hpos ⊢
  unfold format17 realText
  rw [key, realFinite_reduce shape64 _ hf (by omega) (Or.inl he0) (Or.inl (by decide))]
  exact (layout_int_default (by decide) hf he1 he0 h0 (by omega) hpos hl _).trans
    (congrArg Except.ok (sign_append _ [] _))

/-- the exact value of an integer-valued double, as the reference decodes it: `n · den / den` -/
theorem decode64_int {bits j : Nat} (h : IntValued64 ((bits / 2 ^ 52) % 2 ^ 11) (bits % 2 ^ 52) j) :
    ∃ den, 0 < den ∧ FmtSpec.decode64 bits =
      .fin (decide (bits / 2 ^ 63 % 2 = 1)) (intValue64 ((bits / 2 ^ 52) % 2 ^ 11) (bits % 2 ^ 52) * den) den := by
  obtain ⟨he1, he0, hfin, h0⟩ := h.fields
  obtain ⟨num, den, hdec, hv⟩ := decode_fields (M := 52) (X := 11) (bits := bits) (by decide) (by decide) hfin (Or.inl he0)
  have hv' : FinVal 52 1023 (bits % 2 ^ 52) ((bits / 2 ^ 52) % 2 ^ 11) num den := hv
  obtain ⟨hnum, _⟩ := hv'.int_eq (by decide) he1 he0 h0
  exact ⟨den, hv.hden, by rw [intValue64_eq h, ← hnum]; exact hdec⟩

theorem readDecimal_signed_D (neg : Bool) (n : Nat) : FmtSpec.readDecimal (FmtSpec.signed neg (D n)) = some (neg, n, 1) := by
  rw [Ident.readDecimal_int neg (allDigits_D n) (D_ne_nil n), digitsValue_D]

end Qentem.Proofs.NumToStr
