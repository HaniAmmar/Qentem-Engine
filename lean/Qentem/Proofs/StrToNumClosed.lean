import Qentem.Proofs.StrToNumReal
/-! C09 helper lemmas: the `BigInt` pipelines of `powerOfNegativeTen` / `powerOfPositiveTen` never
exceed the 256-bit object (so the `% 2^256` of the model never fires) and equal closed forms in
`Nat` with floor divisions. -/
namespace Qentem.StrToNum
open Qentem.Generated.StrToNum

/-- `n` times `b ↦ ⌊b·r / 2^64⌋` -/
def negIter (r : Nat) : Nat → Nat → Nat
  | 0, b => b
  | n + 1, b => negIter r n (b * r / 2 ^ 64)

/-- `n` times: multiply by `p`; when the product reaches the fourth word divide by `2^64` and count it -/
def posIter (p : Nat) : Nat → Nat → Nat → Nat × Nat
  | 0, b, s => (b, s)
  | n + 1, b, s => if 2 ^ 192 ≤ b * p then posIter p n (b * p / 2 ^ 64) (add32 s 64) else posIter p n (b * p) s

theorem bmul_exact (b m : Nat) (h : b * m < 2 ^ 256) : bmul b m = b * m := by
  unfold bmul bigW
  rw [show bigIntTotalBits = 256 from rfl]
  exact Nat.mod_eq_of_lt h

theorem mul_lt_pow (a b i j : Nat) (ha : a < 2 ^ i) (hb : b < 2 ^ j) : a * b < 2 ^ (i + j) := by
  rw [Nat.pow_add]
  exact Nat.mul_lt_mul'' ha hb

theorem add32_lt (a b : Nat) : add32 a b < 2 ^ 32 := Nat.mod_lt _ (by decide)

theorem negLoop_closed (r s : Nat) (hr : r < 2 ^ 64) : ∀ (n b sh : Nat), b < 2 ^ 128 → sh < 2 ^ 32 →
    negLoop r s n b sh = (negIter r n b, (sh + n * s) % 2 ^ 32) ∧ negIter r n b < 2 ^ 128
  | 0, b, sh, hb, hsh => by
    constructor
    · simp only [negLoop, negIter, Nat.zero_mul, Nat.add_zero]
      rw [Nat.mod_eq_of_lt hsh]
    · exact hb
  | n + 1, b, sh, hb, hsh => by
    have hmul : b * r < 2 ^ 256 := Nat.lt_of_lt_of_le (mul_lt_pow b r 128 64 hb hr) (by decide)
    have hdiv : b * r / 2 ^ 64 < 2 ^ 128 := by
      have := mul_lt_pow b r 128 64 hb hr
      exact Nat.div_lt_of_lt_mul (by rw [← Nat.pow_add]; exact this)
    obtain ⟨h1, h2⟩ := negLoop_closed r s hr n (b * r / 2 ^ 64) (add32 sh s) hdiv (add32_lt _ _)
    constructor
    · rw [negLoop, bmul_exact b r hmul]
      simp only [bshr, show maxShift = 64 from rfl, negIter]
      rw [h1]
      congr 1
      unfold add32
      rw [Nat.mod_add_mod, Nat.succ_mul]
      congr 1; omega
    · simpa [negIter] using h2

theorem bindex_gt_two (b : Nat) : bindex b > 2 ↔ 2 ^ 192 ≤ b := by
  unfold bindex
  rw [show bigIntTypeWidth = 64 from rfl]
  by_cases h0 : b = 0
  · subst h0; simp
  · simp only [h0, if_false]
    rw [← Nat.le_log2 h0]
    omega

theorem posLoop_closed (p : Nat) (hp : p < 2 ^ 63) : ∀ (n b s : Nat), b < 2 ^ 192 →
    posLoop p n b s = posIter p n b s ∧ (posIter p n b s).1 < 2 ^ 192
  | 0, b, s, hb => ⟨rfl, hb⟩
  | n + 1, b, s, hb => by
    have hmul : b * p < 2 ^ 256 := Nat.lt_of_lt_of_le (mul_lt_pow b p 192 63 hb hp) (by decide)
    have hdiv : b * p / 2 ^ 64 < 2 ^ 192 := by
      exact Nat.div_lt_of_lt_mul (by rw [← Nat.pow_add]; exact hmul)
    rw [posLoop, bmul_exact b p hmul, posIter]
    simp only [bindex_gt_two, bshr, show maxShift = 64 from rfl]
    split
    · exact posLoop_closed p hp n _ _ hdiv
    · rename_i h
      exact posLoop_closed p hp n _ _ (by omega)

theorem tables_bounds : (∀ x ∈ powerOfFive, x < 2 ^ 63) ∧ (∀ x ∈ powerOfOneOverFive, x < 2 ^ 64) := by decide

/-- `powerOfNegativeTen`'s big integer before normalisation, in closed form: the 256-bit object
never overflows and `b_int = ⌊…⌊⌊num·2^64·r₂₇/2^64⌋·r₂₇/2^64⌋…·r_j/2^64⌋`. -/
theorem negScale_closed (num x : Nat) (hn : num < 2 ^ 64) :
    ∃ r27 s27, powerOfOneOverFive[27]? = some r27 ∧ powerOfOneOverFiveShift[27]? = some s27 ∧
      ((x % 27 = 0 ∧ negScale num x = some (negIter r27 (x / 27) (num * 2 ^ 64), (add32 x 64 + x / 27 * s27) % 2 ^ 32)) ∨
       (x % 27 ≠ 0 ∧ ∃ rj sj, powerOfOneOverFive[x % 27]? = some rj ∧ powerOfOneOverFiveShift[x % 27]? = some sj ∧
          negScale num x = some (negIter r27 (x / 27) (num * 2 ^ 64) * rj / 2 ^ 64,
            add32 ((add32 x 64 + x / 27 * s27) % 2 ^ 32) sj))) := by
  obtain ⟨_, h2, h3, _⟩ := tables_len
  obtain ⟨r27, hr27e⟩ : ∃ r, powerOfOneOverFive[27]? = some r := ⟨_, List.getElem?_eq_getElem (by rw [h2]; decide)⟩
  obtain ⟨s27, hs27e⟩ : ∃ r, powerOfOneOverFiveShift[27]? = some r := ⟨_, List.getElem?_eq_getElem (by rw [h3]; decide)⟩
  refine ⟨r27, s27, hr27e, hs27e, ?_⟩
  have hr27 : r27 < 2 ^ 64 := tables_bounds.2 _ (List.mem_of_getElem? hr27e)
  have hb0 : num * 2 ^ 64 < 2 ^ 128 := by omega
  have hshl : bshl num 64 = num * 2 ^ 64 := by
    unfold bshl bigW; rw [show bigIntTotalBits = 256 from rfl]
    exact Nat.mod_eq_of_lt (Nat.lt_of_lt_of_le hb0 (by decide))
  obtain ⟨hl, hlt⟩ := negLoop_closed r27 s27 hr27 (x / 27) (num * 2 ^ 64) (add32 x 64) hb0 (add32_lt _ _)
  unfold negScale
  simp only [show maxPowerOfFive = 27 from rfl, hr27e, hs27e, hshl]
  rw [hl]
  by_cases hx : x % 27 = 0
  · left; simp [hx]
  · right
    have hjlt : x % 27 < 28 := by omega
    obtain ⟨rj, hrje⟩ : ∃ r, powerOfOneOverFive[x % 27]? = some r := ⟨_, List.getElem?_eq_getElem (by rw [h2]; exact hjlt)⟩
    obtain ⟨sj, hsje⟩ : ∃ r, powerOfOneOverFiveShift[x % 27]? = some r := ⟨_, List.getElem?_eq_getElem (by rw [h3]; exact hjlt)⟩
    refine ⟨hx, rj, sj, hrje, hsje, ?_⟩
    have hrjb : rj < 2 ^ 64 := tables_bounds.2 _ (List.mem_of_getElem? hrje)
    have hmul := mul_lt_pow _ _ 128 64 hlt hrjb
    simp only [hx, ne_eq, not_false_eq_true, if_true, hrje, hsje]
    rw [bmul_exact _ _ (Nat.lt_of_lt_of_le hmul (by decide))]
    simp [bshr, show maxShift = 64 from rfl]

/-- `powerOfPositiveTen`'s big integer before normalisation, in closed form: products by `5^27`
(`5^j` last) with a division by `2^64` whenever the fourth word is reached; never beyond 255 bits. -/
theorem posScale_closed (num x : Nat) (hn : num < 2 ^ 64) :
    ∃ p27, powerOfFive[27]? = some p27 ∧
      ((x % 27 = 0 ∧ posScale num x = some (posIter p27 (x / 27) num x)) ∨
       (x % 27 ≠ 0 ∧ ∃ pj, powerOfFive[x % 27]? = some pj ∧
          posScale num x = some ((posIter p27 (x / 27) num x).1 * pj, (posIter p27 (x / 27) num x).2) ∧
          (posIter p27 (x / 27) num x).1 * pj < 2 ^ 255)) := by
  obtain ⟨h1, _, _, _⟩ := tables_len
  obtain ⟨p27, hp27e⟩ : ∃ r, powerOfFive[27]? = some r := ⟨_, List.getElem?_eq_getElem (by rw [h1]; decide)⟩
  refine ⟨p27, hp27e, ?_⟩
  have hp27 : p27 < 2 ^ 63 := tables_bounds.1 _ (List.mem_of_getElem? hp27e)
  obtain ⟨hl, hlt⟩ := posLoop_closed p27 hp27 (x / 27) num x (Nat.lt_of_lt_of_le hn (by decide))
  unfold posScale
  simp only [show maxPowerOfFive = 27 from rfl, hp27e]
  rw [hl]
  by_cases hx : x % 27 = 0
  · left; simp [hx]
  · right
    obtain ⟨pj, hpje⟩ : ∃ r, powerOfFive[x % 27]? = some r := ⟨_, List.getElem?_eq_getElem (by rw [h1]; omega)⟩
    have hpjb : pj < 2 ^ 63 := tables_bounds.1 _ (List.mem_of_getElem? hpje)
    have hmul := mul_lt_pow _ _ 192 63 hlt hpjb
    refine ⟨hx, pj, hpje, ?_, hmul⟩
    simp only [hx, ne_eq, not_false_eq_true, if_true, hpje, Option.map_some]
    rw [bmul_exact _ _ (Nat.lt_of_lt_of_le hmul (by decide))]

end Qentem.StrToNum
