import Qentem.Model.HashTable
/-!
Two plain functions of the model that the layout, the slot specification and the allocation ledger share: `allocCap`
(a power of two, at least the request) and `sortSeg` (`Memory::Sort` only swaps: it permutes, and it commutes with a map
that respects the comparison).
-/
namespace Qentem.HashTable
variable {V : Type}

theorem alignSize_pow (m : Nat) : ∃ k, alignSize m = 2 ^ k := by
  unfold alignSize
  simp only
  split
  · exact ⟨Nat.log2 m + 1, by rw [Nat.pow_succ]; omega⟩
  · exact ⟨Nat.log2 m, rfl⟩

theorem alignSize_ge (m : Nat) : m ≤ alignSize m := by
  unfold alignSize
  simp only
  split
  · have := @Nat.lt_log2_self m
    rw [Nat.pow_succ] at this; omega
  · omega

theorem allocCap_pow (n : Nat) : ∃ k, allocCap n = 2 ^ k := alignSize_pow _

theorem allocCap_ge (n : Nat) : n ≤ allocCap n := by
  have := alignSize_ge (n + n % 2)
  unfold allocCap; omega

theorem swapIfInBounds_perm {α : Type} (arr : Array α) (i j : Nat) : (arr.swapIfInBounds i j).Perm arr := by
  rw [Array.swapIfInBounds_def]
  split
  · split
    · exact Array.swap_perm _ _
    · exact Array.Perm.refl _
  · exact Array.Perm.refl _

theorem map_swapIfInBounds {α β : Type} (f : α → β) (arr : Array α) (i j : Nat) :
    (arr.swapIfInBounds i j).map f = (arr.map f).swapIfInBounds i j := by
  simp only [Array.swapIfInBounds_def, Array.size_map]
  split
  · split
    · apply Array.ext_getElem?
      intro k
      simp only [Array.getElem?_map, Array.getElem?_swap, Array.getElem_map]
      split
      · rfl
      · split <;> rfl
    · rfl
  · rfl

section
variable {α β : Type} (c1 : α → α → Bool) (c2 : β → β → Bool) (f : α → β)

theorem sortPart_map_perm (start : Nat) : ∀ (fuel : Nat) (arr : Array α) (index offset : Nat),
    (∀ x ∈ arr, ∀ p ∈ arr, c1 x p = c2 (f x) (f p)) →
    ((sortPart c1 start fuel arr index offset).1.map f = (sortPart c2 start fuel (arr.map f) index offset).1 ∧
     (sortPart c1 start fuel arr index offset).2 = (sortPart c2 start fuel (arr.map f) index offset).2) ∧
    (sortPart c1 start fuel arr index offset).1.Perm arr
  | 0, arr, index, offset, _ => ⟨⟨rfl, rfl⟩, Array.Perm.refl _⟩
  | fuel + 1, arr, index, offset, hcmp => by
    simp only [sortPart, Array.getElem?_map]
    cases hx : arr[offset]? with
    | none => exact ⟨⟨rfl, rfl⟩, Array.Perm.refl _⟩
    | some x =>
      cases hp : arr[start]? with
      | none => exact ⟨⟨rfl, rfl⟩, Array.Perm.refl _⟩
      | some p =>
        simp only [Option.map_some]
        rw [← hcmp x (Array.mem_of_getElem? hx) p (Array.mem_of_getElem? hp)]
        by_cases hc : c1 x p = true
        · simp only [hc, if_true]
          have hperm := swapIfInBounds_perm arr (index + 1) offset
          have ih := sortPart_map_perm start fuel (arr.swapIfInBounds (index + 1) offset) (index + 1) (offset + 1)
            (fun a ha b hb => hcmp a (hperm.mem_iff.mp ha) b (hperm.mem_iff.mp hb))
          rw [map_swapIfInBounds] at ih
          exact ⟨ih.1, ih.2.trans hperm⟩
        · simp only [hc, Bool.false_eq_true, if_false]
          exact sortPart_map_perm start fuel arr index (offset + 1) hcmp

theorem sortSeg_map_perm : ∀ (fuel : Nat) (arr : Array α) (start end_ : Nat),
    (∀ x ∈ arr, ∀ p ∈ arr, c1 x p = c2 (f x) (f p)) →
    (sortSeg c1 fuel arr start end_).map f = sortSeg c2 fuel (arr.map f) start end_ ∧
    (sortSeg c1 fuel arr start end_).Perm arr
  | 0, arr, _, _, _ => ⟨rfl, Array.Perm.refl _⟩
  | fuel + 1, arr, start, end_, hcmp => by
    simp only [sortSeg]
    by_cases hse : start = end_
    · simp only [hse, ne_eq, not_true_eq_false, if_false]
      exact ⟨trivial, Array.Perm.refl _⟩
    · simp only [hse, ne_eq, not_false_eq_true, if_true]
      obtain ⟨⟨hp1, hp2⟩, hpp⟩ := sortPart_map_perm c1 c2 f start (end_ - (start + 1)) arr start (start + 1) hcmp
      rw [← hp1, ← hp2]
      generalize sortPart c1 start (end_ - (start + 1)) arr start (start + 1) = r at hpp
      obtain ⟨arr1, index⟩ := r
      simp only at hpp ⊢
      have hcmp1 : ∀ x ∈ arr1, ∀ p ∈ arr1, c1 x p = c2 (f x) (f p) :=
        fun a ha b hb => hcmp a (hpp.mem_iff.mp ha) b (hpp.mem_iff.mp hb)
      -- the pivot swap
      have hsw : ∃ arr2 : Array α, (if index ≠ start then arr1.swapIfInBounds index start else arr1) = arr2 ∧
          (if index ≠ start then (arr1.map f).swapIfInBounds index start else arr1.map f) = arr2.map f ∧
          arr2.Perm arr1 := by
        by_cases hi : index = start
        · exact ⟨arr1, by simp [hi], by simp [hi], Array.Perm.refl _⟩
        · exact ⟨arr1.swapIfInBounds index start, by simp [hi], by simp [hi, map_swapIfInBounds],
            swapIfInBounds_perm _ _ _⟩
      obtain ⟨arr2, h21, h22, hp2'⟩ := hsw
      rw [h21, h22]
      have hcmp2 : ∀ x ∈ arr2, ∀ p ∈ arr2, c1 x p = c2 (f x) (f p) :=
        fun a ha b hb => hcmp1 a (hp2'.mem_iff.mp ha) b (hp2'.mem_iff.mp hb)
      obtain ⟨h31, h32⟩ := sortSeg_map_perm fuel arr2 start index hcmp2
      rw [← h31]
      have hcmp3 : ∀ x ∈ sortSeg c1 fuel arr2 start index, ∀ p ∈ sortSeg c1 fuel arr2 start index,
          c1 x p = c2 (f x) (f p) :=
        fun a ha b hb => hcmp2 a (h32.mem_iff.mp ha) b (h32.mem_iff.mp hb)
      obtain ⟨h41, h42⟩ := sortSeg_map_perm fuel (sortSeg c1 fuel arr2 start index) (index + 1) end_ hcmp3
      exact ⟨h41, h42.trans (h32.trans (hp2'.trans hpp))⟩

end

theorem sortSeg_perm {α : Type} (c : α → α → Bool) (fuel : Nat) (arr : Array α) (start end_ : Nat) :
    (sortSeg c fuel arr start end_).Perm arr :=
  (sortSeg_map_perm c c id fuel arr start end_ (fun _ _ _ _ => rfl)).2

end Qentem.HashTable
