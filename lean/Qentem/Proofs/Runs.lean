import Qentem.Model.Expr
/-!
# Checked computations: how they can stop, and that they return

`Ends E x P`: the checked computation `x` returns a value satisfying `P`, or stops with a fault that `E`
admits.  `Safe` is `Ends` for the faults that are not a failed read, `Total` is `Ends` with no fault admitted.
`Runs g P` is the same for a computation `g` that takes fuel:
there are a value `x` with `P x` and a bound `N` such that `g n` is `x` for every `n`, except that
below `N` it may stop for want of fuel.  So `g` fails in no other way whatever the fuel
(`Runs.safe`), returns with fuel `N` (`Runs.total`), and what it returns does not depend on the fuel;
because the value is named, two such statements combine along `>>=` with the larger of the two bounds.

`ReadsTo E c n`: every read of `c` below `n` succeeds or fails with a fault that `E` admits; `rd_ok` / `rd_ends` are the
rules for `rd`.
-/
namespace Qentem.Expr

def Ends {α : Type} (E : Fault → Prop) (x : Except Fault α) (P : α → Prop) : Prop :=
  match x with
  | .ok a => P a
  | .error e => E e

section
variable {α β : Type} {E : Fault → Prop}

theorem Ends.ok {P : α → Prop} (a : α) (h : P a) : Ends E (.ok a) P := h

theorem Ends.err {P : α → Prop} {e : Fault} (h : E e) : Ends E (.error e : Except Fault α) P := h

theorem Ends.bind {x : Except Fault α} {f : α → Except Fault β} {P : α → Prop} {Q : β → Prop}
    (hx : Ends E x P) (hf : ∀ a, P a → Ends E (f a) Q) : Ends E (x >>= f) Q := by
  cases x with
  | ok a => exact hf a hx
  | error e => exact hx

theorem Ends.mono {x : Except Fault α} {P Q : α → Prop} (hx : Ends E x P) (h : ∀ a, P a → Q a) :
    Ends E x Q := by
  cases x with
  | ok a => exact h a hx
  | error e => exact hx

theorem Ends.weaken {E' : Fault → Prop} {x : Except Fault α} {P : α → Prop} (hx : Ends E x P)
    (h : ∀ e, E e → E' e) : Ends E' x P := by
  cases x with
  | ok a => exact hx
  | error e => exact h e hx

theorem Ends.ite {p : Prop} [Decidable p] {a b : Except Fault α} {P : α → Prop}
    (ht : p → Ends E a P) (hf : ¬ p → Ends E b P) : Ends E (if p then a else b) P := by
  split
  · exact ht ‹_›
  · exact hf ‹_›

theorem Ends.of_eq {x : Except Fault α} {P : α → Prop} {a : α} (hx : Ends E x P) (h : x = .ok a) :
    P a := by
  subst h; exact hx

/-- every fault admitted: partial correctness -/
theorem Ends.pc {x : Except Fault α} {P : α → Prop} (h : ∀ a, x = .ok a → P a) :
    Ends (fun _ => True) x P := by
  cases x with
  | ok a => exact h a rfl
  | error e => trivial

theorem Ends.total {x : Except Fault α} {P : α → Prop} (hx : Ends (fun _ => False) x P) :
    ∃ a, x = .ok a ∧ P a := by
  cases x with
  | ok a => exact ⟨a, rfl, hx⟩
  | error e => exact hx.elim

end

section
variable {E : Fault → Prop} {c : List Nat} {n : Nat}

/-- a read below `n` succeeds, or its failure is admitted -/
def ReadsTo (E : Fault → Prop) (c : List Nat) (n : Nat) : Prop :=
  ∀ i, i < n → c.length ≤ i → E (.oobRead i c.length)

theorem rd_ok_iff (c : List Nat) (i x : Nat) : rd c i = .ok x ↔ c[i]? = some x := by
  unfold rd
  cases h : c[i]? <;> simp

theorem rd_ok {c : List Nat} {i x : Nat} (h : c[i]? = some x) : rd c i = .ok x :=
  (rd_ok_iff c i x).2 h

theorem readsTo_length (E : Fault → Prop) (c : List Nat) : ReadsTo E c c.length :=
  fun _ hi hle => absurd hi (Nat.not_lt.mpr hle)

theorem rd_ends (hrd : ReadsTo E c n) {i : Nat} (hi : i < n) :
    Ends E (rd c i) (fun x => c[i]? = some x) := by
  unfold rd
  cases h : c[i]? with
  | some x => exact rfl
  | none => exact hrd i hi (List.getElem?_eq_none_iff.1 h)

end

def Safe {α : Type} (x : Except Fault α) (P : α → Prop) : Prop :=
  match x with
  | .ok a => P a
  | .error e => ∀ i n, e ≠ .oobRead i n

/-- the faults that are not a failed read -/
abbrev NoOob : Fault → Prop := fun e => ∀ i n, e ≠ .oobRead i n

theorem Safe.of_ends {α : Type} {x : Except Fault α} {P : α → Prop} (h : Ends NoOob x P) : Safe x P := h

theorem Safe.ok {α : Type} {P : α → Prop} (a : α) (h : P a) : Safe (.ok a : Except Fault α) P := h

theorem Safe.fuel {α : Type} {P : α → Prop} : Safe (.error .fuel : Except Fault α) P := by
  intro i n h; cases h

theorem Safe.bind {α β : Type} {x : Except Fault α} {f : α → Except Fault β} {P : α → Prop}
    {Q : β → Prop} (hx : Safe x P) (hf : ∀ a, P a → Safe (f a) Q) : Safe (x >>= f) Q :=
  Ends.bind (E := NoOob) hx hf

theorem Safe.mono {α : Type} {x : Except Fault α} {P Q : α → Prop} (hx : Safe x P)
    (h : ∀ a, P a → Q a) : Safe x Q :=
  Ends.mono (E := NoOob) hx h

def Total {α : Type} (x : Except Fault α) (P : α → Prop) : Prop := Ends (fun _ => False) x P

theorem Total.of_ends {α : Type} {x : Except Fault α} {P : α → Prop} (h : Ends (fun _ => False) x P) :
    Total x P := h

theorem Total.ok {α : Type} {P : α → Prop} (a : α) (h : P a) : Total (.ok a : Except Fault α) P := h

theorem Total.bind {α β : Type} {x : Except Fault α} {f : α → Except Fault β} {P : α → Prop}
    {Q : β → Prop} (hx : Total x P) (hf : ∀ a, P a → Total (f a) Q) : Total (x >>= f) Q :=
  Ends.bind (E := fun _ => False) hx hf

theorem Total.mono {α : Type} {x : Except Fault α} {P Q : α → Prop} (hx : Total x P)
    (h : ∀ a, P a → Q a) : Total x Q :=
  Ends.mono (E := fun _ => False) hx h

theorem Total.ite {α : Type} {p : Prop} [Decidable p] {x y : Except Fault α} {P : α → Prop}
    (hx : p → Total x P) (hy : ¬ p → Total y P) : Total (if p then x else y) P :=
  Ends.ite (E := fun _ => False) hx hy

theorem Total.read {β : Type} {c : List Nat} {i : Nat} (h : i < c.length)
    {f : Nat → Except Fault β} {Q : β → Prop} (hf : Total (f c[i]) Q) : Total (rd c i >>= f) Q := by
  rw [rd_ok (List.getElem?_eq_getElem h)]; exact hf

theorem Total.elim {α : Type} {x : Except Fault α} {P : α → Prop} (h : Total x P) : ∃ a, x = .ok a ∧ P a :=
  Ends.total h

theorem Total.safe {α : Type} {x : Except Fault α} {P : α → Prop} (h : Total x P) : Safe x P :=
  Ends.weaken (E := fun _ => False) h (fun _ hf => hf.elim)

theorem Total.of_eq {α : Type} {x : Except Fault α} {P : α → Prop} {a : α} (h : x = .ok a) (hp : P a) : Total x P :=
  h ▸ Total.ok a hp

def Runs {α : Type} (g : Nat → Except Fault α) (P : α → Prop) : Prop :=
  ∃ N x, P x ∧ ∀ n, g n = .ok x ∨ (g n = .error .fuel ∧ n < N)

theorem Runs.const {α : Type} {x : Except Fault α} {P : α → Prop} (h : Total x P) : Runs (fun _ => x) P := by
  obtain ⟨a, rfl, ha⟩ := h.elim
  exact ⟨0, a, ha, fun _ => Or.inl rfl⟩

theorem Runs.bind {α β : Type} {a : Nat → Except Fault α} {b : Nat → α → Except Fault β} {P : α → Prop}
    {Q : β → Prop} (ha : Runs a P) (hb : ∀ x, P x → Runs (fun n => b n x) Q) : Runs (fun n => a n >>= b n) Q := by
  obtain ⟨Na, x, hx, hax⟩ := ha
  obtain ⟨Nb, y, hy, hby⟩ := hb x hx
  refine ⟨max Na Nb, y, hy, fun n => ?_⟩
  rcases hax n with h | ⟨h, hn⟩
  · rcases hby n with h' | ⟨h', hn'⟩
    · left; show a n >>= b n = _; rw [h]; exact h'
    · right; exact ⟨by show a n >>= b n = _; rw [h]; exact h', by omega⟩
  · right; exact ⟨by show a n >>= b n = _; rw [h]; rfl, by omega⟩

theorem Runs.succ {α : Type} {g body : Nat → Except Fault α} {P : α → Prop} (h0 : g 0 = .error .fuel)
    (h : ∀ n, g (n + 1) = body n) (e : Runs body P) : Runs g P := by
  obtain ⟨N, x, hx, hb⟩ := e
  refine ⟨N + 1, x, hx, fun n => ?_⟩
  cases n with
  | zero => exact Or.inr ⟨h0, Nat.succ_pos _⟩
  | succ n => rw [h]; exact (hb n).imp id (fun h => ⟨h.1, Nat.succ_lt_succ h.2⟩)

theorem Runs.ite {α : Type} {p : Prop} [Decidable p] {g g' : Nat → Except Fault α} {P : α → Prop}
    (h : p → Runs g P) (h' : ¬ p → Runs g' P) : Runs (fun n => if p then g n else g' n) P := by
  by_cases hp : p
  · simp only [hp, if_true]; exact h hp
  · simp only [hp, if_false]; exact h' hp

theorem Runs.mono {α : Type} {g : Nat → Except Fault α} {P Q : α → Prop} (h : Runs g P) (hpq : ∀ a, P a → Q a) :
    Runs g Q := by
  obtain ⟨N, x, hx, hg⟩ := h
  exact ⟨N, x, hpq x hx, hg⟩

theorem Runs.safe {α : Type} {g : Nat → Except Fault α} {P : α → Prop} (h : Runs g P) (n : Nat) : Safe (g n) P := by
  obtain ⟨N, x, hx, hg⟩ := h
  rcases hg n with h | ⟨h, _⟩ <;> rw [h]
  · exact Safe.ok x hx
  · exact Safe.fuel

theorem Runs.total {α : Type} {g : Nat → Except Fault α} {P : α → Prop} (h : Runs g P) : ∃ N x, g N = .ok x ∧ P x := by
  obtain ⟨N, x, hx, hg⟩ := h
  exact ⟨N, x, (hg N).resolve_right (fun h => Nat.lt_irrefl _ h.2), hx⟩

end Qentem.Expr
