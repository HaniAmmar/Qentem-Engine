import Qentem.Model.Value
import Qentem.Model.Group
import Qentem.Proofs.ValueDoc
/-! `groupByA` (the loop of Value.hpp) against `groupBySpec` (the fold), by simulation: while the loop walks the items with
the result object `res` and the fold walks their member lists with the accumulator `acc`, the view of `res` is the view of
`acc` with every member copied (`viewSlots res = copyView acc`) and every group of `res` is an array (`allArr res`);
`groupLoop_spec` carries that invariant, `groupScan_spec` is the inner scan of one item (`GoodItem`: what an item must be
for the loop not to give up). -/
namespace Qentem.Value
open Doc

def copyMembers (m : List (Key × Doc)) : List (Key × Doc) := m.map (fun e => (e.1, copyDoc e.2))

def copyView (g : List (Key × List (List (Key × Doc)))) : List (Key × List (List (Key × Doc))) :=
  g.map (fun e => (e.1, e.2.map copyMembers))

/-- an input element of the quantifier's domain: an object with distinct keys, no never-assigned member,
holding the grouping key with a value that has a text. -/
def GoodItem (fmtReal : Nat → List Nat) (env : Env) (key : Key) (it : Doc) : Prop :=
  ∃ c s, it = obj c s ∧ keysNodup s ∧ allDefined s = true ∧
    ∃ v, slotFind key s = some v ∧ (groupText fmtReal env v).isSome = true

def itemMembers : Doc → List (Key × Doc)
  | obj _ s => members s
  | _ => []

theorem members_liveSlots (s : List Slot) : members (liveSlots s) = members s := by
  induction s with
  | nil => rfl
  | cons a t ih =>
    cases a with
    | none => exact ih
    | some e => exact congrArg (fun r => if e.2.isUndef then r else e :: r) ih

theorem members_slotUpd_fresh (k : Key) (f : Doc → Doc) (s : List Slot) (h : slotFind k s = none)
    (hf : (f undef).isUndef = false) : members (slotUpd k f s) = members s ++ [(k, f undef)] := by
  induction s using slots_ind k with
  | nil => simp [slotUpd, members, hf]
  | tomb r ih => simpa [members] using ih h
  | hit v r => simp at h
  | miss k' v r hk ih =>
    have ht : slotFind k r = none := by simpa [hk] using h
    by_cases hv : v.isUndef = true <;> simp [members, hk, hv, ih ht]

theorem assocFind_members (key : Key) (s : List Slot) (h : allDefined s = true) :
    assocFind key (members s) = slotFind key s := by
  induction s with
  | nil => rfl
  | cons a t ih =>
    cases a with
    | none => simpa [members, slotFind, allDefined] using ih (by simpa [allDefined] using h)
    | some e =>
      obtain ⟨k, v⟩ := e
      have hv : v.isUndef = false ∧ allDefined t = true := by simpa [allDefined] using h
      by_cases hk : k = key <;> simp [members, hv.1, assocFind, slotFind, hk, ih hv.2]

theorem subObjSet_members (k : Key) (v : Doc) (o : Nat × List Slot) (hk : k ∉ keysOf o.2) (hv : v.isUndef = false) :
    members (subObjSet k v o).2 = members o.2 ++ [(k, copyDoc v)] ∧
    keysOf (subObjSet k v o).2 = keysOf o.2 ++ [k] := by
  have hf : slotFind k o.2 = none := (slotFind_none_iff _ _).2 hk
  unfold subObjSet objExpand
  by_cases hc : o.2.length = o.1
  · have hf' : slotFind k (liveSlots o.2) = none := by simpa [slotFind_liveSlots] using hf
    simp only [hc, if_true]
    exact ⟨by rw [members_slotUpd_fresh _ _ _ hf' (by simp [isUndef_copyDoc, hv]), members_liveSlots],
           by rw [keysOf_slotUpd_fresh _ _ _ hf', keysOf_liveSlots]⟩
  · simp only [hc, if_false]
    exact ⟨members_slotUpd_fresh _ _ _ hf (by simp [isUndef_copyDoc, hv]), keysOf_slotUpd_fresh _ _ _ hf⟩

/-- the text one element contributes: that of its grouping member, else the text carried over. -/
def scanText (fmtReal : Nat → List Nat) (env : Env) (key : Key) (slots : List Slot) (cur : Key) : Key :=
  match slotFind key slots with
  | some v =>
    match groupText fmtReal env v with
    | some t => t
    | none => cur
  | none => cur

/-- what one element contributes: its text (`scanText`) and the scratch object extended by copies of its other
members. -/
theorem groupScan_spec (fmtReal : Nat → List Nat) (env : Env) (key : Key) (slots : List Slot) :
    ∀ (cur : Key) (sub : Nat × List Slot),
    keysNodup slots → allDefined slots = true →
    (∀ k ∈ keysOf slots, k ∉ keysOf sub.2) →
    (∀ v, slotFind key slots = some v → (groupText fmtReal env v).isSome = true) →
    ∃ sub', groupScan fmtReal env key slots cur sub = some (scanText fmtReal env key slots cur, sub') ∧
      members sub'.2 = members sub.2 ++ copyMembers ((members slots).filter (fun e => decide (e.1 ≠ key))) := by
  induction slots with
  | nil => intro cur sub _ _ _ _; exact ⟨sub, rfl, (List.append_nil _).symm⟩
  | cons a t ih =>
    intro cur sub hn hd hfresh htext
    cases a with
    | none => exact ih cur sub hn hd hfresh htext
    | some e =>
      obtain ⟨k, v⟩ := e
      have hv : v.isUndef = false ∧ allDefined t = true :=
        ((Bool.and_eq_true _ _).mp hd).imp (Bool.not_eq_true' _).mp id
      have hn' : k ∉ keysOf t ∧ keysNodup t := List.nodup_cons.mp hn
      have hmem : members (some (k, v) :: t) = (k, v) :: members t := by
        simp only [members, hv.1, Bool.false_eq_true, if_false]
      by_cases hk : k = key
      · -- the grouping member: its text is carried on, the scratch object is not touched
        subst hk
        obtain ⟨tx, htx⟩ := Option.isSome_iff_exists.1 (htext v (if_pos rfl))
        have hnot : slotFind k t = none := (slotFind_none_iff _ _).2 hn'.1
        obtain ⟨sub', h1, h2⟩ := ih tx sub hn'.2 hv.2
          (fun k' hk' => hfresh k' (List.mem_cons_of_mem _ hk')) (fun v' hv' => by rw [hnot] at hv'; cases hv')
        refine ⟨sub', ?_, ?_⟩
        · simp only [scanText, hnot] at h1
          simp only [groupScan, scanText, slotFind, hv.1, htx, Bool.false_eq_true, if_false, if_true, ne_eq,
            not_true_eq_false]
          exact h1
        · rw [h2, hmem, List.filter_cons_of_neg (by simp)]
      · -- another member: a copy goes to the scratch object under a key that is new there
        have hkfresh : k ∉ keysOf sub.2 := hfresh k List.mem_cons_self
        obtain ⟨hm, hks⟩ := subObjSet_members k v sub hkfresh hv.1
        obtain ⟨sub', h1, h2⟩ := ih cur (subObjSet k v sub) hn'.2 hv.2
          (fun k' hk' => by
            rw [hks, List.mem_append, List.mem_singleton, not_or]
            exact ⟨hfresh k' (List.mem_cons_of_mem _ hk'), fun he => hn'.1 (he ▸ hk')⟩)
          (fun v' hv' => htext v' (by unfold slotFind; rw [if_neg hk]; exact hv'))
        refine ⟨sub', ?_, ?_⟩
        · simp only [scanText] at h1
          simp only [groupScan, scanText, slotFind, hv.1, Bool.false_eq_true, if_false, ne_eq, hk, not_false_eq_true,
            if_true]
          exact h1
        · rw [h2, hm, hmem, List.filter_cons_of_pos (by simpa using hk), copyMembers, copyMembers,
            List.map_cons, List.append_assoc]
          rfl

/-- every live value of the result is an array (of the grouped objects). -/
def allArr : List Slot → Bool
  | [] => true
  | none :: r => allArr r
  | some (_, arr _) :: r => allArr r
  | some _ :: _ => false

def viewGroup (g : Key × Doc) : Key × List (List (Key × Doc)) :=
  (g.1, match g.2 with
        | arr items => items.map (fun it => match it with
            | obj _ s => members s
            | _ => [])
        | _ => [])

def viewSlots (s : List Slot) : List (Key × List (List (Key × Doc))) := (members s).map viewGroup

theorem groupView_obj (c : Nat) (s : List Slot) : groupView (obj c s) = viewSlots s := rfl

theorem viewSlots_liveSlots (s : List Slot) : viewSlots (liveSlots s) = viewSlots s := by
  simp [viewSlots, members_liveSlots]

theorem allArr_liveSlots (s : List Slot) (h : allArr s = true) : allArr (liveSlots s) = true := by
  induction s with
  | nil => rfl
  | cons a t ih =>
    cases a with
    | none => exact ih h
    | some e =>
      obtain ⟨k, v⟩ := e
      cases v with
      | arr items => exact ih h
      | _ => cases h

theorem slotUpd_addObj_view (cur : Key) (xc : Nat) (xs : List Slot) (s : List Slot) (h : allArr s = true) :
    viewSlots (slotUpd cur (addObj xc xs) s) = groupInsert cur (members xs) (viewSlots s) ∧
    allArr (slotUpd cur (addObj xc xs) s) = true := by
  induction s with
  | nil => simp [slotUpd, viewSlots, members, addObj, pushDoc, asArr, isUndef, viewGroup, groupInsert, allArr]
  | cons a t ih =>
    cases a with
    | none =>
      have := ih (by simpa [allArr] using h)
      simpa [slotUpd, viewSlots, members, allArr] using this
    | some e =>
      obtain ⟨k, v⟩ := e
      cases v with
      | arr items =>
        have ht : allArr t = true := by simpa [allArr] using h
        by_cases hk : k = cur
        · subst hk
          simp [slotUpd, viewSlots, members, addObj, pushDoc, asArr, isUndef, viewGroup, groupInsert, allArr, ht]
        · have := ih ht
          simp only [viewSlots] at this
          simp [slotUpd, viewSlots, members, isUndef, viewGroup, groupInsert, allArr, hk, this.1, this.2]
      | _ => simp [allArr] at h

theorem groupAdd_view (cur : Key) (sub res : Nat × List Slot) (h : allArr res.2 = true) :
    viewSlots (groupAdd cur sub res).2 = groupInsert cur (members sub.2) (viewSlots res.2) ∧
    allArr (groupAdd cur sub res).2 = true := by
  unfold groupAdd objExpand
  by_cases hc : res.2.length = res.1
  · simp only [hc, if_true]
    have := slotUpd_addObj_view cur sub.1 sub.2 (liveSlots res.2) (allArr_liveSlots _ h)
    simpa [viewSlots_liveSlots] using this
  · simp only [hc, if_false]
    exact slotUpd_addObj_view cur sub.1 sub.2 res.2 h

theorem copyView_groupInsert (t : Key) (o : List (Key × Doc)) (acc : List (Key × List (List (Key × Doc)))) :
    copyView (groupInsert t o acc) = groupInsert t (copyMembers o) (copyView acc) := by
  induction acc with
  | nil => simp [groupInsert, copyView]
  | cons a r ih =>
    obtain ⟨t', xs⟩ := a
    by_cases h : t' = t
    · simp [groupInsert, copyView, h]
    · simp only [copyView] at ih
      simp [groupInsert, copyView, h, ih]

theorem groupLoop_spec (fmtReal : Nat → List Nat) (env : Env) (key : Key) (items : List Doc) :
    ∀ (cur : Key) (res : Nat × List Slot) (acc : List (Key × List (List (Key × Doc)))),
    (∀ it ∈ items, GoodItem fmtReal env key it) → allArr res.2 = true → viewSlots res.2 = copyView acc →
    ∃ res' g, groupLoop fmtReal env key items cur res = (true, res') ∧
      groupBySpec (groupText fmtReal env) key (items.map itemMembers) acc = some g ∧
      viewSlots res'.2 = copyView g ∧ allArr res'.2 = true := by
  induction items with
  | nil => intro cur res acc _ ha hv; exact ⟨res, acc, rfl, rfl, hv, ha⟩
  | cons it rest ih =>
    intro cur res acc hgood ha hv
    obtain ⟨c, s, rfl, hn, hd, v, hfind, htext⟩ := hgood it List.mem_cons_self
    obtain ⟨tx, htx⟩ := Option.isSome_iff_exists.1 htext
    obtain ⟨sub', hscan, hmem⟩ := groupScan_spec fmtReal env key s cur (0, []) hn hd
      (by intro k _; simp [keysOf, liveEntries])
      (by intro v' hv'; rw [hfind] at hv'; cases hv'; exact htext)
    have hcur : scanText fmtReal env key s cur = tx := by simp [scanText, hfind, htx]
    have hadd := groupAdd_view tx sub' res ha
    have hentry : groupEntry (groupText fmtReal env) key (members s) =
        some (tx, (members s).filter (fun e => decide (e.1 ≠ key))) := by
      simp [groupEntry, assocFind_members key s hd, hfind, htx]
    obtain ⟨res', g, h1, h2, h3, h4⟩ := ih tx (groupAdd tx sub' res)
      (groupInsert tx ((members s).filter (fun e => decide (e.1 ≠ key))) acc)
      (fun it' h' => hgood it' (List.mem_cons_of_mem _ h')) hadd.2
      (by rw [hadd.1, hv, copyView_groupInsert, hmem]; simp [members])
    refine ⟨res', g, ?_, ?_, h3, h4⟩
    · simp only [groupLoop, hscan, hcur]; exact h1
    · simp only [List.map_cons, itemMembers, groupBySpec, hentry]; exact h2

end Qentem.Value
