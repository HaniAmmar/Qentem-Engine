import Qentem.Model.Tmpl.WF
import Qentem.Proofs.Runs
/-!
# C01 — what the proofs of the parser and of the renderer share: `skipW`, `slice`, and what `wf` says of a tag

Two things, both used on either side.  `skipW` inside the content returns, and where it stops says what it passed
(`SkipFacts`); `slice` inside the content returns.  `wf` (Model/Tmpl/WF.lean) is a decidable check, here as one
equivalence per constructor (`wfTag_var` … `wfTag_iif`, `wfTags_nil` / `wfTags_cons`): the parser proves `wf` of what
it stores through `.mpr`, the renderer reads what it needs through `.mp`.
-/
namespace Qentem.Tmpl
open Qentem.Expr (Total Item VarRef)
open Qentem.Generated.Tmpl

/-- what a `skipWhile` / `skipW` from `off` up to `endO` that stopped at `o` says -/
structure SkipFacts (c : List Nat) (endO : Nat) (p : Nat → Bool) (off o : Nat) : Prop where
  ge : off ≤ o
  le : off ≤ endO → o ≤ endO
  eq : endO ≤ off → o = off
  all : ∀ i, off ≤ i → i < o → ∀ x, c[i]? = some x → p x = true

theorem skipWhile_facts (c : List Nat) (endO : Nat) (p : Nat → Bool) (he : endO ≤ c.length) :
    ∀ f off, Total (skipWhile c endO p f off) (fun o => SkipFacts c endO p off o ∧
      (o < endO → endO + 1 - off ≤ f → ∀ x, c[o]? = some x → p x = false)) := by
  intro f
  induction f with
  | zero =>
    intro off
    exact Total.ok _ ⟨⟨Nat.le_refl _, fun h => h, fun _ => rfl, by intro i h1 h2; omega⟩, by intro h1 h2; omega⟩
  | succ f ih =>
    intro off
    simp only [skipWhile]
    refine Total.ite (fun hlt => ?_) (fun hlt =>
      Total.ok _ ⟨⟨Nat.le_refl _, fun h => h, fun _ => rfl, by intro i h1 h2; omega⟩, by intro h1; omega⟩)
    have hl : off < c.length := by omega
    refine Total.read hl (Total.ite (fun hp => ?_) (fun hp => ?_))
    · apply Total.mono (ih (off + 1))
      intro o ho
      refine ⟨⟨by have := ho.1.ge; omega, fun _ => ho.1.le (by omega), fun h => by omega, ?_⟩, ?_⟩
      · intro i h1 h2 x hx
        by_cases hi : i = off
        · subst hi; rw [List.getElem?_eq_getElem hl] at hx; cases hx; exact hp
        · exact ho.1.all i (by omega) h2 x hx
      · intro h1 h2; exact ho.2 h1 (by omega)
    · refine Total.ok _ ⟨⟨Nat.le_refl _, fun h => h, fun _ => rfl, by intro i h1 h2; omega⟩, ?_⟩
      intro _ _ x hx
      rw [List.getElem?_eq_getElem hl] at hx; cases hx
      simpa using hp

theorem skipW_facts (c : List Nat) (endO : Nat) (p : Nat → Bool) (he : endO ≤ c.length) (off : Nat) :
    Total (skipW c endO p off)
      (fun o => SkipFacts c endO p off o ∧ (o < endO → ∀ x, c[o]? = some x → p x = false)) :=
  Total.mono (skipWhile_facts c endO p he (endO + 1 - off) off) (fun _ ho => ⟨ho.1, fun h => ho.2 h (Nat.le_refl _)⟩)

theorem skipW_total (c : List Nat) (endO : Nat) (p : Nat → Bool) (he : endO ≤ c.length) (off : Nat) :
    Total (skipW c endO p off)
      (fun o => off ≤ o ∧ (off ≤ endO → o ≤ endO) ∧ (endO ≤ off → o = off)) :=
  Total.mono (skipW_facts c endO p he off) (fun _ ho => ⟨ho.1.ge, ho.1.le, ho.1.eq⟩)

theorem slice_total (c : List Nat) (a b : Nat) (h1 : a ≤ b) (h2 : b ≤ c.length) :
    Total (slice c a b) (fun _ => True) :=
  Total.of_eq (a := (c.drop a).take (b - a)) (by simp [slice, h1, h2]) trivial

variable {R : Type}

/-! ## what `wf` says, constructor by constructor -/

theorem wfVar_iff {n lv : Nat} {v : VarRef} :
    wfVar n lv v = true ↔ v.off + v.len ≤ n ∧ (v.idLen = 0 ∨ v.level < lv) := by
  simp only [wfVar, Bool.and_eq_true, decide_eq_true_eq, Bool.or_eq_true, beq_iff_eq]

theorem wfTags_nil {n lv lo hi : Nat} :
    wfTags n lv lo hi ([] : List (Tag R)) = true ↔ lo ≤ hi ∧ hi ≤ n := by
  simp only [wfTags, decide_eq_true_eq]

theorem wfTags_cons {n lv lo hi : Nat} {t : Tag R} {rest : List (Tag R)} :
    wfTags n lv lo hi (t :: rest) = true ↔
      ∃ s e, wfTag n lv t = some (s, e) ∧ lo ≤ s ∧ wfTags n lv e hi rest = true := by
  simp only [wfTags]
  cases wfTag n lv t with
  | none => simp
  | some p =>
    obtain ⟨s, e⟩ := p
    simp only [Bool.and_eq_true, decide_eq_true_eq, Option.some.injEq, Prod.mk.injEq]
    exact ⟨fun h => ⟨s, e, ⟨rfl, rfl⟩, h⟩, fun ⟨_, _, ⟨h1, h2⟩, h⟩ => by subst h1 h2; exact h⟩

theorem wfTag_var {n lv : Nat} {v : VarRef} {s e : Nat} : wfTag n lv (Tag.var v : Tag R) = some (s, e) ↔
    wfVar n lv v = true ∧ W1.variablePrefixLength ≤ v.off ∧ e ≤ n ∧
      s = v.off - W1.variablePrefixLength ∧ e = v.off + v.len + W1.inLineSuffixLength := by
  simp only [wfTag, Option.ite_none_right_eq_some, Bool.and_eq_true, decide_eq_true_eq, Option.some.injEq,
    Prod.mk.injEq]
  exact ⟨fun ⟨⟨hv, hp, hn⟩, h1, h2⟩ => ⟨hv, hp, h2 ▸ hn, h1.symm, h2.symm⟩,
    fun ⟨hv, hp, hn, h1, h2⟩ => ⟨⟨hv, hp, h2 ▸ hn⟩, h1.symm, h2.symm⟩⟩

theorem wfTag_raw {n lv : Nat} {v : VarRef} {s e : Nat} : wfTag n lv (Tag.raw v : Tag R) = some (s, e) ↔
    wfVar n lv v = true ∧ W1.rawVariablePrefixLength ≤ v.off ∧ e ≤ n ∧
      s = v.off - W1.rawVariablePrefixLength ∧ e = v.off + v.len + W1.inLineSuffixLength := by
  simp only [wfTag, Option.ite_none_right_eq_some, Bool.and_eq_true, decide_eq_true_eq, Option.some.injEq,
    Prod.mk.injEq]
  exact ⟨fun ⟨⟨hv, hp, hn⟩, h1, h2⟩ => ⟨hv, hp, h2 ▸ hn, h1.symm, h2.symm⟩,
    fun ⟨hv, hp, hn, h1, h2⟩ => ⟨⟨hv, hp, h2 ▸ hn⟩, h1.symm, h2.symm⟩⟩

theorem wfTag_math {n lv : Nat} {ex : List (Item R)} {off endOff s e : Nat} :
    wfTag n lv (Tag.math ex off endOff : Tag R) = some (s, e) ↔
    wfItemVars n lv ex = true ∧ off ≤ endOff ∧ endOff ≤ n ∧ s = off ∧ e = endOff := by
  simp only [wfTag, Option.ite_none_right_eq_some, Bool.and_eq_true, decide_eq_true_eq, Option.some.injEq,
    Prod.mk.injEq]
  exact ⟨fun ⟨⟨hx, h1, h2⟩, e1, e2⟩ => ⟨hx, h1, h2, e1.symm, e2.symm⟩,
    fun ⟨hx, h1, h2, e1, e2⟩ => ⟨⟨hx, h1, h2⟩, e1.symm, e2.symm⟩⟩

theorem wfTag_svar {n lv : Nat} {sub : List (Tag R)} {v : VarRef} {off endOff s e : Nat} :
    wfTag n lv (Tag.svar sub v off endOff : Tag R) = some (s, e) ↔
    wfVar n lv v = true ∧ v.idLen = 0 ∧ off ≤ endOff ∧ endOff ≤ n ∧ wfEach n lv sub = true ∧
      s = off ∧ e = endOff := by
  simp only [wfTag, Option.ite_none_right_eq_some, Bool.and_eq_true, decide_eq_true_eq, beq_iff_eq,
    Option.some.injEq, Prod.mk.injEq]
  exact ⟨fun ⟨⟨⟨⟨hv, hid⟩, h1, h2⟩, hsub⟩, e1, e2⟩ => ⟨hv, hid, h1, h2, hsub, e1.symm, e2.symm⟩,
    fun ⟨hv, hid, h1, h2, hsub, e1, e2⟩ => ⟨⟨⟨⟨hv, hid⟩, h1, h2⟩, hsub⟩, e1.symm, e2.symm⟩⟩

theorem wfTag_loop {n lv : Nat} {sub : List (Tag R)} {f : LoopFields} {s e : Nat} :
    wfTag n lv (Tag.loop sub f : Tag R) = some (s, e) ↔
    (f.set.len = 0 ∨ wfVar n lv f.set = true) ∧ f.off + f.groupOff + f.groupLen ≤ n ∧ f.off ≤ f.endOff ∧
      f.endOff + W1.loopSuffixLength ≤ n ∧
      wfTags n (max lv (f.level + 1)) (f.off + f.contentOff) f.endOff sub = true ∧
      s = f.off ∧ e = f.endOff + W1.loopSuffixLength := by
  simp only [wfTag, Option.ite_none_right_eq_some, Bool.and_eq_true, decide_eq_true_eq, Bool.or_eq_true,
    beq_iff_eq, Option.some.injEq, Prod.mk.injEq]
  exact ⟨fun ⟨⟨⟨⟨hset, hgrp⟩, h1, h2⟩, hsub⟩, e1, e2⟩ => ⟨hset, hgrp, h1, h2, hsub, e1.symm, e2.symm⟩,
    fun ⟨hset, hgrp, h1, h2, hsub, e1, e2⟩ => ⟨⟨⟨⟨hset, hgrp⟩, h1, h2⟩, hsub⟩, e1.symm, e2.symm⟩⟩

theorem wfTag_ifT {n lv : Nat} {cases : List (IfCase R)} {off endOff s e : Nat} :
    wfTag n lv (Tag.ifT cases off endOff : Tag R) = some (s, e) ↔
    off ≤ endOff ∧ endOff ≤ n ∧ wfCases n lv cases = true ∧ s = off ∧ e = endOff := by
  simp only [wfTag, Option.ite_none_right_eq_some, Bool.and_eq_true, decide_eq_true_eq, Option.some.injEq,
    Prod.mk.injEq]
  exact ⟨fun ⟨⟨⟨h1, h2⟩, hc⟩, e1, e2⟩ => ⟨h1, h2, hc, e1.symm, e2.symm⟩,
    fun ⟨h1, h2, hc, e1, e2⟩ => ⟨⟨⟨h1, h2⟩, hc⟩, e1.symm, e2.symm⟩⟩

theorem wfTag_iif {n lv : Nat} {cs : List (Item R)} {sub : List (Tag R)} {f : IifFields} {s e : Nat} :
    wfTag n lv (Tag.iif cs sub f : Tag R) = some (s, e) ↔
    wfItemVars n lv cs = true ∧ f.off + f.len ≤ n ∧
      (if f.trueOff < f.falseOff then
        decide (f.falseStart ≤ sub.length) &&
          wfSel n lv (f.off + f.trueOff) (f.off + f.trueOff + f.trueLen) 0 f.falseStart sub
       else decide (f.trueStart ≤ sub.length) &&
          wfSel n lv (f.off + f.trueOff) (f.off + f.trueOff + f.trueLen) f.trueStart sub.length sub) = true ∧
      (if f.falseOff < f.trueOff then
        decide (f.trueStart ≤ sub.length) &&
          wfSel n lv (f.off + f.falseOff) (f.off + f.falseOff + f.falseLen) 0 f.trueStart sub
       else decide (f.falseStart ≤ sub.length) &&
          wfSel n lv (f.off + f.falseOff) (f.off + f.falseOff + f.falseLen) f.falseStart sub.length sub) = true ∧
      s = f.off ∧ e = f.off + f.len := by
  simp only [wfTag, Option.ite_none_right_eq_some, Bool.and_eq_true, decide_eq_true_eq, Option.some.injEq,
    Prod.mk.injEq]
  exact ⟨fun ⟨⟨⟨⟨hcs, hlen⟩, hT⟩, hF⟩, e1, e2⟩ => ⟨hcs, hlen, hT, hF, e1.symm, e2.symm⟩,
    fun ⟨hcs, hlen, hT, hF, e1, e2⟩ => ⟨⟨⟨⟨hcs, hlen⟩, hT⟩, hF⟩, e1.symm, e2.symm⟩⟩

theorem wfSel_eq (n lv : Nat) : ∀ (tags : List (Tag R)) (lo hi skip cnt : Nat),
    wfSel n lv lo hi skip cnt tags = wfTags n lv lo hi ((tags.drop skip).take cnt) := by
  intro tags
  induction tags with
  | nil => intro lo hi skip cnt; cases skip <;> cases cnt <;> simp [wfSel, wfTags]
  | cons t rest ih =>
    intro lo hi skip cnt
    cases skip with
    | succ k => simp only [wfSel, List.drop_succ_cons]; exact ih _ _ _ _
    | zero =>
      cases cnt with
      | zero => simp [wfSel, wfTags]
      | succ c =>
        simp only [wfSel, List.drop_zero, List.take_succ_cons, wfTags]
        cases wfTag n lv t with
        | none => rfl
        | some p =>
          obtain ⟨s, e⟩ := p
          simp only []
          rw [ih _ _ 0 c]
          simp

theorem wfEach_get (n lv : Nat) : ∀ (sub : List (Tag R)) (id : Nat) (t : Tag R),
    wfEach n lv sub = true → sub[id]? = some t →
    (match t with
     | .var _ => (wfTag n lv t).isSome = true
     | .raw _ => (wfTag n lv t).isSome = true
     | .math _ _ _ => (wfTag n lv t).isSome = true
     | _ => True) := by
  intro sub
  induction sub with
  | nil => intro id t _ h; simp at h
  | cons x rest ih =>
    intro id t hw h
    simp only [wfEach, Bool.and_eq_true] at hw
    cases id with
    | zero =>
      rw [List.getElem?_cons_zero, Option.some.injEq] at h
      subst h
      cases x with
      | var _ => exact hw.1
      | raw _ => exact hw.1
      | math _ _ _ => exact hw.1
      | _ => trivial
    | succ k =>
      rw [List.getElem?_cons_succ] at h
      exact ih k t hw.2 h

end Qentem.Tmpl
