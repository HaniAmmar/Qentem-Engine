import Qentem.Proofs.NumToStrRoundStr
import Qentem.Proofs.NumToStrIntClass
/-! C10: the string machine after rounding — what the two formatters share.  `Kept` is the digit buffer after
rounding and zero skipping, or untouched: all that the layout blocks of both formatters see (`round_skip` leads to it).
`pointOrZeros` is the branch both take when the run has an integer part; `point_layout` says what it leaves. -/
namespace Qentem.Proofs.NumToStr
open Qentem.NumToStr Qentem.Generated.NumToStr Qentem

/-- the kept digits after rounding at position `i`: `⌊b / 10^(i+1)⌋ + up` -/
def keptUp (b i : Nat) (ru : Bool) : Nat := b / 10 ^ (i + 1) + (if upCode b i ru then 1 else 0)

/-- the integer the formatters keep of a run `b` scaled by `10^(p-c)`: rounded, `c - p` digits cut, when `p < c`,
padded otherwise.  Default: `c` the length of the run and `p` the precision — its `p`-digit significand; Fixed:
`c` the fraction length — the value with `p` decimals. -/
def sig (b c p : Nat) (ru : Bool) : Nat := if p < c then keptUp b (c - p - 1) ru else b * 10 ^ (p - c)

theorem sig_long {b c p : Nat} {ru : Bool} (h : p < c) : sig b c p ru = keptUp b (c - p - 1) ru := if_pos h

theorem sig_short {b c p : Nat} {ru : Bool} (h : c ≤ p) : sig b c p ru = b * 10 ^ (p - c) := if_neg (by omega)

/-- a run no longer than the precision is padded, not rounded, and cannot carry -/
theorem gText_sig_short {b P : Nat} (ru : Bool) (hLP : (D b).length ≤ P) (x : Int) :
    gText P (sig b (D b).length P ru) x = gBody P (b * 10 ^ (P - (D b).length)) x := by
  have h1 : b < 10 ^ (D b).length := (D_length_le_iff (D_length_pos b)).mp (Nat.le_refl _)
  have hKlt : b * 10 ^ (P - (D b).length) < 10 ^ P := by
    calc b * 10 ^ (P - (D b).length) < 10 ^ (D b).length * 10 ^ (P - (D b).length) :=
          Nat.mul_lt_mul_of_pos_right h1 (Nat.pow_pos (by decide))
      _ = 10 ^ P := by rw [← Nat.pow_add]; congr 1; omega
  rw [sig_short hLP]
  exact gText_of_lt hKlt x

theorem skipWhile_stop (c : Nat) (s : List Nat) (idx : Nat) (h : s[idx]? ≠ some c) (fuel : Nat) :
    skipWhile c fuel s idx = idx := by
  cases fuel with
  | zero => rfl
  | succ f => rw [skipWhile, if_neg (fun hc => h hc.2)]

theorem Rl_head_ne_zero {T : Nat} (hT10 : T % 10 ≠ 0) (s : List Nat) (t' : List Nat) (k : Nat) (hdrop : t'.drop k = Rl T) :
    (s ++ t')[s.length + k]? ≠ some Ch.zero := by
  rw [getElem?_append_len]
  have h0 : t'[k]? = (t'.drop k)[0]? := by simp
  rw [h0, hdrop]
  by_cases hx : T < 10
  · rw [Rl_lt10 hx]; simp [Ch.zero]; omega
  · rw [Rl_step (by omega)]; simp [Ch.zero]; omega

/-- The digit buffer after rounding and zero skipping — or untouched, when nothing is rounded: `nl` positions, from
position `k` up the digits of `T` (least significant first), `T` without trailing zero; after a carry out of the
top digit (`pi`, the code's `power_increased`) `T = 1` sits in the top position. -/
structure Kept (t' : List Nat) (nl k T : Nat) (pi : Bool) : Prop where
  len : t'.length = nl
  lt : k < nl
  drop : t'.drop k = Rl T
  pos : 0 < T
  last : T % 10 ≠ 0
  carry : pi = true → k + 1 = nl ∧ T = 1

theorem Kept.unrounded {b : Nat} (hb : 0 < b) (hb10 : b % 10 ≠ 0) : Kept (Rl b) (D b).length 0 b false :=
  ⟨Rl_length b, D_length_pos b, List.drop_zero, hb, hb10, fun h => by cases h⟩

theorem Kept.digits {t' : List Nat} {nl k T : Nat} {pi : Bool} (h : Kept t' nl k T pi) : (D T).length = nl - k := by
  have := congrArg List.length h.drop
  simp [h.len] at this; omega

theorem Kept.carry_value {t' : List Nat} {nl k T c P K : Nat} {pi : Bool} (h : Kept t' nl k T pi) (hck : c ≤ k)
    (hP : nl = P + c) (hK : K = T * 10 ^ (k - c + (if pi then 1 else 0))) :
    (pi = true → K = 10 ^ P) ∧ (pi = false → K < 10 ^ P) := by
  have hDT := h.digits
  have hkL := h.lt
  have hTlt : T < 10 ^ (nl - k) := (D_length_le_iff (by omega)).mp (by omega)
  refine ⟨?_, ?_⟩
  · intro hp
    obtain ⟨h1, rfl⟩ := h.carry hp
    rw [hK, hp, if_pos rfl, Nat.one_mul]
    congr 1; omega
  · intro hpf
    rw [hK, hpf, if_neg Bool.false_ne_true, Nat.add_zero, show P = (nl - k) + (k - c) by omega, Nat.pow_add]
    exact Nat.mul_lt_mul_of_pos_right hTlt (Nat.pow_pos (by decide))

theorem Kept.gText_sci {t' : List Nat} {nl k T c P K X : Nat} {pi : Bool} (h : Kept t' nl k T pi) (hck : c ≤ k)
    (hP : nl = P + c) (hK : K = T * 10 ^ (k - c + (if pi then 1 else 0)))
    (hX : P ≤ X + (if pi then 1 else 0)) :
    gText P K (X : Int) = sciText true T (X + (if pi then 1 else 0)) := by
  obtain ⟨hcar, hlt⟩ := h.carry_value hck hP hK
  have hDT := h.digits
  cases hpiv : pi
  · rw [hpiv] at hK hX
    simp only [Bool.false_eq_true, if_false, Nat.add_zero] at hK hX ⊢
    rw [gText_of_lt (hlt hpiv), hK, gBody_sci h.pos h.last (by omega) hX]
  · obtain ⟨_, rfl⟩ := h.carry hpiv
    rw [hpiv] at hX
    simp only [if_true] at hX
    have := gBody_sci (P := P) (T := 1) (z := P - 1) (X := X + 1) (by decide) (by decide)
      (by rw [show (D 1).length = 1 by decide]; omega) (by omega)
    rw [Nat.one_mul] at this
    rw [hcar hpiv, gText_carry]
    simpa using this

theorem Kept.gText_pos {t' : List Nat} {nl k T c P K X : Nat} {pi : Bool} (h : Kept t' nl k T pi) (hck : c ≤ k)
    (hP : nl = P + c) (hK : K = T * 10 ^ (k - c + (if pi then 1 else 0))) (hX : X + (if pi then 1 else 0) < P) :
    gText P K (X : Int) = FmtSpec.stripFraction (fixedText K (P - 1 - X)) := by
  obtain ⟨hcar, hlt⟩ := h.carry_value hck hP hK
  cases hpiv : pi
  · rw [hpiv] at hX
    simp only [Bool.false_eq_true, if_false, Nat.add_zero] at hX
    rw [gText_of_lt (hlt hpiv), gBody_pos (by omega), show ((P : Int) - 1 - (X : Int)).toNat = P - 1 - X by omega]
  · rw [hpiv] at hX
    simp only [if_true] at hX
    rw [hcar hpiv, gText_carry, gBody_pos (by omega),
      show ((P : Int) - 1 - ((X : Int) + 1)).toNat = P - 1 - (X + 1) by omega,
      fixedText_pow _ _ (by omega), fixedText_pow _ _ (by omega),
      show P - 1 - (P - 1 - (X + 1)) = P - (P - 1 - X) by omega]

theorem Kept.gText_neg {t' : List Nat} {nl k T c P K n : Nat} {pi : Bool} (h : Kept t' nl k T pi) (hck : c ≤ k)
    (hP : nl = P + c) (hK : K = T * 10 ^ (k - c + (if pi then 1 else 0))) (hn : 0 < n) :
    gText P K (-(n : Int)) =
      (if n - (if pi then 1 else 0) ≤ 4 then lowText T (n - (if pi then 1 else 0))
       else sciText false T (n - (if pi then 1 else 0))) := by
  obtain ⟨hcar, hlt⟩ := h.carry_value hck hP hK
  have hDT := h.digits
  have hkL := h.lt
  cases hpiv : pi
  · rw [hpiv] at hK
    simp only [Bool.false_eq_true, if_false, Nat.add_zero, Nat.sub_zero] at hK ⊢
    rw [gText_of_lt (hlt hpiv), hK, gBody_neg h.pos h.last (by omega) hn]
  · obtain ⟨_, rfl⟩ := h.carry hpiv
    rw [hcar hpiv, gText_carry]
    simp only [if_true]
    by_cases h1 : n = 1
    · subst h1
      rw [gBody_pos (by omega), show ((P : Int) - 1 - (-((1 : Nat) : Int) + 1)).toNat = P - 1 by omega,
        fixedText_pow _ _ (Nat.le_refl _), Nat.sub_self]
      simp [lowText]
    · have := gBody_neg (P := P) (T := 1) (z := P - 1) (n := n - 1) (by decide) (by decide)
        (by rw [show (D 1).length = 1 by decide]; omega) (by omega)
      rw [Nat.one_mul] at this
      rw [show -(n : Int) + 1 = -((n - 1 : Nat) : Int) by omega, this]

theorem Kept.finish {t' : List Nat} {nl k T : Nat} {pi : Bool} (h : Kept t' nl k T pi) (s : List Nat) :
    finishNumber s.length (s ++ t') (s.length + k) = .ok (s ++ D T) := by
  rw [finishNumber_drop s t' k (by have := h.lt; have := h.len; omega), h.drop]
  simp [Rl]

/-- `roundStringNumber` at position `i` followed by the zero-skipping loop leads to `Kept`; the kept value is
`T · 10^(k - (i+1))`, times ten when the top nine was turned into the carry digit.  Three cases: no increment (the
zeros above `i` are skipped); the carry stops at a digit that is not a nine; the carry runs through the top digit. -/
theorem round_skip (s : List Nat) {b i : Nat} (hi : i + 1 < (D b).length) (ru : Bool) :
    ∃ r t' k T, roundStringNumber s.length (s ++ Rl b) (s.length + i) ru = .ok r ∧ r.1 = s ++ t' ∧
      skipWhile Ch.zero r.1.length r.1 r.2.1 = s.length + k ∧ i + 1 ≤ k ∧ Kept t' (D b).length k T r.2.2 ∧
      keptUp b i ru = T * 10 ^ (k - (i + 1) + (if r.2.2 then 1 else 0)) := by
  have hi' : i < (D b).length := by omega
  have hlen : (s ++ Rl b).length = s.length + (D b).length := by simp
  unfold roundStringNumber keptUp
  rw [round_test s hi', ok_bind]
  cases hu : upCode b i ru
  · simp only [Bool.false_eq_true, if_false, Nat.add_zero, pure, Except.pure]
    obtain ⟨h1, h2, h3, h4⟩ := skipWhile_spec Ch.zero (s ++ Rl b).length (s ++ Rl b) (s.length + i + 1) (by omega)
    generalize hj : skipWhile Ch.zero (s ++ Rl b).length (s ++ Rl b) (s.length + i + 1) = j at *
    have hjlt : j < s.length + (D b).length := by rcases h4 with h4 | h4 <;> omega
    obtain ⟨k, rfl⟩ : ∃ k, j = s.length + k := ⟨j - s.length, by omega⟩
    have hk : k < (D b).length := by omega
    have hzeros : ∀ m, i + 1 ≤ m → m < (i + 1) + (k - (i + 1)) → b / 10 ^ m % 10 = 0 :=
      Rl_digits_of_get s (by omega) fun m h h' => h2 m (by omega) h'
    have hrun : b / 10 ^ (i + 1) = b / 10 ^ (i + 1 + (k - (i + 1))) * 10 ^ (k - (i + 1)) :=
      digits_run (c := 0) _ hzeros
    rw [show (i + 1) + (k - (i + 1)) = k by omega] at hrun
    have hTpos : 0 < b / 10 ^ k := Nat.div_pos (pow_le_of_len (by omega) hk) (Nat.pow_pos (by decide))
    have hTd : b / 10 ^ k % 10 ≠ 0 := by
      intro h0
      by_cases hlast : k + 1 < (D b).length
      · apply h3
        refine ⟨by omega, ?_⟩
        rw [getElem?_append_len, Rl_get k b hk, h0]; rfl
      · have hx : b / 10 ^ k < 10 := top_digit_lt (by omega)
        rw [Nat.mod_eq_of_lt hx] at h0; omega
    refine ⟨_, Rl b, k, b / 10 ^ k, rfl, rfl, hj, by omega,
      ⟨Rl_length b, hk, Rl_drop hk, hTpos, hTd, fun h => by cases h⟩, ?_⟩
    simp only [Bool.false_eq_true, if_false, Nat.add_zero]; exact hrun
  · simp only [if_true]
    obtain ⟨k, t', pi, hrc, hik, hcase⟩ := roundCarry_spec s hi'
    rw [hrc]
    rcases hcase with ⟨hpi, hk, htl, hdrop, h9, hrun⟩ | ⟨hpi, hdrop, htl, hrun, hkk⟩
    · subst hpi
      have hT10 : (b / 10 ^ k + 1) % 10 ≠ 0 := by
        generalize b / 10 ^ k = x at h9 ⊢; omega
      refine ⟨_, t', k, b / 10 ^ k + 1, rfl, rfl, skipWhile_stop _ _ _ (Rl_head_ne_zero hT10 s t' k hdrop) _, hik,
        ⟨htl, hk, hdrop, Nat.succ_pos _, hT10, fun h => by cases h⟩, ?_⟩
      simp only [Bool.false_eq_true, if_false, Nat.add_zero]; exact hrun
    · subst hpi
      have hkL : k + 1 = (D b).length := by rcases hkk with ⟨h1, h2⟩ | ⟨h1, h2⟩ <;> omega
      have hdrop1 : t'.drop k = Rl 1 := by rw [hdrop]; decide
      refine ⟨_, t', k, 1, rfl, rfl, skipWhile_stop _ _ _ (Rl_head_ne_zero (by decide) s t' k hdrop1) _, hik,
        ⟨by omega, by omega, hdrop1, by decide, by decide, fun _ => ⟨hkL, rfl⟩⟩, ?_⟩
      simp only [if_true, Nat.one_mul]
      rw [hrun]; congr 1; omega

/-- `roundStringNumber` at the top digit of the run, followed by the zero-skipping loop: nothing is kept and the index
stands at the end of the untouched run, or the carry `1` stands above the run -/
theorem round_skip_top (s : List Nat) {b i : Nat} (hi : i + 1 = (D b).length) (ru : Bool) :
    ∃ r t', roundStringNumber s.length (s ++ Rl b) (s.length + i) ru = .ok r ∧ r.1 = s ++ t' ∧
      skipWhile Ch.zero r.1.length r.1 r.2.1 = s.length + (D b).length ∧
      ((r.2.2 = false ∧ t' = Rl b ∧ keptUp b i ru = 0) ∨
       (r.2.2 = true ∧ t'.drop (D b).length = [49] ∧ t'.length = (D b).length + 1 ∧ keptUp b i ru = 1)) := by
  have hi' : i < (D b).length := by omega
  have hlen : (s ++ Rl b).length = s.length + (D b).length := by simp
  have hbl : b < 10 ^ (i + 1) := (D_length_le_iff (by omega)).mp (by omega)
  unfold roundStringNumber keptUp
  rw [round_test s hi' ru, ok_bind, Nat.div_eq_of_lt hbl]
  cases hu : upCode b i ru
  · refine ⟨_, Rl b, rfl, rfl, ?_, Or.inl ⟨rfl, rfl, rfl⟩⟩
    obtain ⟨h1, _, _, h4⟩ := skipWhile_spec Ch.zero (s ++ Rl b).length (s ++ Rl b) (s.length + i + 1) (by omega)
    simp only []
    rcases h4 with h4 | h4 <;> omega
  · obtain ⟨k, t', pi, hrc, hik, hcase⟩ := roundCarry_spec s hi'
    rcases hcase with ⟨_, hk, _⟩ | ⟨hpi, hdrop, htl, hrun, hkk⟩
    · omega
    · subst hpi
      have hkL : k = (D b).length := by rcases hkk with ⟨h1, h2⟩ | ⟨h1, h2⟩ <;> omega
      subst hkL
      refine ⟨_, t', by simp only [if_true]; rw [hrc], rfl, ?_, Or.inr ⟨rfl, hdrop, htl, rfl⟩⟩
      exact skipWhile_stop _ _ _ (Rl_head_ne_zero (T := 1) (by decide) s t' _ (by rw [hdrop]; decide)) _

theorem insertAt_mid (s t : List Nat) {k : Nat} (h : k < t.length) :
    insertAt s.length (s ++ t) Ch.dot (s.length + k) = .ok (s ++ (t.take k ++ 46 :: t.drop k)) := by
  unfold insertAt
  rw [if_neg (by omega), if_pos (by rw [List.length_append]; omega)]
  simp [List.take_append, List.drop_append, Ch.dot, pure, Except.pure]
  rw [List.take_of_length_le (by omega), List.drop_of_length_le (by omega)]; simp

theorem insertAt_dot (s : List Nat) (l : List Nat) :
    insertAt s.length (s ++ l) Ch.dot (s.length + 1) =
      .ok (s ++ dotAfterFirst l) := by
  match l with
  | [] | [_] => unfold insertAt; rw [if_neg (by omega)]; simp [dotAfterFirst, pure, Except.pure]
  | t0 :: t1 :: r' => rw [insertAt_mid s _ (by simp)]; simp [dotAfterFirst]

theorem insertPowerOfTen_eq (s : List Nat) (pos : Bool) {X : Nat} (hX : X < 2 ^ 32) :
    insertPowerOfTen s X pos =
      .ok (s ++ [101, if pos then 43 else 45] ++ (if X < 10 then [48] else []) ++ D X) := by
  unfold insertPowerOfTen
  simp only [Ch.e, Ch.positive, Ch.negative, Ch.zero]
  by_cases h10 : X < 10
  · simp only [h10, if_true]
    rw [intToString_unsigned _ (Or.inr (Or.inr (Or.inl rfl))) (by simpa using hX)]
  · simp only [h10, if_false]
    rw [intToString_unsigned _ (Or.inr (Or.inr (Or.inl rfl))) (by simpa using hX)]
    simp

theorem sci_exponent (s : List Nat) (T : Nat) (pos : Bool) {X : Nat} (hX : X < 2 ^ 32) :
    (insertAt s.length (s ++ D T) Ch.dot (s.length + 1) >>= fun s' => insertPowerOfTen s' X pos) =
      .ok (s ++ sciText pos T X) := by
  rw [insertAt_dot, ok_bind, insertPowerOfTen_eq _ pos hX]
  simp [sciText, List.append_assoc]

theorem restoreZeros_spec (pre : List Nat) : ∀ (zeros : Nat) (t : List Nat) (k : Nat), zeros ≤ k → k ≤ t.length →
    restoreZeros pre.length zeros (pre ++ t) (pre.length + k) =
      .ok (pre ++ (t.take (k - zeros) ++ List.replicate zeros 48 ++ t.drop k), pre.length + (k - zeros)) := by
  intro zeros
  induction zeros with
  | zero => intro t k _ hk; simp [restoreZeros, pure, Except.pure]
  | succ z ih =>
    intro t k hz hk
    rw [restoreZeros]
    have hw : wrAt pre.length (pre ++ t) (pre.length + (k - 1)) Ch.zero = .ok (pre ++ t.set (k - 1) 48) :=
      wrAt_append pre t _ (by omega)
    rw [csub_pred 2 _ (by omega), ok_bind, hw, ok_bind, ih (t.set (k - 1) 48) (k - 1) (by omega) (by rw [List.length_set]; omega)]
    congr 2
    · have e1 : (t.set (k - 1) 48).take (k - 1 - z) = t.take (k - (z + 1)) := by
        rw [List.take_set_of_le (by omega)]; congr 1; omega
      have e2 : (t.set (k - 1) 48).drop (k - 1) = 48 :: t.drop k := by
        rw [drop_set_self _ _ _ (by omega)]; congr 2; omega
      rw [e1, e2, List.replicate_succ']
      simp
    · omega

theorem Rl_mul_pow (T m : Nat) (hT : 0 < T) : Rl (T * 10 ^ m) = List.replicate m 48 ++ Rl T := by
  simp [Rl, D_mul_pow T m hT, List.reverse_append, List.reverse_replicate]

/-- `else if (index < dot_index) InsertAt('.') else { zeros …; while (zeros) storage[--index] = '0' }` -/
def pointOrZeros (site start : Nat) (s : List Nat) (index nl fl : Nat) (pi : Bool) : M (List Nat × Nat) :=
  if index < start + fl then do
    let s ← insertAt start s Ch.dot (start + fl)
    pure (s, index)
  else do
    let zeros ←
      if pi then csub site nl fl
      else pure (let rem := index - start; if fl < rem then rem - fl else 0)
    restoreZeros start zeros s index

theorem fixedFraction_point {start index nl fl diff : Nat} {s : List Nat} {pi : Bool} (h : ¬ (nl ≤ fl)) :
    fixedFraction start s index nl fl diff pi = pointOrZeros 12 start s index nl fl pi := by
  unfold fixedFraction pointOrZeros
  simp only [h, if_false]

theorem defaultFraction_point {start index power nl fl : Nat} {s : List Nat} {pi : Bool} (hfl : fl ≠ 0)
    (h : ¬ (nl ≤ fl)) :
    defaultFraction start s index power nl fl pi =
      (pointOrZeros 6 start s (skipWhile Ch.zero s.length s index) nl fl pi >>= fun r => pure (r.1, r.2, power)) := by
  unfold defaultFraction pointOrZeros
  simp only [hfl, h, ne_eq, not_false_eq_true, if_true, if_false]
  split
  · simp only [bind_assoc, pure_bind]
  · cases pi <;> simp only [Bool.false_eq_true, if_false, if_true, bind_assoc, pure_bind]

/-- The shared layout on a `Kept` run with an integer part (`fl < nl`) whose lowest `c ≤ fl` digits were cut off:
followed by `finishNumber` it leaves the kept value `K` with `fl - c` decimals, trailing fractional zeros removed; the
padding of the Fixed format puts them back and fills up to the precision. -/
theorem point_layout (site : Nat) (s : List Nat) {t' : List Nat} {nl c fl k T K : Nat} {pi : Bool}
    (hKept : Kept t' nl k T pi) (hfl0 : 0 < fl) (hfl : c ≤ fl) (hflL : fl < nl) (hck : c ≤ k)
    (hkept : K = T * 10 ^ (k - c + (if pi then 1 else 0))) :
    ∃ r, pointOrZeros site s.length (s ++ t') (s.length + k) nl fl pi = .ok r ∧
      finishNumber s.length r.1 r.2 = .ok (s ++ FmtSpec.stripFraction (fixedText K (fl - c))) ∧
      ∀ p, fl - c ≤ p → p ≤ 1048576 →
        fixedPad s.length (s ++ FmtSpec.stripFraction (fixedText K (fl - c))) r.2 p fl false pi =
          .ok (s ++ fixedText (K * 10 ^ (p - (fl - c))) p) := by
  have hDTlen := hKept.digits
  obtain ⟨htl, hkL, hdrop, hT0, hT10, hpi⟩ := hKept
  unfold pointOrZeros
  by_cases hA : k < fl
  · -- the point goes between kept digits (no carry: a carry leaves `k` at the top digit)
    have hpiv : pi = false := by
      cases hpiv : pi
      · rfl
      · have := (hpi hpiv).1; omega
    subst hpiv
    simp only [Bool.false_eq_true, if_false, Nat.add_zero] at hkept ⊢
    have hins := insertAt_mid s t' (k := fl) (by omega)
    have hK : ∀ w, K * 10 ^ w = T * 10 ^ (k - c + w) := fun w => by rw [hkept, Nat.mul_assoc, ← Nat.pow_add]
    rw [hkept, show fl - c = (fl - k) + (k - c) by omega, strip_fixedText_shift T _ _ (by omega) hT10]
    refine ⟨(s ++ (t'.take fl ++ 46 :: t'.drop fl), s.length + k), by rw [if_pos (by omega), hins]; rfl, ?_, ?_⟩
    · simp only []
      rw [finishNumber_drop s _ k (by simp [htl]; omega)]
      have hc : fl - k < (D T).length := by omega
      have e1 : (t'.take fl ++ 46 :: t'.drop fl).drop k = (Rl T).take (fl - k) ++ 46 :: (Rl T).drop (fl - k) := by
        rw [List.drop_append_of_le_length (by simp [htl]; omega), List.drop_take, ← hdrop, List.drop_drop]
        congr 3; omega
      rw [e1, Rl_take hc, Rl_drop hc]
      simp [Rl, List.reverse_append]
    · intro p hqp hp
      obtain ⟨w, rfl⟩ : ∃ w, p = fl - k + (k - c) + w := ⟨p - (fl - k + (k - c)), by omega⟩
      rw [← hkept, Nat.add_sub_cancel_left, hK, Nat.add_assoc, fixedText_shift T _ _ (by omega)]
      unfold fixedPad
      have hlen3 : (s ++ (D (T / 10 ^ (fl - k)) ++ 46 :: Dk (fl - k) (T % 10 ^ (fl - k)))).length - s.length =
          (D (T / 10 ^ (fl - k))).length + 1 + (fl - k) := by simp [Dk_length]; omega
      have hqpos : 0 < (D (T / 10 ^ (fl - k))).length := D_length_pos _
      have hc1 : ¬ (s.length + fl = s.length + k ∨
          (s ++ (D (T / 10 ^ (fl - k)) ++ 46 :: Dk (fl - k) (T % 10 ^ (fl - k)))).length - s.length = 1 ∨
          (!false) = true ∧ false = true) := by rw [hlen3]; simp; omega
      rw [if_neg (by omega), if_neg hc1]
      simp only [Bool.false_eq_true, if_false, csub, show s.length + fl - (s.length + k) = fl - k by omega,
        Nat.le_add_right, if_true, pure_bind, Nat.add_sub_cancel_left,
        zerosLarge_eq (show k - c + w ≤ 1048576 by omega), ok_bind]
      simp [pure, Except.pure]
  · -- the kept value is an integer `T·10^m`: its `m` zeros are written back (`m` and the final index depend on the carry)
    obtain ⟨m, hkept, hmk, hlen, hz1, hz0, hidx⟩ : ∃ m, K = T * 10 ^ (m + (fl - c)) ∧ m ≤ k ∧
        nl ≤ k - m + m + (D T).length ∧ (pi = true → csub site nl fl = .ok m) ∧
        (pi = false → (if fl < s.length + k - s.length then s.length + k - s.length - fl else 0) = m) ∧
        (fl = k - m ∨ pi = true) := by
      rcases Bool.eq_false_or_eq_true pi with hpiv | hpiv
      · obtain ⟨hkL2, hT1⟩ := hpi hpiv
        simp only [hpiv, if_true] at hkept
        refine ⟨nl - fl, ?_, by omega, by omega, fun _ => ?_, fun h => ?_, Or.inr hpiv⟩
        · rw [hkept, show k - c + 1 = nl - fl + (fl - c) by omega]
        · simp [csub, pure, Except.pure]; omega
        · rw [hpiv] at h; cases h
      · simp only [hpiv, Bool.false_eq_true, if_false, Nat.add_zero] at hkept
        refine ⟨k - fl, ?_, by omega, by omega, fun h => ?_, fun _ => ?_, Or.inl (by omega)⟩
        · rw [hkept, show k - c = k - fl + (fl - c) by omega]
        · rw [hpiv] at h; cases h
        · rw [Nat.add_sub_cancel_left]; split <;> omega
    rw [hkept, fixedText_whole T _ _ (Nat.le_add_left _ _), Nat.add_sub_cancel, stripFraction_int]
    refine ⟨(s ++ (t'.take (k - m) ++ List.replicate m 48 ++ t'.drop k), s.length + (k - m)), ?_, ?_, ?_⟩
    · rw [if_neg (by omega)]
      cases hpiv : pi
      · simp only [Bool.false_eq_true, if_false, pure_bind, hz0 hpiv]
        exact restoreZeros_spec s m t' k hmk (by omega)
      · simp only [if_true, hz1 hpiv, ok_bind]
        exact restoreZeros_spec s m t' k hmk (by omega)
    · simp only []
      rw [finishNumber_drop s _ (k - m) (by simp [htl]; omega)]
      have e1 : (t'.take (k - m) ++ List.replicate m 48 ++ t'.drop k).drop (k - m) = List.replicate m 48 ++ Rl T := by
        rw [List.append_assoc, List.drop_left' (by simp [htl]; omega), hdrop]
      rw [e1, ← Rl_mul_pow T _ hT0]; simp [Rl]
    · intro p hqp hp
      rw [Nat.mul_assoc, ← Nat.pow_add, show m + (fl - c) + (p - (fl - c)) = m + p by omega,
        fixedText_whole T _ _ (Nat.le_add_left _ _), Nat.add_sub_cancel]
      unfold fixedPad
      by_cases hp0 : p = 0
      · simp [hp0, pure, Except.pure]
      · have hc : (s.length + fl = s.length + (k - m) ∨ (s ++ D (T * 10 ^ m)).length - s.length = 1 ∨
            (!false) = true ∧ pi = true) := by
          rcases hidx with h | h
          · left; omega
          · right; right; simp [h]
        simp only [hp0, if_false, hc, if_true, zerosLarge_eq hp, ok_bind]
        simp [Ch.dot, pure, Except.pure]

end Qentem.Proofs.NumToStr
