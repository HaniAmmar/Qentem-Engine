import Qentem.Proofs.BigIntBasic
/-! `ShiftRight` and `ShiftLeft`: the move by whole words, then the shift by fewer than `W` bits.  Each loop is specified word by
word; the words written are the digits of the shifted value (`digit_div_pow`, `digit_shr`, `digit_mul_pow`, `digit_shl_succ`),
which gives value and bound at once. -/
namespace Qentem.BigInt

/-! ### `ShiftRight` -/

theorem moveDown_spec (idx move : Nat) : ∀ (fuel : Nat) (ws0 ws : List Nat) (index : Nat),
    ws.length = ws0.length → idx < ws0.length → index + move ≤ idx → idx - (index + move) < fuel →
    (∀ k, index ≤ k → ws.getD k 0 = ws0.getD k 0) →
    ∃ ws', moveDown idx fuel ws index (index + move) = .ok ws' ∧ ws'.length = ws0.length ∧
      (∀ k, index ≤ k → k + move ≤ idx → ws'.getD k 0 = ws0.getD (k + move) 0) ∧
      (∀ k, idx < k + move → index ≤ k → ws'.getD k 0 = ws0.getD k 0) ∧
      (∀ k, k < index → ws'.getD k 0 = ws.getD k 0)
  | 0, _, _, _, _, _, _, hf, _ => by omega
  | fuel + 1, ws0, ws, index, hl, hidx, hle, hf, hfr => by
    unfold moveDown
    simp only [rd_ok (by omega : index + move < ws.length), wr_ok _ (by omega : index < ws.length), bind, Except.bind]
    have hrd : ws[index + move]'(by omega) = ws0.getD (index + move) 0 := by
      rw [← getD_eq_getElem (by omega : index + move < ws.length)]; exact hfr _ (by omega)
    have hi : index < ws.length := by omega
    generalize ws[index + move]'(by omega) = v at hrd ⊢
    by_cases hnext : index + move + 1 ≤ idx
    · rw [if_pos hnext, show index + move + 1 = (index + 1) + move by omega]
      obtain ⟨ws', hrun, hl', h1, h2, h3⟩ := moveDown_spec idx move fuel ws0 (ws.set index v) (index + 1)
        (by rw [List.length_set]; exact hl) hidx (by omega) (by omega)
        (fun k hk => by rw [getD_set_ne (by omega)]; exact hfr k (by omega))
      refine ⟨ws', hrun, hl', fun k hk1 hk2 => ?_, fun k hk1 hk2 => h2 k hk1 (by omega),
        fun k hk => by rw [h3 k (by omega)]; exact getD_set_ne (by omega)⟩
      by_cases hk : k = index
      · rw [hk, h3 index (by omega), getD_set_eq hi, hrd]
      · exact h1 k (by omega) hk2
    · rw [if_neg hnext]
      refine ⟨_, rfl, by rw [List.length_set]; exact hl, fun k hk1 hk2 => ?_,
        fun k hk1 hk2 => by rw [getD_set_ne (by omega)]; exact hfr k hk2, fun k hk => getD_set_ne (by omega)⟩
      rw [show k = index by omega, getD_set_eq hi, hrd]

theorem zeroTop_eq : ∀ (move : Nat) (ws : List Nat) (idx : Nat), 0 < move → move ≤ idx →
    zeroTop move ws idx = (zeroDownTo (idx - move) ws idx).map fun ws' => (ws', idx - move)
  | 0, _, _, h, _ => absurd h (Nat.lt_irrefl 0)
  | m + 1, ws, idx, _, hle => by
    obtain ⟨i, rfl⟩ : ∃ i, idx = i + 1 := ⟨idx - 1, by omega⟩
    unfold zeroTop zeroDownTo
    rw [if_pos (by omega)]
    cases wr ws (i + 1) 0 with
    | error e => rfl
    | ok ws1 =>
      match m, hle with
      | 0, _ =>
        simp only [bind, Except.bind, Nat.add_sub_cancel]
        cases i with
        | zero => rfl
        | succ j => unfold zeroDownTo; rw [if_neg (Nat.lt_irrefl _)]; rfl
      | m' + 1, hle =>
        simp only [bind, Except.bind, Nat.add_sub_cancel]
        rw [zeroTop_eq (m' + 1) ws1 i (Nat.succ_pos _) (by omega), show i - (m' + 1) = i + 1 - (m' + 1 + 1) by omega]

theorem zeroTop_spec (move : Nat) (ws : List Nat) (idx : Nat) (hmv : 0 < move) (hle : move ≤ idx) (hlt : idx < ws.length) :
    ∃ ws', zeroTop move ws idx = .ok (ws', idx - move) ∧ ws'.length = ws.length ∧
      (∀ k, idx - move < k → k ≤ idx → ws'.getD k 0 = 0) ∧
      (∀ k, (k ≤ idx - move ∨ idx < k) → ws'.getD k 0 = ws.getD k 0) := by
  obtain ⟨ws', hrun, h⟩ := zeroDownTo_spec (idx - move) idx ws hlt
  exact ⟨ws', by rw [zeroTop_eq move ws idx hmv hle, hrun]; rfl, h⟩

theorem shrWords_spec {W : Nat} (s : Big) (move : Nat) (h : Inv W s) (hmv : 0 < move) (hle : move ≤ s.idx) :
    ∃ s', shrWords s move = .ok s' ∧ Inv W s' ∧ s'.words.length = s.words.length ∧
      s'.val W = s.val W / 2 ^ (W * move) := by
  have hlt := h.idx_lt
  obtain ⟨ws1, hrun1, hl1, ha, hb, _⟩ := moveDown_spec s.idx move (s.idx + 1) s.words s.words 0 rfl hlt
    (by omega) (by omega) (fun _ _ => rfl)
  obtain ⟨ws2, hrun2, hl2, hz, hfr⟩ := zeroTop_spec move ws1 s.idx hmv hle (by omega)
  have hall : ∀ k, ws2.getD k 0 = s.words.getD (k + move) 0 := by
    intro k
    by_cases h1 : k ≤ s.idx - move
    · rw [hfr k (Or.inl h1)]; exact ha k (Nat.zero_le _) (by omega)
    · by_cases h2 : k ≤ s.idx
      · rw [hz k (by omega) h2]; exact (h.above (k + move) (by omega)).symm
      · rw [hfr k (Or.inr (by omega)), hb k (by omega) (Nat.zero_le _), h.above k (by omega)]
        exact (h.above (k + move) (by omega)).symm
  have hd : ∀ k, k < ws2.length → ws2.getD k 0 = digit W (s.val W / 2 ^ (W * move)) k := fun k _ => by
    rw [hall, digit_div_pow, h.getD_eq_digit]
  refine ⟨⟨ws2, s.idx - move⟩, ?_, ⟨⟨h.wpos, bounded_of_digits hd, by simp only; omega, ?_⟩, ?_⟩, by simp only; omega,
    valW_eq_of_digits (Nat.lt_of_le_of_lt (Nat.div_le_self _ _) (by rw [hl2, hl1]; exact h.toWInv.val_lt_total)) hd⟩
  · unfold shrWords
    simp only [Nat.zero_add] at hrun1
    rw [hrun1]
    simp only [bind, Except.bind]
    rw [hrun2]; rfl
  · intro k hk
    have hk' : s.idx - move + 1 ≤ k := hk
    show ws2.getD k 0 = 0
    rw [hall k]; exact h.above _ (by omega)
  · intro hne
    have hne' : s.idx - move ≠ 0 := hne
    show ws2.getD (s.idx - move) 0 ≠ 0
    rw [hall, Nat.sub_add_cancel hle]; exact h.top (by omega)

/-- the word that takes the low `off` bits of its upper neighbour `b` above its own shifted bits `a` -/
theorem shr_word {W off a b : Nat} (hoff : off ≤ W) (ha : a < 2 ^ (W - off)) :
    (a ||| (b <<< (W - off)) % 2 ^ W) = b % 2 ^ off * 2 ^ (W - off) + a ∧
      b % 2 ^ off * 2 ^ (W - off) + a < 2 ^ W := by
  have hW : 2 ^ W = 2 ^ off * 2 ^ (W - off) := by rw [← Nat.pow_add, Nat.add_sub_cancel' hoff]
  refine ⟨by rw [Nat.shiftLeft_eq, hW, Nat.mul_mod_mul_right, lor_eq_add_of_lt ha], ?_⟩
  have h2 := Nat.mul_le_mul_right (2 ^ (W - off)) (Nat.mod_lt b (Nat.pow_pos (n := off) (show 0 < 2 by decide)))
  rw [Nat.succ_mul, ← hW] at h2
  omega

/-- The bit-shift loop of `ShiftRight` from word `j` (already shifted) up to `idx`, word by word. -/
theorem shrBits_words {W off : Nat} (idx : Nat) (ws0 : List Nat) (hidx : idx < ws0.length) :
    ∀ (fuel : Nat) (cur : List Nat) (j : Nat), j ≤ idx → idx - j < fuel → cur.length = ws0.length →
    (∀ k, j < k → cur.getD k 0 = ws0.getD k 0) → cur.getD j 0 = ws0.getD j 0 / 2 ^ off →
    ∃ ws', shrBits W off idx fuel cur j = .ok ws' ∧ ws'.length = ws0.length ∧
      (∀ k, (k < j ∨ idx < k) → ws'.getD k 0 = cur.getD k 0) ∧ ws'.getD idx 0 = ws0.getD idx 0 / 2 ^ off ∧
      ∀ k, j ≤ k → k < idx → ws'.getD k 0 = ws0.getD k 0 / 2 ^ off ||| (ws0.getD (k + 1) 0 <<< (W - off)) % 2 ^ W
  | 0, _, _, _, hf, _, _, _ => by omega
  | fuel + 1, cur, j, hj, hf, hl, hfr, hcj => by
    unfold shrBits
    by_cases hlt : j < idx
    · have hj1 : j + 1 < cur.length := by omega
      have hj0 : j < cur.length := by omega
      have hj1' : j + 1 < (cur.set j (cur[j] ||| (cur[j + 1] <<< (W - off)) % 2 ^ W)).length := by
        rw [List.length_set]; exact hj1
      have hbv : cur[j + 1] = ws0.getD (j + 1) 0 := by rw [← getD_eq_getElem hj1]; exact hfr _ (by omega)
      have ha : cur[j] = ws0.getD j 0 / 2 ^ off := by rw [← getD_eq_getElem hj0]; exact hcj
      obtain ⟨ws', hrun, hl', hout, htop, hw⟩ := shrBits_words idx ws0 hidx fuel
        ((cur.set j (cur[j] ||| (cur[j + 1] <<< (W - off)) % 2 ^ W)).set (j + 1) (cur[j + 1] >>> off)) (j + 1)
        (by omega) (by omega) (by rw [List.length_set, List.length_set]; exact hl)
        (fun k hk => by rw [getD_set_ne (by omega), getD_set_ne (by omega)]; exact hfr k (by omega))
        (by rw [getD_set_eq hj1', hbv, Nat.shiftRight_eq_div_pow])
      rw [if_pos hlt]
      simp only [rd_ok hj0, rd_ok hj1, wr_ok _ hj0, bind, Except.bind, rd_ok hj1', wr_ok _ hj1']
      rw [List.getElem_set_ne (by omega)]
      refine ⟨ws', hrun, hl', fun k hk => by
        rw [hout k (by omega), getD_set_ne (by omega), getD_set_ne (by omega)], htop, fun k hk1 hk2 => ?_⟩
      by_cases hkj : k = j
      · rw [hkj, hout j (Or.inl (Nat.lt_succ_self j)), getD_set_ne (by omega), getD_set_eq hj0, ha, hbv]
      · exact hw k (by omega) hk2
    · have he : j = idx := by omega
      subst he
      rw [if_neg hlt]
      exact ⟨cur, rfl, hl, fun _ _ => rfl, hcj, fun k h1 h2 => by omega⟩

theorem shrSmall_spec {W : Nat} (s : Big) (off : Nat) (h : Inv W s) (hoff : off < W) :
    ∃ s', shrSmall W s off = .ok s' ∧ Inv W s' ∧ s'.words.length = s.words.length ∧
      s'.val W = s.val W / 2 ^ off := by
  unfold shrSmall
  by_cases h0 : off = 0
  · subst h0
    exact ⟨s, rfl, h, rfl, by simp⟩
  · have hne : (off != 0) = true := by simp [h0]
    rw [if_pos hne]
    have hlt := h.idx_lt
    have hl0 : 0 < s.words.length := by omega
    have hO : 0 < 2 ^ off := Nat.pow_pos (by decide)
    have hW : 2 ^ W = 2 ^ off * 2 ^ (W - off) := by rw [← Nat.pow_add, Nat.add_sub_cancel' (Nat.le_of_lt hoff)]
    obtain ⟨ws', hrun, hl', hout, htopw, hw⟩ :=
      shrBits_words (W := W) (off := off) s.idx s.words hlt (s.idx + 1)
        (s.words.set 0 (s.words[0] >>> off)) 0 (Nat.zero_le _) (by omega) (by simp)
        (fun k hk => getD_set_ne (by omega))
        (by rw [getD_set_eq hl0, Nat.shiftRight_eq_div_pow, getD_eq_getElem hl0])
    simp only [rd_ok hl0, wr_ok _ hl0, bind, Except.bind, hrun]
    have habove : ZeroFrom ws' (s.idx + 1) := fun k hk => by
      rw [hout k (Or.inr hk), getD_set_ne (by omega)]; exact h.above k hk
    -- the words are the digits of the shifted value
    have hd : ∀ k, k < ws'.length → ws'.getD k 0 = digit W (s.val W / 2 ^ off) k := by
      intro k _
      rw [digit_shr (Nat.le_of_lt hoff), ← h.getD_eq_digit, ← h.getD_eq_digit]
      by_cases hk : k < s.idx
      · rw [hw k (Nat.zero_le _) hk]
        exact (shr_word (Nat.le_of_lt hoff) (Nat.div_lt_of_lt_mul (by rw [← hW]; exact h.bound.getD k))).1
      · rw [h.above (k + 1) (by omega), Nat.zero_mod, Nat.zero_mul, Nat.zero_add]
        by_cases hk2 : k = s.idx
        · rw [hk2]; exact htopw
        · rw [habove k (by omega), h.above k (by omega), Nat.zero_div]
    have hdiv : valW W ws' = s.val W / 2 ^ off :=
      valW_eq_of_digits (Nat.lt_of_le_of_lt (Nat.div_le_self _ _) (by rw [hl']; exact h.toWInv.val_lt_total)) hd
    have hw : WInv W ⟨ws', s.idx⟩ := ⟨h.wpos, bounded_of_digits hd, by simp only; omega, habove⟩
    by_cases hi0 : s.idx = 0
    · have hc : (s.idx != 0) = false := by simp [hi0]
      simp only [hc, Bool.false_eq_true, if_false]
      exact ⟨_, rfl, ⟨hw, fun hne => absurd hi0 hne⟩, hl', hdiv⟩
    · have hc : (s.idx != 0) = true := by simp [hi0]
      simp only [hc, if_true]
      rw [rd_ok (by omega : s.idx < ws'.length)]
      simp only [pure, Except.pure]
      rw [← getD_eq_getElem (by omega : s.idx < ws'.length)]
      by_cases hz : ws'.getD s.idx 0 = 0
      · simp only [hz, beq_self_eq_true, if_true]
        have hq := Nat.lt_mul_div_succ (s.val W) hO
        rw [← hdiv] at hq
        exact ⟨_, rfl, h.pred_of_quot hw hz (Nat.pow_le_pow_right (by decide) (Nat.le_of_lt hoff)) hq, hl', hdiv⟩
      · simp only [beq_false_of_ne hz, Bool.false_eq_true, if_false]
        exact ⟨_, rfl, ⟨hw, fun _ => hz⟩, hl', hdiv⟩

theorem shiftRight_spec {W : Nat} (s : Big) (offset : Nat) (h : Inv W s) :
    ∃ s', shiftRight W s offset = .ok s' ∧ Inv W s' ∧ s'.words.length = s.words.length ∧
      s'.val W = s.val W / 2 ^ offset := by
  unfold shiftRight
  by_cases hge : offset ≥ W
  · rw [if_pos hge]
    simp only []
    have hW := h.wpos
    have hmv : 0 < offset / W := Nat.div_pos hge hW
    have hoff : offset - offset / W * W = offset % W := by
      have := Nat.div_add_mod offset W
      rw [Nat.mul_comm] at this; omega
    have hlt : offset % W < W := Nat.mod_lt _ hW
    by_cases hbig : offset / W > s.idx
    · rw [if_pos hbig]
      obtain ⟨s', hrun, hinv, hl, hv⟩ := clear_spec (W := W) s h
      refine ⟨s', hrun, hinv, hl, ?_⟩
      rw [hv]
      have h1 := h.toWInv.val_lt
      have h2 : 2 ^ (W * (s.idx + 1)) ≤ 2 ^ offset := by
        apply Nat.pow_le_pow_right (by decide)
        have : W * (s.idx + 1) ≤ W * (offset / W) := Nat.mul_le_mul_left _ hbig
        have := Nat.div_add_mod offset W
        omega
      exact (Nat.div_eq_of_lt (by omega)).symm
    · rw [if_neg hbig]
      obtain ⟨s1, hrun1, hinv1, hl1, hv1⟩ := shrWords_spec s (offset / W) h hmv (by omega)
      rw [hoff] at *
      obtain ⟨s2, hrun2, hinv2, hl2, hv2⟩ := shrSmall_spec s1 (offset % W) hinv1 hlt
      refine ⟨s2, ?_, hinv2, by omega, ?_⟩
      · simp only [bind, Except.bind, hrun1]
        exact hrun2
      · rw [hv2, hv1, Nat.div_div_eq_div_mul, ← Nat.pow_add]
        congr 2
        have := Nat.div_add_mod offset W
        omega
  · rw [if_neg hge]
    exact shrSmall_spec s offset h (by omega)

/-! ### `ShiftLeft` -/

theorem moveUp_spec (move : Nat) (ws0 : List Nat) : ∀ (i : Nat) (ws : List Nat),
    ws.length = ws0.length → i + move ≤ ws0.length → (∀ j, j < i → ws.getD j 0 = ws0.getD j 0) →
    ∃ ws', moveUp move ws i = .ok ws' ∧ ws'.length = ws0.length ∧
      (∀ j, j < i → ws'.getD (j + move) 0 = ws0.getD j 0) ∧
      (∀ k, (k < move ∨ i + move ≤ k) → ws'.getD k 0 = ws.getD k 0)
  | 0, ws, hl, _, _ => ⟨ws, rfl, hl, fun j hj => by omega, fun _ _ => rfl⟩
  | i + 1, ws, hl, hle, hlow => by
    unfold moveUp
    simp only [rd_ok (by omega : i < ws.length), wr_ok _ (by omega : i + move < ws.length), bind, Except.bind]
    have hrd : ws[i]'(by omega) = ws0.getD i 0 := by
      rw [← getD_eq_getElem (by omega : i < ws.length)]; exact hlow i (by omega)
    have him : i + move < ws.length := by omega
    generalize ws[i]'(by omega) = v at hrd ⊢
    obtain ⟨ws', hrun, hl', h1, h2⟩ := moveUp_spec move ws0 i (ws.set (i + move) v)
      (by rw [List.length_set]; exact hl) (by omega) (fun j hj => by rw [getD_set_ne (by omega)]; exact hlow j (by omega))
    refine ⟨ws', hrun, hl', fun j hj => ?_, fun k hk => by rw [h2 k (by omega)]; exact getD_set_ne (by omega)⟩
    by_cases hji : j = i
    · rw [hji, h2 (i + move) (Or.inr (by omega)), getD_set_eq him, hrd]
    · exact h1 j (by omega)

theorem zeroLow_eq : ∀ (m : Nat) (ws : List Nat), zeroLow ws (m + 1) = clearFrom ws m
  | 0, ws => by
    unfold zeroLow clearFrom
    cases wr ws 0 0 <;> rfl
  | m + 1, ws => by
    unfold zeroLow clearFrom
    cases wr ws (m + 1) 0 with
    | error e => rfl
    | ok ws1 => exact zeroLow_eq m ws1

theorem zeroLow_spec (move : Nat) (ws : List Nat) (hmv : 0 < move) (hle : move ≤ ws.length) :
    ∃ ws', zeroLow ws move = .ok ws' ∧ ws'.length = ws.length ∧
      (∀ k, k < move → ws'.getD k 0 = 0) ∧ (∀ k, move ≤ k → ws'.getD k 0 = ws.getD k 0) := by
  obtain ⟨m, rfl⟩ : ∃ m, move = m + 1 := ⟨move - 1, by omega⟩
  obtain ⟨ws', hrun, hl, hz, hfr⟩ := clearFrom_spec m ws hle
  exact ⟨ws', by rw [zeroLow_eq, hrun], hl, fun k hk => hz k (by omega), fun k hk => hfr k hk⟩

theorem shlWords_spec {W : Nat} (s : Big) (move : Nat) (h : Inv W s) (hmv : 0 < move)
    (hfit : s.idx + move < s.words.length) :
    ∃ s', shlWords s.words s.idx move (s.idx + move) = .ok s' ∧ Inv W s' ∧ s'.words.length = s.words.length ∧
      s'.val W = s.val W * 2 ^ (W * move) := by
  have hlt := h.idx_lt
  obtain ⟨ws1, hrun1, hl1, ha1, hb1⟩ := moveUp_spec move s.words s.idx (s.words.set (s.idx + move) s.words[s.idx])
    (by simp) (by omega) (fun j hj => getD_set_ne (by omega))
  obtain ⟨ws2, hrun2, hl2, hz2, hfr2⟩ := zeroLow_spec move ws1 hmv (by omega)
  have hall : ∀ k, ws2.getD k 0 = if k < move then 0 else s.words.getD (k - move) 0 := by
    intro k
    by_cases hk : k < move
    · rw [if_pos hk]; exact hz2 k hk
    · rw [if_neg hk, hfr2 k (by omega)]
      by_cases hk2 : k < s.idx + move
      · have := ha1 (k - move) (by omega)
        rwa [Nat.sub_add_cancel (by omega)] at this
      · rw [hb1 k (Or.inr (by omega))]
        by_cases hk3 : k = s.idx + move
        · subst hk3
          rw [getD_set_eq (by omega), Nat.add_sub_cancel, getD_eq_getElem hlt]
        · rw [getD_set_ne (by omega), h.above k (by omega)]
          exact (h.above (k - move) (by omega)).symm
  have hd : ∀ k, k < ws2.length → ws2.getD k 0 = digit W (s.val W * 2 ^ (W * move)) k := fun k _ => by
    rw [hall, digit_mul_pow]
    split
    · rfl
    · exact h.getD_eq_digit _
  have hroom : s.val W * 2 ^ (W * move) < 2 ^ (W * ws2.length) := by
    have h1 := Nat.mul_lt_mul_of_pos_right h.toWInv.val_lt (Nat.pow_pos (n := W * move) (show 0 < 2 by decide))
    rw [← Nat.pow_add, ← Nat.mul_add] at h1
    exact Nat.lt_of_lt_of_le h1 (Nat.pow_le_pow_right (by decide) (Nat.mul_le_mul_left _ (by omega)))
  have hw : WInv W ⟨ws2, s.idx + move⟩ := by
    refine ⟨h.wpos, bounded_of_digits hd, by simp only; omega, ?_⟩
    intro k hk
    have hk' : s.idx + move + 1 ≤ k := hk
    show ws2.getD k 0 = 0
    rw [hall k, if_neg (by omega)]; exact h.above _ (by omega)
  obtain ⟨j, htrim, hinv⟩ := trim_inv _ hw
  refine ⟨⟨ws2, j⟩, ?_, hinv, by simp only; omega, valW_eq_of_digits hroom hd⟩
  unfold shlWords trimIdx
  simp only [rd_ok hlt, wr_ok _ (by omega : s.idx + move < s.words.length), bind, Except.bind, hrun1, hrun2]
  simp only at htrim
  rw [htrim]; rfl

/-- the shifted word `(w1·2^off) % 2^W` takes the top `off` bits of its lower neighbour `b` -/
theorem shl_word {W off w1 b : Nat} (hoff : off ≤ W) (hb : b < 2 ^ W) :
    ((w1 * 2 ^ off) % 2 ^ W ||| b >>> (W - off)) = (w1 * 2 ^ off) % 2 ^ W + b / 2 ^ (W - off) ∧
      (w1 * 2 ^ off) % 2 ^ W + b / 2 ^ (W - off) < 2 ^ W := by
  have hW : 2 ^ W = 2 ^ (W - off) * 2 ^ off := by rw [← Nat.pow_add, Nat.sub_add_cancel hoff]
  have hc : b / 2 ^ (W - off) < 2 ^ off := Nat.div_lt_of_lt_mul (by rw [← hW]; exact hb)
  rw [Nat.shiftRight_eq_div_pow, hW, Nat.mul_mod_mul_right, Nat.or_comm, lor_eq_add_of_lt hc]
  refine ⟨rfl, ?_⟩
  have h2 := Nat.mul_le_mul_right (2 ^ off) (Nat.mod_lt w1 (Nat.pow_pos (n := W - off) (show 0 < 2 by decide)))
  rw [Nat.succ_mul] at h2
  omega

/-- The bit-shift loop of `ShiftLeft` from word `i` (already shifted) down, word by word. -/
theorem shlBits_words {W off : Nat} (ws0 : List Nat) : ∀ (i : Nat) (cur : List Nat), i < ws0.length →
    cur.length = ws0.length → (∀ k, k < i → cur.getD k 0 = ws0.getD k 0) →
    cur.getD i 0 = (ws0.getD i 0 * 2 ^ off) % 2 ^ W →
    ∃ ws', shlBits W off cur i = .ok ws' ∧ ws'.length = ws0.length ∧ (∀ k, i < k → ws'.getD k 0 = cur.getD k 0) ∧
      ws'.getD 0 0 = (ws0.getD 0 0 * 2 ^ off) % 2 ^ W ∧
      ∀ k, k < i → ws'.getD (k + 1) 0 = (ws0.getD (k + 1) 0 * 2 ^ off) % 2 ^ W ||| ws0.getD k 0 >>> (W - off)
  | 0, cur, _, hl, _, hci => ⟨cur, rfl, hl, fun _ _ => rfl, hci, fun k hk => absurd hk (Nat.not_lt_zero _)⟩
  | i + 1, cur, hi, hl, hlow, hci => by
    have hi1 : i + 1 < cur.length := by omega
    have hi0 : i < cur.length := by omega
    have hi0' : i < (cur.set (i + 1) (cur[i + 1] ||| cur[i] >>> (W - off))).length := by rw [List.length_set]; exact hi0
    have ha : cur[i + 1] = (ws0.getD (i + 1) 0 * 2 ^ off) % 2 ^ W := by rw [← getD_eq_getElem hi1]; exact hci
    have hbv : cur[i] = ws0.getD i 0 := by rw [← getD_eq_getElem hi0]; exact hlow i (by omega)
    obtain ⟨ws', hrun, hl', hfr, h0, hw⟩ := shlBits_words (W := W) (off := off) ws0 i
      ((cur.set (i + 1) (cur[i + 1] ||| cur[i] >>> (W - off))).set i ((cur[i] <<< off) % 2 ^ W)) (by omega)
      (by rw [List.length_set, List.length_set]; exact hl)
      (fun k hk => by rw [getD_set_ne (by omega), getD_set_ne (by omega)]; exact hlow k (by omega))
      (by rw [getD_set_eq hi0', hbv, Nat.shiftLeft_eq])
    refine ⟨ws', ?_, hl', fun k hk => by rw [hfr k (by omega), getD_set_ne (by omega), getD_set_ne (by omega)], h0,
      fun k hk => ?_⟩
    · unfold shlBits
      simp only [rd_ok hi1, rd_ok hi0, wr_ok _ hi1, bind, Except.bind, rd_ok hi0', wr_ok _ hi0']
      rw [List.getElem_set_ne (by omega)]
      exact hrun
    · by_cases hki : k = i
      · rw [hki, hfr (i + 1) (Nat.lt_succ_self i), getD_set_ne (by omega), getD_set_eq hi1, ha, hbv]
      · exact hw k (by omega)

theorem shlSmall_spec {W : Nat} (s : Big) (off : Nat) (h : Inv W s) (hoff : off < W)
    (hfit : s.val W * 2 ^ off < 2 ^ (W * s.words.length)) :
    ∃ s', shlSmall W s off = .ok s' ∧ Inv W s' ∧ s'.words.length = s.words.length ∧
      s'.val W = s.val W * 2 ^ off := by
  unfold shlSmall
  by_cases h0 : off = 0
  · subst h0
    exact ⟨s, rfl, h, rfl, by simp⟩
  · have hne : (off != 0) = true := by simp [h0]
    rw [if_pos hne]
    have hlt := h.idx_lt
    have hO : 0 < 2 ^ off := Nat.pow_pos (by decide)
    -- the loop on a prepared storage `cur`: the shifted top word, above it the bits `cy` shifted out of it
    have hdone : ∀ (cur : List Nat) (idx' : Nat), cur.length = s.words.length →
        (∀ k, k < s.idx → cur.getD k 0 = s.words.getD k 0) → cur.getD s.idx 0 = (s.words[s.idx] <<< off) % 2 ^ W →
        (∀ k, s.idx < k → cur.getD k 0 = if k = s.idx + 1 then s.words[s.idx] >>> (W - off) else 0) →
        (idx' = s.idx ∧ s.words[s.idx] >>> (W - off) = 0 ∨
          idx' = s.idx + 1 ∧ s.idx + 1 < s.words.length ∧ s.words[s.idx] >>> (W - off) ≠ 0) →
        ∃ s', (shlBits W off cur s.idx >>= fun ws => pure ⟨ws, idx'⟩ : M Big) = .ok s' ∧ Inv W s' ∧
          s'.words.length = s.words.length ∧ s'.val W = s.val W * 2 ^ off := by
      intro cur idx' hl hlow hci hhi hidx
      obtain ⟨ws', hrun, hl', hfr, hw0, hw⟩ := shlBits_words (W := W) (off := off) s.words s.idx cur hlt hl hlow
        (by rw [hci, getD_eq_getElem hlt, Nat.shiftLeft_eq])
      -- the words are the digits of the shifted value
      have hd : ∀ k, k < ws'.length → ws'.getD k 0 = digit W (s.val W * 2 ^ off) k := by
        intro k _
        cases k with
        | zero => rw [hw0, digit_shl_zero, h.getD_eq_digit]
        | succ k =>
          rw [digit_shl_succ (Nat.le_of_lt hoff), ← h.getD_eq_digit, ← h.getD_eq_digit,
            ← (shl_word (Nat.le_of_lt hoff) (h.bound.getD k)).1]
          by_cases hk1 : k < s.idx
          · exact hw k hk1
          · rw [hfr (k + 1) (by omega), hhi (k + 1) (by omega), h.above (k + 1) (by omega), Nat.zero_mul,
              Nat.zero_mod, Nat.zero_or]
            by_cases hk2 : k = s.idx
            · rw [if_pos (by omega), hk2, getD_eq_getElem hlt]
            · rw [if_neg (by omega), h.above k (by omega), Nat.zero_shiftRight]
      have hv : valW W ws' = s.val W * 2 ^ off := valW_eq_of_digits (by rw [hl']; exact hfit) hd
      have habove : ∀ k, idx' + 1 ≤ k → ws'.getD k 0 = 0 := fun k hk => by
        rw [hfr k (by omega), hhi k (by omega)]
        rcases hidx with ⟨_, hc⟩ | ⟨_, _, _⟩
        · split
          · exact hc
          · rfl
        · rw [if_neg (by omega)]
      refine ⟨⟨ws', idx'⟩, by rw [hrun]; rfl, ?_, hl', hv⟩
      rcases hidx with ⟨hi, _⟩ | ⟨hi, hnext, hc⟩
      · subst hi
        exact top_of_le_val ⟨h.wpos, bounded_of_digits hd, by simp only; omega, habove⟩ fun hne => by
          show _ ≤ valW W ws'
          rw [hv]
          exact Nat.le_trans (h.le_val hne) (Nat.le_mul_of_pos_right _ hO)
      · refine ⟨⟨h.wpos, bounded_of_digits hd, by simp only; omega, habove⟩, fun _ => ?_⟩
        show ws'.getD idx' 0 ≠ 0
        rw [hfr idx' (by omega), hhi idx' (by omega), if_pos hi]
        exact hc
    -- the top word of the storage has no carry: it would be a digit of the result beyond the storage
    have hcz0 : s.idx = s.words.length - 1 → s.words[s.idx] >>> (W - off) = 0 := by
      intro hmx
      have := digit_shl_succ (Nat.le_of_lt hoff) (s.val W) s.idx
      rw [digit_eq_zero_of_lt (by rw [show s.idx + 1 = s.words.length by omega]; exact hfit), ← h.getD_eq_digit,
        ← h.getD_eq_digit, h.above _ (Nat.le_refl _), Nat.zero_mul, Nat.zero_mod, Nat.zero_add, getD_eq_getElem hlt] at this
      rw [Nat.shiftRight_eq_div_pow]; exact this.symm
    have hset : ∀ v, (s.words.set s.idx v).length = s.words.length := fun v => List.length_set
    dsimp only
    simp only [rd_ok hlt, wr_ok _ hlt, bind, Except.bind]
    generalize hC : (s.words[s.idx] <<< off) % 2 ^ W = C at *
    generalize hcy : s.words[s.idx] >>> (W - off) = cy at *
    -- without carry the storage is ready after the first write
    have hnocarry : cy = 0 → ∃ s', (shlBits W off (s.words.set s.idx C) s.idx >>= fun ws => pure ⟨ws, s.idx⟩ : M Big)
        = .ok s' ∧ Inv W s' ∧ s'.words.length = s.words.length ∧ s'.val W = s.val W * 2 ^ off := fun hcz =>
      hdone (s.words.set s.idx C) s.idx (hset C) (fun k hk => getD_set_ne (by omega)) (getD_set_eq hlt)
        (fun k hk => by rw [getD_set_ne (by omega), h.above k (by omega), hcz, ite_self]) (Or.inl ⟨rfl, hcz⟩)
    have hmax : maxIndex (s.words.set s.idx C) = s.words.length - 1 := by unfold maxIndex; rw [hset]
    by_cases hmx : s.idx = s.words.length - 1
    · have hc : (s.idx != maxIndex (s.words.set s.idx C)) = false := by
        rw [hmax, ← hmx]; exact bne_self_eq_false _
      simp only [hc, Bool.false_eq_true, if_false]
      exact hnocarry (hcz0 hmx)
    · have hc : (s.idx != maxIndex (s.words.set s.idx C)) = true := by
        rw [hmax]; exact bne_iff_ne.2 hmx
      simp only [hc, if_true]
      have hnext : s.idx + 1 < s.words.length := by omega
      by_cases hcz : cy = 0
      · simp only [hcz, bne_self_eq_false, Bool.false_eq_true, if_false, Nat.add_zero]
        have hlt' : s.idx < (s.words.set s.idx C).length := by rw [hset]; exact hlt
        simp only [rd_ok hlt', wr_ok _ hlt']
        rw [List.getElem_set_self, Nat.or_zero, List.set_set]
        exact hnocarry hcz
      · simp only [bne_iff_ne, ne_eq, hcz, not_false_eq_true, if_true]
        have hnext' : s.idx + 1 < (s.words.set s.idx C).length := by rw [hset]; exact hnext
        simp only [rd_ok hnext', wr_ok _ hnext']
        have hu : (s.words.set s.idx C)[s.idx + 1]'(by rw [hset]; exact hnext) = 0 := by
          rw [List.getElem_set_ne (by omega), ← getD_eq_getElem hnext]; exact h.above _ (by omega)
        rw [hu, Nat.zero_or]
        exact hdone ((s.words.set s.idx C).set (s.idx + 1) cy) (s.idx + 1) (by rw [List.length_set, hset])
          (fun k hk => by rw [getD_set_ne (by omega), getD_set_ne (by omega)])
          (by rw [getD_set_ne (by omega), getD_set_eq hlt])
          (fun k hk => by
            by_cases hk1 : k = s.idx + 1
            · rw [if_pos hk1, hk1, getD_set_eq hnext']
            · rw [if_neg hk1, getD_set_ne (by omega), getD_set_ne (by omega)]; exact h.above _ (by omega))
          (Or.inr ⟨rfl, hnext, hcz⟩)

theorem shiftLeft_spec {W : Nat} (s : Big) (offset : Nat) (h : Inv W s)
    (hfit : s.val W * 2 ^ offset < 2 ^ (W * s.words.length)) :
    ∃ s', shiftLeft W s offset = .ok s' ∧ Inv W s' ∧ s'.words.length = s.words.length ∧
      s'.val W = s.val W * 2 ^ offset := by
  unfold shiftLeft
  by_cases hge : offset ≥ W
  · rw [if_pos hge]
    dsimp only
    have hW := h.wpos
    have hlt := h.idx_lt
    have hmv : 0 < offset / W := Nat.div_pos hge hW
    have hdm := Nat.div_add_mod offset W
    have hoff : offset - offset / W * W = offset % W := by rw [Nat.mul_comm] at hdm; omega
    have hmodlt : offset % W < W := Nat.mod_lt _ hW
    have hmax : maxIndex s.words = s.words.length - 1 := rfl
    -- a non-zero value leaves room for the moved words
    have hroom : s.val W ≠ 0 → s.idx + offset / W < s.words.length := by
      intro hv0
      have hlow : 2 ^ (W * s.idx) ≤ s.val W := by
        by_cases hi : s.idx = 0
        · rw [hi]; simp; omega
        · exact h.le_val hi
      have e1 : 2 ^ (W * s.idx) * 2 ^ (W * (offset / W)) ≤ s.val W * 2 ^ offset := by
        apply Nat.mul_le_mul hlow
        apply Nat.pow_le_pow_right (by decide); omega
      rw [← Nat.pow_add, ← Nat.mul_add] at e1
      exact lt_of_pow_le_of_lt e1 hfit
    by_cases hover : s.idx + offset / W > maxIndex s.words
    · rw [if_pos hover]
      have hv0 : s.val W = 0 := by
        by_contra hne
        have := hroom hne
        rw [hmax] at hover; omega
      have hi0 : s.idx = 0 := by
        by_contra hne
        have := h.le_val hne
        have : 0 < 2 ^ (W * s.idx) := Nat.pow_pos (by decide)
        omega
      have hnot : ¬ (s.idx + offset / W - maxIndex s.words ≤ s.idx) := by rw [hmax] at hover ⊢; omega
      rw [if_neg hnot]
      obtain ⟨s', hrun, hinv, hl, hv⟩ := clear_spec (W := W) s h
      exact ⟨s', hrun, hinv, hl, by rw [hv, hv0]; simp⟩
    · rw [if_neg hover]
      have hfits : s.idx + offset / W < s.words.length := by rw [hmax] at hover; omega
      obtain ⟨s1, hrun1, hinv1, hl1, hv1⟩ := shlWords_spec s (offset / W) h hmv hfits
      rw [hoff]
      obtain ⟨s2, hrun2, hinv2, hl2, hv2⟩ := shlSmall_spec s1 (offset % W) hinv1 hmodlt (by
        rw [hv1, hl1, Nat.mul_assoc, ← Nat.pow_add, hdm]; exact hfit)
      refine ⟨s2, ?_, hinv2, by omega, ?_⟩
      · simp only [bind, Except.bind, hrun1]
        exact hrun2
      · rw [hv2, hv1, Nat.mul_assoc, ← Nat.pow_add, hdm]
  · rw [if_neg hge]
    exact shlSmall_spec s offset h (by omega) hfit

end Qentem.BigInt
