import Qentem.Model.Mem
/-! Helper lemmas for C14 (byte copy / zero fill): the block loop writes exactly the bytes it is meant to,
never fails inside the buffers and never touches anything else (`copySimd_eq`); the scalar tail is the
block loop with one-byte blocks and zero-fill is a copy from zeros, so the same lemma serves all four loops. -/
namespace Qentem.Mem

/-- Overwrite `blk.length` bytes of `d` at offset `o`. -/
def splice (d : List Nat) (o : Nat) (blk : List Nat) : List Nat :=
  d.take o ++ blk ++ d.drop (o + blk.length)

theorem splice_length (d : List Nat) (o : Nat) (x : List Nat) (h : o + x.length ≤ d.length) :
    (splice d o x).length = d.length := by
  simp only [splice, List.length_append, List.length_take, List.length_drop]; omega

theorem splice_splice (d : List Nat) (o : Nat) (x y : List Nat) (h : o + x.length + y.length ≤ d.length) :
    splice (splice d o x) (o + x.length) y = splice d o (x ++ y) := by
  unfold splice
  have h1 : (d.take o).length = o := by rw [List.length_take]; omega
  have e1 : (d.take o ++ x ++ d.drop (o + x.length)).take (o + x.length) = d.take o ++ x := by
    rw [List.take_append_of_le_length (by simp; omega)]
    rw [List.take_of_length_le (by simp; omega)]
  have e2 : (d.take o ++ x ++ d.drop (o + x.length)).drop (o + x.length + y.length) = d.drop (o + (x ++ y).length) := by
    rw [List.drop_append]
    have : (d.take o ++ x).length = o + x.length := by rw [List.length_append, h1]
    rw [List.drop_of_length_le (by omega), this]
    simp [List.drop_drop]
    congr 1; omega
  rw [e1, e2]; simp

theorem splice_nil (d : List Nat) (o : Nat) : splice d o [] = d := by
  simp [splice]

theorem take_drop_add (s : List Nat) (o b m : Nat) :
    (s.drop o).take b ++ (s.drop (o + b)).take m = (s.drop o).take (b + m) := by
  rw [List.take_add, List.drop_drop]

theorem copySimd_eq (b : Nat) (src : List Nat) : ∀ (n off : Nat) (dst : List Nat),
    off + n * b ≤ src.length → off + n * b ≤ dst.length →
    copySimd b n off dst src = some (splice dst off ((src.drop off).take (n * b))) := by
  intro n
  induction n with
  | zero => intro off dst _ _; simp [copySimd, splice_nil]
  | succ n ih =>
    intro off dst hs hd
    have hb : off + b + n * b ≤ src.length := by rw [Nat.succ_mul] at hs; omega
    have hb' : off + b + n * b ≤ dst.length := by rw [Nat.succ_mul] at hd; omega
    have hl : ((src.drop off).take b).length = b := by rw [List.length_take, List.length_drop]; omega
    have hload : loadBlock src off b = some ((src.drop off).take b) := by
      simp [loadBlock]; omega
    have hstore : storeBlock dst off ((src.drop off).take b) = some (splice dst off ((src.drop off).take b)) := by
      simp only [storeBlock, hl, splice]; rw [if_pos (by omega)]
    simp only [copySimd, hload, hstore]
    rw [ih (off + b) _ hb (by rw [splice_length _ _ _ (by omega)]; exact hb')]
    have h2 : ((src.drop (off + b)).take (n * b)).length = n * b := by
      rw [List.length_take, List.length_drop]; omega
    have := splice_splice dst off ((src.drop off).take b) ((src.drop (off + b)).take (n * b)) (by omega)
    rw [hl] at this
    rw [this, take_drop_add, Nat.succ_mul, Nat.add_comm b]

theorem storeByte_eq_storeBlock (dst : List Nat) (off v : Nat) : storeByte dst off v = storeBlock dst off [v] := by
  simp only [storeByte, storeBlock, List.length_cons, List.length_nil, Nat.zero_add, Nat.add_one_le_iff]
  split
  · next h => rw [List.set_eq_take_append_cons_drop, if_pos h]; simp
  · rfl

theorem copyTail_eq_copySimd (src : List Nat) : ∀ (n off : Nat) (dst : List Nat),
    copyTail n off dst src = copySimd 1 n off dst src
  | 0, _, _ => rfl
  | n + 1, off, dst => by
    unfold copyTail copySimd loadBlock
    by_cases h : off < src.length
    · rw [List.getElem?_eq_getElem h, if_pos (Nat.succ_le_of_lt h)]
      simp only [storeByte_eq_storeBlock, List.take_one, List.head?_drop, List.getElem?_eq_getElem h, Option.toList_some,
        copyTail_eq_copySimd src n]
    · rw [List.getElem?_eq_none (by omega), if_neg (by omega)]

theorem take_drop_zeros (N off m : Nat) (h : off + m ≤ N) : ((List.replicate N 0).drop off).take m = List.replicate m 0 := by
  rw [List.drop_replicate, List.take_replicate, Nat.min_eq_left (by omega)]

theorem zeroSimd_eq_copySimd (b N : Nat) : ∀ (n off : Nat) (dst : List Nat), off + n * b ≤ N →
    zeroSimd b n off dst = copySimd b n off dst (List.replicate N 0)
  | 0, _, _, _ => rfl
  | n + 1, off, dst, h => by
    have hb : off + b + n * b ≤ N := by rw [Nat.succ_mul] at h; omega
    unfold zeroSimd copySimd loadBlock
    rw [if_pos (by simp; omega), take_drop_zeros N off b (by omega)]
    simp only [zeroSimd_eq_copySimd b N n (off + b) _ hb]

theorem zeroTail_eq_copySimd (N : Nat) : ∀ (n off : Nat) (dst : List Nat), off + n ≤ N →
    zeroTail n off dst = copySimd 1 n off dst (List.replicate N 0)
  | 0, _, _, _ => rfl
  | n + 1, off, dst, h => by
    unfold zeroTail copySimd loadBlock
    rw [if_pos (by simp; omega), take_drop_zeros N off 1 (by omega)]
    simp only [storeByte_eq_storeBlock, List.replicate_one, zeroTail_eq_copySimd N n (off + 1) _ (by omega)]

theorem splice_zero_take (dst src : List Nat) (size : Nat) (hs : size ≤ src.length) :
    splice dst 0 (src.take size) = copySpec size dst src := by
  have : (src.take size).length = size := by simp; omega
  simp [splice, copySpec, this]

theorem copy_core (b m size : Nat) (dst src : List Nat) (hs : size ≤ src.length) (hd : size ≤ dst.length)
    (hmb : m * b ≤ size) :
    (match copySimd b m 0 dst src with
      | none => none
      | some d1 => copyTail (size - m * b) (m * b) d1 src) = some (copySpec size dst src) := by
  rw [copySimd_eq b src m 0 dst (by omega) (by omega)]
  simp only [List.drop_zero]
  have hl : (src.take (m * b)).length = m * b := by rw [List.length_take]; omega
  rw [copyTail_eq_copySimd, copySimd_eq 1 src _ _ _ (by omega) (by rw [splice_length _ _ _ (by omega)]; omega), Nat.mul_one]
  have h1 := splice_splice dst 0 (src.take (m * b)) ((src.drop (m * b)).take (size - m * b)) (by
    rw [hl]; simp; omega)
  rw [hl, Nat.zero_add] at h1
  have h2 := take_drop_add src 0 (m * b) (size - m * b)
  rw [Nat.zero_add, List.drop_zero, Nat.add_sub_cancel' hmb] at h2
  rw [h1, h2, splice_zero_take dst src size hs]

/-- The case `src = zeros` of `copy_core`. -/
theorem zero_core (b m size : Nat) (dst : List Nat) (hd : size ≤ dst.length) (hmb : m * b ≤ size) :
    (match zeroSimd b m 0 dst with
      | none => none
      | some d1 => zeroTail (size - m * b) (m * b) d1) = some (zeroSpec size dst) := by
  have h := copy_core b m size dst (List.replicate size 0) (by simp) hd hmb
  rw [← zeroSimd_eq_copySimd b size m 0 dst (by omega)] at h
  cases hz : zeroSimd b m 0 dst with
  | none => rw [hz] at h; cases h
  | some d1 =>
    rw [hz] at h
    simp only [copyTail_eq_copySimd] at h
    rw [← zeroTail_eq_copySimd size (size - m * b) (m * b) d1 (by omega)] at h
    simpa [copySpec, zeroSpec] using h

theorem simd_guard (b m : Nat) (dst src : List Nat) :
    (if (m != 0) = true then copySimd b m 0 dst src else some dst) = copySimd b m 0 dst src := by
  cases m <;> simp [copySimd]

theorem zero_guard (b m : Nat) (dst : List Nat) :
    (if (m != 0) = true then zeroSimd b m 0 dst else some dst) = zeroSimd b m 0 dst := by
  cases m <;> simp [zeroSimd]

theorem blocks_le (size shift : Nat) : (size >>> shift) <<< shift ≤ size := by
  rw [Nat.shiftRight_eq_div_pow, Nat.shiftLeft_eq]
  exact Nat.div_mul_le_self size (2 ^ shift)

end Qentem.Mem
