/-!
# Words at positions

`At c p w`: the units of `w` stand in the content `c` from position `p` on (`At.iff_get`: `w` fits and is met
unit by unit).  Every model that reads a `List Nat` content by index is followed through it: the expression
scanner on printed expressions, the template parser and renderer on printed templates.  What a scanner meets where
a known text stands is said through `At.get` (one unit), `At.left` / `At.right` (the parts of a text),
`At.take_drop` (the text cut out again).  `takeWhile_run`, at the end, is the same fact for the list functions the
reference readers of numerals and paths use: `takeWhile` / `dropWhile` over a run of units.
-/
namespace Qentem.Tmpl

def At (c : List Nat) (p : Nat) (w : List Nat) : Prop := ∃ A B, c = A ++ (w ++ B) ∧ A.length = p

theorem At.of_eq {c A w B : List Nat} (h : c = A ++ (w ++ B)) : At c A.length w := ⟨A, B, h, rfl⟩

theorem At.of_split {c A u v B : List Nat} (h : c = A ++ (u ++ (v ++ B))) : At c A.length (u ++ v) :=
  ⟨A, B, by rw [h, List.append_assoc], rfl⟩

theorem At.left {c u v : List Nat} {p : Nat} (h : At c p (u ++ v)) : At c p u := by
  obtain ⟨A, B, hc, hA⟩ := h
  exact ⟨A, v ++ B, by rw [hc, List.append_assoc], hA⟩

theorem At.right {c u v : List Nat} {p : Nat} (h : At c p (u ++ v)) : At c (p + u.length) v := by
  obtain ⟨A, B, hc, hA⟩ := h
  exact ⟨A ++ u, B, by rw [hc, List.append_assoc, List.append_assoc], by rw [List.length_append, hA]⟩

theorem At.tail {c w : List Nat} {p x : Nat} (h : At c p (x :: w)) : At c (p + 1) w := At.right (u := [x]) h

theorem At.append {c u v : List Nat} {p : Nat} (h1 : At c p u) (h2 : At c (p + u.length) v) : At c p (u ++ v) := by
  obtain ⟨A, B, hc, hA⟩ := h1
  obtain ⟨A', B', hc', hA'⟩ := h2
  have h : (A ++ u) ++ B = A' ++ (v ++ B') := by rw [List.append_assoc, ← hc, ← hc']
  have hB := (List.append_inj h (by rw [List.length_append, hA, hA'])).2
  exact ⟨A, B', by rw [hc, hB, List.append_assoc], hA⟩

theorem At.cast {c w : List Nat} {p q : Nat} (h : At c p w) (hq : p = q) : At c q w := hq ▸ h

theorem At.nil {c w : List Nat} {p : Nat} (h : At c p w) : At c p [] := At.left (u := []) h

theorem At.nil_end {c w : List Nat} {p : Nat} (h : At c p w) : At c (p + w.length) [] :=
  At.right (v := []) (by rwa [List.append_nil])

theorem At.getElem {c w : List Nat} {p : Nat} (h : At c p w) (i : Nat) (hi : i < w.length) :
    c[p + i]? = some w[i] := by
  obtain ⟨A, B, rfl, rfl⟩ := h
  rw [List.getElem?_append_right (Nat.le_add_right _ _), Nat.add_sub_cancel_left,
    List.getElem?_append_left hi, List.getElem?_eq_getElem hi]

theorem At.get {c w : List Nat} {p : Nat} (h : At c p w) (i : Nat) (hi : i < w.length) : c[p + i]? = w[i]? :=
  (h.getElem i hi).trans (List.getElem?_eq_getElem hi).symm

theorem At.get? {c w : List Nat} {p i x : Nat} (h : At c p w) (hx : w[i]? = some x) : c[p + i]? = some x := by
  obtain ⟨hi, rfl⟩ := List.getElem?_eq_some_iff.1 hx
  exact h.getElem i hi

theorem At.head {c w : List Nat} {p x : Nat} (h : At c p (x :: w)) : c[p]? = some x := h.get 0 (Nat.zero_lt_succ _)

theorem At.le {c w : List Nat} {p : Nat} (h : At c p w) : p + w.length ≤ c.length := by
  obtain ⟨A, B, rfl, rfl⟩ := h
  simp only [List.length_append]; omega

theorem At.all {c w : List Nat} {p : Nat} {P : Nat → Prop} (h : At c p w) (hw : ∀ x ∈ w, P x) (i : Nat) (hi : i < w.length) :
    ∃ x, c[p + i]? = some x ∧ P x :=
  ⟨w[i], h.getElem i hi, hw _ (List.getElem_mem hi)⟩

theorem At.take_drop {c w : List Nat} {p : Nat} (h : At c p w) : (c.drop p).take w.length = w := by
  obtain ⟨A, B, rfl, rfl⟩ := h
  rw [List.drop_left, List.take_left]

theorem At.of_take_drop {c : List Nat} {p n : Nat} (h : p + n ≤ c.length) : At c p ((c.drop p).take n) :=
  ⟨c.take p, (c.drop p).drop n, by rw [List.take_append_drop, List.take_append_drop],
    by rw [List.length_take]; omega⟩

theorem At.iff_get {c w : List Nat} {p : Nat} :
    At c p w ↔ p + w.length ≤ c.length ∧ ∀ i (hi : i < w.length), c[p + i]? = some w[i] := by
  refine ⟨fun h => ⟨h.le, h.getElem⟩, fun ⟨hle, hg⟩ => ⟨c.take p, c.drop (p + w.length), ?_, ?_⟩⟩
  · have hs : (c.drop p).take w.length = w := by
      apply List.ext_getElem?
      intro i
      rw [List.getElem?_take, List.getElem?_drop]
      by_cases hi : i < w.length
      · rw [if_pos hi, hg i hi, List.getElem?_eq_getElem hi]
      · rw [if_neg hi, List.getElem?_eq_none (Nat.le_of_not_lt hi)]
    have h1 : c.drop p = w ++ c.drop (p + w.length) := by
      have h := (List.take_append_drop w.length (c.drop p)).symm
      rwa [hs, List.drop_drop] at h
    exact (List.take_append_drop p c).symm.trans (by rw [h1])
  · rw [List.length_take]; omega

end Qentem.Tmpl

namespace Qentem

theorem takeWhile_run {α : Type} (p : α → Bool) (l rest : List α) (hl : ∀ y ∈ l, p y = true)
    (hr : ∀ x, rest.head? = some x → p x = false) :
    (l ++ rest).takeWhile p = l ∧ (l ++ rest).dropWhile p = rest := by
  rw [List.takeWhile_append_of_pos hl, List.dropWhile_append_of_pos hl]
  cases rest with
  | nil => exact ⟨by rw [List.takeWhile_nil, List.append_nil], rfl⟩
  | cons x r =>
    have hx := hr x rfl
    exact ⟨by rw [List.takeWhile_cons, hx]; exact List.append_nil l, by rw [List.dropWhile_cons, hx]; rfl⟩

theorem takeWhile_all {α : Type} (p : α → Bool) (l : List α) (hl : ∀ y ∈ l, p y = true) :
    l.takeWhile p = l ∧ l.dropWhile p = [] := by
  have h := takeWhile_run p l [] hl (fun _ h => nomatch h)
  rwa [List.append_nil] at h

end Qentem
