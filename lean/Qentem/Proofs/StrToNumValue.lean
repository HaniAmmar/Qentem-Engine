import Qentem.Proofs.NumToStrMargin
import Qentem.Proofs.StrToNumRatClose
/-! C09/C11 — the parser's specification read in ℚ (the ratio of `roundPair`), and for
floats from "pattern within one of `nearestMag`" to a statement about values: the double whose
magnitude pattern is within one of the correctly rounded pattern of `n/d` (well inside the normal range) is within
`3·2^-52·(n/d)` of `n/d`. -/
namespace Qentem.Proofs.Ident
open Qentem.Round

theorem roundPair_ratio (n d : Nat) :
    ((roundPair n d).1 : ℚ) / (roundPair n d).2 = (n : ℚ) / d / 2 ^ (binadeExp n d - 52) := by
  obtain ⟨N, D, -, -, hv, hf⟩ := scale_cases Prod.mk n d 2 (by decide) (binadeExp n d - 52)
  rw [Nat.cast_ofNat] at hv
  unfold roundPair
  rw [hf]
  exact hv

end Qentem.Proofs.Ident

namespace Qentem.StrToNum
open Qentem.Round Qentem.Proofs.Ident

theorem pattern_fields (σ e g : Nat) (hσ : σ ≤ 1) (he : e < 2 ^ 11) (hg : g < 2 ^ 52) :
    (σ * 2 ^ 63 + (e * 2 ^ 52 + g)) % 2 ^ 52 = g ∧ ((σ * 2 ^ 63 + (e * 2 ^ 52 + g)) / 2 ^ 52) % 2 ^ 11 = e ∧
    ((σ * 2 ^ 63 + (e * 2 ^ 52 + g)) / 2 ^ (52 + 11)) % 2 = σ := by
  have hform : σ * 2 ^ 63 + (e * 2 ^ 52 + g) = g + 2 ^ 52 * (e + 2 ^ 11 * σ) := by
    rw [show (2 : Nat) ^ 63 = 2 ^ 52 * 2 ^ 11 by rw [← Nat.pow_add]]; ring
  have hdiv : (σ * 2 ^ 63 + (e * 2 ^ 52 + g)) / 2 ^ 52 = e + 2 ^ 11 * σ := by
    rw [hform, Nat.add_mul_div_left _ _ (Nat.pow_pos (by decide)), Nat.div_eq_of_lt hg, Nat.zero_add]
  refine ⟨?_, ?_, ?_⟩
  · rw [hform, Nat.add_mul_mod_self_left, Nat.mod_eq_of_lt hg]
  · rw [hdiv, Nat.add_mul_mod_self_left, Nat.mod_eq_of_lt he]
  · rw [Nat.pow_add, ← Nat.div_div_eq_div_mul, hdiv, Nat.add_mul_div_left _ _ (Nat.pow_pos (by decide)),
      Nat.div_eq_of_lt he, Nat.zero_add]
    omega

/-- the value of a normal pattern written as `e·2^52 + g` with `0 ≤ g ≤ 2^52` (the carry `g = 2^52` included) -/
theorem val_repr (neg : Bool) (e g : Nat) (he : 1 ≤ e) (he' : e ≤ 2045) (hg : g ≤ 2 ^ 52) :
    ∃ rn rd : Nat, FmtSpec.decode64 ((if neg then 2 ^ 63 else 0) + (e * 2 ^ 52 + g)) = .fin neg rn rd ∧ 0 < rd ∧
      (rn : ℚ) / rd = ((2 : ℚ) ^ 52 + g) * 2 ^ ((e : Int) - 1075) := by
  -- reduce to g < 2^52
  have main : ∀ (e g : Nat), 1 ≤ e → e ≤ 2046 → g < 2 ^ 52 →
      ∃ rn rd : Nat, FmtSpec.decode64 ((if neg then 2 ^ 63 else 0) + (e * 2 ^ 52 + g)) = .fin neg rn rd ∧ 0 < rd ∧
        (rn : ℚ) / rd = ((2 : ℚ) ^ 52 + g) * 2 ^ ((e : Int) - 1075) := by
    intro e g he he' hg
    obtain ⟨σ, hσ, hσe, hσn⟩ : ∃ σ : Nat, σ ≤ 1 ∧ (if neg then 2 ^ 63 else 0) = σ * 2 ^ 63 ∧ (decide (σ = 1) = neg) := by
      cases neg
      · exact ⟨0, by omega, by simp, by simp⟩
      · exact ⟨1, by omega, by simp, by simp⟩
    obtain ⟨f1, f2, f3⟩ := pattern_fields σ e g hσ (by omega) hg
    rw [hσe]
    obtain ⟨rn, rd, hdec, -, hrd, hv, -⟩ := decode_fin 52 11 (σ * 2 ^ 63 + (e * 2 ^ 52 + g)) (by rw [f2]; omega)
      (Or.inl (by rw [f2]; omega))
    refine ⟨rn, rd, by rw [show FmtSpec.decode64 _ = FmtSpec.decode 52 11 _ from rfl, hdec, f3, hσn], hrd, ?_⟩
    rw [hv]
    unfold magQ ulpExp sigField expField
    rw [f1, f2, if_neg (by omega), if_neg (by omega)]
    push_cast
    congr 2
    ring
  rcases Nat.lt_or_ge g (2 ^ 52) with h | h
  · exact main e g he (by omega) h
  · have hg' : g = 2 ^ 52 := by omega
    subst hg'
    obtain ⟨rn, rd, h1, h2, h3⟩ := main (e + 1) 0 (by omega) (by omega) (Nat.pow_pos (by decide))
    refine ⟨rn, rd, ?_, h2, ?_⟩
    · have e1 : (e + 1) * 2 ^ 52 + 0 = e * 2 ^ 52 + 2 ^ 52 := by rw [Nat.add_mul, Nat.one_mul, Nat.add_zero]
      rw [e1] at h1; exact h1
    · rw [h3, two_zpow_pred (((e + 1 : Nat) : Int) - 1075)]
      push_cast
      ring_nf

/-- the values of a normal pattern `e·2^52 + g` (carry `g = 2^52` included) and of its two neighbours, in units of
its last place: the pattern above is one unit up (two across a binade boundary), the one below one unit down (half
a unit below a power of two) -/
theorem neighbour_value (neg : Bool) (e g p : Nat) (he : 2 ≤ e) (he' : e ≤ 2044) (hg : g ≤ 2 ^ 52)
    (hp : ulpDist p (e * 2 ^ 52 + g) ≤ 1) :
    ∃ (rn rd : Nat) (δ : ℚ), FmtSpec.decode64 ((if neg then 2 ^ 63 else 0) + p) = .fin neg rn rd ∧ 0 < rd ∧
      (rn : ℚ) / rd = ((2 : ℚ) ^ 52 + g + δ) * 2 ^ ((e : Int) - 1075) ∧ |δ| ≤ 2 := by
  have hz1 : (2 : ℚ) ^ (((e + 1 : Nat) : Int) - 1075) = 2 * 2 ^ ((e : Int) - 1075) := by
    rw [two_zpow_pred]; congr 2; push_cast; ring
  have hzm : (2 : ℚ) ^ ((e : Int) - 1075) = 2 * 2 ^ (((e - 1 : Nat) : Int) - 1075) := by
    rw [two_zpow_pred]; congr 2; omega
  unfold ulpDist at hp
  have hpc : p = e * 2 ^ 52 + g ∨ p = e * 2 ^ 52 + g + 1 ∨ p + 1 = e * 2 ^ 52 + g := by
    split at hp <;> omega
  rcases hpc with rfl | rfl | hpe
  · obtain ⟨rn, rd, h1, h2, h3⟩ := val_repr neg e g (by omega) (by omega) hg
    exact ⟨rn, rd, 0, h1, h2, by rw [h3, add_zero], by norm_num⟩
  · rcases Nat.lt_or_ge g (2 ^ 52) with hlt | hge
    · obtain ⟨rn, rd, h1, h2, h3⟩ := val_repr neg e (g + 1) (by omega) (by omega) (by omega)
      rw [Nat.add_assoc]
      exact ⟨rn, rd, 1, h1, h2, by rw [h3]; push_cast; ring, by norm_num⟩
    · obtain ⟨rn, rd, h1, h2, h3⟩ := val_repr neg (e + 1) 1 (by omega) (by omega) Nat.one_le_two_pow
      have hg' : g = 2 ^ 52 := by omega
      have : e * 2 ^ 52 + g + 1 = (e + 1) * 2 ^ 52 + 1 := by rw [hg', Nat.add_mul, Nat.one_mul]
      rw [this]
      exact ⟨rn, rd, 2, h1, h2, by rw [h3, hz1, hg']; push_cast; ring, by norm_num⟩
  · rcases Nat.eq_zero_or_pos g with hz | hpos
    · obtain ⟨rn, rd, h1, h2, h3⟩ := val_repr neg (e - 1) (2 ^ 52 - 1) (by omega) (by omega) (by omega)
      have : p = (e - 1) * 2 ^ 52 + (2 ^ 52 - 1) := by
        have : e * 2 ^ 52 = (e - 1) * 2 ^ 52 + 2 ^ 52 := by
          rw [← Nat.succ_mul, Nat.succ_eq_add_one, Nat.sub_add_cancel (by omega)]
        omega
      rw [← this] at h1
      refine ⟨rn, rd, -(1 / 2), h1, h2, ?_, by norm_num⟩
      rw [h3, hzm, hz, Nat.cast_sub Nat.one_le_two_pow]
      push_cast; ring
    · obtain ⟨rn, rd, h1, h2, h3⟩ := val_repr neg e (g - 1) (by omega) (by omega) (by omega)
      have : p = e * 2 ^ 52 + (g - 1) := by omega
      rw [← this] at h1
      refine ⟨rn, rd, -1, h1, h2, ?_, by norm_num⟩
      rw [h3, Nat.cast_sub hpos]
      push_cast; ring

/-- **from patterns to values**: if the magnitude pattern `p` is within one of the correctly rounded pattern of `n/d`
and `2^-200 ≤ n/d < 2^200`, the double `sign + p` is finite, has the sign, and its value is within `3·2^-52·(n/d)`
of `n/d` (half an ulp for the rounding, at most two ulps of the lower binade for the neighbour) -/
theorem close_value (neg : Bool) (n d p : Nat) (hn : 0 < n) (hd : 0 < d)
    (hlo : (2 : ℚ) ^ (-200 : Int) ≤ (n : ℚ) / d) (hhi : (n : ℚ) / d < 2 ^ (200 : Int))
    (hp : ulpDist p (nearestMag n d) ≤ 1) :
    ∃ rn rd : Nat, FmtSpec.decode64 ((if neg then 2 ^ 63 else 0) + p) = .fin neg rn rd ∧ 0 < rd ∧
      |(rn : ℚ) / rd - (n : ℚ) / d| ≤ 3 * 2 ^ (-52 : Int) * ((n : ℚ) / d) := by
  obtain ⟨hs1, hs2⟩ := floorLog2Frac_spec n d hn hd
  have hE1 : floorLog2Frac n d < 200 :=
    (zpow_lt_zpow_iff_right₀ (by norm_num : (1 : ℚ) < 2)).mp (lt_of_le_of_lt hs1 hhi)
  have hE2 : -200 < floorLog2Frac n d + 1 :=
    (zpow_lt_zpow_iff_right₀ (by norm_num : (1 : ℚ) < 2)).mp (lt_of_le_of_lt hlo hs2)
  have hbin : binadeExp n d = floorLog2Frac n d := by unfold binadeExp; rw [if_neg (by omega)]
  have hBpos := roundPair_pos n d hd
  have hAB := roundPair_ratio n d
  have hmag := nearestMag_pair n d hn hd
  have hr := rne_close (roundPair n d).1 (roundPair n d).2 hBpos
  rw [hbin] at hAB hmag
  generalize floorLog2Frac n d = E at *
  generalize (roundPair n d).1 = A at *
  generalize (roundPair n d).2 = B at *
  generalize rne A B = r at *
  clear hlo hhi hbin hBpos hn
  -- the unit of the binade, and `A/B = (n/d)/u` in `[2^52, 2^53)`
  have hupos : (0 : ℚ) < 2 ^ (E - 52) := by positivity
  have hnd : (n : ℚ) / d = (A : ℚ) / B * 2 ^ (E - 52) := by rw [hAB, div_mul_cancel₀ _ (ne_of_gt hupos)]
  have hq1 : (2 : ℚ) ^ 52 ≤ (A : ℚ) / B := by
    rw [hAB, le_div_iff₀ hupos, ← zpow_natCast, ← zpow_add₀ (by norm_num)]
    exact le_of_eq_of_le (by congr 1; push_cast; ring) hs1
  have hq2 : (A : ℚ) / B < 2 ^ 53 := by
    rw [hAB, div_lt_iff₀ hupos, ← zpow_natCast, ← zpow_add₀ (by norm_num)]
    exact lt_of_lt_of_eq hs2 (by congr 1; push_cast; ring)
  rw [hnd]
  clear hnd hAB hs1 hs2
  generalize (A : ℚ) / B = q at *
  generalize hu : (2 : ℚ) ^ (E - 52) = u at *
  have hr' := abs_le.mp hr
  have hrlo : 2 ^ 52 ≤ r := natCast_le_of_lt_add_one (by push_cast; linarith only [hr'.1, hq1])
  have hrhi : r ≤ 2 ^ 53 := natCast_le_of_lt_add_one (by push_cast; linarith only [hr'.2, hq2])
  obtain ⟨g0, rfl⟩ : ∃ g0, r = 2 ^ 52 + g0 := ⟨r - 2 ^ 52, by omega⟩
  -- the correctly rounded pattern, with the biased exponent `e1` of the binade
  obtain ⟨e1, he1⟩ : ∃ e1 : Nat, (e1 : Int) = E + 1023 := ⟨(E + 1023).toNat, by omega⟩
  have hcap : nearestMag n d = e1 * 2 ^ 52 + g0 := by
    rw [hmag, show (E + 1022).toNat = e1 - 1 by omega]
    unfold cap infBits
    have h1 : (e1 - 1) * 2 ^ 52 ≤ 1221 * 2 ^ 52 := Nat.mul_le_mul_right _ (by omega)
    have h2 : e1 * 2 ^ 52 = (e1 - 1) * 2 ^ 52 + 2 ^ 52 := by
      rw [← Nat.succ_mul, Nat.succ_eq_add_one, Nat.sub_add_cancel (by omega)]
    rw [if_neg (by omega), h2, Nat.add_assoc]
  rw [hcap] at hp
  obtain ⟨rn, rd, δ, h1, h2, h3, h4⟩ := neighbour_value neg e1 g0 p (by omega) (by omega) (by omega) hp
  refine ⟨rn, rd, h1, h2, ?_⟩
  rw [h3, show (e1 : Int) - 1075 = E - 52 by rw [he1]; ring, hu]
  rw [Nat.cast_add, Nat.cast_pow, Nat.cast_ofNat] at hr
  have hdiff : |((2 : ℚ) ^ 52 + g0 + δ) * u - q * u| ≤ 3 * u := by
    rw [← sub_mul, abs_mul, abs_of_pos hupos]
    refine mul_le_mul_of_nonneg_right ?_ hupos.le
    calc |(2 : ℚ) ^ 52 + g0 + δ - q| = |((2 : ℚ) ^ 52 + g0 - q) + δ| := by congr 1; ring
      _ ≤ |(2 : ℚ) ^ 52 + g0 - q| + |δ| := abs_add_le _ _
      _ ≤ 3 := le_trans (add_le_add hr h4) (by norm_num)
  refine hdiff.trans ?_
  calc 3 * u = 3 * 2 ^ (-52 : Int) * (2 ^ 52 * u) := by
        rw [zpow_neg, zpow_ofNat, mul_assoc, inv_mul_cancel_left₀ (by positivity)]
    _ ≤ 3 * 2 ^ (-52 : Int) * (q * u) :=
        mul_le_mul_of_nonneg_left (mul_le_mul_of_nonneg_right hq1 hupos.le) (by positivity)

end Qentem.StrToNum
