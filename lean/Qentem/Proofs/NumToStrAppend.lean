import Qentem.Model.NumToStr
/-! Helper lemmas for C10 (append-only): every block of the real-number path leaves the first
`started_at` units of the stream untouched. -/
namespace Qentem.Proofs.NumToStr
open Qentem.NumToStr Qentem.Generated.NumToStr Qentem

/-- `s'` still starts with the first `start` units of `s` -/
def Ext (start : Nat) (s s' : List Nat) : Prop := start ≤ s'.length ∧ s'.take start = s.take start

theorem Ext.refl {start : Nat} {s : List Nat} (h : start ≤ s.length) : Ext start s s := ⟨h, rfl⟩

theorem Ext.trans {start : Nat} {a b c : List Nat} (h1 : Ext start a b) (h2 : Ext start b c) : Ext start a c :=
  ⟨h2.1, h2.2.trans h1.2⟩

theorem Ext.exists_append {pre out : List Nat} (h : Ext pre.length pre out) : ∃ text, out = pre ++ text := by
  have h2 : out.take pre.length = pre.take pre.length := h.2
  rw [List.take_length] at h2
  exact ⟨out.drop pre.length, (List.take_append_drop pre.length out).symm.trans (by rw [h2])⟩

theorem ext_append {start : Nat} {s : List Nat} (l : List Nat) (h : start ≤ s.length) : Ext start s (s ++ l) :=
  ⟨by simp; omega, List.take_append_of_le_length h⟩

theorem ext_append' {start : Nat} {s0 s : List Nat} (l : List Nat) (h0 : Ext start s0 s) : Ext start s0 (s ++ l) :=
  h0.trans (ext_append l h0.1)
theorem ext_cons_append' {start : Nat} {s0 s : List Nat} (a : Nat) (l : List Nat) (h0 : Ext start s0 s) : Ext start s0 (s ++ a :: l) :=
  h0.trans (ext_append _ h0.1)

/-! ### computations that keep the prefix

The proofs below follow the control structure of each block of the model: `ite` at a branch, `bind` after a step
that returns a stream, `bind'` after one that does not (a table read, a checked subtraction), `pure` at a leaf. -/

/-- whenever `m` returns, the stream in its result (`proj`) still starts with the first `start` units of `s0` -/
def Keeps {α : Type} (start : Nat) (s0 : List Nat) (proj : α → List Nat) (m : M α) : Prop :=
  ∀ r, m = .ok r → Ext start s0 (proj r)

namespace Keeps
variable {α β : Type} {start : Nat} {s0 : List Nat} {proj : α → List Nat}

theorem pure {a : α} (h : Ext start s0 (proj a)) : Keeps start s0 proj (Pure.pure a : M α) := by
  intro r hr; cases hr; exact h

theorem throw {e : Fault} : Keeps start s0 proj (MonadExcept.throw e : M α) := by
  intro r hr; cases hr

theorem ite {c : Prop} [Decidable c] {a b : M α} (ha : Keeps start s0 proj a) (hb : Keeps start s0 proj b) :
    Keeps start s0 proj (if c then a else b) := by
  split
  · exact ha
  · exact hb

theorem bind {m : M β} {f : β → M α} {q : β → List Nat} (hm : Keeps start s0 q m)
    (hf : ∀ b, Ext start s0 (q b) → Keeps start s0 proj (f b)) : Keeps start s0 proj (m >>= f) := by
  intro r hr
  cases hmb : m with
  | error e => rw [hmb] at hr; cases hr
  | ok b => rw [hmb] at hr; exact hf b (hm b hmb) r hr

theorem bind' {m : M β} {f : β → M α} (hf : ∀ b, Keeps start s0 proj (f b)) : Keeps start s0 proj (m >>= f) := by
  intro r hr
  cases hmb : m with
  | error e => rw [hmb] at hr; cases hr
  | ok b => rw [hmb] at hr; exact hf b r hr

end Keeps

variable {start : Nat} {s0 s : List Nat}

theorem wrAt_keeps {i v : Nat} (h0 : Ext start s0 s) : Keeps start s0 id (wrAt start s i v) := by
  intro s' h
  refine h0.trans (?_ : Ext start s s')
  have hs := h0.1
  unfold wrAt at h
  split at h
  · cases h
  · split at h
    · cases h
      exact ⟨by simpa using hs, List.take_set_of_le (by omega)⟩
    · cases h

theorem insertAt_keeps {ch i : Nat} (h0 : Ext start s0 s) : Keeps start s0 id (insertAt start s ch i) := by
  intro s' h
  refine h0.trans (?_ : Ext start s s')
  have hs := h0.1
  unfold insertAt at h
  split at h
  · cases h
  · split at h
    · cases h
      refine ⟨by simp; omega, ?_⟩
      rw [List.take_append_of_le_length (by simp; omega), List.take_take, Nat.min_eq_left (by omega)]
    · cases h; exact Ext.refl hs

theorem stepBack_keeps {len : Nat} (h0 : Ext start s0 s) : Keeps start s0 id (stepBack start s len) := by
  intro s' h
  refine h0.trans (?_ : Ext start s s')
  have hs := h0.1
  unfold stepBack at h
  split at h
  · split at h
    · cases h
      refine ⟨by simp; omega, ?_⟩
      rw [List.take_take, Nat.min_eq_left (by omega)]
    · cases h
  · cases h; exact Ext.refl hs

theorem ext_ite {c : Prop} [Decidable c] {a b : List Nat} (ha : Ext start s0 a) (hb : Ext start s0 b) :
    Ext start s0 (if c then a else b) := by
  split
  · exact ha
  · exact hb

theorem reverseFrom_ext' (h0 : Ext start s0 s) : Ext start s0 (reverseFrom s start) := by
  refine h0.trans ?_
  have hs := h0.1
  unfold reverseFrom
  refine ⟨by simp; omega, ?_⟩
  rw [List.take_append_of_le_length (by simp; omega), List.take_take, Nat.min_self]

theorem roundCarry_keeps {index : Nat} (h0 : Ext start s0 s) : Keeps start s0 (·.1) (roundCarry start s index) :=
  .ite (.pure (ext_append' _ h0)) (.bind' fun _ =>
    .ite (.bind (wrAt_keeps h0) fun _ h => .pure h) (.bind (wrAt_keeps h0) fun _ h => .pure h))

theorem roundStringNumber_keeps {index : Nat} {ru : Bool} (h0 : Ext start s0 s) :
    Keeps start s0 (·.1) (roundStringNumber start s index ru) :=
  .bind' fun _ => .ite (roundCarry_keeps h0) (.pure h0)

theorem restoreZeros_keeps : ∀ (zeros : Nat) {s : List Nat} {index : Nat}, Ext start s0 s →
    Keeps start s0 (·.1) (restoreZeros start zeros s index)
  | 0, _, _, h0 => .pure h0
  | z + 1, _, _, h0 => .bind' fun _ => .bind (wrAt_keeps h0) fun _ h => restoreZeros_keeps z h

theorem intToString_keeps {bytes raw : Nat} {sg : Bool} (h0 : Ext start s0 s) :
    Keeps start s0 id (intToString s bytes sg raw) :=
  .ite (.bind' fun _ => .pure (ext_cons_append' _ _ h0)) (.bind' fun _ => .pure (ext_append' _ h0))

theorem insertPowerOfTen_keeps {power : Nat} {positive : Bool} (h0 : Ext start s0 s) :
    Keeps start s0 id (insertPowerOfTen s power positive) := by
  unfold insertPowerOfTen
  exact intToString_keeps (ext_ite (ext_append' _ (ext_append' _ h0)) (ext_append' _ h0))

theorem defaultRound_keeps {nl precision cd fl : Nat} {pos ru : Bool} (h0 : Ext start s0 s) :
    Keeps start s0 (·.1) (defaultRound start s nl precision cd fl pos ru) :=
  .ite (.bind (roundStringNumber_keeps h0) fun _ h =>
      .ite (.bind' fun _ => .bind' fun _ => .ite (.pure h) (.pure h)) (.pure h))
    (.pure h0)

theorem defaultFraction_keeps {index power nl fl : Nat} {pi : Bool} (h0 : Ext start s0 s) :
    Keeps start s0 (·.1) (defaultFraction start s index power nl fl pi) :=
  .ite
    (.ite
      (.ite (.ite (.bind' fun _ => .pure (ext_append' _ (ext_append' _ h0))) (.pure h0))
        (.ite (.bind' fun _ => .pure (ext_append' _ (ext_append' _ h0))) (.pure h0)))
      (.ite (.bind (insertAt_keeps h0) fun _ h => .pure h)
        (.ite (.bind' fun _ => .bind (restoreZeros_keeps _ h0) fun _ h => .pure h)
          (.bind' fun _ => .bind (restoreZeros_keeps _ h0) fun _ h => .pure h))))
    (.pure h0)

theorem finishNumber_keeps {index : Nat} (h0 : Ext start s0 s) : Keeps start s0 id (finishNumber start s index) :=
  .bind' fun _ => stepBack_keeps (reverseFrom_ext' h0)

theorem formatDefault_keeps {precision cd fl : Nat} {pos ru : Bool} (h0 : Ext start s0 s) :
    Keeps start s0 id (formatDefault start s precision cd fl pos ru) :=
  .bind' fun _ => .bind (defaultRound_keeps h0) fun _ ha => .bind (defaultFraction_keeps ha) fun _ hb =>
    .bind (finishNumber_keeps hb) fun _ hs =>
      .ite (.bind (insertAt_keeps hs) fun _ h => insertPowerOfTen_keeps h) (.pure hs)

theorem fixedRound_keeps {precision fl : Nat} {ru : Bool} (h0 : Ext start s0 s) :
    Keeps start s0 (·.1) (fixedRound start s precision fl ru) :=
  .ite (.bind (roundStringNumber_keeps h0) fun _ h => .pure h) (.pure h0)

theorem fixedFraction_keeps {index nl fl diff : Nat} {pi : Bool} (h0 : Ext start s0 s) :
    Keeps start s0 (·.1) (fixedFraction start s index nl fl diff pi) :=
  .ite
    (.ite
      (.ite
        (.ite
          (.bind' fun _ => .bind (wrAt_keeps h0) fun _ h => .bind (q := (·.1)) (.pure h) fun _ hr =>
            .bind' fun _ => .bind' fun _ => .pure (ext_append' _ (ext_append' _ hr)))
          (.bind (q := (·.1)) (.pure h0) fun _ hr =>
            .bind' fun _ => .bind' fun _ => .pure (ext_append' _ (ext_append' _ hr))))
        (.ite (.pure (ext_append' _ h0)) (.pure h0)))
      (.bind' fun _ => .bind (wrAt_keeps h0) fun _ h => .pure h))
    (.ite (.bind (insertAt_keeps h0) fun _ h => .pure h)
      (.ite (.bind' fun _ => restoreZeros_keeps _ h0) (.bind' fun _ => restoreZeros_keeps _ h0)))

theorem fixedPad_keeps {index precision fl : Nat} {fo pi : Bool} (h0 : Ext start s0 s) :
    Keeps start s0 id (fixedPad start s index precision fl fo pi) :=
  .ite (.pure h0) (.ite (.bind' fun _ => .pure (ext_cons_append' _ _ h0))
    (.ite (.bind' fun _ => .bind' fun _ => .bind' fun _ => .pure (ext_append' _ h0))
      (.bind' fun _ => .bind' fun _ => .pure (ext_append' _ h0))))

theorem formatFixed_keeps {fixedT : Bool} {precision fl : Nat} {ru : Bool} (h0 : Ext start s0 s) :
    Keeps start s0 id (formatFixed fixedT start s precision fl ru) :=
  .bind' fun _ =>
    .ite
      (.ite
        (.bind (fixedRound_keeps h0) fun _ ha => .bind (fixedFraction_keeps ha) fun _ hb =>
          .bind (q := (·.1)) (.pure hb) fun _ hr =>
            .bind (finishNumber_keeps hr) fun _ hs => .ite (fixedPad_keeps hs) (.pure hs))
        (.bind' fun _ => .bind (wrAt_keeps h0) fun _ h => .bind (q := (·.1)) (.pure h) fun _ hr =>
          .bind (finishNumber_keeps hr) fun _ hs => .ite (fixedPad_keeps hs) (.pure hs)))
      (.bind (q := (·.1)) (.pure h0) fun _ hr =>
        .bind (finishNumber_keeps hr) fun _ hs => .ite (fixedPad_keeps hs) (.pure hs))

theorem bigIntToStringLoop_keeps : ∀ (fuel : Nat) {s : List Nat} {b : Nat}, Ext start s0 s →
    Keeps start s0 (·.2) (bigIntToStringLoop fuel b s)
  | 0, _, _, _ => .throw
  | k + 1, _, _, h0 => .ite
      (.bind' fun _ => .bind' fun _ => .bind' fun _ => bigIntToStringLoop_keeps k (ext_append' _ (ext_append' _ h0)))
      (.pure h0)

theorem bigIntToString_keeps {tb b : Nat} (h0 : Ext start s0 s) : Keeps start s0 id (bigIntToString tb s b) :=
  .bind (bigIntToStringLoop_keeps _ h0) fun _ h => .ite (.bind' fun _ => .pure (ext_append' _ h)) (.pure h)

theorem realFinite_keeps {c : Cfg} {m bf p f : Nat} (h0 : Ext s.length s0 s) :
    Keeps s.length s0 id (realFinite c s m bf p f) :=
  .bind' fun _ => .bind (bigIntToString_keeps h0) fun _ h =>
    .ite (formatFixed_keeps h) (.ite (formatFixed_keeps h) (formatDefault_keeps h))

theorem ext_of_suffix {pre l out : List Nat} (h : Ext (pre ++ l).length (pre ++ l) out) : Ext pre.length pre out := by
  obtain ⟨h1, h2⟩ := h
  refine ⟨by simp at h1; omega, ?_⟩
  have : List.take pre.length out = List.take pre.length (List.take (pre ++ l).length out) := by
    rw [List.take_take, Nat.min_eq_left (by simp)]
  rw [this, h2, List.take_take, Nat.min_eq_left (by simp)]
  simp

theorem realToString_keeps {c : Cfg} {pre : List Nat} {bits p f : Nat} :
    Keeps pre.length pre id (realToString c pre bits p f) := by
  have hpre : Ext pre.length pre pre := Ext.refl (Nat.le_refl _)
  -- the stream after the sign
  have hsign : ∀ r, Ext (if bits &&& c.signMask ≠ 0 then pre ++ [Ch.negative] else pre).length
      (if bits &&& c.signMask ≠ 0 then pre ++ [Ch.negative] else pre) r → Ext pre.length pre r := by
    intro r hr
    split at hr
    · exact ext_of_suffix hr
    · exact hr
  unfold realToString
  refine .ite (.ite ?_ (.ite (.bind' fun _ => .pure (ext_cons_append' _ _ (ext_append' _ ?_))) (.pure (ext_append' _ ?_))))
    (.ite (.pure (ext_append' _ ?_)) (.pure (ext_append' _ hpre)))
  · intro r hr
    exact hsign r (realFinite_keeps (Ext.refl (Nat.le_refl _)) r hr)
  all_goals split <;> first | exact ext_append' _ hpre | exact hpre

theorem realToString_append_only {c : Cfg} {pre out : List Nat} {bits p f : Nat}
    (h : realToString c pre bits p f = .ok out) : ∃ text, out = pre ++ text :=
  (realToString_keeps out h).exists_append

end Qentem.Proofs.NumToStr
