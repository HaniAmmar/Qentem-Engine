import Qentem.Model.FmtSpec
import Qentem.Model.Round
import Qentem.Proofs.StrToNumBasic
import Qentem.Proofs.TextAt
import Mathlib.Tactic.Linarith
import Mathlib.Tactic.Positivity
import Mathlib.Tactic.Ring
/-! C09/C11 helper lemmas: a list of digit values as a list of units (`allDigits_map`, `decVal_map`), and the formatter
area's digit value and digit run (`FmtSpec.digitsValue`, `takeWhile`) on units.  `FmtSpec.isDigit` and `isDigit` unfold to the
same term: an `AllDigits` fact serves where `∀ c ∈ l, FmtSpec.isDigit c = true` is asked. -/
namespace Qentem.StrToNum
open Qentem.Round

theorem allDigits_map (ds : List Nat) (h : ds.all (· ≤ 9) = true) : AllDigits (ds.map (· + 48)) := by
  intro y hy
  obtain ⟨d, hd, rfl⟩ := List.mem_map.1 hy
  have := List.all_eq_true.1 h d hd
  simp at this
  simp [isDigit]; omega

theorem decVal_map (ds : List Nat) : decVal (ds.map (· + 48)) = digitsVal ds := by
  unfold decVal digitsVal
  rw [List.foldl_map]
  simp

/-! ### `FmtSpec` on digit runs -/

theorem digitsValue_eq (l : List Nat) : FmtSpec.digitsValue l = decVal l := rfl

theorem takeWhile_digits (ds rest : List Nat) (hds : AllDigits ds) (hr : ∀ x, rest.head? = some x → isDigit x = false) :
    (ds ++ rest).takeWhile FmtSpec.isDigit = ds ∧ (ds ++ rest).dropWhile FmtSpec.isDigit = rest :=
  takeWhile_run _ ds rest hds hr

end Qentem.StrToNum
