import Qentem.Proofs.NumToStrDigits
import Qentem.Model.FmtSpec
/-! C10 helper: `digits_exact_or_sticky`.  The value the digit run cuts (`valNum / valDen`, NumToStrDigits) is the one
`FmtSpec.decode` returns, up to a common factor; a finite value is carried as `FinVal` and its run is one `Cut` of its fraction. -/
namespace Qentem.Proofs.NumToStr
open Qentem.NumToStr Qentem

/-! ### the fraction block and the integers on `valNum / valDen` -/

/-- with `fb` fraction bits the value is the odd part of the mantissa over `2^fb` -/
theorem val_cross {M B f e : Nat} (hM : M < 63) (hf : f < 2 ^ M) (hnz : e ≠ 0 ∨ f ≠ 0)
    (hfb : B ≤ e → 0 < fracBits M B f e) :
    valNum M B f e * 2 ^ fracBits M B f e = mant M f e / 2 ^ findFirstBit (mant M f e) * valDen M B e := by
  obtain ⟨hj, hjd, _⟩ := findFirstBit_mant hM (mant_pos (M := M) hnz) (mant_lt (e := e) hf)
  have hmo : mant M f e = mant M f e / 2 ^ findFirstBit (mant M f e) * 2 ^ findFirstBit (mant M f e) :=
    (Nat.div_mul_cancel (Nat.dvd_of_mod_eq_zero hjd)).symm
  unfold valNum valDen fracBits at *
  generalize findFirstBit (mant M f e) = j at *
  generalize mant M f e / 2 ^ j = mo at *
  by_cases hpos : B ≤ e
  · have := hfb hpos
    simp only [hpos, if_true] at this ⊢
    rw [hmo, Nat.mul_assoc, Nat.mul_assoc, ← Nat.pow_add, ← Nat.pow_add]; congr 2; omega
  · simp only [hpos, if_false]
    rw [hmo, Nat.mul_assoc, ← Nat.pow_add]; congr 2; omega

theorem frac_sticky_iff {M B f e : Nat} (hM : M < 63) (hf : f < 2 ^ M) (hnz : e ≠ 0 ∨ f ≠ 0)
    (hfb : B ≤ e → 0 < fracBits M B f e) (N : Nat) :
    valNum M B f e * 10 ^ fracLen (fracBits M B f e) N % valDen M B e ≠ 0 ↔ N + 1 < fracBits M B f e := by
  obtain ⟨_, _, hjo⟩ := findFirstBit_mant hM (mant_pos (M := M) hnz) (mant_lt (e := e) hf)
  rw [← (frac_cut (needed0 := N) hjo (valDen_pos M B e) (val_cross hM hf hnz hfb)).2, decide_eq_true_eq]

theorem frac_whole {M B f e : Nat} (hM : M < 63) (hf : f < 2 ^ M) (hnz : e ≠ 0 ∨ f ≠ 0)
    (hfb : B ≤ e → 0 < fracBits M B f e) {N : Nat} (hN : ¬ (N + 1 < fracBits M B f e)) :
    valNum M B f e * 10 ^ fracLen (fracBits M B f e) N / valDen M B e =
      mant M f e / 2 ^ findFirstBit (mant M f e) * 5 ^ fracBits M B f e := by
  obtain ⟨_, _, hjo⟩ := findFirstBit_mant hM (mant_pos (M := M) hnz) (mant_lt (e := e) hf)
  rw [← (frac_cut (needed0 := N) hjo (valDen_pos M B e) (val_cross hM hf hnz hfb)).1]
  rw [fracShift_eq_sub, fracLen_eq_min, Nat.min_eq_right (by omega), show fracBits M B f e - (N + 1) = 0 by omega,
    Nat.pow_zero, Nat.div_one]

theorem valDen_dvd {M B f e : Nat} (hM : M < 63) (hf : f < 2 ^ M) (hnz : e ≠ 0 ∨ f ≠ 0) (hpos : B ≤ e)
    (h0 : fracBits M B f e = 0) : valNum M B f e % valDen M B e = 0 := by
  obtain ⟨hj, hjd, hjo⟩ := findFirstBit_mant hM (mant_pos (M := M) hnz) (mant_lt (e := e) hf)
  have hmo : mant M f e = mant M f e / 2 ^ findFirstBit (mant M f e) * 2 ^ findFirstBit (mant M f e) :=
    (Nat.div_mul_cancel (Nat.dvd_of_mod_eq_zero hjd)).symm
  simp only [fracBits, hpos, if_true] at h0
  unfold valNum valDen
  rw [if_pos hpos, if_pos hpos, hmo, Nat.mul_assoc, ← Nat.pow_add]
  exact (odd_mul_pow_mod hjo).2 (by omega)

/-! ### the same value as the reference decodes -/

theorem decode_val {M X bits : Nat} (hM : 0 < M) (hX : 2 ≤ X)
    (hfin : (bits / 2 ^ M) % 2 ^ X ≠ 2 ^ X - 1) :
    ∃ k num den, 0 < k ∧ 0 < den ∧
      FmtSpec.decode M X bits = .fin (decide ((bits / 2 ^ (M + X)) % 2 = 1)) num den ∧
      valNum M (2 ^ (X - 1) - 1) (bits % 2 ^ M) ((bits / 2 ^ M) % 2 ^ X) = k * num ∧
      valDen M (2 ^ (X - 1) - 1) ((bits / 2 ^ M) % 2 ^ X) = k * den := by
  generalize hB : 2 ^ (X - 1) - 1 = B
  generalize he : (bits / 2 ^ M) % 2 ^ X = e at *
  generalize hf : bits % 2 ^ M = f
  have hBpos : 0 < B := by
    have : 2 ^ 1 ≤ 2 ^ (X - 1) := Nat.pow_le_pow_right (by decide) (by omega)
    omega
  unfold FmtSpec.decode valNum valDen mant
  simp only [he, hf, hB, hfin, if_false]
  by_cases he0 : e = 0
  · -- subnormal
    have h1 : ¬ (B + M ≤ 1) := by omega
    have h2 : ¬ (B ≤ 0) := by omega
    subst he0
    simp only [if_true, h1, if_false, h2]
    refine ⟨2, f, 2 ^ (B + M - 1), by decide, Nat.two_pow_pos _, rfl, rfl, ?_⟩
    have : M + (B - 0) = (B + M - 1) + 1 := by omega
    rw [this, Nat.pow_succ, Nat.mul_comm]
  · simp only [he0, if_false]
    by_cases h1 : B + M ≤ e
    · have h2 : B ≤ e := by omega
      simp only [h1, h2, if_true]
      refine ⟨2 ^ M, (2 ^ M + f) * 2 ^ (e - (B + M)), 1, Nat.two_pow_pos _, by decide, rfl, ?_, by simp⟩
      have : e - B = M + (e - (B + M)) := by omega
      rw [this, Nat.pow_add]; ring
    · simp only [h1, if_false]
      by_cases h2 : B ≤ e
      · simp only [h2, if_true]
        refine ⟨2 ^ (e - B), 2 ^ M + f, 2 ^ (B + M - e), Nat.two_pow_pos _, Nat.two_pow_pos _, rfl, by ring, ?_⟩
        rw [← Nat.pow_add]; congr 1; omega
      · simp only [h2, if_false]
        refine ⟨1, 2 ^ M + f, 2 ^ (B + M - e), by decide, Nat.two_pow_pos _, rfl, by simp, ?_⟩
        rw [Nat.one_mul]; congr 1; omega

/-- `q` is `N / D` cut to an integer, and `s` says whether anything was cut off: the floor with its sticky flag.  What
the digit run hands to the string formatters about the value is one `Cut`. -/
structure Cut (N D q : Nat) (s : Bool) : Prop where
  quot : q = N / D
  sticky : s = true ↔ N % D ≠ 0

theorem Cut.exact {N D q : Nat} (h : Cut N D q false) : N = q * D := by
  have hrem : N % D = 0 := by
    by_contra hne
    exact Bool.false_ne_true (h.sticky.mpr hne)
  rw [h.quot]; exact (Nat.div_mul_cancel (Nat.dvd_of_mod_eq_zero hrem)).symm

theorem Cut.scale {k a b t u q : Nat} {s : Bool} (hk : 0 < k) :
    Cut (k * a * t) (k * b * u) q s ↔ Cut (a * t) (b * u) q s := by
  have hr : k * (a * t) % (k * (b * u)) ≠ 0 ↔ a * t % (b * u) ≠ 0 := by
    rw [Nat.mul_mod_mul_left, Nat.mul_ne_zero_iff]
    exact ⟨fun h => h.2, fun h => ⟨by omega, h⟩⟩
  rw [Nat.mul_assoc k a t, Nat.mul_assoc k b u]
  constructor <;> rintro ⟨hq, hs⟩
  · exact ⟨by rw [hq, Nat.mul_div_mul_left _ _ hk], hs.trans hr⟩
  · exact ⟨by rw [hq, Nat.mul_div_mul_left _ _ hk], hs.trans hr.symm⟩

/-! ### a finite value by its fields -/

/-- The fields `f`, `e` of a finite non-zero value of a format with `M` mantissa bits and bias `B`, with a fraction
`num / den` equal to it.  The class theorems are about these; `decode_fields` supplies them for a bit pattern. -/
structure FinVal (M B f e num den : Nat) : Prop where
  hf : f < 2 ^ M
  he : e ≤ 2 * B
  hnz : e ≠ 0 ∨ f ≠ 0
  hden : 0 < den
  hval : ∃ k, 0 < k ∧ valNum M B f e = k * num ∧ valDen M B e = k * den

theorem decode_fields {M X bits : Nat} (hM : 0 < M) (hX : 2 ≤ X)
    (hfin : (bits / 2 ^ M) % 2 ^ X ≠ 2 ^ X - 1) (hnz : (bits / 2 ^ M) % 2 ^ X ≠ 0 ∨ bits % 2 ^ M ≠ 0) :
    ∃ num den, FmtSpec.decode M X bits = .fin (decide ((bits / 2 ^ (M + X)) % 2 = 1)) num den ∧
      FinVal M (2 ^ (X - 1) - 1) (bits % 2 ^ M) ((bits / 2 ^ M) % 2 ^ X) num den := by
  obtain ⟨k, num, den, hk, hden, hdec, hvn, hvd⟩ := decode_val (bits := bits) hM hX hfin
  have h1 : (bits / 2 ^ M) % 2 ^ X < 2 ^ X := Nat.mod_lt _ (Nat.two_pow_pos X)
  have h2 : 2 ^ X = 2 * 2 ^ (X - 1) := by
    have : X = (X - 1) + 1 := by omega
    conv_lhs => rw [this, Nat.pow_succ, Nat.mul_comm]
  exact ⟨num, den, hdec, Nat.mod_lt _ (Nat.two_pow_pos M), by omega, hnz, hden, k, hk, hvn, hvd⟩

namespace FinVal
variable {M B f e num den : Nat}

theorem mant_odd (h : FinVal M B f e num den) (hM : M < 63) :
    findFirstBit (mant M f e) ≤ M ∧ mant M f e % 2 ^ findFirstBit (mant M f e) = 0 ∧
      (mant M f e / 2 ^ findFirstBit (mant M f e)) % 2 = 1 :=
  findFirstBit_mant hM (mant_pos h.hnz) (mant_lt h.hf)

/-- `digits_exact_or_sticky` for the fraction `num / den`, as one `Cut` -/
theorem cut (h : FinVal M B f e num den) (p fmt : Nat) :
    Cut (num * 10 ^ (runSpec M B f e p fmt).2.2.1) (den * 10 ^ runDrop M B f e p fmt) (runSpec M B f e p fmt).1
      (runSpec M B f e p fmt).2.2.2.2 := by
  obtain ⟨k, hk, hvn, hvd⟩ := h.hval
  have hc : Cut (valNum M B f e * 10 ^ runFl M B f e p fmt) (valDen M B e * 10 ^ runDrop M B f e p fmt)
      (runSpec M B f e p fmt).1 (runSpec M B f e p fmt).2.2.2.2 := ⟨rfl, decide_eq_true_iff⟩
  rw [hvn, hvd] at hc
  exact (Cut.scale hk).1 hc

theorem ge_pow (h : FinVal M B f e num den) (hpos : B ≤ e) (he0 : e ≠ 0) : 2 ^ (e - B) * den ≤ num := by
  obtain ⟨k, hk, hvn, hvd⟩ := h.hval
  rw [valNum, if_pos hpos, mant, if_neg he0] at hvn
  rw [valDen, if_pos hpos] at hvd
  refine Nat.le_of_mul_le_mul_left ?_ hk
  calc k * (2 ^ (e - B) * den) = 2 ^ M * 2 ^ (e - B) := by rw [hvd]; ring
    _ ≤ (2 ^ M + f) * 2 ^ (e - B) := Nat.mul_le_mul_right _ (Nat.le_add_right _ _)
    _ = k * num := hvn

theorem ge_one (h : FinVal M B f e num den) (hpos : B ≤ e) (he0 : e ≠ 0) : den ≤ num :=
  le_trans (Nat.le_mul_of_pos_left _ (Nat.two_pow_pos _)) (h.ge_pow hpos he0)

end FinVal

/-- `digits_exact_or_sticky`, generic in the configuration; Props/C10 states it for doubles and for floats -/
theorem digitRun_exact {c : Cfg} {M X : Nat} (hc : Shape c M (2 ^ (X - 1) - 1)) (hM : 0 < M) (hX : 2 ≤ X)
    (bits p fmt : Nat) (hp : p ≤ 40)
    (hfin : (bits / 2 ^ M) % 2 ^ X ≠ 2 ^ X - 1)
    (hnz : (bits / 2 ^ M) % 2 ^ X ≠ 0 ∨ bits % 2 ^ M ≠ 0) :
    ∃ b digits fl pos ru d num den,
      digitRun c (bits % 2 ^ M) ((bits / 2 ^ M) % 2 ^ X * 2 ^ M) p fmt = .ok (b, digits, fl, pos, ru) ∧
      FmtSpec.decode M X bits = .fin (decide ((bits / 2 ^ (M + X)) % 2 = 1)) num den ∧ 0 < den ∧
      (fl = 0 ∨ d = 0) ∧
      b = num * 10 ^ fl / (den * 10 ^ d) ∧
      (ru = true ↔ (num * 10 ^ fl) % (den * 10 ^ d) ≠ 0) := by
  obtain ⟨num, den, hdec, hv⟩ := decode_fields (bits := bits) hM hX hfin hnz
  have hrun := (digitRun_spec hc (p := p) (fmt := fmt) hv.hf hv.he hv.hnz (Or.inl hp)).1
  obtain ⟨h2, h3⟩ := hv.cut p fmt
  have h1 : (runSpec M (2 ^ (X - 1) - 1) (bits % 2 ^ M) ((bits / 2 ^ M) % 2 ^ X) p fmt).2.2.1 = 0 ∨
      runDrop M (2 ^ (X - 1) - 1) (bits % 2 ^ M) ((bits / 2 ^ M) % 2 ^ X) p fmt = 0 := runFl_or_runDrop
  generalize runSpec M (2 ^ (X - 1) - 1) (bits % 2 ^ M) ((bits / 2 ^ M) % 2 ^ X) p fmt = r at hrun h1 h2 h3
  obtain ⟨b, dg, fl, pos, ru⟩ := r
  exact ⟨b, dg, fl, pos, ru, _, num, den, hrun, hdec, hv.hden, h1, h2, h3⟩

end Qentem.Proofs.NumToStr
