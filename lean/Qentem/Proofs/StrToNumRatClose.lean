import Qentem.Proofs.StrToNumC11
import Qentem.Proofs.StrToNumCodeRaw
/-! C09: **the rounding theorem, one-ulp part.**  The code holds a big integer `b` (at least 55 bits) and a binary
exponent `-sh`; the exact value is `N/D` in units of `b`.  `raw_rat_cases` puts the code's pattern
`codeRawNeg b sh` and the specification's `ratRaw N D sh L` side by side: same rounding unit, or the exact value in a
neighbouring binade (subnormal range included).  The exact part (`round_exact`) is in `StrToNumExact`. -/
namespace Qentem.Round
open Qentem.StrToNum

theorem halfUp_bounds (b g : Nat) (hg : 0 < g) :
    4 * g * halfUp b (2 * g) ≤ b + 2 * g ∧ b < 4 * g * halfUp b (2 * g) + 2 * g := by
  obtain ⟨t, r0, q, hb, hB, hr0, ht, hhb, hcode⟩ := halfUp_cases b (2 * g) (by omega)
  rw [hcode]
  have e1 : 2 * g * t = 4 * (g * q) + 2 * (g * hb) := by rw [ht]; ring
  have e2 : 4 * g * (q + hb) = 4 * (g * q) + 4 * (g * hb) := by ring
  rw [e2, hB, e1]
  rcases Nat.lt_or_ge hb 1 with h0 | h0
  · have : hb = 0 := by omega
    subst this; simp; omega
  · have : hb = 1 := by omega
    subst this; simp; omega

theorem halfUp_bounds_mul (b g D : Nat) (hg : 0 < g) (hD : 0 < D) :
    4 * (g * D * halfUp b (2 * g)) ≤ b * D + 2 * (g * D) ∧ b * D < 4 * (g * D * halfUp b (2 * g)) + 2 * (g * D) := by
  obtain ⟨m1, m2⟩ := halfUp_bounds b g hg
  generalize halfUp b (2 * g) = m at *
  constructor
  · calc 4 * (g * D * m) = 4 * g * m * D := by ring
      _ ≤ (b + 2 * g) * D := Nat.mul_le_mul_right D m1
      _ = b * D + 2 * (g * D) := by ring
  · calc b * D < (4 * g * m + 2 * g) * D := Nat.mul_lt_mul_of_pos_right m2 hD
      _ = 4 * (g * D * m) + 2 * (g * D) := by ring

/-- same unit `4g`: the exact `N/D` within `g` of `b` -/
theorem rat_same_unit (b N D g : Nat) (hD : 0 < D) (hg : 0 < g) (h1 : b * D ≤ N + g * D) (h2 : N ≤ b * D + g * D) :
    halfUp b (2 * g) ≤ rne N (D * (4 * g)) + 1 ∧ rne N (D * (4 * g)) ≤ halfUp b (2 * g) + 1 := by
  obtain ⟨M1, M2⟩ := halfUp_bounds_mul b g D hg hD
  obtain ⟨r1, r2⟩ := rne_bounds N (D * (4 * g)) (Nat.mul_pos hD (by omega))
  generalize halfUp b (2 * g) = m at *
  generalize rne N (D * (4 * g)) = r at *
  have hX : 0 < g * D := Nat.mul_pos hg hD
  have R : D * (4 * g) * r = 4 * (g * D * r) := by ring
  rw [R] at r1 r2
  have hden : D * (4 * g) = 4 * (g * D) := by ring
  rw [hden] at r1 r2
  have key : ∀ a c : Nat, g * D * a < g * D * c + 2 * (g * D) → a ≤ c + 1 := by
    intro a c k
    rw [show g * D * c + 2 * (g * D) = g * D * (c + 2) by ring] at k
    have := Nat.lt_of_mul_lt_mul_left k
    omega
  exact ⟨key m r (by omega), key r m (by omega)⟩

/-- the exact value is in the binade above `b`'s: both patterns are that binade's first -/
theorem rat_cross_up (b N D g : Nat) (hD : 0 < D) (hg : 0 < g) (hb : b < 2 ^ 55 * g)
    (h2 : N ≤ b * D + g * D) (hL : D * (2 ^ 55 * g) ≤ N) :
    halfUp b (2 * g) = 2 ^ 53 ∧ rne N (D * (8 * g)) = 2 ^ 52 := by
  have hX : 0 < g * D := Nat.mul_pos hg hD
  have hbD : b * D < 2 ^ 55 * (g * D) := by
    calc b * D < 2 ^ 55 * g * D := Nat.mul_lt_mul_of_pos_right hb hD
      _ = 2 ^ 55 * (g * D) := by ring
  have hL' : 2 ^ 55 * (g * D) ≤ N := by
    calc 2 ^ 55 * (g * D) = D * (2 ^ 55 * g) := by ring
      _ ≤ N := hL
  constructor
  · -- b / (2g) = 2^54 - 1
    have hlo : (2 ^ 54 - 1) * (2 * g) ≤ b := by
      -- b*D ≥ N - g*D ≥ 2^55 gD - gD, so b ≥ 2^55 g - g
      have : (2 ^ 55 * g - g) * D ≤ b * D := by
        have e : (2 ^ 55 * g - g) * D = 2 ^ 55 * (g * D) - g * D := by
          rw [Nat.sub_mul]; congr 1; ring
        rw [e]; omega
      have hb' := Nat.le_of_mul_le_mul_right this hD
      have e2 : (2 ^ 54 - 1) * (2 * g) = 2 ^ 55 * g - 2 * g := by
        rw [Nat.sub_mul, Nat.one_mul]; congr 1
        rw [show (2 : Nat) ^ 55 = 2 ^ 54 * 2 by decide]; ring
      omega
    have hdiv : b / (2 * g) = 2 ^ 54 - 1 := by
      apply Nat.div_eq_of_lt_le
      · exact hlo
      · have : (2 ^ 54 - 1 + 1) * (2 * g) = 2 ^ 55 * g := by
          rw [show (2 : Nat) ^ 54 - 1 + 1 = 2 ^ 54 by decide, show (2 : Nat) ^ 55 = 2 ^ 54 * 2 by decide]; ring
        omega
    unfold halfUp; rw [hdiv]; decide
  · obtain ⟨d, hd⟩ : ∃ d, N = 2 ^ 55 * (g * D) + d := ⟨N - 2 ^ 55 * (g * D), by omega⟩
    have hdlt : d < g * D := by omega
    have e : N = D * (8 * g) * 2 ^ 52 + d := by
      rw [hd, show (2 : Nat) ^ 55 = 8 * 2 ^ 52 by decide]; ring
    have hden : D * (8 * g) = 8 * (g * D) := by ring
    rw [e, rne_decomp (2 ^ 52) d (D * (8 * g)) (by rw [hden]; omega)]
    have : 2 * d < D * (8 * g) := by rw [hden]; omega
    simp [this]

/-- the exact value is in the binade below `b`'s: both patterns are `b`'s binade's first -/
theorem rat_cross_down (b N D g : Nat) (hD : 0 < D) (hg : 0 < g) (hb : 2 ^ 54 * g ≤ b)
    (h1 : b * D ≤ N + g * D) (hL : N < D * (2 ^ 54 * g)) :
    halfUp b (2 * g) = 2 ^ 52 ∧ rne N (D * (2 * g)) = 2 ^ 53 := by
  have hX : 0 < g * D := Nat.mul_pos hg hD
  have hbD : 2 ^ 54 * (g * D) ≤ b * D := by
    calc 2 ^ 54 * (g * D) = 2 ^ 54 * g * D := by ring
      _ ≤ b * D := Nat.mul_le_mul_right _ hb
  have hL' : N < 2 ^ 54 * (g * D) := by
    calc N < D * (2 ^ 54 * g) := hL
      _ = 2 ^ 54 * (g * D) := by ring
  constructor
  · have hhi : b < 2 ^ 54 * g + g := by
      have : b * D < (2 ^ 54 * g + g) * D := by
        have e : (2 ^ 54 * g + g) * D = 2 ^ 54 * (g * D) + g * D := by ring
        rw [e]; omega
      exact Nat.lt_of_mul_lt_mul_right this
    have hdiv : b / (2 * g) = 2 ^ 53 := by
      apply Nat.div_eq_of_lt_le
      · have : 2 ^ 53 * (2 * g) = 2 ^ 54 * g := by
          rw [show (2 : Nat) ^ 54 = 2 ^ 53 * 2 by decide]; ring
        omega
      · have : (2 ^ 53 + 1) * (2 * g) = 2 ^ 54 * g + 2 * g := by
          rw [show (2 : Nat) ^ 54 = 2 ^ 53 * 2 by decide]; ring
        omega
    unfold halfUp; rw [hdiv]; decide
  · -- N = 2g·D·(2^53 − 1) + rem with rem ≥ g·D
    obtain ⟨d, hd⟩ : ∃ d, N + d = 2 ^ 54 * (g * D) := ⟨2 ^ 54 * (g * D) - N, by omega⟩
    have hd1 : 0 < d := by omega
    have hd2 : d ≤ g * D := by omega
    have hden : D * (2 * g) = 2 * (g * D) := by ring
    have e : N = D * (2 * g) * (2 ^ 53 - 1) + (2 * (g * D) - d) := by
      have : D * (2 * g) * (2 ^ 53 - 1) = 2 ^ 54 * (g * D) - 2 * (g * D) := by
        rw [hden, Nat.mul_sub, Nat.mul_one]; congr 1
        rw [show (2 : Nat) ^ 54 = 2 * 2 ^ 53 by decide]; ring
      rw [this]; omega
    rw [e, rne_decomp (2 ^ 53 - 1) _ (D * (2 * g)) (by rw [hden]; omega)]
    rw [hden]
    have n1 : ¬ (2 * (2 * (g * D) - d) < 2 * (g * D)) := by omega
    simp only [n1, if_false]
    split
    · decide
    · have : ¬ ((2 ^ 53 - 1) % 2 = 0) := by decide
      simp only [this, if_false]; decide

/-- `b` is within `1/c` of a quarter of its own unit in the last place (`2^(log2 b − 54)`: `b` rounded to 53 bits) of
`N/D` -/
def Near (c b N D : Nat) : Prop :=
  c * (b * D) < c * N + 2 ^ (Nat.log2 b - 54) * D ∧ c * N < c * (b * D) + 2 ^ (Nat.log2 b - 54) * D

theorem Near.weaken {c b N D : Nat} (h : Near c b N D) (hc : 1 ≤ c) : Near 1 b N D := by
  obtain ⟨h1, h2⟩ := h
  obtain ⟨c', rfl⟩ : ∃ c', c = c' + 1 := ⟨c - 1, by omega⟩
  unfold Near
  rw [Nat.add_mul, Nat.add_mul, Nat.one_mul, Nat.one_mul] at h1 h2
  generalize 2 ^ (Nat.log2 b - 54) * D = Y at *
  constructor
  · rw [Nat.one_mul, Nat.one_mul]
    by_contra hcon
    have : c' * N ≤ c' * (b * D) := Nat.mul_le_mul_left _ (by omega)
    omega
  · rw [Nat.one_mul, Nat.one_mul]
    by_contra hcon
    have : c' * (b * D) ≤ c' * N := Nat.mul_le_mul_left _ (by omega)
    omega

theorem Near.scale {c b N D : Nat} (h : Near c b N D) (T : Nat) (hT : 0 < T) : Near c b (N * T) (D * T) := by
  obtain ⟨h1, h2⟩ := h
  constructor
  · calc c * (b * (D * T)) = c * (b * D) * T := by ring
      _ < (c * N + 2 ^ (Nat.log2 b - 54) * D) * T := Nat.mul_lt_mul_of_pos_right h1 hT
      _ = c * (N * T) + 2 ^ (Nat.log2 b - 54) * (D * T) := by ring
  · calc c * (N * T) = c * N * T := by ring
      _ < (c * (b * D) + 2 ^ (Nat.log2 b - 54) * D) * T := Nat.mul_lt_mul_of_pos_right h2 hT
      _ = c * (b * (D * T)) + 2 ^ (Nat.log2 b - 54) * (D * T) := by ring

/-- **A truncated mantissa.** `b` approximates `N/D` within 1/8 of a quarter unit and the exact value `N'/D` is a
relative `10^-17` above `N/D`: still within a quarter unit (`2^58 + 1 ≤ 7·10^17`). -/
theorem Near.trunc {b N N' D : Nat} (h : Near 8 b N D) (hb54 : 2 ^ 54 ≤ b) (hD : 0 < D) (t1 : N ≤ N')
    (t2 : 10 ^ 17 * N' < (10 ^ 17 + 1) * N) : Near 1 b N' D := by
  obtain ⟨h1, h2⟩ := h
  have hX : b * D < 2 ^ 55 * (2 ^ (Nat.log2 b - 54) * D) := by
    calc b * D < 2 ^ 55 * 2 ^ (Nat.log2 b - 54) * D := Nat.mul_lt_mul_of_pos_right (lt_quarter b hb54) hD
      _ = 2 ^ 55 * (2 ^ (Nat.log2 b - 54) * D) := by ring
  unfold Near
  generalize b * D = X at *
  generalize 2 ^ (Nat.log2 b - 54) * D = Y at *
  omega

theorem Near.low {b N D : Nat} (h : Near 1 b N D) (hb54 : 2 ^ 54 ≤ b) : 2 ^ 53 * D ≤ N := by
  have hbit := log2_ge hb54
  have hGb : 2 * 2 ^ (Nat.log2 b - 54) ≤ b := by
    calc 2 * 2 ^ (Nat.log2 b - 54) = 2 ^ (Nat.log2 b - 54 + 1) := by rw [Nat.pow_succ]; ring
      _ ≤ 2 ^ Nat.log2 b := Nat.pow_le_pow_right (by decide) (by omega)
      _ ≤ b := (log2_bounds b (ne_zero_of_two_pow_le hb54)).1
  obtain ⟨h1, _⟩ := h
  rw [Nat.one_mul, Nat.one_mul] at h1
  generalize 2 ^ (Nat.log2 b - 54) = G at *
  have h2 : (b - G) * D ≤ N := by rw [Nat.sub_mul]; omega
  exact Nat.le_trans (Nat.mul_le_mul_right _ (by omega)) h2

/-- **The two patterns side by side.** `b` has at least 55 bits, `g = 2^(bit−54)` is a quarter of its unit in the
last place, `|b − N/D| ≤ g`, `L = ⌊log₂(N/D)⌋`.  Either the exact value lies in a neighbouring binade and both
patterns are the first of the upper one, or both round at the same unit `4g'`, `g' ≥ g` (larger only in the
subnormal range). -/
theorem raw_rat_cases (b sh N D L : Nat) (hD : 0 < D) (hb54 : 2 ^ 54 ≤ b) (h : Near 1 b N D)
    (hL1 : D * 2 ^ L ≤ N) (hL2 : N < D * 2 ^ (L + 1)) :
    ratRaw N D sh L = codeRawNeg b sh ∨
    ∃ g E, 2 ^ (Nat.log2 b - 54) ≤ g ∧ 2 ^ (max L (sh - 1022) - 52) = 4 * g ∧
      codeRawNeg b sh = E * 2 ^ 52 + halfUp b (2 * g) ∧ ratRaw N D sh L = E * 2 ^ 52 + rne N (D * (4 * g)) := by
  obtain ⟨h1, h2⟩ := h
  rw [Nat.one_mul, Nat.one_mul] at h1 h2
  replace h1 := Nat.le_of_lt h1
  replace h2 := Nat.le_of_lt h2
  obtain ⟨hlo, hhi⟩ := log2_bounds b (ne_zero_of_two_pow_le hb54)
  have hbit54 := log2_ge hb54
  unfold ratRaw codeRawNeg
  generalize hbit : Nat.log2 b = bit at *
  obtain ⟨j, hj⟩ : ∃ j, bit = 54 + j := ⟨bit - 54, by omega⟩
  subst hj
  rw [show 54 + j - 54 = j by omega] at h1 h2 ⊢
  have hg : 0 < 2 ^ j := Nat.pow_pos (by decide)
  have hblo : 2 ^ 54 * 2 ^ j ≤ b := by rw [← Nat.pow_add]; exact hlo
  have hbhi : b < 2 ^ 55 * 2 ^ j := by rw [← Nat.pow_add, show 55 + j = 54 + j + 1 by omega]; exact hhi
  have hpw : ∀ a, 2 ^ (a + j) = 2 ^ a * 2 ^ j := fun a => Nat.pow_add 2 a j
  have hX : 0 < 2 ^ j * D := Nat.mul_pos hg hD
  -- L is bit-1, bit or bit+1
  have hLlo : 53 + j ≤ L := by
    by_contra hcon
    have : N < D * 2 ^ (53 + j) :=
      Nat.lt_of_lt_of_le hL2 (Nat.mul_le_mul_left _ (Nat.pow_le_pow_right (by decide) (by omega)))
    rw [hpw 53, show D * (2 ^ 53 * 2 ^ j) = 2 ^ 53 * (2 ^ j * D) by ring] at this
    have hbD : 2 ^ 54 * (2 ^ j * D) ≤ b * D := by
      calc 2 ^ 54 * (2 ^ j * D) = 2 ^ 54 * 2 ^ j * D := by ring
        _ ≤ b * D := Nat.mul_le_mul_right _ hblo
    omega
  have hLhi : L ≤ 55 + j := by
    by_contra hcon
    have : D * 2 ^ (56 + j) ≤ N :=
      Nat.le_trans (Nat.mul_le_mul_left _ (Nat.pow_le_pow_right (by decide) (by omega))) hL1
    rw [hpw 56, show D * (2 ^ 56 * 2 ^ j) = 2 ^ 56 * (2 ^ j * D) by ring] at this
    have hbD : b * D < 2 ^ 55 * (2 ^ j * D) := by
      calc b * D < 2 ^ 55 * 2 ^ j * D := Nat.mul_lt_mul_of_pos_right hbhi hD
        _ = 2 ^ 55 * (2 ^ j * D) := by ring
    omega
  by_cases hsame : max L (sh - 1022) = max (54 + j) (sh - 1022)
  · -- same effective binade: one unit, quarter g' ≥ g
    right
    rw [hsame]
    generalize hB0 : max (54 + j) (sh - 1022) = B0
    obtain ⟨i, hi⟩ : ∃ i, B0 = 54 + j + i := ⟨B0 - (54 + j), by omega⟩
    have e1 : 2 ^ (B0 - 53) = 2 * 2 ^ (j + i) := by
      rw [hi, show 54 + j + i - 53 = 1 + (j + i) by omega, Nat.pow_add]
    have e2 : 2 ^ (B0 - 52) = 4 * 2 ^ (j + i) := by
      rw [hi, show 54 + j + i - 52 = 2 + (j + i) by omega, Nat.pow_add]
    exact ⟨2 ^ (j + i), B0 + 1022 - sh, Nat.pow_le_pow_right (by decide) (by omega), e2, by rw [e1], by rw [e2]⟩
  · -- the exact value is in a neighbouring binade and `b` is in the normal range
    left
    have hBe : max (54 + j) (sh - 1022) = 54 + j := by omega
    rw [hBe]
    have e1 : 2 ^ (54 + j - 53) = 2 * 2 ^ j := by rw [show 54 + j - 53 = 1 + j by omega, Nat.pow_add]
    rcases Nat.lt_or_ge L (54 + j) with hl | hl
    · -- L = bit − 1, and still normal
      have hLe : L = 53 + j := by omega
      subst hLe
      have hLm : max (53 + j) (sh - 1022) = 53 + j := by omega
      rw [hLm]
      obtain ⟨c1, c2⟩ := rat_cross_down b N D (2 ^ j) hD hg hblo h1
        (by rw [← hpw 54, show 54 + j = 53 + j + 1 by omega]; exact hL2)
      have e2 : 2 ^ (53 + j - 52) = 2 * 2 ^ j := by rw [show 53 + j - 52 = 1 + j by omega, Nat.pow_add]
      rw [e1, e2, c1, c2, show 54 + j + 1022 - sh = (53 + j + 1022 - sh) + 1 by omega]; ring
    · have hLe : L = 55 + j := by omega
      subst hLe
      have hLm : max (55 + j) (sh - 1022) = 55 + j := by omega
      rw [hLm]
      obtain ⟨c1, c2⟩ := rat_cross_up b N D (2 ^ j) hD hg hbhi h2 (by rw [← hpw 55]; exact hL1)
      have e2 : 2 ^ (55 + j - 52) = 8 * 2 ^ j := by rw [show 55 + j - 52 = 3 + j by omega, Nat.pow_add]
      rw [e1, e2, c1, c2, show 55 + j + 1022 - sh = (54 + j + 1022 - sh) + 1 by omega]; ring

theorem raw_close_rat (b sh N D L : Nat) (hD : 0 < D) (hb54 : 2 ^ 54 ≤ b) (h : Near 1 b N D)
    (hL1 : D * 2 ^ L ≤ N) (hL2 : N < D * 2 ^ (L + 1)) :
    ratRaw N D sh L ≤ codeRawNeg b sh + 1 ∧ codeRawNeg b sh ≤ ratRaw N D sh L + 1 := by
  obtain ⟨h1, h2⟩ := h
  rw [Nat.one_mul, Nat.one_mul] at h1 h2
  rcases raw_rat_cases b sh N D L hD hb54 ⟨by omega, by omega⟩ hL1 hL2 with h | ⟨g, E, hg, _, hc, hr⟩
  · omega
  · have hgD := Nat.mul_le_mul_right D hg
    have := rat_same_unit b N D g hD (Nat.lt_of_lt_of_le (Nat.pow_pos (by decide)) hg) (by omega) (by omega)
    omega

/-- **Within one ulp.** The code holds `b·2^-sh`, `b` of at least 55 bits, within a quarter unit of the exact `n/d`:
the pattern it assembles is within one of the correctly rounded one. -/
theorem round_close (b sh n d : Nat) (hn : 0 < n) (hd : 0 < d) (hb54 : 2 ^ 54 ≤ b) (h : Near 1 b (n * 2 ^ sh) d) :
    ulpDist (cap (codeRawNeg b sh)) (nearestMag n d) ≤ 1 := by
  obtain ⟨L, _, hL1, hL2, hspec⟩ := exists_units n d sh hn hd (h.low hb54)
  obtain ⟨c1, c2⟩ := raw_close_rat b sh _ d L hd hb54 h hL1 hL2
  rw [hspec]; exact cap_close _ _ c2 c1

/-- **Overflow clause.** Within a quarter unit of an exact `N/D` (in units of `b·2^-sh`) that reaches the largest
finite double, the pattern does not fall below that double's: `b` plus a quarter unit exceeds it, and the code rounds
a shortfall below half a unit away. -/
theorem round_overflow (b sh N D : Nat) (hsh : sh ≤ 1022) (hb54 : 2 ^ 54 ≤ b)
    (h : Near 1 b (N * 2 ^ sh) D) (hov : (2 ^ 53 - 1) * 2 ^ 971 * D ≤ N) : maxFiniteBits ≤ cap (codeRawNeg b sh) := by
  have hb53 : 2 ^ 53 ≤ b := Nat.le_trans (by decide) hb54
  obtain ⟨hlo, hhi⟩ := log2_bounds b (ne_zero_of_two_pow_le hb54)
  have hbit := log2_ge hb54
  obtain ⟨htlo, _⟩ := top_bits b hb53
  obtain ⟨hhu, _⟩ := halfUp_top b hb53
  have hM : (2 ^ 53 - 1) * (2 ^ 971 * 2 ^ sh) < b + 2 ^ (Nat.log2 b - 54) := by
    obtain ⟨_, h2⟩ := h
    rw [Nat.one_mul, Nat.one_mul, ← Nat.add_mul] at h2
    apply Nat.lt_of_mul_lt_mul_right (a := D)
    calc (2 ^ 53 - 1) * (2 ^ 971 * 2 ^ sh) * D = (2 ^ 53 - 1) * 2 ^ 971 * D * 2 ^ sh := by ring
      _ ≤ N * 2 ^ sh := Nat.mul_le_mul_right _ hov
      _ < (b + 2 ^ (Nat.log2 b - 54)) * D := h2
  apply maxFinite_le_cap
  unfold codeRawNeg maxFiniteBits
  rw [show max (Nat.log2 b) (sh - 1022) = Nat.log2 b by omega]
  generalize Nat.log2 b = bit at *
  rcases Nat.lt_or_ge bit (1024 + sh) with hlt | hge
  · -- `G = 2^(bit−54)` a quarter unit, `w` binades short of the top one: `2^971·2^sh = 4·G·2^w`
    obtain ⟨w, hw⟩ : ∃ w, 1023 + sh = bit + w := ⟨1023 + sh - bit, by omega⟩
    have hQ : (2 : Nat) ^ 971 * 2 ^ sh = 2 ^ 2 * (2 ^ (bit - 54) * 2 ^ w) := by
      rw [← Nat.pow_add 2 971 sh, show 971 + sh = 2 + (bit - 54 + w) by omega, Nat.pow_add 2 2, Nat.pow_add 2 (bit - 54) w]
    have hbhi : b < 2 ^ 55 * 2 ^ (bit - 54) := by
      rw [← Nat.pow_add 2 55, show 55 + (bit - 54) = bit + 1 by omega]; exact hhi
    have hG0 : 0 < 2 ^ (bit - 54) := Nat.pow_pos (by decide)
    rw [hQ] at hM
    rcases Nat.eq_zero_or_pos w with rfl | hw0
    · rw [Nat.pow_zero, Nat.mul_one] at hM
      have hQ2 : 2 ^ (bit - 53) = 2 ^ (bit - 54) * 2 := by
        rw [show bit - 53 = bit - 54 + 1 by omega, Nat.pow_succ]
      have ht : 2 ^ 54 - 3 ≤ b / 2 ^ (bit - 53) := by
        rw [Nat.le_div_iff_mul_le (Nat.pow_pos (by decide)), hQ2]
        generalize 2 ^ (bit - 54) = G at *
        omega
      have : 2 ^ 53 - 1 ≤ halfUp b (2 ^ (bit - 53)) := by unfold halfUp; omega
      rw [show bit + 1022 - sh = 2045 by omega]; omega
    · exfalso
      have h2w : 2 ^ 1 ≤ 2 ^ w := Nat.pow_le_pow_right (by decide) hw0
      have hGw : 2 ^ (bit - 54) * 2 ^ 1 ≤ 2 ^ (bit - 54) * 2 ^ w := Nat.mul_le_mul_left _ h2w
      generalize 2 ^ (bit - 54) = G at *
      generalize G * 2 ^ w = R at *
      omega
  · have : (1024 + 1022) * 2 ^ 52 ≤ (bit + 1022 - sh) * 2 ^ 52 := Nat.mul_le_mul_right _ (by omega)
    omega

end Qentem.Round
