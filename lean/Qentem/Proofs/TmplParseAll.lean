import Qentem.Proofs.TmplParseBase
import Qentem.Proofs.TmplRenderSafe
/-!
# C01 — `parse_returns`: the tag scanner returns a well-formed tree, for every content

One walk over the functions of the scanner, in the form `GInv c st → Total (step… c st) (Step c st)`;
`parse_wf_all` and `parse_total` are the two readings of `parse_returns`; `render_safe_all` joins `parse_wf_all` with
`render_safe_of_wf`.

`StackG` describes the stack of open containers together with a flag `g` per level: "the list being filled
above this point is clean" (ordered, every tag well-formed, shorter than its end offset).  Lists stop being clean in
exactly one way: a `}` that arrives while a `<loop>` / `<if>` opened inside a `{svar:` / `{if` is
still open closes that block container prematurely (`closeFrame`, end offset 0).  From then on the
enclosing inline container can never be closed (`isChild` is false, and only a new inline container
sets it again — above), so everything above it is dropped by the final clean-up; the invariant keeps
the lists below it frozen and clean.  That every read is in range is shown for clean and unclean
levels alike.

Names: `step…_G` is a step under the invariant `GInv` (`finishG`: the last `finder.Next()` of such a step;
`GInv.first`: the first one, which establishes it).  `…_A` (`finderNext_A`, `mathScan_A`, `iifQuote_A`) is a scan that
only moves the Finder; it holds of any state, without `GInv`, and returns `Moved`.  The scans inside a tag
(`…_total`, with `iifAttrs_total` and its loop invariant `IifJ`) are in TmplParseBase.
-/
namespace Qentem.Tmpl
open Qentem.Expr (Fault Safe Total ScanCfg RealLike VarRef)
open Qentem.Generated.Tmpl

variable {R : Type}

/-- a clean list: ordered, well-formed, and not longer than its end offset (so an index into it, the start id of
an inline `{if`, is at most the content length and fits its field) -/
def ListOk (n lv lo b : Nat) (l : List (Tag R)) : Prop := wfTags n lv lo b l = true ∧ l.length ≤ b

theorem ListOk.nil {n lv lo b : Nat} (h1 : lo ≤ b) (h2 : b ≤ n) : ListOk n lv lo b ([] : List (Tag R)) :=
  ⟨wfTags_nil.mpr ⟨h1, h2⟩, Nat.zero_le _⟩

theorem ListOk.snoc {n lv lo b b' : Nat} {l : List (Tag R)} (h : ListOk n lv lo b l) (t : Tag R) (s e : Nat)
    (ht : wfTag n lv t = some (s, e)) (h1 : b ≤ s) (h2 : e ≤ b') (h3 : b' ≤ n) (h4 : b < b') :
    ListOk n lv lo b' (l ++ [t]) :=
  ⟨wfTags_snoc _ _ _ _ _ ht _ _ _ _ h.1 h1 h2 h3, by simp; have := h.2; omega⟩

theorem ListOk.mono {n lv lo b b' : Nat} {l : List (Tag R)} (h : ListOk n lv lo b l) (h1 : b ≤ b') (h2 : b' ≤ n) :
    ListOk n lv lo b' l :=
  ⟨wfTags_mono _ _ _ _ _ _ h.1 h1 h2, by have := h.2; omega⟩

theorem ListOk.dropLast {n lv lo b : Nat} {l : List (Tag R)} (h : ListOk n lv lo b l) :
    ListOk n lv lo b l.dropLast := by
  obtain ⟨b', hb', hw⟩ := wfTags_dropLast n lv l lo b h.1
  exact ⟨wfTags_mono _ _ _ _ _ _ hw hb' (wfTags_bounds _ _ _ _ _ h.1), by simp; have := h.2; omega⟩

def refOf (f : LoopFields) : LoopRef := ⟨f.off + f.valueOff, f.valueLen, f.level⟩

/-- what every open `<loop …>` record satisfies (needed for safety: `ChainOk`) -/
structure OpenSafe (c : List Nat) (f : LoopFields) : Prop where
  value : f.off + f.valueOff + f.valueLen ≤ c.length
  clean : ∀ i, i < f.valueLen → ∀ x, c[f.off + f.valueOff + i]? = some x → ¬ isStop x

/-- … and what it satisfies besides when the list that will contain it is clean -/
structure OpenWf (c : List Nat) (lvP : Nat) (f : LoopFields) : Prop where
  set : wfVar c.length lvP f.set = true
  group : f.off + f.groupOff + f.groupLen ≤ c.length
  content : f.off + f.contentOff ≤ c.length

/-- the fields of an inline-if record that survive a re-entry (`repush`) -/
def IifKeep (n : Nat) (f : IifFields) : Prop :=
  f.off + f.falseOff + f.falseLen ≤ n ∧ f.off + f.trueLen ≤ n

/-- `StackG c stack g k lv lo chain`: `g` = the list filled above this stack is clean; `k` = there is an
inline container and the topmost one is not a boundary (clean below, unclean above); `lv`, `lo`,
`chain` = level, start offset and loop chain of that list when clean. -/
inductive StackG (c : List Nat) : List (Frame R) → Bool → Bool → Nat → Nat → List LoopRef → Prop
  | nil : StackG c [] true false 0 0 []
  | loop (pre : List (Tag R)) (f : LoopFields) (pc : List LoopRef) (rest : List (Frame R))
      (g k : Bool) (lvP loP : Nat) (chain : List LoopRef) :
      StackG c rest g k lvP loP chain → OpenSafe c f → ChainOk c pc →
      (g = true → pc = chain ∧ OpenWf c lvP f ∧ ∃ b, ListOk c.length lvP loP b pre ∧ b ≤ f.off) →
      StackG c (.loop pre f pc :: rest) g k (max lvP (f.level + 1)) (f.off + f.contentOff) (refOf f :: chain)
  | ifT (pre : List (Tag R)) (done : List (IfCase R)) (cur : List (Qentem.Expr.Item R)) (curOff off : Nat)
      (rest : List (Frame R)) (g k : Bool) (lvP loP : Nat) (chain : List LoopRef) :
      StackG c rest g k lvP loP chain →
      (g = true → wfCases c.length lvP done = true ∧ wfItemVars c.length lvP cur = true ∧ off ≤ curOff ∧
        curOff ≤ c.length ∧ ∃ b, ListOk c.length lvP loP b pre ∧ b ≤ off) →
      StackG c (.ifT pre done cur curOff off :: rest) g k lvP curOff chain
  | svar (pre : List (Tag R)) (v : VarRef) (off : Nat) (rest : List (Frame R)) (g gOut k : Bool)
      (lvP loP : Nat) (chain : List LoopRef) :
      StackG c rest g k lvP loP chain → (gOut = true → g = true) →
      (g = true → wfVar c.length lvP v = true ∧ v.idLen = 0 ∧ ∃ b, ListOk c.length lvP loP b pre ∧ b ≤ off) →
      StackG c (.svar pre v off :: rest) gOut (gOut == g) lvP off chain
  | iif (pre : List (Tag R)) (cs : List (Qentem.Expr.Item R)) (f : IifFields) (rest : List (Frame R))
      (g gOut k : Bool) (lvP loP : Nat) (chain : List LoopRef) :
      StackG c rest g k lvP loP chain → (gOut = true → g = true) →
      (g = true → wfItemVars c.length lvP cs = true ∧ IifKeep c.length f ∧
        ∃ b, ListOk c.length lvP loP b pre ∧ b ≤ f.off) →
      StackG c (.iif pre cs f :: rest) gOut (gOut == g) lvP f.off chain

theorem StackG.levels {c : List Nat} {stack : List (Frame R)} {g k : Bool} {lv lo : Nat} {chain : List LoopRef}
    (h : StackG c stack g k lv lo chain) : ∀ l ∈ chain, l.level < lv := by
  induction h with
  | nil => intro l hl; cases hl
  | loop pre f pc rest g k lvP loP chain _ _ _ _ ih =>
    intro l hl
    rcases List.mem_cons.mp hl with h | h
    · subst h; simp only [refOf]; omega
    · have := ih l h; omega
  | ifT _ _ _ _ _ _ _ _ _ _ _ _ _ ih => exact ih
  | svar _ _ _ _ _ _ _ _ _ _ _ _ _ ih => exact ih
  | iif _ _ _ _ _ _ _ _ _ _ _ _ _ ih => exact ih

/-- the list above the topmost inline container stops being clean -/
theorem StackG.demote {c : List Nat} {stack : List (Frame R)} {g k : Bool} {lv lo : Nat} {chain : List LoopRef}
    (h : StackG c stack g k lv lo chain) (hk : k = true) :
    ∃ k', StackG c stack false k' lv lo chain := by
  induction h with
  | nil => cases hk
  | loop pre f pc rest g k lvP loP chain hs ho hc hg ih =>
    obtain ⟨k', hs'⟩ := ih hk
    exact ⟨k', .loop pre f pc rest false k' lvP loP chain hs' ho hc (fun h => by cases h)⟩
  | ifT pre done cur curOff off rest g k lvP loP chain hs hg ih =>
    obtain ⟨k', hs'⟩ := ih hk
    exact ⟨k', .ifT pre done cur curOff off rest false k' lvP loP chain hs' (fun h => by cases h)⟩
  | svar pre v off rest g gOut k lvP loP chain hs hgo hg _ =>
    exact ⟨_, .svar pre v off rest g false k lvP loP chain hs (fun h => by cases h) hg⟩
  | iif pre cs f rest g gOut k lvP loP chain hs hgo hg _ =>
    exact ⟨_, .iif pre cs f rest g false k lvP loP chain hs (fun h => by cases h) hg⟩

theorem chain_lv_exists : ∀ (chain : List LoopRef), ∃ lv, ∀ l ∈ chain, l.level < lv := by
  intro chain
  induction chain with
  | nil => exact ⟨0, by intro l hl; cases hl⟩
  | cons x rest ih =>
    obtain ⟨lv, h⟩ := ih
    refine ⟨max lv (x.level + 1), ?_⟩
    intro l hl
    rcases List.mem_cons.mp hl with h1 | h1
    · subst h1; omega
    · have := h l h1; omega

theorem levels_pick {c : List Nat} {stack : List (Frame R)} {g k : Bool} {lv lo : Nat} {chain cur : List LoopRef}
    (hs : StackG c stack g k lv lo chain) (hg : g = true → cur = chain) :
    ∃ lvE, (∀ l ∈ cur, l.level < lvE) ∧ (g = true → lvE = lv) := by
  cases g with
  | true => exact ⟨lv, by rw [hg rfl]; exact hs.levels, fun _ => rfl⟩
  | false =>
    obtain ⟨lvE, h⟩ := chain_lv_exists cur
    exact ⟨lvE, h, fun h => by cases h⟩

/-- the list being filled, when clean.  Second case: `stepLoop` has just pushed a `<loop …>` whose `>` is the
last unit of the Finder's next match `</loop>` / `</if>` (`gt_before_match`): the list is empty and starts
inside that match, which `stepLoopEnd` / `stepIfEnd` close or ignore without looking at it -/
def Fill (c : List Nat) (lv lo : Nat) (st : PState R) : Prop :=
  (∃ b, ListOk c.length lv lo b st.storage ∧ b + mLen st.mtch ≤ st.off) ∨
  (st.storage = [] ∧ (st.mtch = 8 ∨ st.mtch = 10) ∧ lo ≤ st.off ∧
    ∃ pre f pc rest, st.stack = .loop pre f pc :: rest)

structure GInv (c : List Nat) (st : PState R) : Prop where
  off : st.mtch ≠ 0 → st.off ≤ c.length
  mtch : st.mtch ≤ 11
  cur : CurOk c st.off st.mtch
  chainOk : ChainOk c st.loopChain
  ctx : ∃ g k lv lo chain, StackG c st.stack g k lv lo chain ∧ (st.isChild = true → k = true) ∧
    (g = true → st.loopChain = chain ∧ Fill c lv lo st)

theorem mtch_cases {m : Nat} (h0 : m ≠ 0) (h11 : m ≤ 11) :
    m = 1 ∨ m = 2 ∨ m = 3 ∨ m = 4 ∨ m = 5 ∨ m = 6 ∨ m = 7 ∨ m = 8 ∨ m = 9 ∨ m = 10 ∨ m = 11 := by omega

theorem mLen_pos (m : Nat) (h0 : m ≠ 0) (h11 : m ≤ 11) : 1 ≤ mLen m := by
  rcases mtch_cases h0 h11 with h | h | h | h | h | h | h | h | h | h | h <;> subst h <;> decide

/-- what one iteration of the main loop establishes: the invariant, and the Finder stands at or after
where it stood, strictly after when it reports a match (so the main loop ends) -/
structure Step (c : List Nat) (st st' : PState R) : Prop where
  inv : GInv c st'
  le : st.off ≤ st'.off
  lt : st'.mtch ≠ 0 → st.off < st'.off

theorem Step.of {c : List Nat} {st st' : PState R} {k : Nat} (h : k + mLen st'.mtch ≤ st'.off) (hk : st.off ≤ k)
    (hinv : GInv c st') : Step c st st' :=
  ⟨hinv, by omega, fun hm => by have := mLen_pos _ hm hinv.mtch; omega⟩

theorem Fill.first {c : List Nat} {lv lo : Nat} {st : PState R} (hf : Fill c lv lo st)
    (h8 : st.mtch ≠ 8) (h10 : st.mtch ≠ 10) :
    ∃ b, ListOk c.length lv lo b st.storage ∧ b + mLen st.mtch ≤ st.off := by
  rcases hf with h | ⟨_, h, _, _⟩
  · exact h
  · omega

/-! ## Finder and containers

A state is the Finder (`off`, `mtch`) and the containers (`storage`, `stack`, `loopChain`, `isChild`).
`finder.Next()` changes the first and nothing else, so a state after it is written
`{ st with off := o, mtch := m }` (`Moved`) and what it keeps of `st` holds by definition; `Fnd` says what is known of
`o` and `m`.  `Ctx` is the invariant of the containers alone; `Step.ofCtx` puts the two together. -/

/-- the Finder stands at `o` inside the content and reports `m`, a match that starts at or after `lo` -/
structure Fnd (c : List Nat) (lo o m : Nat) : Prop where
  le : o ≤ c.length
  id : m ≤ 11
  start : lo + mLen m ≤ o
  cur : CurOk c o m

theorem NextFacts.fnd {c : List Nat} {off0 o m : Nat} (h : NextFacts c off0 o m) : Fnd c off0 o m :=
  ⟨h.le, h.id, h.start, h.cur⟩

theorem Fnd.restart {c : List Nat} {lo lo' o m : Nat} (h : Fnd c lo o m) (h' : lo' + mLen m ≤ o) : Fnd c lo' o m :=
  ⟨h.le, h.id, h', h.cur⟩

/-- `st'` is `st0` but for the Finder, which stands at `o` and reports `m` with `X o m` -/
def Moved (st0 : PState R) (X : Nat → Nat → Prop) (st' : PState R) : Prop :=
  ∃ o m, st' = { st0 with off := o, mtch := m } ∧ X o m

theorem Moved.mono {st0 st' : PState R} {X Y : Nat → Nat → Prop} (h : Moved st0 X st')
    (hXY : ∀ o m, X o m → Y o m) : Moved st0 Y st' := by
  obtain ⟨o, m, e, hx⟩ := h
  exact ⟨o, m, e, hXY o m hx⟩

theorem finderNext_A (c : List Nat) (hn : c.length + 16 < 4294967296)
    (st : PState R) (hoff : st.off ≤ c.length) : Total (finderNext c st) (Moved st (NextFacts c st.off)) := by
  obtain ⟨o, m, h1, _⟩ := next_total c st.off hoff
  have : finderNext c st = .ok { st with off := o, mtch := m } := by
    simp [finderNext, h1, bind, Except.bind]
  rw [this]
  exact ⟨o, m, rfl, next_facts c hn st.off o m hoff h1⟩

/-- state during a scan that only moves the Finder: `st0` with the Finder at a match that starts at or after `lo` -/
abbrev ScanQ (c : List Nat) (st0 : PState R) (lo : Nat) : PState R → Prop := Moved st0 (Fnd c lo)

theorem scanQ_next (c : List Nat) (hn : c.length + 16 < 4294967296) (st0 : PState R) {lo o m : Nat}
    (hf : Fnd c lo o m) :
    Total (finderNext c { st0 with off := o, mtch := m })
      (Moved st0 (fun o' m' => Fnd c lo o' m' ∧ o + mLen m' ≤ o')) := by
  apply Total.mono (finderNext_A c hn _ hf.le)
  rintro _ ⟨o', m', rfl, hp⟩
  have h1 : o + mLen m' ≤ o' := hp.start
  have := hf.start
  exact ⟨o', m', rfl, hp.fnd.restart (by omega), h1⟩

/-- the containers of `s`: every enclosing loop lies below level `lv`, the stack is as `StackG` says, and
when the list being filled is clean it is clean at level `lv` with a bound `≤ b` -/
def Ctx (c : List Nat) (s : PState R) (lv b : Nat) : Prop :=
  (∀ l ∈ s.loopChain, l.level < lv) ∧
  ∃ g k lvS lo chain, StackG c s.stack g k lvS lo chain ∧ (s.isChild = true → k = true) ∧
    (g = true → lvS = lv ∧ s.loopChain = chain ∧ ∃ b', ListOk c.length lv lo b' s.storage ∧ b' ≤ b)

theorem Ctx.levels {c : List Nat} {s : PState R} {lv b : Nat} (h : Ctx c s lv b) : ∀ l ∈ s.loopChain, l.level < lv :=
  h.1

theorem Ctx.of_stack {c : List Nat} {s : PState R} {g k : Bool} {lvS lo b : Nat} {chain : List LoopRef}
    (hs : StackG c s.stack g k lvS lo chain) (hk : s.isChild = true → k = true)
    (hg : g = true → s.loopChain = chain ∧ ∃ b', ListOk c.length lvS lo b' s.storage ∧ b' ≤ b) :
    ∃ lv, Ctx c s lv b := by
  obtain ⟨lvE, hlvE, hlvg⟩ := levels_pick hs (fun h => (hg h).1)
  refine ⟨lvE, hlvE, g, k, lvS, lo, chain, hs, hk, fun hgt => ?_⟩
  obtain ⟨e0, b', hb', hle⟩ := hg hgt
  exact ⟨(hlvg hgt).symm, e0, b', hlvg hgt ▸ hb', hle⟩

theorem GInv.containers {c : List Nat} {st : PState R} (hi : GInv c st) (h8 : st.mtch ≠ 8) (h10 : st.mtch ≠ 10) :
    ∃ lv b, Ctx c st lv b ∧ b + mLen st.mtch ≤ st.off := by
  obtain ⟨g, k, lvS, lo, chain, hs, hk, hg⟩ := hi.ctx
  have hcur := hi.cur.1
  obtain ⟨lv, hc⟩ := Ctx.of_stack (b := st.off - mLen st.mtch) hs hk (fun hgt => by
    obtain ⟨e0, hf⟩ := hg hgt
    obtain ⟨b, hb, hbo⟩ := hf.first h8 h10
    exact ⟨e0, b, hb, by omega⟩)
  exact ⟨lv, _, hc, by omega⟩

theorem Ctx.weaken {c : List Nat} {s : PState R} {lv b b' : Nat} (h : Ctx c s lv b) (hb : b ≤ b') : Ctx c s lv b' := by
  obtain ⟨hl, g, k, lvS, lo, chain, hs, hk, hg⟩ := h
  refine ⟨hl, g, k, lvS, lo, chain, hs, hk, fun hgt => ?_⟩
  obtain ⟨e1, e2, b0, hb0, hle⟩ := hg hgt
  exact ⟨e1, e2, b0, hb0, by omega⟩

theorem Ctx.append {c : List Nat} {s : PState R} {lv b : Nat} (h : Ctx c s lv b) (t : Tag R) {s0 e b' : Nat}
    (ht : wfTag c.length lv t = some (s0, e)) (h1 : b ≤ s0) (h2 : e ≤ b') (h3 : b' ≤ c.length) (h4 : b < b') :
    Ctx c { s with storage := s.storage ++ [t] } lv b' := by
  obtain ⟨hl, g, k, lvS, lo, chain, hs, hk, hg⟩ := h
  refine ⟨hl, g, k, lvS, lo, chain, hs, hk, fun hgt => ?_⟩
  obtain ⟨e1, e2, b0, hb0, hle⟩ := hg hgt
  exact ⟨e1, e2, b', (hb0.mono hle (by omega)).snoc t s0 e ht h1 h2 h3 h4, Nat.le_refl _⟩

/-! A container pushed at or after the bound of the list: the list inside it is empty and clean up to any `b'` from
its start on.  The inline containers set `isChild`; a loop raises the level and heads the chain. -/

theorem Ctx.pushSvar {c : List Nat} {s : PState R} {lv b : Nat} (h : Ctx c s lv b) (v : VarRef) {off b' : Nat}
    (hv : wfVar c.length lv v = true) (hid : v.idLen = 0) (hb : b ≤ off) (h1 : off ≤ b') (h2 : b' ≤ c.length) :
    Ctx c { push s (.svar s.storage v off) with isChild := true } lv b' := by
  obtain ⟨hl, g, k, lvS, lo, chain, hs, hk, hg⟩ := h
  refine ⟨hl, g, true, lvS, off, chain, ?_, fun _ => rfl, fun hgt => ?_⟩
  · have := StackG.svar (c := c) s.storage v off s.stack g g k lvS lo chain hs (fun h => h) (fun hgt => by
      obtain ⟨e1, _, b0, hb0, hle⟩ := hg hgt
      exact ⟨e1 ▸ hv, hid, b0, e1 ▸ hb0, by omega⟩)
    simpa [push] using this
  · obtain ⟨e1, e2, _⟩ := hg hgt
    exact ⟨e1, e2, b', ListOk.nil h1 h2, Nat.le_refl _⟩

theorem Ctx.pushIif {c : List Nat} {s : PState R} {lv b : Nat} (h : Ctx c s lv b) (cs : List (Qentem.Expr.Item R))
    (f : IifFields) {b' : Nat} (hcs : wfItemVars c.length lv cs = true) (hf : IifKeep c.length f)
    (hb : b ≤ f.off) (h1 : f.off ≤ b') (h2 : b' ≤ c.length) :
    Ctx c { push s (.iif s.storage cs f) with isChild := true } lv b' := by
  obtain ⟨hl, g, k, lvS, lo, chain, hs, hk, hg⟩ := h
  refine ⟨hl, g, true, lvS, f.off, chain, ?_, fun _ => rfl, fun hgt => ?_⟩
  · have := StackG.iif (c := c) s.storage cs f s.stack g g k lvS lo chain hs (fun h => h) (fun hgt => by
      obtain ⟨e1, _, b0, hb0, hle⟩ := hg hgt
      exact ⟨e1 ▸ hcs, hf, b0, e1 ▸ hb0, by omega⟩)
    simpa [push] using this
  · obtain ⟨e1, e2, _⟩ := hg hgt
    exact ⟨e1, e2, b', ListOk.nil h1 h2, Nat.le_refl _⟩

theorem Ctx.pushIf {c : List Nat} {s : PState R} {lv b : Nat} (h : Ctx c s lv b) (cs : List (Qentem.Expr.Item R))
    {curOff off : Nat} (hcs : wfItemVars c.length lv cs = true) (hb : b ≤ off) (h1 : off ≤ curOff)
    (h2 : curOff ≤ c.length) : Ctx c (push s (.ifT s.storage [] cs curOff off)) lv curOff := by
  obtain ⟨hl, g, k, lvS, lo, chain, hs, hk, hg⟩ := h
  refine ⟨hl, g, k, lvS, curOff, chain, ?_, hk, fun hgt => ?_⟩
  · exact .ifT s.storage [] cs curOff off s.stack g k lvS lo chain hs (fun hgt => by
      obtain ⟨e1, _, b0, hb0, hle⟩ := hg hgt
      exact ⟨by simp [wfCases], e1 ▸ hcs, h1, h2, b0, e1 ▸ hb0, by omega⟩)
  · obtain ⟨e1, e2, _⟩ := hg hgt
    exact ⟨e1, e2, curOff, ListOk.nil (Nat.le_refl _) h2, Nat.le_refl _⟩

theorem Ctx.pushLoop {c : List Nat} {s : PState R} {lv b : Nat} (h : Ctx c s lv b) (f : LoopFields) {b' : Nat}
    (ho : OpenSafe c f) (hch : ChainOk c s.loopChain) (hw : OpenWf c lv f) (hb : b ≤ f.off)
    (h1 : f.off + f.contentOff ≤ b') (h2 : b' ≤ c.length) :
    Ctx c { push s (.loop s.storage f s.loopChain) with loopChain := refOf f :: s.loopChain }
      (max lv (f.level + 1)) b' := by
  obtain ⟨hl, g, k, lvS, lo, chain, hs, hk, hg⟩ := h
  refine ⟨fun l hl' => ?_, g, k, max lvS (f.level + 1), f.off + f.contentOff, refOf f :: chain, ?_, hk, fun hgt => ?_⟩
  · rcases List.mem_cons.mp hl' with h | h
    · subst h; show f.level < _; omega
    · have := hl l h; omega
  · exact .loop s.storage f s.loopChain s.stack g k lvS lo chain hs ho hch (fun hgt => by
      obtain ⟨e1, e2, b0, hb0, hle⟩ := hg hgt
      exact ⟨e2, e1 ▸ hw, b0, e1 ▸ hb0, by omega⟩)
  · obtain ⟨e1, e2, _⟩ := hg hgt
    exact ⟨by rw [e1], congrArg (List.cons _) e2, b', ListOk.nil h1 h2, Nat.le_refl _⟩

/-- `hb`: the two cases of `Fill` -/
theorem Step.ofFill {c : List Nat} {st s' : PState R} {lv b lo : Nat} (hf : Fnd c lo s'.off s'.mtch)
    (h0 : st.off ≤ lo) (hc : Ctx c s' lv b) (hch : ChainOk c s'.loopChain)
    (hb : b + mLen s'.mtch ≤ s'.off ∨ (s'.storage = [] ∧ (s'.mtch = 8 ∨ s'.mtch = 10) ∧ b ≤ s'.off ∧
      ∃ pre f pc rest, s'.stack = .loop pre f pc :: rest)) : Step c st s' := by
  obtain ⟨_, g, k, lvS, lo', chain, hs, hk, hg⟩ := hc
  refine Step.of hf.start h0 ⟨fun _ => hf.le, hf.id, hf.cur, hch, g, k, lvS, lo', chain, hs, hk, fun hgt => ?_⟩
  obtain ⟨e1, e2, b0, hb0, hbl⟩ := hg hgt
  rcases hb with hb | ⟨he, hm, hbo, hstk⟩
  · exact ⟨e2, Or.inl ⟨b0, e1 ▸ hb0, by omega⟩⟩
  · have := (wfTags_nil.mp (he ▸ hb0.1)).1
    exact ⟨e2, Or.inr ⟨he, hm, by omega, hstk⟩⟩

theorem Step.ofCtx {c : List Nat} {st s' : PState R} {lv b lo : Nat} (hf : Fnd c lo s'.off s'.mtch)
    (hc : Ctx c s' lv b) (hch : ChainOk c s'.loopChain) (hb : b ≤ lo) (h0 : st.off ≤ lo) : Step c st s' :=
  Step.ofFill hf h0 hc hch (Or.inl (by have := hf.start; omega))

/-- a container closed: its tag `t`, occupying `[s0, e)`, goes to the end of the parent list, which is clean up to `e` -/
theorem Ctx.close {c : List Nat} {s : PState R} {g k : Bool} {lvS lo s0 e : Nat} {chain : List LoopRef}
    {pre : List (Tag R)} {t : Tag R} (hs : StackG c s.stack g k lvS lo chain) (hk : s.isChild = true → k = true)
    (hst : s.storage = pre ++ [t]) (he : e ≤ c.length)
    (hg : g = true → s.loopChain = chain ∧ wfTag c.length lvS t = some (s0, e) ∧
      ∃ bP, ListOk c.length lvS lo bP pre ∧ bP ≤ s0 ∧ bP < e) : ∃ lv, Ctx c s lv e :=
  Ctx.of_stack hs hk (fun hgt => by
    obtain ⟨e0, ht, bP, hbP, hbf, hlt⟩ := hg hgt
    exact ⟨e0, e, hst ▸ hbP.snoc t s0 e ht hbf (Nat.le_refl _) he hlt, Nat.le_refl _⟩)

/-- the last `finder.Next()` of a step -/
theorem finishG (c : List Nat) (hn : c.length + 16 < 4294967296) {st0 : PState R} (s2 : PState R) {b : Nat}
    (hch : ChainOk c s2.loopChain) (hc : ∃ lv, Ctx c s2 lv b) (hb : b ≤ s2.off) (h0 : st0.off ≤ s2.off) :
    Total (finderNext c s2) (Step c st0) := by
  obtain ⟨lv, hc⟩ := hc
  by_cases ho : s2.off ≤ c.length
  · apply Total.mono (finderNext_A c hn s2 ho)
    rintro _ ⟨o, m, rfl, hp⟩
    exact Step.ofCtx hp.fnd hc hch hb h0
  · rw [finderNext_beyond c s2 (by omega)]
    obtain ⟨_, g, k, lvS, lo', chain, hs, hk, hg⟩ := hc
    refine Total.ok _ ⟨⟨fun h => absurd rfl h, Nat.zero_le _, CurOk.zero c _, hch,
      g, k, lvS, lo', chain, hs, hk, fun hgt => ?_⟩, h0, fun h => absurd rfl h⟩
    obtain ⟨e1, e2, b0, hb0, hbl⟩ := hg hgt
    exact ⟨e2, Or.inl ⟨b0, e1 ▸ hb0, by simp only [mLen]; omega⟩⟩

/-- `s2` has the loop chain of `st`, stands at `o`, and its containers are in order up to `o` -/
def Kept (c : List Nat) (st : PState R) (o : Nat) (s2 : PState R) : Prop :=
  s2.loopChain = st.loopChain ∧ s2.off = o ∧ ∃ lv, Ctx c s2 lv o

theorem Kept.finish {c : List Nat} (hn : c.length + 16 < 4294967296) {st0 st s2 : PState R} {o : Nat}
    (h : Kept c st o s2) (hch : ChainOk c st.loopChain) (h0 : st0.off ≤ o) :
    Total (finderNext c s2) (Step c st0) := by
  obtain ⟨e1, e2, hc⟩ := h
  exact finishG c hn s2 (e1 ▸ hch) hc (e2 ▸ Nat.le_refl _) (e2 ▸ h0)

theorem GInv.scan {c : List Nat} {st s' : PState R} (hi : GInv c st) (h8 : st.mtch ≠ 8) (h10 : st.mtch ≠ 10)
    (hq : ScanQ c st st.off s') : Step c st s' := by
  obtain ⟨lv, b0, hc, hb0⟩ := hi.containers h8 h10
  obtain ⟨o, m, rfl, hf⟩ := hq
  exact Step.ofCtx hf hc hi.chainOk (by omega) (Nat.le_refl _)

theorem pass_G (c : List Nat) (hn : c.length + 16 < 4294967296) (st : PState R) (hi : GInv c st)
    (hm : st.mtch ≠ 0) : Total (finderNext c st) (Step c st) := by
  obtain ⟨g, k, lv, lo, chain, hs, hk, hg⟩ := hi.ctx
  refine finishG c hn st hi.chainOk (Ctx.of_stack hs hk (fun hgt => ?_)) (Nat.le_refl _) (Nat.le_refl _)
  obtain ⟨e0, hf⟩ := hg hgt
  refine ⟨e0, ?_⟩
  rcases hf with ⟨b, hb, hbo⟩ | ⟨he, _, hlo, _⟩
  · exact ⟨b, hb, by omega⟩
  · exact ⟨lo, by rw [he]; exact ListOk.nil (Nat.le_refl _) (by have := hi.off hm; omega), hlo⟩

theorem stepVar_G (c : List Nat) (hn : c.length + 16 < 4294967296) (st : PState R) (hi : GInv c st)
    (raw : Bool) (hm : st.mtch = 2 ∨ st.mtch = 3) : Total (stepVar c st raw) (Step c st) := by
  have h8 : st.mtch ≠ 8 := by omega
  have h10 : st.mtch ≠ 10 := by omega
  obtain ⟨lv, b0, hc, hb0⟩ := hi.containers h8 h10
  have hml : mLen st.mtch = 5 := by rcases hm with h | h <;> rw [h] <;> rfl
  have h5 : 5 ≤ st.off := by omega
  simp only [stepVar]
  apply Total.bind (finderNext_A c hn st (hi.off (by omega)))
  intro st1 hp1
  obtain ⟨o1, m1, rfl, hf1⟩ := hp1
  dsimp only
  refine Total.ite (fun hle => ?_) (fun _ => Total.ok _ (hi.scan h8 h10 ⟨o1, m1, rfl, hf1.fnd⟩))
  have hm1 : m1 = 1 := hle
  have hstart : st.off + 1 ≤ o1 := by have := hf1.start; rw [hm1] at this; exact this
  have hclose : c[o1 - 1]? = some 125 := hf1.close hm1
  have ho1 : o1 ≤ c.length := hf1.le
  refine Total.bind (P := Kept c st o1) ?_ (fun s2 hs2 => hs2.finish hn hi.chainOk (by omega))
  refine Total.ite (fun hlen => ?_) (fun _ => Total.ok _ ⟨rfl, rfl, lv, hc.weaken (by omega)⟩)
  have hsuf : W1.inLineSuffixLength = 1 := by decide
  have hL : trunc bits_VariableTag_Length ((o1 - st.off - W1.inLineSuffixLength) % 256) ≤ o1 - st.off - 1 := by
    have h1 := trunc_le bits_VariableTag_Length ((o1 - st.off - W1.inLineSuffixLength) % 256)
    have h2 : (o1 - st.off - W1.inLineSuffixLength) % 256 ≤ o1 - st.off - W1.inLineSuffixLength := Nat.mod_le _ _
    rw [hsuf] at h1 h2; rw [hsuf]; omega
  generalize trunc bits_VariableTag_Length ((o1 - st.off - W1.inLineSuffixLength) % 256) = L at hL
  apply Total.bind (mkVar_total c lv st.loopChain hi.chainOk hc.levels st.off L (by omega)
    ⟨o1 - 1, 125, by omega, hclose, Or.inl rfl⟩)
  rintro v ⟨hv1, hv2, hv3⟩
  have hpre : W1.variablePrefixLength = 5 := by decide
  have hprr : W1.rawVariablePrefixLength = 5 := by decide
  have htag : wfTag c.length lv (if raw = true then (Tag.raw v : Tag R) else Tag.var v)
      = some (st.off - 5, st.off + L + 1) := by
    cases raw <;> simp [wfTag_var, wfTag_raw, hv1, hv2, hv3, hpre, hprr, hsuf] <;> omega
  exact Total.ok _ ⟨rfl, rfl, lv, hc.append _ htag (by omega) (by omega) ho1 (by omega)⟩

theorem mathScan_A (c : List Nat) (hn : c.length + 16 < 4294967296)
    (st0 : PState R) (lo : Nat) : ∀ (fuel o m skip : Nat), Fnd c lo o m →
    Total (mathScan c fuel { st0 with off := o, mtch := m } skip)
      (fun r => Moved st0 (fun o' m' => Fnd c lo o' m' ∧ (r.2 ≠ 0 → lo + 1 ≤ r.2 ∧ r.2 + mLen m' ≤ o')) r.1) := by
  intro fuel
  induction fuel with
  | zero => intro o m skip hq; exact Total.ok _ ⟨o, m, rfl, hq, fun h => absurd rfl h⟩
  | succ fuel ih =>
    intro o m skip hq
    simp only [mathScan]
    refine Total.bind (P := fun r : PState R × Nat => ScanQ c st0 lo r.1)
      (Total.ite (fun _ => Total.bind (scanQ_next c hn st0 hq)
          (fun st' hst' => Total.ok _ (hst'.mono (fun _ _ h => h.1))))
        (fun _ => Total.ok _ ⟨o, m, rfl, hq⟩)) ?_
    rintro ⟨st1, skip1⟩ ⟨o1, m1, h1, hr⟩
    obtain rfl : st1 = _ := h1
    refine Total.ite (fun hle => ?_) (fun _ => Total.ok _ ⟨o1, m1, rfl, hr, fun h => absurd rfl h⟩)
    refine Total.ite (fun _ => ?_) (fun _ => ?_)
    · apply Total.bind (scanQ_next c hn st0 hr)
      rintro _ ⟨o2, m2, rfl, hf2, _⟩
      exact ih o2 m2 _ hf2
    · apply Total.bind (scanQ_next c hn st0 hr)
      rintro _ ⟨o2, m2, rfl, hf2, h12⟩
      refine Total.ok _ ⟨o2, m2, rfl, hf2, fun _ => ?_⟩
      have hm1 : m1 = 1 := hle
      have hs1 := hr.start
      rw [hm1] at hs1
      exact ⟨hs1, h12⟩

theorem stepMath_G (cfg : ScanCfg R) (c : List Nat) (hn : c.length + 16 < 4294967296)
    (st : PState R) (hi : GInv c st) (hm : st.mtch = 4) : Total (stepMath cfg c st) (Step c st) := by
  have h8 : st.mtch ≠ 8 := by omega
  have h10 : st.mtch ≠ 10 := by omega
  obtain ⟨lv, b0, hc, hb0⟩ := hi.containers h8 h10
  have hml : mLen st.mtch = 6 := by rw [hm]; rfl
  have h6 : 6 ≤ st.off := by omega
  simp only [stepMath]
  apply Total.bind (finderNext_A c hn st (hi.off (by omega)))
  rintro _ ⟨o1, m1, rfl, hf1⟩
  apply Total.bind (mathScan_A c hn st st.off _ o1 m1 0 hf1.fnd)
  rintro ⟨st2, e⟩ ⟨o2, m2, h2, hf2, he⟩
  obtain rfl : st2 = _ := h2
  have he : e ≠ 0 → st.off + 1 ≤ e ∧ e + mLen m2 ≤ o2 := he
  simp only [] at ⊢
  refine Total.ite (fun hne => ?_) (fun _ => Total.ok _ (hi.scan h8 h10 ⟨o2, m2, rfl, hf2⟩))
  obtain ⟨e1, e2⟩ := he hne
  have hsuf : W1.inLineSuffixLength = 1 := by decide
  have hmp : W1.mathPrefixLength = 6 := by decide
  have hlen : e ≤ c.length := by have := hf2.le; omega
  apply Total.bind (exprs_total cfg c lv st.loopChain hi.chainOk hc.levels st.off (e - W1.inLineSuffixLength) (by omega))
  intro ex hex
  have htag : wfTag c.length lv (Tag.math ex (st.off - W1.mathPrefixLength) e : Tag R) =
      some (st.off - W1.mathPrefixLength, e) :=
    wfTag_math.mpr ⟨itemsAll_wf c lv _ ex hex, by omega, hlen, rfl, rfl⟩
  exact Total.ok _ (Step.ofCtx (lo := e) (hf2.restart e2)
    (hc.append _ htag (by omega) (Nat.le_refl _) hlen (by omega)) hi.chainOk (Nat.le_refl _) (by omega))

theorem stepSvar_G (c : List Nat) (hn : c.length + 16 < 4294967296)
    (st : PState R) (hi : GInv c st) (hm : st.mtch = 5) : Total (stepSvar c st) (Step c st) := by
  have h8 : st.mtch ≠ 8 := by omega
  have h10 : st.mtch ≠ 10 := by omega
  obtain ⟨lv, b0, hc, hb0⟩ := hi.containers h8 h10
  have hml : mLen st.mtch = 6 := by rw [hm]; rfl
  have h6 : 6 ≤ st.off := by omega
  have hpl : W1.superVariablePrefixLength = 6 := by decide
  simp only [stepSvar]
  apply Total.bind (finderNext_A c hn st (hi.off (by omega)))
  intro st1 hp1
  obtain ⟨o1, m1, rfl, hf1⟩ := hp1
  have hstart : st.off + mLen m1 ≤ o1 := hf1.start
  apply Total.bind (skipW_total c o1 _ hf1.le st.off)
  intro o2 ho2
  have ho2e : o2 ≤ o1 := ho2.2.1 (by omega)
  have hL : trunc bits_VariableTag_Length ((o2 - st.off) % 256) ≤ o2 - st.off := by
    have h1 := trunc_le bits_VariableTag_Length ((o2 - st.off) % 256)
    have h2 : (o2 - st.off) % 256 ≤ o2 - st.off := Nat.mod_le _ _
    omega
  generalize trunc bits_VariableTag_Length ((o2 - st.off) % 256) = L at hL
  refine Total.ite (fun _ => ?_) (fun _ => Total.ok _ (hi.scan h8 h10 ⟨o1, m1, rfl, hf1.fnd⟩))
  exact Total.ok _ (Step.ofCtx (b := st.off) hf1.fnd
    (Ctx.pushSvar (s := { st with off := o1, mtch := m1 }) hc ⟨st.off, L, 0, 0⟩
      (wfVar_iff.mpr ⟨by have := hf1.le; simp only []; omega, Or.inl rfl⟩) rfl (by omega) (by omega) (hi.off (by omega)))
    hi.chainOk (Nat.le_refl _) (Nat.le_refl _))

theorem iifQuote_A (c : List Nat) (hn : c.length + 16 < 4294967296) (st0 : PState R) (lo quote : Nat) :
    ∀ (fuel o m off endO : Nat), Fnd c lo o m → off ≤ endO → endO ≤ o →
    Total (iifQuote c quote fuel { st0 with off := o, mtch := m } off endO)
      (fun r => ScanQ c st0 lo r.1 ∧ (r.1.mtch ≠ 0 → r.2 < c.length)) := by
  intro fuel
  induction fuel with
  | zero =>
    intro o m off endO hq _ _
    exact Total.ok _ ⟨⟨o, 0, rfl, hq.le, Nat.zero_le _, Nat.le_trans (Nat.le_add_right _ _) hq.start, CurOk.zero c _⟩,
      fun h => absurd rfl h⟩
  | succ fuel ih =>
    intro o m off endO hq hoe hes
    have hle := hq.le
    simp only [iifQuote]
    refine Total.ite (fun hm => ?_) (fun hm => Total.ok _ ⟨⟨o, m, rfl, hq⟩, fun h => absurd h hm⟩)
    apply Total.bind (skipW_total c endO _ (by omega) off)
    intro o2 ho2
    have ho2e : o2 ≤ endO := ho2.2.1 hoe
    refine Total.ite (fun hlt => Total.ok _ ⟨⟨o, m, rfl, hq⟩, fun _ => by simp only []; omega⟩) (fun _ => ?_)
    apply Total.bind (scanQ_next c hn st0 hq)
    rintro _ ⟨o1, m1, rfl, hf1, h01⟩
    refine Total.ite (fun _ => ?_) (fun _ => ?_)
    · apply Total.bind (scanQ_next c hn st0 hf1)
      rintro _ ⟨o3, m3, rfl, hf3, h13⟩
      exact ih o3 m3 o2 o3 hf3 (by omega) (Nat.le_refl _)
    · refine Total.ok _ ⟨⟨o1, m1, rfl, hf1⟩, fun hne => ?_⟩
      have hne : m1 ≠ 0 := hne
      have := mLen_pos m1 hne hf1.id
      have := hf1.le
      simp only []; omega

theorem stepIif_G (cfg : ScanCfg R) (c : List Nat) (hn : c.length + 16 < 4294967296)
    (st : PState R) (hi : GInv c st) (hm : st.mtch = 6) : Total (stepIif cfg c st) (Step c st) := by
  have h8 : st.mtch ≠ 8 := by omega
  have h10 : st.mtch ≠ 10 := by omega
  obtain ⟨lv, b0, hc, hb0⟩ := hi.containers h8 h10
  have hml : mLen st.mtch = 3 := by rw [hm]; rfl
  have h3 : 3 ≤ st.off := by omega
  have hpl : W1.inLineIfPrefixLength = 3 := by decide
  simp only [stepIif]
  apply Total.bind (finderNext_A c hn st (hi.off (by omega)))
  intro st1 hp1
  obtain ⟨o1, m1, rfl, hf1⟩ := hp1
  have hle1 : o1 ≤ c.length := hf1.le
  apply Total.bind (skipW_total c o1 _ hle1 st.off)
  intro p1 hp1
  apply Total.bind (andEqualAt_total _ c p1 W1.caseStr (by
    intro hc
    simp only [Bool.and_eq_true, decide_eq_true_eq] at hc
    have : W1.caseStr.length = W1.caseLength := by decide
    rw [this]; omega))
  intro bq _
  refine Total.ite (fun _ => ?_) (fun _ => Total.ok _ (hi.scan h8 h10 ⟨o1, m1, rfl, hf1.fnd⟩))
  apply Total.bind (skipW_total c o1 _ hle1 (p1 + W1.caseLength))
  intro p2 hp2
  apply Total.bind (skipW_total c o1 _ hle1 (p2 + 1))
  intro p3 hp3
  refine Total.ite (fun hlt3 => ?_) (fun _ => Total.ok _ (hi.scan h8 h10 ⟨o1, m1, rfl, hf1.fnd⟩))
  have hlt3 : p3 < o1 := hlt3
  refine Total.read (by omega) ?_
  apply Total.bind (iifQuote_A c hn st st.off _ (c.length + 2) o1 m1 (p3 + 1) o1 hf1.fnd (by omega) (Nat.le_refl _))
  rintro ⟨st2, off'⟩ ⟨hq2, hoff'⟩
  simp only [] at hq2 hoff' ⊢
  refine Total.ite (fun hne => ?_) (fun _ => Total.ok _ (hi.scan h8 h10 hq2))
  obtain ⟨o2, m2, rfl, hf2⟩ := hq2
  apply Total.bind (exprs_total cfg c lv st.loopChain hi.chainOk hc.levels (p3 + 1) off' (hoff' hne))
  intro cs hcs
  generalize trunc bits_InLineIfTag_TrueOffset (off' + 1 - (st.off - W1.inLineIfPrefixLength)) = tOff
  have hso : st.off ≤ c.length := hi.off (by omega)
  exact Total.ok _ (Step.ofCtx (b := st.off) hf2
    (Ctx.pushIif (s := { st with off := o2, mtch := m2 }) hc cs
      ({ off := st.off - W1.inLineIfPrefixLength, trueOff := tOff } : IifFields) (itemsAll_wf c lv _ cs hcs)
      ⟨by simp only []; omega, by simp only []; omega⟩ (by simp only []; omega) (by simp only []; omega) hso)
    hi.chainOk (Nat.le_refl _) (Nat.le_refl _))

/-! ## the role check of `closeIif` read back

What `allRole` and `startIdScan` accepted says of an ordered list: the sub tags of each value of an inline if lie inside
it, so the two sub-lists the renderer selects are well-formed there (`sel_take`, `sel_drop`, `iif_wfTag`). -/

theorem allRole_get (f : IifFields) (id : Nat) : ∀ (sub : List (Tag R)) (i0 j : Nat) (t : Tag R),
    allRole f id i0 sub = true → sub[j]? = some t → insideRole f id (i0 + j) t = true := by
  intro sub
  induction sub with
  | nil => intro i0 j t _ h; simp at h
  | cons x rest ih =>
    intro i0 j t h hj
    simp only [allRole, Bool.and_eq_true] at h
    cases j with
    | zero => simp at hj; subst hj; simpa using h.1
    | succ j =>
      simp at hj
      have := ih (i0 + 1) j t h.2 hj
      rwa [show i0 + 1 + j = i0 + (j + 1) by omega] at this

theorem insideRole_bounds (n lv : Nat) (f : IifFields) (id i : Nat) (t : Tag R) (s e : Nat)
    (hw : wfTag n lv t = some (s, e)) (hr : insideRole f id i t = true) :
    (((i < id) ↔ (f.trueOff < f.falseOff)) → f.off + f.trueOff ≤ s ∧ e ≤ f.off + f.trueOff + f.trueLen) ∧
    (¬ ((i < id) ↔ (f.trueOff < f.falseOff)) → f.off + f.falseOff ≤ s ∧ e ≤ f.off + f.falseOff + f.falseLen) := by
  have h5 : W1.variablePrefixLength = 5 := by decide
  have h5r : W1.rawVariablePrefixLength = 5 := by decide
  have key : ∀ s' e', subTagRange t = some (s', e') → s' = s ∧ e' = e := by
    intro s' e' hst
    cases t with
    | var v =>
      obtain ⟨_, _, _, rfl, rfl⟩ := wfTag_var.mp hw
      simp only [subTagRange, Option.some.injEq, Prod.mk.injEq] at hst
      omega
    | raw v =>
      obtain ⟨_, _, _, rfl, rfl⟩ := wfTag_raw.mp hw
      simp only [subTagRange, Option.some.injEq, Prod.mk.injEq] at hst
      omega
    | math ex off endOff =>
      obtain ⟨_, _, _, rfl, rfl⟩ := wfTag_math.mp hw
      simp only [subTagRange, Option.some.injEq, Prod.mk.injEq] at hst
      exact ⟨hst.1.symm, hst.2.symm⟩
    | svar _ _ _ _ => simp [subTagRange] at hst
    | iif _ _ _ => simp [subTagRange] at hst
    | loop _ _ => simp [subTagRange] at hst
    | ifT _ _ _ => simp [subTagRange] at hst
  simp only [insideRole] at hr
  cases hst : subTagRange t with
  | none => simp [hst] at hr
  | some p =>
    obtain ⟨s', e'⟩ := p
    obtain ⟨rfl, rfl⟩ := key s' e' hst
    simp only [hst, Bool.and_eq_true, decide_eq_true_eq] at hr
    constructor
    · intro hiff
      have : (decide (i < id) == decide (f.trueOff < f.falseOff)) = true := by
        simp only [beq_iff_eq, decide_eq_decide]; exact hiff
      simp only [this, if_true, Bool.and_eq_true, decide_eq_true_eq] at hr
      omega
    · intro hiff
      have : (decide (i < id) == decide (f.trueOff < f.falseOff)) = false := by
        simp only [beq_eq_false_iff_ne, ne_eq, decide_eq_decide]; exact hiff
      simp only [this, Bool.false_eq_true, if_false, Bool.and_eq_true, decide_eq_true_eq] at hr
      omega

theorem startIdScan_le (F : Nat) : ∀ (sub : List (Tag R)) (i : Nat),
    (startIdScan F sub i).1 ≤ i + sub.length := by
  intro sub
  induction sub with
  | nil => intro i; simp [startIdScan]
  | cons x rest ih =>
    intro i
    simp only [startIdScan]
    cases subTagOffset x with
    | none => simp
    | some o =>
      simp only []
      split
      · simp
      · have := ih (i + 1); simp only [List.length_cons]; omega

theorem sel_take (n lv : Nat) (f : IifFields) (id lo b P Q : Nat) (sub : List (Tag R))
    (hsub : wfTags n lv lo b sub = true) (hrole : allRole f id 0 sub = true) (hPQ : P ≤ Q) (hQ : Q ≤ n)
    (hin : ∀ j t s e, j < id → sub[j]? = some t → wfTag n lv t = some (s, e) →
      insideRole f id j t = true → P ≤ s ∧ e ≤ Q) :
    wfSel n lv P Q 0 id sub = true := by
  rw [wfSel_eq, List.drop_zero]
  apply wfTags_take_in n lv Q hQ sub lo b id P hsub _ hPQ
  intro j hj t ht s e hse
  have := allRole_get f id sub 0 j t hrole ht
  rw [Nat.zero_add] at this
  exact hin j t s e hj ht hse this

theorem sel_drop (n lv : Nat) (f : IifFields) (id lo b P Q : Nat) (sub : List (Tag R))
    (hsub : wfTags n lv lo b sub = true) (hrole : allRole f id 0 sub = true) (hPQ : P ≤ Q) (hQ : Q ≤ n)
    (hin : ∀ j t s e, id ≤ j → sub[j]? = some t → wfTag n lv t = some (s, e) →
      insideRole f id j t = true → P ≤ s ∧ e ≤ Q) :
    wfSel n lv P Q id sub.length sub = true := by
  rw [wfSel_eq]
  obtain ⟨lo', hd⟩ := wfTags_drop n lv id sub lo b hsub
  have := wfTags_take_in n lv Q hQ (sub.drop id) lo' b sub.length P hd (by
    intro j hj t ht s e hse
    have ht' : sub[id + j]? = some t := by simpa using ht
    have := allRole_get f id sub 0 (id + j) t hrole ht'
    rw [Nat.zero_add] at this
    exact hin (id + j) t s e (by omega) ht' hse this) hPQ
  exact this

theorem iif_wfTag (n lv : Nat) (cs : List (Qentem.Expr.Item R)) (sub : List (Tag R)) (f : IifFields)
    (id lo b : Nat) (hcs : wfItemVars n lv cs = true) (hlen : f.off + f.len ≤ n)
    (hsub : wfTags n lv lo b sub = true) (hne : f.trueOff ≠ f.falseOff)
    (hrole : allRole f id 0 sub = true) (hid : id ≤ sub.length)
    (htE : f.off + f.trueOff + f.trueLen ≤ n) (hfE : f.off + f.falseOff + f.falseLen ≤ n)
    (hstart : if f.trueOff < f.falseOff then f.falseStart = id else f.trueStart = id) :
    wfTag n lv (Tag.iif cs sub f) = some (f.off, f.off + f.len) := by
  have hb := fun j t s e (ht : sub[j]? = some t) (hse : wfTag n lv t = some (s, e))
    (hr : insideRole f id j t = true) => insideRole_bounds n lv f id j t s e hse hr
  by_cases hA : f.trueOff < f.falseOff
  · simp only [hA, if_true] at hstart
    have hnB : ¬ f.falseOff < f.trueOff := by omega
    have h1 := sel_take n lv f id lo b (f.off + f.trueOff) (f.off + f.trueOff + f.trueLen) sub hsub hrole
      (by omega) htE (by
        intro j t s e hj ht hse hr
        exact (hb j t s e ht hse hr).1 ⟨fun _ => hA, fun _ => hj⟩)
    have h2 := sel_drop n lv f id lo b (f.off + f.falseOff) (f.off + f.falseOff + f.falseLen) sub hsub hrole
      (by omega) hfE (by
        intro j t s e hj ht hse hr
        exact (hb j t s e ht hse hr).2 (fun h => by have := h.2 hA; omega))
    exact wfTag_iif.mpr ⟨hcs, hlen, by simp only [hA, if_true, hstart, h1, Bool.and_true, decide_eq_true_eq]; exact hid,
      by simp only [hnB, if_false, hstart, h2, Bool.and_true, decide_eq_true_eq]; exact hid, rfl, rfl⟩
  · simp only [hA, if_false] at hstart
    have hB : f.falseOff < f.trueOff := by omega
    have h1 := sel_drop n lv f id lo b (f.off + f.trueOff) (f.off + f.trueOff + f.trueLen) sub hsub hrole
      (by omega) htE (by
        intro j t s e hj ht hse hr
        exact (hb j t s e ht hse hr).1 ⟨fun h => by omega, fun h => absurd h hA⟩)
    have h2 := sel_take n lv f id lo b (f.off + f.falseOff) (f.off + f.falseOff + f.falseLen) sub hsub hrole
      (by omega) hfE (by
        intro j t s e hj ht hse hr
        exact (hb j t s e ht hse hr).2 (fun h => hA (h.1 hj)))
    exact wfTag_iif.mpr ⟨hcs, hlen, by simp only [hA, if_false, hstart, h1, Bool.and_true, decide_eq_true_eq]; exact hid,
      by simp only [hB, if_true, hstart, h2, Bool.and_true, decide_eq_true_eq]; exact hid, rfl, rfl⟩

theorem allRole_ext (f f' : IifFields) (id : Nat) (h1 : f'.off = f.off) (h2 : f'.trueOff = f.trueOff)
    (h3 : f'.trueLen = f.trueLen) (h4 : f'.falseOff = f.falseOff) (h5 : f'.falseLen = f.falseLen) :
    ∀ (sub : List (Tag R)) (i : Nat), allRole f' id i sub = allRole f id i sub := by
  intro sub
  induction sub with
  | nil => intro i; rfl
  | cons t rest ih =>
    intro i
    simp only [allRole, ih, insideRole, h1, h2, h3, h4, h5]

/-- `}` with an inline if on top of the stack -/
theorem closeIif_G (c : List Nat)
    (hidT : c.length < 2 ^ bits_InLineIfTag_TrueTagsStartID)
    (hidF : c.length < 2 ^ bits_InLineIfTag_FalseTagsStartID)
    (st : PState R) (pre : List (Tag R)) (cs : List (Qentem.Expr.Item R)) (f0 : IifFields)
    (rest : List (Frame R)) (hstk : st.stack = .iif pre cs f0 :: rest) (hchild : st.isChild = true)
    (hi : GInv c st) (hm : st.mtch = 1) :
    Total (closeIif c st pre cs f0 rest)
      (Kept c st st.off) := by
  obtain ⟨g, k, lv, lo, chain, hs, hk, hg⟩ := hi.ctx
  have h8 : st.mtch ≠ 8 := by omega
  have h10 : st.mtch ≠ 10 := by omega
  have hkt := hk hchild
  have hoff : st.off ≤ c.length := hi.off (by omega)
  rw [hstk] at hs
  cases hs with
  | iif _ _ _ _ g' gOut kr lvP loP _ hsr hgo hfr =>
    have hgg : g = g' := by simpa using hkt
    subst hgg
    -- facts when clean
    have hclean : g = true → st.loopChain = chain ∧ ∃ b, ListOk c.length lv f0.off b st.storage ∧ b + 1 ≤ st.off := by
      intro hgt
      obtain ⟨e0, hf⟩ := hg hgt
      obtain ⟨b, hb, hbo⟩ := hf.first h8 h10
      rw [hm] at hbo
      exact ⟨e0, b, hb, hbo⟩
    have hf0le : g = true → f0.off ≤ st.off := by
      intro hgt
      obtain ⟨_, b, hb, hbo⟩ := hclean hgt
      have := wfTags_le _ _ _ _ _ hb.1
      omega
    -- result: the inline if is dropped
    have hdrop : ∃ lv, Ctx c ({ st with stack := rest, storage := pre, isChild := false } : PState R) lv st.off := by
      refine Ctx.of_stack hsr (fun h => by cases h) (fun hgt => ?_)
      obtain ⟨_, _, bP, hbP, hbf⟩ := hfr hgt
      exact ⟨(hclean hgt).1, bP, hbP, by have := hf0le hgt; omega⟩
    -- result: the inline if stays open with record `f'` and list `sub'`
    have hkeep : ∀ (f' : IifFields) (sub' : List (Tag R)), f'.off = f0.off →
        (g = true → IifKeep c.length f') →
        (g = true → ∃ b, ListOk c.length lv f0.off b sub' ∧ b ≤ st.off) →
        ∃ lv', Ctx c ({ st with stack := .iif pre cs f' :: rest, storage := sub', isChild := true } : PState R) lv' st.off := by
      intro f' sub' hfo hkp hsub'
      refine Ctx.of_stack (.iif pre cs f' rest g g kr lv loP chain hsr (fun h => h) (by
          intro hgt
          obtain ⟨h1, _, bP, hbP, hbf⟩ := hfr hgt
          exact ⟨h1, hkp hgt, bP, hbP, by rw [hfo]; exact hbf⟩)) (fun _ => beq_self_eq_true g) (fun hgt => ?_)
      obtain ⟨b, hb, hbo⟩ := hsub' hgt
      exact ⟨(hclean hgt).1, b, by rw [hfo]; exact hb, hbo⟩
    simp only [closeIif]
    -- the attribute scan
    have hJ0 : IifJ (g = true) c.length
        ({ f0 with trueOff := 0, len := trunc bits_InLineIfTag_Length (st.off - f0.off) } : IifFields)
        ({ f0 with trueOff := 0, len := trunc bits_InLineIfTag_Length (st.off - f0.off) } : IifFields) true := by
      refine ⟨rfl, rfl, ?_, ?_, fun _ _ => Or.inl rfl⟩
      · intro hgt; exact (hfr hgt).2.1.1
      · intro hgt; exact (hfr hgt).2.1.2
    have hscan : Total (if f0.off + f0.trueOff < st.off then
          iifAttrs c st.off f0.trueOff (st.off + 2) (f0.off + f0.trueOff) false
            { f0 with trueOff := 0, len := trunc bits_InLineIfTag_Length (st.off - f0.off) }
        else iifAttrs c st.off f0.trueOff 1 (f0.off + f0.trueOff) false
            { f0 with trueOff := 0, len := trunc bits_InLineIfTag_Length (st.off - f0.off) })
        (fun sc => IifJ (g = true) c.length
          ({ f0 with trueOff := 0, len := trunc bits_InLineIfTag_Length (st.off - f0.off) } : IifFields) sc.f (!sc.repush)) :=
      Total.ite (fun _ => iifAttrs_total (g = true) c st.off hoff f0.trueOff _ _ _ _ _ (Nat.le_add_right _ _) hJ0)
        (fun _ => iifAttrs_total (g = true) c st.off hoff f0.trueOff _ _ _ _ _ (Nat.le_add_right _ _) hJ0)
    apply Total.bind hscan
    intro sc hJ
    have hfo : sc.f.off = f0.off := hJ.off
    have hkp : g = true → IifKeep c.length sc.f := fun hgt => ⟨hJ.fr hgt, hJ.tl hgt⟩
    have hsubkeep : g = true → ∃ b, ListOk c.length lv f0.off b st.storage ∧ b ≤ st.off := by
      intro hgt; obtain ⟨_, b, hb, hbo⟩ := hclean hgt; exact ⟨b, hb, by omega⟩
    have hsubdrop : g = true → ∃ b, ListOk c.length lv f0.off b st.storage.dropLast ∧ b ≤ st.off := by
      intro hgt; obtain ⟨_, b, hb, hbo⟩ := hclean hgt; exact ⟨b, hb.dropLast, by omega⟩
    have hnone : Total (if sc.repush = true then
          (.ok { st with stack := .iif pre cs sc.f :: rest, storage := st.storage.dropLast, isChild := true } :
            Except Fault (PState R))
        else .ok { st with stack := rest, storage := pre, isChild := false })
        (Kept c st st.off) :=
      Total.ite (fun _ => Total.ok _ ⟨rfl, rfl, hkeep sc.f _ hfo hkp hsubdrop⟩) (fun _ => Total.ok _ ⟨rfl, rfl, hdrop⟩)
    refine Total.ite (fun _ => ?_) (fun _ => hnone)
    · -- an attribute was found
      cases hsc : startIdScan ((if sc.f.trueOff < sc.f.falseOff then sc.f.falseOff else sc.f.trueOff) + sc.f.off)
        st.storage 0 with
      | mk id skip =>
        simp only []
        have hidle : id ≤ st.storage.length := by
          have := startIdScan_le ((if sc.f.trueOff < sc.f.falseOff then sc.f.falseOff else sc.f.trueOff) + sc.f.off)
            st.storage 0
          rw [hsc] at this; simpa using this
        refine Total.ite (fun _ => hnone) (fun hskip => Total.ite (fun _ => Total.ok _ ⟨rfl, rfl, hdrop⟩) (fun hout => ?_))
        refine Total.ite (fun _ => ?_) (fun hrep => ?_)
        · -- re-entry with the start id recorded
          refine Total.ok _ ⟨rfl, rfl, hkeep _ _ ?_ ?_ hsubkeep⟩
          · split <;> exact hfo
          · intro hgt; have := hkp hgt; split <;> exact this
        · -- the inline if is final
          refine Total.ok _ ⟨rfl, rfl, Ctx.of_stack hsr (fun h => by cases h) (fun hgt => ?_)⟩
          obtain ⟨e0, b, hb, hbo⟩ := hclean hgt
          obtain ⟨hcs, _, bP, hbP, hbf⟩ := hfr hgt
          refine ⟨e0, st.off, ?_, Nat.le_refl _⟩
          have hrepf : sc.repush = false := by simpa using hrep
          have hskipf : skip = false := by simpa using hskip
          simp only [hskipf, hrepf, Bool.not_false, Bool.true_and, Bool.not_eq_true'] at hout
          obtain ⟨hne, hrole⟩ : sc.f.trueOff ≠ sc.f.falseOff ∧ allRole sc.f id 0 st.storage = true := by
            simpa using hout
          have hbn : b ≤ c.length := wfTags_bounds _ _ _ _ _ hb.1
          have hidn : id ≤ c.length := by have := hb.2; omega
          have hend : sc.f.off + sc.f.len ≤ st.off := by
            rw [hJ.len, hfo]
            have := trunc_le bits_InLineIfTag_Length (st.off - f0.off)
            have := hf0le hgt
            simp only []; omega
          have hlen : sc.f.off + sc.f.len ≤ c.length := Nat.le_trans hend hoff
          have htE : sc.f.off + sc.f.trueOff + sc.f.trueLen ≤ c.length := by
            rcases hJ.tr hgt (by simp [hrepf]) with h0 | h1
            · rw [h0]; have := hJ.tl hgt; omega
            · exact h1
          have hfE := hJ.fr hgt
          have htag : wfTag c.length lv (Tag.iif cs st.storage
              (if sc.f.trueOff < sc.f.falseOff then
                { sc.f with falseStart := trunc bits_InLineIfTag_FalseTagsStartID id }
               else { sc.f with trueStart := trunc bits_InLineIfTag_TrueTagsStartID id }) : Tag R) =
              some (sc.f.off, sc.f.off + sc.f.len) := by
            have ht1 : trunc bits_InLineIfTag_FalseTagsStartID id = id := Nat.mod_eq_of_lt (by omega)
            have ht2 : trunc bits_InLineIfTag_TrueTagsStartID id = id := Nat.mod_eq_of_lt (by omega)
            by_cases hA : sc.f.trueOff < sc.f.falseOff
            · simp only [hA, if_true, ht1]
              exact iif_wfTag c.length lv cs st.storage _ id f0.off b hcs hlen hb.1 hne
                (by rw [allRole_ext sc.f { sc.f with falseStart := id } id rfl rfl rfl rfl rfl]; exact hrole)
                hidle htE hfE (by simp [hA])
            · simp only [hA, if_false, ht2]
              exact iif_wfTag c.length lv cs st.storage _ id f0.off b hcs hlen hb.1 hne
                (by rw [allRole_ext sc.f { sc.f with trueStart := id } id rfl rfl rfl rfl rfl]; exact hrole)
                hidle htE hfE (by simp [hA])
          simp only []
          refine hbP.snoc _ _ _ htag (by rw [hfo]; exact hbf) hend hoff ?_
          have := hf0le hgt; have := wfTags_le _ _ _ _ _ hb.1; omega

/-- `}` -/
theorem stepLineEnd_G (c : List Nat) (hn : c.length + 16 < 4294967296)
    (hidT : c.length < 2 ^ bits_InLineIfTag_TrueTagsStartID)
    (hidF : c.length < 2 ^ bits_InLineIfTag_FalseTagsStartID)
    (st : PState R) (hi : GInv c st) (hm : st.mtch = 1) : Total (stepLineEnd c st) (Step c st) := by
  obtain ⟨storage, stack, chain0, child, off, mtch⟩ := st
  simp only [] at hm
  subst hm
  have hoff : off ≤ c.length := hi.off (by simp)
  have hchain : ChainOk c chain0 := hi.chainOk
  simp only [stepLineEnd]
  cases child with
  | false => exact pass_G c hn _ hi (Nat.succ_ne_zero 0)
  | true =>
    cases stack with
    | nil => exact pass_G c hn _ hi (Nat.succ_ne_zero 0)
    | cons fr rest =>
      obtain ⟨g, k, lv, lo, chain, hs, hk, hg⟩ := hi.ctx
      have hkt : k = true := hk rfl
      simp only [] at hs hg
      cases fr with
      | svar pre v soff =>
        simp only [pure, Except.pure, bind, Except.bind]
        cases hs with
        | svar _ _ _ _ g' gOut kr lvP loP _ hsr hgo hfr =>
          have hgg : g = g' := by simpa using hkt
          subst hgg
          refine finishG c hn _ hchain (Ctx.close (s0 := lo) hsr (fun h => by cases h) rfl hoff (fun hgt => ?_))
            (Nat.le_refl _) (Nat.le_refl _)
          obtain ⟨e0, hf⟩ := hg hgt
          obtain ⟨b, hb, hbo⟩ := hf.first (fun h => by cases h) (fun h => by cases h)
          have hbo : b + 1 ≤ off := hbo
          obtain ⟨hv, hvid, bP, hbP, hbf⟩ := hfr hgt
          have hlob : lo ≤ b := wfTags_le _ _ _ _ _ hb.1
          have htag : wfTag c.length lv (Tag.svar storage v lo off : Tag R) = some (lo, off) :=
            wfTag_svar.mpr ⟨hv, hvid, by omega, hoff, wfEach_of_wfTags _ _ _ _ _ hb.1, rfl, rfl⟩
          exact ⟨e0, htag, bP, hbP, hbf, by omega⟩
      | iif pre cs f0 =>
        simp only []
        apply Total.bind (closeIif_G c hidT hidF _ pre cs f0 rest rfl rfl hi rfl)
        exact fun s2 hs2 => hs2.finish hn hchain (Nat.le_refl _)
      | loop pre f pc =>
        simp only [pure, Except.pure, bind, Except.bind]
        cases hs with
        | loop _ _ _ _ _ _ lvP loP chain' hsr ho hc hgc =>
          obtain ⟨k', hs'⟩ := hsr.demote hkt
          exact finishG c hn _ hc (Ctx.of_stack hs' (fun h => by cases h) (fun h => by cases h))
            (Nat.le_refl _) (Nat.le_refl _)
      | ifT pre done cur curOff ioff =>
        simp only [pure, Except.pure, bind, Except.bind]
        cases hs with
        | ifT _ _ _ _ _ _ _ _ lvP loP _ hsr hgc =>
          obtain ⟨k', hs'⟩ := hsr.demote hkt
          exact finishG c hn _ hchain (Ctx.of_stack hs' (fun h => by cases h) (fun h => by cases h))
            (Nat.le_refl _) (Nat.le_refl _)

/-- from five units before `off` (where a `<loop` ends) up to a `>`-free stretch `[off, gt)` that ends
before the end of the Finder's next match there is neither `}` nor `>` -/
theorem loopTag_clean {c : List Nat} {off o m gt : Nat} (hcur : CurOk c off 7) (hf : NextFacts c off o m)
    (hgt : ∀ i, off ≤ i → i < gt → ∀ x, c[i]? = some x → (x != W1.multiLineLastChar) = true) (hlt : gt < o) :
    ∀ i, off - 5 ≤ i → i < gt → ∀ x, c[i]? = some x → ¬ isStop x := by
  intro i hi1 hi2 x hx
  have h5 : 5 ≤ off := hcur.1
  by_cases hin : i < off
  · exact hcur.2 (by decide) (by decide) (by decide) i (by show off ≤ i + 5; omega) hin x hx
  · intro hstop
    rcases hstop with h125 | h62
    · by_cases hsk : i + mLen m < o
      · exact hf.skipped i (by omega) hsk x hx h125
      · by_cases hm2 : 2 ≤ m
        · exact hf.word hm2 i (by omega) (by omega) x hx h125
        · have : m = 0 ∨ m = 1 := by omega
          rcases this with h0 | h1
          · subst h0; have hsk : ¬ i + 0 < o := hsk; omega
          · subst h1; have hsk : ¬ i + 1 < o := hsk; omega
    · have := hgt i (by omega) hi2 x hx
      rw [h62] at this
      exact absurd this (by decide)

/-- a `>` before the end of the Finder's next match: the match starts after it, or it is the `>` of
`</loop>` / `</if>` -/
theorem gt_before_match {c : List Nat} {off o m gt : Nat} (hf : NextFacts c off o m) (hlt : gt < o)
    (hc : c[gt]? = some 62) : gt + 1 + mLen m ≤ o ∨ m = 8 ∨ m = 10 := by
  by_cases hfit : gt + 1 + mLen m ≤ o
  · exact Or.inl hfit
  · right
    by_cases hm2 : 2 ≤ m
    · by_cases h8 : m = 8
      · exact Or.inl h8
      · by_cases h10 : m = 10
        · exact Or.inr h10
        · exact absurd rfl (hf.nogt hm2 h8 h10 gt (by omega) hlt 62 hc)
    · exfalso
      have : m = 0 ∨ m = 1 := by omega
      rcases this with h0 | h1
      · subst h0; have hfit : ¬ gt + 1 + 0 ≤ o := hfit; omega
      · subst h1; have hfit : ¬ gt + 1 + 1 ≤ o := hfit
        have hi3 : gt = o - 1 := by omega
        have := hf.close rfl
        rw [← hi3, hc] at this
        cases this

theorem stepLoop_G (c : List Nat) (hn : c.length + 16 < 4294967296)
    (st : PState R) (hi : GInv c st) (hm : st.mtch = 7) : Total (stepLoop c st) (Step c st) := by
  have h8 : st.mtch ≠ 8 := by omega
  have h10 : st.mtch ≠ 10 := by omega
  obtain ⟨lv, b0, hc, hb0⟩ := hi.containers h8 h10
  have hml : mLen st.mtch = 5 := by rw [hm]; rfl
  have h5 : W1.loopPrefixLength = 5 := by decide
  have h5o : 5 ≤ st.off := by omega
  simp only [stepLoop]
  apply Total.bind (finderNext_A c hn st (hi.off (by omega)))
  intro st1 hp1
  obtain ⟨o1, m1, rfl, hf1⟩ := hp1
  dsimp only
  have ho1 : o1 ≤ c.length := hf1.le
  have hstart : st.off + mLen m1 ≤ o1 := hf1.start
  apply Total.bind (skipW_facts c o1 (· != W1.multiLineLastChar) ho1 st.off)
  rintro gt ⟨hsk, g5⟩
  have hoffgt : st.off ≤ gt := hsk.ge
  have hge : gt ≤ o1 := hsk.le (by omega)
  refine Total.ite (fun hlt => ?_) (fun _ => Total.ok _ (hi.scan h8 h10 ⟨o1, m1, rfl, hf1.fnd⟩))
  have hlt : gt < o1 := hlt
  have hgn : gt < c.length := by omega
  have hc62 : c[gt]? = some 62 := by
    have := g5 hlt (c[gt]'hgn) (List.getElem?_eq_getElem hgn)
    rw [List.getElem?_eq_getElem hgn]
    simp only [show W1.multiLineLastChar = 62 by decide, bne_eq_false_iff_eq] at this
    rw [this]
  have hclean := loopTag_clean (hm ▸ hi.cur) hf1 hsk.all hlt
  let tag0 : LoopFields := { off := st.off - W1.loopPrefixLength, level := trunc bits_LoopTag_Level st.stack.length }
  have hatt0 : AttOk c.length lv gt tag0 tag0 := by
    refine ⟨rfl, ?_, ?_, by simp [tag0, wfVar]⟩ <;> simp only [tag0, h5] <;> omega
  apply Total.bind (parseLoopAttributes_total c lv gt hgn hc62 st.loopChain hi.chainOk hc.levels tag0 (gt + 2)
    (st.off - W1.loopPrefixLength + W1.loopPrefixLength) .none tag0
    (by simp only [tag0]; omega) (by rw [h5]; omega) hatt0)
  intro tag htag
  have hoff : tag.off = st.off - 5 := by rw [htag.off]; simp only [tag0, h5]
  have hco : trunc bits_LoopTag_ContentOffset (gt + W1.multiLineSuffixLength - (st.off - W1.loopPrefixLength)) ≤ gt + 1 - (st.off - 5) := by
    have := trunc_le bits_LoopTag_ContentOffset (gt + W1.multiLineSuffixLength - (st.off - W1.loopPrefixLength))
    have h1 : W1.multiLineSuffixLength = 1 := by decide
    rw [h1, h5] at this; rw [h1, h5]; exact this
  generalize trunc bits_LoopTag_ContentOffset (gt + W1.multiLineSuffixLength - (st.off - W1.loopPrefixLength)) = co at hco
  have hsafe : OpenSafe c { tag with contentOff := co } := by
    refine ⟨?_, ?_⟩
    · have := htag.value; simp only []; omega
    · intro i hi x hx
      have := htag.value
      simp only [] at hi hx
      exact hclean _ (by rw [hoff]; omega) (by omega) x hx
  have hchain' : ChainOk c (refOf { tag with contentOff := co } :: st.loopChain) := by
    intro l hl
    rcases List.mem_cons.mp hl with h | h
    · subst h; exact ⟨hsafe.value, hsafe.clean⟩
    · exact hi.chainOk l h
  -- the containers with the loop pushed: its list is empty and starts after the `>`
  refine Total.ok _ (Step.ofFill (lo := st.off) (lv := max lv (tag.level + 1)) (b := gt + 1) hf1.fnd (Nat.le_refl _) ?_
    hchain' ?_)
  · exact Ctx.pushLoop (s := { st with off := o1, mtch := m1 }) hc { tag with contentOff := co } hsafe hi.chainOk
      ⟨htag.set, by have := htag.group; simp only []; omega, by simp only [hoff]; omega⟩
      (by simp only [hoff]; omega) (by simp only [hoff]; omega) (by omega)
  · -- the match starts after the `>`, or the `>` is that of the match `</loop>` / `</if>`
    rcases gt_before_match hf1 hlt hc62 with hfit | hm'
    · exact Or.inl hfit
    · exact Or.inr ⟨rfl, hm', (by omega : gt + 1 ≤ o1), _, _, _, _, rfl⟩

theorem stepLoopEnd_G (c : List Nat) (hn : c.length + 16 < 4294967296)
    (st : PState R) (hi : GInv c st) (hm : st.mtch = 8) : Total (stepLoopEnd c st) (Step c st) := by
  have hpass := pass_G c hn st hi (by omega)
  obtain ⟨storage, stack, chain0, child, off, mtch⟩ := st
  obtain ⟨g, k, lv, lo, chain, hs, hk, hg⟩ := hi.ctx
  have hoff0 := hi.off
  have hcur := hi.cur.1
  have hchain0 := hi.chainOk
  simp only [] at hs hk hg hm hoff0 hcur hchain0 hpass
  subst hm
  have hoff : off ≤ c.length := hoff0 (by omega)
  have h7 : off ≥ 7 := hcur
  have hsuf : W1.loopSuffixLength = 7 := by decide
  simp only [stepLoopEnd]
  cases hs with
  | loop pre f pc rest _ _ lvP loP chain' hsr ho hc hgc =>
    cases chain0 with
    | nil => simpa [pure, Except.pure, bind, Except.bind] using hpass
    | cons r0 rs =>
      simp only [pure, Except.pure, bind, Except.bind]
      refine finishG c hn _ hc ?_ (Nat.le_refl _) (Nat.le_refl _)
      by_cases hdrop : off - W1.loopSuffixLength < f.off + f.contentOff
      · -- a `</loop>` that starts inside the `<loop …>` tag: the loop is dropped
        simp only [hdrop, if_true]
        refine Ctx.of_stack hsr hk (fun hgt => ?_)
        obtain ⟨e0, hf⟩ := hg hgt
        obtain ⟨epc, hopen, bP, hbP, hbf⟩ := hgc hgt
        refine ⟨epc, bP, hbP, ?_⟩
        rw [hsuf] at hdrop
        rcases hf with ⟨b, hb, hbo⟩ | ⟨_, _, hlo, _⟩
        · have hlob : f.off + f.contentOff ≤ b := wfTags_le _ _ _ _ _ hb.1
          have hbo : b + 7 ≤ off := hbo
          omega
        · simp only [] at hlo; omega
      · simp only [hdrop, if_false]
        refine Ctx.close (s0 := f.off) hsr hk rfl hoff (fun hgt => ?_)
        obtain ⟨e0, hf⟩ := hg hgt
        obtain ⟨epc, hopen, bP, hbP, hbf⟩ := hgc hgt
        have hend : f.off + f.contentOff ≤ off - 7 := by rw [hsuf] at hdrop; omega
        have hsub : wfTags c.length (max lvP (f.level + 1)) (f.off + f.contentOff) (off - 7) storage = true := by
          rcases hf with ⟨b, hb, hbo⟩ | ⟨he, _, _, _⟩
          · have hbo : b + 7 ≤ off := hbo
            exact wfTags_mono _ _ _ _ _ _ hb.1 (by omega) (by omega)
          · simp only [] at he; rw [he]; simp only [wfTags, decide_eq_true_eq]; omega
        exact ⟨epc, wfTag_loop.mpr ⟨Or.inr hopen.set, hopen.group, by simp only [hsuf]; omega, by simp only [hsuf]; omega,
          by simp only [hsuf]; exact hsub, rfl, by simp only [hsuf]; omega⟩, bP, hbP, hbf, by omega⟩
  | _ => cases chain0 <;> simpa [pure, Except.pure, bind, Except.bind] using hpass

theorem stepIf_G (cfg : ScanCfg R) (c : List Nat) (hn : c.length + 16 < 4294967296)
    (st : PState R) (hi : GInv c st) (hm : st.mtch = 9) : Total (stepIf cfg c st) (Step c st) := by
  have h8 : st.mtch ≠ 8 := by omega
  have h10 : st.mtch ≠ 10 := by omega
  obtain ⟨lv, b0, hc, hb0⟩ := hi.containers h8 h10
  have hml : mLen st.mtch = 3 := by rw [hm]; rfl
  have h3 : W1.ifPrefixLength = 3 := by decide
  simp only [stepIf]
  apply Total.bind (parseIfCase_total c st.off)
  rintro ⟨off', caseOff, caseEnd⟩ ⟨hr1, hr2⟩
  simp only [] at hr1 hr2 ⊢
  refine Total.bind (P := Kept c st off') ?_ (fun s2 hs2 => hs2.finish hn hi.chainOk hr1)
  refine Total.ite (fun hlt => ?_) (fun _ => Total.ok _ ⟨rfl, rfl, lv, hc.weaken (by omega)⟩)
  apply Total.bind (exprs_total cfg c lv st.loopChain hi.chainOk hc.levels caseOff caseEnd (hr2 hlt))
  intro cs hcs
  exact Total.ok _ ⟨rfl, rfl, lv, Ctx.pushIf (s := { st with off := off' }) hc cs (itemsAll_wf c lv _ cs hcs)
    (by rw [h3]; omega) (by rw [h3]; omega) (by omega)⟩

theorem stepIfEnd_G (c : List Nat) (hn : c.length + 16 < 4294967296)
    (st : PState R) (hi : GInv c st) (hm : st.mtch = 10) : Total (stepIfEnd c st) (Step c st) := by
  have hpass := pass_G c hn st hi (by omega)
  obtain ⟨storage, stack, chain0, child, off, mtch⟩ := st
  obtain ⟨g, k, lv, lo, chain, hs, hk, hg⟩ := hi.ctx
  have hoff0 := hi.off
  have hchain0 := hi.chainOk
  simp only [] at hs hk hg hm hoff0 hchain0 hpass
  subst hm
  have hoff : off ≤ c.length := hoff0 (by omega)
  have hsuf : W1.ifSuffixLength = 5 := by decide
  simp only [stepIfEnd]
  cases hs with
  | ifT pre done cur curOff0 off0 rest _ _ lvP loP _ hsr hgc =>
    refine finishG c hn _ hchain0 (Ctx.close (s0 := off0) hsr hk rfl hoff (fun hgt => ?_)) (Nat.le_refl _) (Nat.le_refl _)
    obtain ⟨e0, hf⟩ := hg hgt
    obtain ⟨hdone, hcurw, hoc, hcn, bP, hbP, hbf⟩ := hgc hgt
    refine ⟨e0, ?_⟩
    rcases hf with ⟨b, hb, hbo⟩ | ⟨_, _, _, _, _, _, _, hstk⟩
    · have hbo : b + 5 ≤ off := hbo
      have hlob : lo ≤ b := wfTags_le _ _ _ _ _ hb.1
      have hsub : wfTags c.length lv lo (off - W1.ifSuffixLength) storage = true := by
        rw [hsuf]; exact wfTags_mono _ _ _ _ _ _ hb.1 (by omega) (by omega)
      have htag : wfTag c.length lv (Tag.ifT (done ++ [IfCase.mk cur storage lo (off - W1.ifSuffixLength)]) off0 off : Tag R) =
          some (off0, off) :=
        wfTag_ifT.mpr ⟨by omega, hoff, by rw [wfCases_snoc, hdone, hcurw, hsub]; rfl, rfl, rfl⟩
      exact ⟨htag, bP, hbP, hbf, by omega⟩
    · cases hstk
  | _ => exact hpass

/-- `finder.Next()` from any offset: beyond the end it reports no match and stays -/
theorem finderNext_any (c : List Nat) (hn : c.length + 16 < 4294967296) (s : PState R) :
    Total (finderNext c s)
      (Moved s (fun o m => s.off + mLen m ≤ o ∧ (s.off ≤ c.length → Fnd c s.off o m))) := by
  by_cases ho : s.off ≤ c.length
  · exact Total.mono (finderNext_A c hn s ho) (fun _ h => h.mono (fun _ _ hp => ⟨hp.start, fun _ => hp.fnd⟩))
  · rw [finderNext_beyond c s (by omega)]
    exact Total.ok _ ⟨s.off, 0, rfl, Nat.le_refl _, fun h => absurd h ho⟩

theorem stepElse_G (cfg : ScanCfg R) (c : List Nat) (hn : c.length + 16 < 4294967296)
    (st : PState R) (hi : GInv c st) (hm : st.mtch = 11) : Total (stepElse cfg c st) (Step c st) := by
  have hpass := pass_G c hn st hi (by omega)
  obtain ⟨storage, stack, chain0, child, off, mtch⟩ := st
  obtain ⟨g, k, lv, lo, chain, hs, hk, hg⟩ := hi.ctx
  have hoff0 := hi.off
  have hchain0 := hi.chainOk
  simp only [] at hs hk hg hm hoff0 hchain0 hpass
  subst hm
  have hoff : off ≤ c.length := hoff0 (by omega)
  have hpre : W1.elsePrefixLength = 5 := by decide
  simp only [stepElse]
  cases hs with
  | ifT pre done cur curOff0 off0 rest _ _ lvP loP _ hsr hgc =>
    -- facts when clean
    have hcl : g = true → chain0 = chain ∧ wfCases c.length lv (done ++ [IfCase.mk cur storage lo (off - W1.elsePrefixLength)]) = true ∧
        off0 ≤ off ∧ ∃ bP, ListOk c.length lv loP bP pre ∧ bP ≤ off0 := by
      intro hgt
      obtain ⟨e0, hf⟩ := hg hgt
      obtain ⟨b, hb, hbo⟩ := hf.first (fun h => by cases h) (fun h => by cases h)
      have hbo : b + 5 ≤ off := hbo
      obtain ⟨hdone, hcurw, hoc, hcn, bP, hbP, hbf⟩ := hgc hgt
      have hlob : lo ≤ b := wfTags_le _ _ _ _ _ hb.1
      refine ⟨e0, ?_, by omega, bP, hbP, hbf⟩
      rw [wfCases_snoc, hdone, hcurw, hpre]
      simp only [Bool.true_and]
      exact wfTags_mono _ _ _ _ _ _ hb.1 (by omega) (by omega)
    -- the whole `<if>` is dropped
    have hdrop : ∃ lv', Ctx c
        ({ storage := pre, stack := rest, loopChain := chain0, isChild := child, off := off, mtch := 11 } : PState R) lv' off :=
      Ctx.of_stack hsr hk (fun hgt => by
        obtain ⟨e0, _, h1, bP, hbP, hbf⟩ := hcl hgt
        exact ⟨e0, bP, hbP, by omega⟩)
    -- the next case opens with the condition `cs`, its list empty from `o'` on
    have hnext : ∀ (cs : List (Qentem.Expr.Item R)) (o' m' p' : Nat), off ≤ o' → o' ≤ c.length →
        (g = true → wfItemVars c.length lv cs = true) →
        ∃ lv', Ctx c
          ({ storage := [], loopChain := chain0, isChild := child, off := p', mtch := m',
             stack := .ifT pre (done ++ [IfCase.mk cur storage lo (off - W1.elsePrefixLength)]) cs o' off0 :: rest } :
            PState R) lv' o' := by
      intro cs o' m' p' ho' hle' hcs
      refine Ctx.of_stack (.ifT pre _ cs o' off0 rest g k lv loP chain hsr (fun hgt => ?_)) hk (fun hgt => ?_)
      · obtain ⟨e0, hd', h1, bP, hbP, hbf⟩ := hcl hgt
        exact ⟨hd', hcs hgt, by omega, hle', bP, hbP, hbf⟩
      · exact ⟨(hcl hgt).1, o', ListOk.nil (Nat.le_refl _) hle', Nat.le_refl _⟩
    simp only []
    apply Total.bind (elseScan_total c (c.length + 1) off)
    rintro ⟨o, isIfElse⟩ hr
    simp only [] at hr ⊢
    refine Total.ite (fun _ => ?_) (fun _ => ?_)
    · apply Total.bind (parseIfCase_total c o)
      rintro ⟨o', caseOff, caseEnd⟩ ⟨hr21, hr22⟩
      simp only [] at hr21 hr22 ⊢
      apply Total.bind (finderNext_any c hn _)
      rintro _ ⟨o3, m3, rfl, hst3, hp3⟩
      have hst3 : o' + mLen m3 ≤ o3 := hst3
      refine Total.ite (fun hcond => ?_) (fun _ => ?_)
      · have hlt' : o' < c.length := hcond.1
        obtain ⟨lvE, hlvE, hlvg⟩ := levels_pick hsr (fun h => (hg h).1)
        apply Total.bind (exprs_total cfg c lvE chain0 hchain0 hlvE caseOff caseEnd (hr22 hlt'))
        intro cs hcs
        obtain ⟨lv', hc'⟩ := hnext cs o' m3 o3 (by omega) (by omega) (fun hgt => hlvg hgt ▸ itemsAll_wf c lvE _ cs hcs)
        exact Total.ok _ (Step.ofCtx (hp3 (by simp only []; omega)) hc' hchain0 (Nat.le_refl _)
          (by simp only []; omega))
      · obtain ⟨lvD, hd⟩ := hdrop
        exact finishG c hn _ hchain0 ⟨lvD, hd.weaken (b' := o3) (by omega)⟩ (Nat.le_refl _) (by simp only []; omega)
    · refine Total.ite (fun hlt => ?_) (fun _ => finishG c hn _ hchain0 hdrop (Nat.le_refl _) (Nat.le_refl _))
      exact finishG c hn _ hchain0 (hnext [] (o + 1) 11 (o + 1) (by omega) (by omega) (fun _ => by simp [wfItemVars]))
        (Nat.le_refl _) (Nat.le_succ_of_le hr)
  | _ => exact hpass

theorem step_cases {cfg : ScanCfg R} {c : List Nat} {st : PState R} {P : Except Fault (PState R) → Prop}
    (h0 : st.mtch ≠ 0) (hle : st.mtch ≤ 11)
    (h1 : st.mtch = 1 → P (stepLineEnd c st)) (h2 : st.mtch = 2 → P (stepVar c st false))
    (h3 : st.mtch = 3 → P (stepVar c st true)) (h4 : st.mtch = 4 → P (stepMath cfg c st))
    (h5 : st.mtch = 5 → P (stepSvar c st)) (h6 : st.mtch = 6 → P (stepIif cfg c st))
    (h7 : st.mtch = 7 → P (stepLoop c st)) (h8 : st.mtch = 8 → P (stepLoopEnd c st))
    (h9 : st.mtch = 9 → P (stepIf cfg c st)) (h10 : st.mtch = 10 → P (stepIfEnd c st))
    (h11 : st.mtch = 11 → P (stepElse cfg c st)) : P (step cfg c st) := by
  rcases mtch_cases h0 hle with h | h | h | h | h | h | h | h | h | h | h
  · have e : step cfg c st = stepLineEnd c st := by rw [step, h]; rfl
    rw [e]; exact h1 h
  · have e : step cfg c st = stepVar c st false := by rw [step, h]; rfl
    rw [e]; exact h2 h
  · have e : step cfg c st = stepVar c st true := by rw [step, h]; rfl
    rw [e]; exact h3 h
  · have e : step cfg c st = stepMath cfg c st := by rw [step, h]; rfl
    rw [e]; exact h4 h
  · have e : step cfg c st = stepSvar c st := by rw [step, h]; rfl
    rw [e]; exact h5 h
  · have e : step cfg c st = stepIif cfg c st := by rw [step, h]; rfl
    rw [e]; exact h6 h
  · have e : step cfg c st = stepLoop c st := by rw [step, h]; rfl
    rw [e]; exact h7 h
  · have e : step cfg c st = stepLoopEnd c st := by rw [step, h]; rfl
    rw [e]; exact h8 h
  · have e : step cfg c st = stepIf cfg c st := by rw [step, h]; rfl
    rw [e]; exact h9 h
  · have e : step cfg c st = stepIfEnd c st := by rw [step, h]; rfl
    rw [e]; exact h10 h
  · have e : step cfg c st = stepElse cfg c st := by rw [step, h]; rfl
    rw [e]; exact h11 h

theorem step_G (cfg : ScanCfg R) (c : List Nat) (hn : c.length + 16 < 4294967296)
    (hidT : c.length < 2 ^ bits_InLineIfTag_TrueTagsStartID)
    (hidF : c.length < 2 ^ bits_InLineIfTag_FalseTagsStartID)
    (st : PState R) (hi : GInv c st) (hm : st.mtch ≠ 0) : Total (step cfg c st) (Step c st) :=
  step_cases (P := fun x => Total x (Step c st)) hm hi.mtch
    (stepLineEnd_G c hn hidT hidF st hi) (fun h => stepVar_G c hn st hi false (Or.inl h))
    (fun h => stepVar_G c hn st hi true (Or.inr h)) (stepMath_G cfg c hn st hi) (stepSvar_G c hn st hi)
    (stepIif_G cfg c hn st hi) (stepLoop_G c hn st hi) (stepLoopEnd_G c hn st hi) (stepIf_G cfg c hn st hi)
    (stepIfEnd_G c hn st hi) (stepElse_G cfg c hn st hi)

/-- the main loop returns: a step with a match moves the Finder on inside the content, so the fuel
`2·n + 4` is never exhausted -/
theorem parseMain_G (cfg : ScanCfg R) (c : List Nat) (hn : c.length + 16 < 4294967296)
    (hidT : c.length < 2 ^ bits_InLineIfTag_TrueTagsStartID)
    (hidF : c.length < 2 ^ bits_InLineIfTag_FalseTagsStartID) :
    ∀ (fuel : Nat) (st : PState R), GInv c st → 1 ≤ fuel → (st.mtch ≠ 0 → c.length - st.off + 2 ≤ fuel) →
      Total (parseMain cfg c fuel st) (GInv c) := by
  intro fuel
  induction fuel with
  | zero => intro st _ h1 _; omega
  | succ fuel ih =>
    intro st hi _ hm
    simp only [parseMain]
    refine Total.ite (fun h0 => Total.bind (step_G cfg c hn hidT hidF st hi h0) (fun st1 h1 => ?_))
      (fun _ => Total.ok _ hi)
    have hf := hm h0
    have := h1.le
    exact ih st1 h1.inv (by omega) (fun h => by have := h1.lt h; have := h1.inv.off h; omega)

theorem cleanup_G (c : List Nat) : ∀ (stack : List (Frame R)) (g k : Bool) (lv lo : Nat) (chain : List LoopRef)
    (storage : List (Tag R)), StackG c stack g k lv lo chain →
    (stack = [] → ∃ b, wfTags c.length 0 0 b storage = true) →
    wfTags c.length 0 0 c.length (cleanup stack storage) = true := by
  intro stack
  induction stack with
  | nil =>
    intro g k lv lo chain storage _ hb
    obtain ⟨b, hb⟩ := hb rfl
    simp only [cleanup]
    exact wfTags_mono _ _ _ _ _ _ hb (wfTags_bounds _ _ _ _ _ hb) (Nat.le_refl _)
  | cons fr rest ih =>
    intro g k lv lo chain storage hs _
    have hbot : ∀ (g' k' : Bool) (lvP loP : Nat) (ch : List LoopRef) (pre : List (Tag R)),
        StackG c rest g' k' lvP loP ch →
        (g' = true → ∃ b, ListOk c.length lvP loP b pre) →
        wfTags c.length 0 0 c.length (cleanup rest pre) = true := by
      intro g' k' lvP loP ch pre hsr hpre
      apply ih g' k' lvP loP ch pre hsr
      intro hnil
      subst hnil
      cases hsr
      obtain ⟨b, hb⟩ := hpre rfl
      exact ⟨b, hb.1⟩
    cases hs with
    | loop pre f pc rest g k lvP loP chain hsr ho hc hgc =>
      simp only [cleanup, Frame.pre]
      exact hbot g k lvP loP chain pre hsr (fun h => by obtain ⟨_, _, b, hb, _⟩ := hgc h; exact ⟨b, hb⟩)
    | ifT pre done cur curOff off rest g k lvP loP chain hsr hgc =>
      simp only [cleanup, Frame.pre]
      exact hbot g k _ loP chain pre hsr (fun h => by obtain ⟨_, _, _, _, b, hb, _⟩ := hgc h; exact ⟨b, hb⟩)
    | svar pre v off rest g' gOut k lvP loP chain hsr hgo hgc =>
      simp only [cleanup, Frame.pre]
      exact hbot g' k _ loP chain pre hsr (fun h => by obtain ⟨_, _, b, hb, _⟩ := hgc h; exact ⟨b, hb⟩)
    | iif pre cs f rest g' gOut k lvP loP chain hsr hgo hgc =>
      simp only [cleanup, Frame.pre]
      exact hbot g' k _ loP chain pre hsr (fun h => by obtain ⟨_, _, b, hb, _⟩ := hgc h; exact ⟨b, hb⟩)

theorem GInv.first (c : List Nat) (hn : c.length + 16 < 4294967296) :
    Total (finderNext c ({} : PState R)) (GInv c) := by
  apply Total.mono (finderNext_A c hn ({} : PState R) (Nat.zero_le _))
  rintro _ ⟨o, m, rfl, hp⟩
  refine ⟨fun _ => hp.le, hp.id, hp.cur, (by intro l hl; cases hl), true, false, 0, 0, [], .nil,
    (by intro h; cases h), fun _ => ⟨rfl, Or.inl ⟨0, ListOk.nil (Nat.le_refl _) (Nat.zero_le _), ?_⟩⟩⟩
  have := hp.start; simpa using this

/-- for every content (below the 32-bit size limit; the start-id fields of the inline-if record wide
enough for the content), every number reader: the tag scanner returns — no failed read, no exhausted
fuel — and the tag tree it returns is well-formed -/
theorem parse_returns (cfg : ScanCfg R) (c : List Nat) (hn : c.length + 16 < 4294967296)
    (hidT : c.length < 2 ^ bits_InLineIfTag_TrueTagsStartID)
    (hidF : c.length < 2 ^ bits_InLineIfTag_FalseTagsStartID) :
    Total (parse cfg c) (fun tags => wf c.length tags = true) := by
  simp only [parse]
  apply Total.bind (GInv.first c hn)
  intro st0 hi0
  apply Total.bind (parseMain_G cfg c hn hidT hidF _ st0 hi0 (by omega) (fun _ => by omega))
  intro st' hi'
  obtain ⟨g, k, lv, lo, chain, hs, hk, hg⟩ := hi'.ctx
  refine Total.ok _ ?_
  simp only [wf]
  apply cleanup_G c st'.stack g k lv lo chain st'.storage hs
  intro hnil
  rw [hnil] at hs
  cases hs
  obtain ⟨_, hf⟩ := hg rfl
  rcases hf with ⟨b, hb, _⟩ | ⟨_, _, _, _, _, _, _, hstk⟩
  · exact ⟨b, hb.1⟩
  · rw [hnil] at hstk; cases hstk

theorem parse_wf_all (cfg : ScanCfg R) (c : List Nat) (hn : c.length + 16 < 4294967296)
    (hidT : c.length < 2 ^ bits_InLineIfTag_TrueTagsStartID)
    (hidF : c.length < 2 ^ bits_InLineIfTag_FalseTagsStartID) :
    Safe (parse cfg c) (fun tags => wf c.length tags = true) :=
  (parse_returns cfg c hn hidT hidF).safe

theorem parse_total (cfg : ScanCfg R) (c : List Nat) (hn : c.length + 16 < 4294967296)
    (hidT : c.length < 2 ^ bits_InLineIfTag_TrueTagsStartID)
    (hidF : c.length < 2 ^ bits_InLineIfTag_FalseTagsStartID) :
    ∃ tags, parse cfg c = .ok tags ∧ wf c.length tags = true :=
  (parse_returns cfg c hn hidT hidF).elim

/-- parse + render makes no out-of-range access: every content, every value -/
theorem render_safe_all [RealLike R] (cx : RCtx R) (hg : cx.guardIndexRead = true)
    (cfg : ScanCfg R) (hn : cx.content.length + 16 < 4294967296)
    (hidT : cx.content.length < 2 ^ bits_InLineIfTag_TrueTagsStartID)
    (hidF : cx.content.length < 2 ^ bits_InLineIfTag_FalseTagsStartID) (fuel : Nat) :
    Safe ((parse cfg cx.content).bind (fun tags => renderTop cx tags fuel)) (fun _ => True) :=
  Safe.bind (parse_wf_all cfg cx.content hn hidT hidF) (fun tags hp => render_safe_of_wf cx hg tags hp fuel)

end Qentem.Tmpl
