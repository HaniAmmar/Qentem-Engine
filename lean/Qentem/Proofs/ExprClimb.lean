import Qentem.Model.ExprSpec
/-!
# C04 — the tree that the flat-list recursion of `evaluate` builds

Trees only: `run prev t op rest` is a fold of `attach` over the items that stops at the first operator
whose rank is not above `prev`, the operator of the caller — what one activation of the C++ `evaluate`
loop consumes.  `run_under`, `run_split` and `run_inner` say how an inner activation sits inside the
outer one; `run_noOp_wf` shows that the top-level run is `climbGo`.
-/
namespace Qentem.Expr
variable {R : Type}

theorem rank_noOp : Op.noOp.rank = 0 := by decide

theorem rank_pos (op : Op) (h : op ≠ .noOp) : 0 < op.rank := by
  cases op <;> first | (exact absurd rfl h) | decide

theorem sizeItems_cons (x : Operand R) (o : Op) (rest : List (Item R)) :
    sizeItems ((x, o) :: rest) = x.size + 1 + sizeItems rest := by
  rw [sizeItems]

theorem wfTail_nil {o : Op} : wfTail o ([] : List (Item R)) = true ↔ o = .noOp := by
  simp [wfTail]

theorem wfTail_cons {o o' : Op} {x : Operand R} {rest : List (Item R)} :
    wfTail o ((x, o') :: rest) = true ↔ o ≠ .noOp ∧ x.wf = true ∧ wfTail o' rest = true := by
  simp [wfTail, and_assoc]

/-- `attach t op _` does not descend into `t` -/
def closedFor : Tree R → Op → Prop
  | .bin o _ _, op => ¬ (o.rank < op.rank)
  | _, _ => True

theorem attach_closed (t : Tree R) (op : Op) (x : Tree R) (h : closedFor t op) :
    attach t op x = .bin op t x := by
  cases t with
  | leaf y => simp [attach]
  | paren t => simp [attach]
  | bin o l r =>
    simp only [closedFor] at h
    simp [attach, h]

theorem closedFor_climbOperand (x : Operand R) (op : Op) : closedFor (climbOperand x) op := by
  cases x <;> simp [climbOperand, closedFor]

def run (prev : Op) : Tree R → Op → List (Item R) → Tree R × Op × List (Item R)
  | t, op, [] => (t, op, [])
  | t, op, (x, o') :: rest =>
    if prev.rank < op.rank then run prev (attach t op (climbOperand x)) o' rest
    else (t, op, (x, o') :: rest)

theorem run_of_not_lt (prev : Op) (t : Tree R) (op : Op) (rest : List (Item R))
    (h : ¬ prev.rank < op.rank) : run prev t op rest = (t, op, rest) := by
  cases rest with
  | nil => simp [run]
  | cons it rest => obtain ⟨x, o'⟩ := it; simp [run, h]

theorem run_under (o : Op) (L : Tree R) (rest : List (Item R)) :
    ∀ (R0 : Tree R) (op : Op), run o (.bin o L R0) op rest =
      (.bin o L (run o R0 op rest).1, (run o R0 op rest).2.1, (run o R0 op rest).2.2) := by
  intro R0 op
  fun_induction run o R0 op rest with
  | case1 R0 op => rfl
  | case2 R0 op x o' rest h ih => rw [run, if_pos h, attach, if_pos h]; exact ih
  | case3 R0 op x o' rest h => rw [run, if_neg h]

theorem run_split (prev o : Op) (hpo : prev.rank ≤ o.rank) (rest : List (Item R)) :
    ∀ (t : Tree R) (op : Op), run prev t op rest =
      run prev (run o t op rest).1 (run o t op rest).2.1 (run o t op rest).2.2 := by
  intro t op
  fun_induction run o t op rest with
  | case1 t op => rfl
  | case2 t op x o' rest h ih => rw [run, if_pos (by omega)]; exact ih
  | case3 t op x o' rest h => rfl

theorem run_inner (p : Op) (rest : List (Item R)) :
    ∀ (t : Tree R) (op : Op), wfTail op rest = true →
      wfTail (run p t op rest).2.1 (run p t op rest).2.2 = true ∧
      sizeItems (run p t op rest).2.2 ≤ sizeItems rest ∧ ¬ p.rank < (run p t op rest).2.1.rank := by
  intro t op
  fun_induction run p t op rest with
  | case1 t op =>
    intro hw
    refine ⟨hw, Nat.le_refl _, ?_⟩
    rw [wfTail_nil.1 hw, rank_noOp]; exact Nat.not_lt_zero _
  | case2 t op x o' rest h ih =>
    intro hw
    obtain ⟨h1, h2, h3⟩ := ih (wfTail_cons.1 hw).2.2
    exact ⟨h1, by rw [sizeItems_cons]; omega, h3⟩
  | case3 t op x o' rest h => exact fun hw => ⟨hw, Nat.le_refl _, h⟩

theorem run_noOp_wf (rest : List (Item R)) :
    ∀ (t : Tree R) (op : Op), wfTail op rest = true →
      run .noOp t op rest = (climbGo t op rest, .noOp, []) := by
  intro t op
  fun_induction run .noOp t op rest with
  | case1 t op =>
    intro h
    rw [wfTail_nil.1 h, climbGo]
  | case2 t op x o' rest h ih =>
    intro hw
    rw [climbGo]; exact ih (wfTail_cons.1 hw).2.2
  | case3 t op x o' rest h =>
    intro hw
    exact absurd (rank_noOp ▸ rank_pos op (wfTail_cons.1 hw).1) h

end Qentem.Expr
