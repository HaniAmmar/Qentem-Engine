import Qentem.Proofs.TmplWords
import Qentem.Proofs.TmplLoop
/-!
# C02 — the template classes of the staged statements

Block lists `Blk`, block trees `BT` (`<if>` / `<elseif>` / `<else>` chains, nested) and the template with one `<loop>`
between segment runs.  For each: the template it stands for (`blksTpl`, `btsTpl`, `loopTpl`), the text the document implies
(`expBlks`, `expBT`), the side conditions, the fuel functions; for block trees the printed text and the tags (`printBT`,
`tagsBT`; a block list prints and parses as its tree, `blksBT` in Proofs/TmplStages.lean); for the loop also `loopArr` / `loopObj` of the reference
interpreter on the entries (`expand_loopG`).  All three are trees of the general class `GT`: their parse and rendering,
and the expansion of block trees and block lists, are in Proofs/TmplStages.lean.
-/
namespace Qentem.Tmpl
open Qentem.Expr (Fault rd ScanCfg VarRef Item Num Val Env RealLike)
open Qentem.Generated.Tmpl

variable {R : Type}

inductive Blk where
  | segs (l : List Seg)
  | ifc (e : List Nat) (body : List Seg)
  | ife (e : List Nat) (thenB elseB : List Seg)

def Blk.toTpls : Blk → List Tpl
  | .segs l => segsTpl l
  | .ifc e b => [.ifc [(some e, segsTpl b)]]
  | .ife e t f => [.ifc [(some e, segsTpl t), (none, segsTpl f)]]

def blksTpl : List Blk → List Tpl
  | [] => []
  | b :: r => b.toTpls ++ blksTpl r

def Blk.ok : Blk → Prop
  | .segs l => ∀ s ∈ l, s.ok
  | .ifc e b => plainL e ∧ (∀ x ∈ e, x ≠ 34) ∧ ∀ s ∈ b, s.ok
  | .ife e t f => plainL e ∧ (∀ x ∈ e, x ≠ 34) ∧ (∀ s ∈ t, s.ok) ∧ ∀ s ∈ f, s.ok

/-- the case text of an if / else block is an expression (otherwise the code prints nothing at all,
the reference goes on to the `else` part) -/
def Blk.caseOk (rn : List Nat → Option (Num R)) : Blk → Prop
  | .ife e _ _ => ∀ items : List (Item R),
      Qentem.Expr.parseTop ({ readNum := rn } : ScanCfg R) (e ++ [34]) 0 e.length = .ok items → items ≠ []
  | _ => True

section
variable [RealLike R]

omit [RealLike R] in
theorem varsOk_of_plain (rn : List Nat → Option (Num R)) (e : List Nat) (hp : plainL e) : varsOk rn e 34 := by
  intro items hs v hv
  have hrel := reloc_after 34 (by decide) (by decide) (by decide) (At.of_eq (A := []) (B := []) rfl : At _ 0 (34 :: (e ++ [34])))
  have hno : ∀ (i x : Nat), (e ++ [34])[i]? = some x → x ≠ Qentem.Expr.cBOpen := by
    intro i x hx
    rcases List.mem_append.mp (List.mem_of_getElem? hx) with h | h
    · exact (hp x h).1
    · cases List.mem_singleton.mp h; decide
  obtain ⟨items', _, h2⟩ := Qentem.Expr.parseTop_reloc ({ readNum := rn } : ScanCfg R) { readNum := rn } rfl hrel hno
    0 e.length (by simp) items hs
  rw [relItems_noVars h2] at hv
  cases hv

/-- what the document says a block prints -/
def expBlk (cx : RCtx R) : Blk → List Nat
  | .segs l => expSegs cx l
  | .ifc e b => if (isTrue (evalText (specOf cx) [] e 34) == some true) = true then expSegs cx b else []
  | .ife e t f => if (isTrue (evalText (specOf cx) [] e 34) == some true) = true then expSegs cx t else expSegs cx f

def expBlks (cx : RCtx R) : List Blk → List Nat
  | [] => []
  | b :: r => expBlk cx b ++ expBlks cx r

def Blk.pathOk (rn : List Nat → Option (Num R)) : Blk → Prop
  | .segs l => ∀ s ∈ l, s.pathOk rn
  | .ifc _ b => ∀ s ∈ b, s.pathOk rn
  | .ife _ t f => (∀ s ∈ t, s.pathOk rn) ∧ ∀ s ∈ f, s.pathOk rn

/-- number of top-level tags / fuel the nested renders need -/
def rcost : List Blk → Nat
  | [] => 0
  | .segs l :: r => nTags l + rcost r
  | .ifc _ _ :: r => 1 + rcost r
  | .ife _ _ _ :: r => 1 + rcost r

def rneed : List Blk → Nat
  | [] => 1
  | .segs _ :: r => rneed r
  | .ifc _ b :: r => nTags b + 4 + rneed r
  | .ife _ t f :: r => nTags t + nTags f + 5 + rneed r

def eneed : List Blk → Nat
  | [] => 1
  | .segs l :: r => l.length + eneed r
  | .ifc _ b :: r => b.length + 4 + eneed r
  | .ife _ t f :: r => t.length + f.length + 5 + eneed r

end

mutual
inductive BT where
  | segs (l : List Seg)
  | ifc (e : List Nat) (body : BTs) (tail : BTail)
inductive BTs where
  | nil
  | cons (b : BT) (r : BTs)
inductive BTail where
  | fin
  | els (body : BTs)
  | elif (e : List Nat) (body : BTs) (tail : BTail)
end

mutual
def printBT : BT → List Nat
  | .segs l => printSegs l
  | .ifc e body tail => IFOPEN ++ e ++ [34, 62] ++ printBTs body ++ printTail tail
def printBTs : BTs → List Nat
  | .nil => []
  | .cons b r => printBT b ++ printBTs r
def printTail : BTail → List Nat
  | .fin => IFEND
  | .els body => ELSE ++ printBTs body ++ IFEND
  | .elif e body tail => ELIF ++ e ++ ELIFEND ++ printBTs body ++ printTail tail
end

mutual
def BT.toTpls : BT → List Tpl
  | .segs l => segsTpl l
  | .ifc e body tail => [.ifc ((some e, btsTpl body) :: tailBr tail)]
def btsTpl : BTs → List Tpl
  | .nil => []
  | .cons b r => b.toTpls ++ btsTpl r
def tailBr : BTail → List (Option (List Nat) × List Tpl)
  | .fin => []
  | .els body => [(none, btsTpl body)]
  | .elif e body tail => (some e, btsTpl body) :: tailBr tail
end

mutual
def BT.ok : BT → Prop
  | .segs l => ∀ s ∈ l, s.ok
  | .ifc e body tail => (∀ x ∈ e, x ≠ 34) ∧ BTs.ok body ∧ BTail.ok tail
def BTs.ok : BTs → Prop
  | .nil => True
  | .cons b r => BT.ok b ∧ BTs.ok r
def BTail.ok : BTail → Prop
  | .fin => True
  | .els body => BTs.ok body
  | .elif e body tail => (∀ x ∈ e, x ≠ 34) ∧ BTs.ok body ∧ BTail.ok tail
end

mutual
/-- number of `step`s of the main loop -/
def costBT : BT → Nat
  | .segs l => nTags l
  | .ifc _ body tail => 1 + costBTs body + costTail tail
def costBTs : BTs → Nat
  | .nil => 0
  | .cons b r => costBT b + costBTs r
def costTail : BTail → Nat
  | .fin => 1
  | .els body => 1 + costBTs body + 1
  | .elif _ body tail => 1 + costBTs body + costTail tail
end

/-! The offsets in `tagsBT`, `casesT` are word lengths: `<if case="` 10 and `">` 2 (`12 + e.length` to
the body), `<else />` 8, `</if>` 5, `<elseif case="` 14 and `" />` 4 (`18 + e.length`). -/

mutual
def tagsBT (cfg : ScanCfg R) (c : List Nat) (p : Nat) : BT → List (Tag R)
  | .segs l => tagsOf cfg c p l
  | .ifc e body tail =>
    [.ifT (.mk (itemsAt cfg c (p + 10) (p + 10 + e.length)) (tagsBTs cfg c (p + 12 + e.length) body)
        (p + 12 + e.length) (p + 12 + e.length + (printBTs body).length) ::
      casesT cfg c (p + 12 + e.length + (printBTs body).length) tail) p
      (p + 12 + e.length + (printBTs body).length + (printTail tail).length)]
def tagsBTs (cfg : ScanCfg R) (c : List Nat) (p : Nat) : BTs → List (Tag R)
  | .nil => []
  | .cons b r => tagsBT cfg c p b ++ tagsBTs cfg c (p + (printBT b).length) r
def casesT (cfg : ScanCfg R) (c : List Nat) (q : Nat) : BTail → List (IfCase R)
  | .fin => []
  | .els body => [.mk [] (tagsBTs cfg c (q + 8) body) (q + 8) (q + 8 + (printBTs body).length)]
  | .elif e body tail =>
    .mk (itemsAt cfg c (q + 14) (q + 14 + e.length)) (tagsBTs cfg c (q + 18 + e.length) body)
      (q + 18 + e.length) (q + 18 + e.length + (printBTs body).length) ::
    casesT cfg c (q + 18 + e.length + (printBTs body).length) tail
end

section
variable [RealLike R]

def hitOf (cx : RCtx R) (e : List Nat) : Bool := isTrue (evalText (specOf cx) [] e 34) == some true

mutual
def expBT (cx : RCtx R) : BT → List Nat
  | .segs l => expSegs cx l
  | .ifc e body tail => if hitOf cx e = true then expBTs cx body else expTail cx tail
def expBTs (cx : RCtx R) : BTs → List Nat
  | .nil => []
  | .cons b r => expBT cx b ++ expBTs cx r
def expTail (cx : RCtx R) : BTail → List Nat
  | .fin => []
  | .els body => expBTs cx body
  | .elif e body tail => if hitOf cx e = true then expBTs cx body else expTail cx tail
end

mutual
def BT.caseOk (rn : List Nat → Option (Num R)) : BT → Prop
  | .segs _ => True
  | .ifc e body tail => (tail = .fin ∨ exprOk rn e) ∧ varsOk rn e 34 ∧ BTs.caseOk rn body ∧ BTail.caseOk rn tail
def BTs.caseOk (rn : List Nat → Option (Num R)) : BTs → Prop
  | .nil => True
  | .cons b r => BT.caseOk rn b ∧ BTs.caseOk rn r
def BTail.caseOk (rn : List Nat → Option (Num R)) : BTail → Prop
  | .fin => True
  | .els body => BTs.caseOk rn body
  | .elif e body tail => exprOk rn e ∧ varsOk rn e 34 ∧ BTs.caseOk rn body ∧ BTail.caseOk rn tail
end

mutual
def BT.pathOk (rn : List Nat → Option (Num R)) : BT → Prop
  | .segs l => ∀ s ∈ l, s.pathOk rn
  | .ifc _ body tail => BTs.pathOk rn body ∧ BTail.pathOk rn tail
def BTs.pathOk (rn : List Nat → Option (Num R)) : BTs → Prop
  | .nil => True
  | .cons b r => BT.pathOk rn b ∧ BTs.pathOk rn r
def BTail.pathOk (rn : List Nat → Option (Num R)) : BTail → Prop
  | .fin => True
  | .els body => BTs.pathOk rn body
  | .elif _ body tail => BTs.pathOk rn body ∧ BTail.pathOk rn tail
end

mutual
def rcostBT : BT → Nat
  | .segs l => nTags l
  | .ifc _ _ _ => 1
def rcostBTs : BTs → Nat
  | .nil => 0
  | .cons b r => rcostBT b + rcostBTs r
end

mutual
def rneedBT : BT → Nat
  | .segs _ => 1
  | .ifc _ body tail => rneedBTs body + rcostBTs body + rneedTail tail + 3
def rneedBTs : BTs → Nat
  | .nil => 1
  | .cons b r => rneedBT b + rneedBTs r
def rneedTail : BTail → Nat
  | .fin => 1
  | .els body => rneedBTs body + rcostBTs body + 1
  | .elif _ body tail => rneedBTs body + rcostBTs body + rneedTail tail + 1
end

theorem rneedTail_pos (t : BTail) : 1 ≤ rneedTail t := by
  cases t <;> simp [rneedTail] <;> omega

mutual
def eneedBT : BT → Nat
  | .segs l => l.length + 1
  | .ifc _ body tail => eneedBTs body + eneedTail tail + 3
def eneedBTs : BTs → Nat
  | .nil => 1
  | .cons b r => eneedBT b + (BT.toTpls b).length + eneedBTs r
def eneedTail : BTail → Nat
  | .fin => 0
  | .els body => eneedBTs body + 1
  | .elif _ body tail => eneedBTs body + eneedTail tail + 1
end

/-- body segments of the partial loop theorem: text, `{var:}`, `{raw:}` -/
def Seg.okB : Seg → Prop
  | .math _ => False
  | s => s.ok

/-- paths of body variables: the documented shape, and a path that starts with the loop's value
name IS the loop variable (its name part is the value name) -/
def BodyPathOk (V p : List Nat) : Prop :=
  ∃ name keys, p = name ++ brk keys ∧ name ≠ [] ∧ noB name ∧ (∀ k ∈ keys, noB k) ∧
    (V.isPrefixOf p = true → name = V)

def Seg.pathB (V : List Nat) : Seg → Prop
  | .var p => BodyPathOk V p
  | .raw p => BodyPathOk V p
  | _ => True

theorem loopObj_ents (cx : RCtx R) (V : List Nat) (body : List Seg) :
    ∀ (ms : List (List Nat × Doc)) (fuel : Nat), ms.length + body.length + 2 ≤ fuel →
      loopObj (specOf cx) fuel [] V (segsTpl body) ms =
        outEnts (fun x key => expSegsB cx [⟨V, x, key⟩] body) ms := by
  intro ms
  induction ms with
  | nil => intro fuel _; cases fuel <;> simp [loopObj, outEnts]
  | cons kx ms ih =>
    obtain ⟨k, x⟩ := kx
    intro fuel hf
    obtain ⟨g, rfl⟩ : ∃ g, fuel = g + 1 := ⟨fuel - 1, by omega⟩
    simp only [loopObj, outEnts]
    rw [ih g (by simp at hf; omega), expandList_body cx _ body g (by simp at hf; omega)]

theorem loopArr_ents (cx : RCtx R) (V : List Nat) (body : List Seg) (xs : List Doc) (fuel : Nat)
    (hf : xs.length + body.length + 2 ≤ fuel) :
    loopArr (specOf cx) fuel [] V (segsTpl body) xs =
      outEnts (fun x key => expSegsB cx [⟨V, x, key⟩] body) (xs.map (fun x => ([], x))) := by
  rw [loopArr_eq_loopObj]
  exact loopObj_ents cx V body _ fuel (by rw [List.length_map]; exact hf)

def loopTpl (segs0 : List Seg) (S V : List Nat) (body segs1 : List Seg) : List Tpl :=
  segsTpl segs0 ++ (.loop S V (segsTpl body) :: segsTpl segs1)

/-- the collection a loop runs over: the value of `S`, the root without `set` -/
def collOf (cx : RCtx R) (S : List Nat) : Option Doc :=
  if S.isEmpty then some cx.root else (resolve cx.root [] S).1

theorem expand_loopG (cx : RCtx R) (segs0 : List Seg) (S V : List Nat) (body segs1 : List Seg) (fuel : Nat) :
    expandList (specOf cx) (segs0.length + segs1.length + (entsO (collOf cx S)).length + body.length + 4 + fuel) []
        (loopTpl segs0 S V body segs1) =
      expSegs cx segs0 ++ (outEnts (fun x key => expSegsB cx [⟨V, x, key⟩] body) (entsO (collOf cx S)) ++
        expSegs cx segs1) := by
  rw [loopTpl, expandList_body_app cx [] segs0 _ _ (by omega), expSegsB_nil]
  congr 1
  rw [show segs0.length + segs1.length + (entsO (collOf cx S)).length + body.length + 4 + fuel - segs0.length =
    (segs1.length + (entsO (collOf cx S)).length + body.length + 2 + fuel) + 1 + 1 by omega]
  simp only [expandList, expandTpl, show (specOf cx).root = cx.root from rfl]
  rw [expandList_body cx [] segs1 _ (by omega), expSegsB_nil]
  congr 1
  have hcoll : (if S.isEmpty = true then some cx.root else (resolve cx.root [] S).1) = collOf cx S := rfl
  rw [hcoll]
  cases hres : collOf cx S with
  | none => simp [entsO, outEnts]
  | some d =>
    cases d with
    | arr xs =>
      simp only [entsO, entsOf]
      exact loopArr_ents cx V body xs _ (by simp only [List.length_map]; omega)
    | obj ms =>
      simp only [entsO, entsOf]
      exact loopObj_ents cx V body ms _ (by omega)
    | _ => simp [entsO, entsOf, outEnts]

end

end Qentem.Tmpl
