import Qentem.Proofs.JsonTokens
import Qentem.Props.C10
/-! C08 round trip for trees without reals: `parse (stringify v) = normI v`, composed from the
serializer theorem, the Escape/UnEscape inverse, the integer formatter theorem (C10) and the
integer reader theorems (C09) through `parse_print` (C06). -/
open Qentem.StrToNum

/-- decimal digits of `n` as code units -/
def digits (n : Nat) : List Nat := (Nat.toDigits 10 n).map Char.toNat

namespace Qentem.Json

/-- The number formatter prints integers in plain decimal (what C10 proves of `NumberToString`). -/
structure FmtDecimal (f : Fmt) : Prop where
  nat : ∀ n, n < 2 ^ 64 → f.nat n = digits n
  intNonNeg : ∀ b, b < 2 ^ 63 → f.int b = digits b
  intNeg : ∀ b, 2 ^ 63 ≤ b → b < 2 ^ 64 → f.int b = 45 :: digits (2 ^ 64 - b)

mutual
/-- A tree without reals whose numbers fit 64 bits. -/
def IntTree : JVal → Prop
  | .real _ => False
  | .nat n => n < 2 ^ 64
  | .int b => b < 2 ^ 64
  | .arr xs => IntTreeList xs
  | .obj ms => IntTreeMembers ms
  | .ptr t => IntTree t
  | _ => True
def IntTreeList : List JVal → Prop
  | [] => True
  | v :: rest => IntTree v ∧ IntTreeList rest
def IntTreeMembers : List (List Nat × JVal) → Prop
  | [] => True
  | (_, v) :: rest => IntTree v ∧ IntTreeMembers rest
end

mutual
/-- The document a tree is printed as (no whitespace; Undefined members omitted, pointers looked through). -/
def toDoc (f : Fmt) : JVal → JDoc
  | .null => .null
  | .tru => .tru
  | .fals => .fals
  | .nat n => .num (f.nat n) .natural n
  | .int b => if b < 2 ^ 63 then .num (f.int b) .natural b else .num (f.int b) .integer b
  | .real _ => .null
  | .str s => .str (escapeJson s) s
  | .arr xs => .arr [] (toItems f xs)
  | .obj ms => .obj [] (toMembers f ms)
  | .ptr t => toDoc f t
  | .undef => .null
def toItems (f : Fmt) : List JVal → List (Ws × JDoc × Ws)
  | [] => []
  | v :: rest => if isUndefined v then toItems f rest else ([], toDoc f v, []) :: toItems f rest
def toMembers (f : Fmt) : List (List Nat × JVal) → List (Ws × List Nat × List Nat × Ws × Ws × JDoc × Ws)
  | [] => []
  | (k, v) :: rest =>
    if isUndefined v then toMembers f rest else ([], escapeJson k, k, [], [], toDoc f v, []) :: toMembers f rest
end

mutual
theorem toDoc_print (f : Fmt) (prec : Nat) : ∀ (v : JVal), IntTree v → isUndefined v = false →
    (toDoc f v).print = specValue f prec v
  | .null, _, _ => rfl
  | .tru, _, _ => rfl
  | .fals, _, _ => rfl
  | .nat n, _, _ => rfl
  | .int b, _, _ => by simp only [toDoc]; split <;> simp [JDoc.print, specValue]
  | .real _, h, _ => by simp [IntTree] at h
  | .str s, _, _ => by simp [toDoc, JDoc.print, specValue]
  | .arr xs, h, _ => by
    simp only [toDoc, JDoc.print, specValue, List.append_nil]
    rw [toItems_print f prec xs (by simpa [IntTree] using h) true]
  | .obj ms, h, _ => by
    simp only [toDoc, JDoc.print, specValue, List.append_nil]
    rw [toMembers_print f prec ms (by simpa [IntTree] using h) true]
  | .ptr t, h, hu => by
    simp only [toDoc, specValue]
    exact toDoc_print f prec t (by simpa [IntTree] using h) (by simpa [isUndefined] using hu)
  | .undef, _, hu => by simp [isUndefined] at hu
theorem toItems_print (f : Fmt) (prec : Nat) : ∀ (xs : List JVal), IntTreeList xs → ∀ first,
    printItems (toItems f xs) first = specItems f prec xs first
  | [], _, first => by simp [toItems, printItems, specItems]
  | v :: rest, h, first => by
    simp only [IntTreeList] at h
    simp only [toItems, specItems]
    split
    · exact toItems_print f prec rest h.2 first
    · rename_i hu
      simp only [printItems, List.append_nil]
      rw [toDoc_print f prec v h.1 (by simpa using hu), toItems_print f prec rest h.2 false]
theorem toMembers_print (f : Fmt) (prec : Nat) : ∀ (ms : List (List Nat × JVal)), IntTreeMembers ms → ∀ first,
    printMembers (toMembers f ms) first = specMembers f prec ms first
  | [], _, first => by simp [toMembers, printMembers, specMembers]
  | (k, v) :: rest, h, first => by
    simp only [IntTreeMembers] at h
    simp only [toMembers, specMembers]
    split
    · exact toMembers_print f prec rest h.2 first
    · rename_i hu
      simp only [printMembers, List.append_nil]
      rw [toDoc_print f prec v h.1 (by simpa using hu), toMembers_print f prec rest h.2 false]
      cases first <;> simp
end

mutual
/-- What reading the text back gives: pointers looked through, Undefined members dropped, a
non-negative signed number comes back as the same number of the unsigned kind. -/
def normI : JVal → JVal
  | .ptr t => normI t
  | .int b => if b < 2 ^ 63 then .nat b else .int b
  | .arr xs => .arr (normIList xs)
  | .obj ms => .obj (normIMembers ms)
  | .null => .null
  | .tru => .tru
  | .fals => .fals
  | .nat n => .nat n
  | .real b => .real b
  | .str s => .str s
  | .undef => .undef
def normIList : List JVal → List JVal
  | [] => []
  | v :: rest => if isUndefined v then normIList rest else normI v :: normIList rest
def normIMembers : List (List Nat × JVal) → List (List Nat × JVal)
  | [] => []
  | (k, v) :: rest => if isUndefined v then normIMembers rest else (k, normI v) :: normIMembers rest
end

mutual
/-- Live members of every object have pairwise distinct keys (the C12/C13 invariant of `Value`). -/
def DistinctKeys : JVal → Prop
  | .arr xs => DKList xs
  | .obj ms => DKMembers ms
  | .ptr t => DistinctKeys t
  | _ => True
def DKList : List JVal → Prop
  | [] => True
  | v :: rest => DistinctKeys v ∧ DKList rest
def DKMembers : List (List Nat × JVal) → Prop
  | [] => True
  | (k, v) :: rest =>
    DistinctKeys v ∧ (∀ p ∈ rest, isUndefined p.2 = false → p.1 ≠ k) ∧ DKMembers rest
end

theorem normIMembers_keys (ms : List (List Nat × JVal)) (q : List Nat × JVal) (hq : q ∈ normIMembers ms) :
    ∃ p ∈ ms, isUndefined p.2 = false ∧ p.1 = q.1 := by
  induction ms with
  | nil => simp [normIMembers] at hq
  | cons kv rest ih =>
    obtain ⟨k, v⟩ := kv
    simp only [normIMembers] at hq
    split at hq
    · obtain ⟨p, hp, h1, h2⟩ := ih hq
      exact ⟨p, by simp [hp], h1, h2⟩
    · rename_i hu
      simp only [List.mem_cons] at hq
      rcases hq with rfl | hq
      · exact ⟨(k, v), by simp, by simpa using hu, rfl⟩
      · obtain ⟨p, hp, h1, h2⟩ := ih hq
        exact ⟨p, by simp [hp], h1, h2⟩

mutual
theorem toDoc_denote (f : Fmt) : ∀ (v : JVal), IntTree v → DistinctKeys v → isUndefined v = false →
    (toDoc f v).denote = normI v
  | .null, _, _, _ => rfl
  | .tru, _, _, _ => rfl
  | .fals, _, _, _ => rfl
  | .nat n, _, _, _ => rfl
  | .int b, _, _, _ => by simp only [toDoc, normI]; split <;> simp [JDoc.denote]
  | .real _, h, _, _ => by simp [IntTree] at h
  | .str s, _, _, _ => rfl
  | .arr xs, h, hd, _ => by
    simp only [toDoc, JDoc.denote, normI]
    rw [toItems_denote f xs (by simpa [IntTree] using h) (by simpa [DistinctKeys] using hd)]
  | .obj ms, h, hd, _ => by
    simp only [toDoc, JDoc.denote, normI]
    rw [toMembers_denote f ms [] (by simpa [IntTree] using h) (by simpa [DistinctKeys] using hd) (by simp)]
    simp
  | .ptr t, h, hd, hu => by
    simp only [toDoc, normI]
    exact toDoc_denote f t (by simpa [IntTree] using h) (by simpa [DistinctKeys] using hd) (by simpa [isUndefined] using hu)
  | .undef, _, _, hu => by simp [isUndefined] at hu
theorem toItems_denote (f : Fmt) : ∀ (xs : List JVal), IntTreeList xs → DKList xs →
    denoteItems (toItems f xs) = normIList xs
  | [], _, _ => by simp [toItems, denoteItems, normIList]
  | v :: rest, h, hd => by
    simp only [IntTreeList] at h
    simp only [DKList] at hd
    simp only [toItems, normIList]
    split
    · exact toItems_denote f rest h.2 hd.2
    · rename_i hu
      simp only [denoteItems]
      rw [toDoc_denote f v h.1 hd.1 (by simpa using hu), toItems_denote f rest h.2 hd.2]
theorem toMembers_denote (f : Fmt) : ∀ (ms : List (List Nat × JVal)) (acc : List (List Nat × JVal)),
    IntTreeMembers ms → DKMembers ms →
    (∀ p ∈ acc, ∀ q ∈ ms, isUndefined q.2 = false → q.1 ≠ p.1) →
    denoteMembers (toMembers f ms) acc = acc ++ normIMembers ms
  | [], acc, _, _, _ => by simp [toMembers, denoteMembers, normIMembers]
  | (k, v) :: rest, acc, h, hd, hacc => by
    simp only [IntTreeMembers] at h
    simp only [DKMembers] at hd
    simp only [toMembers, normIMembers]
    split
    · exact toMembers_denote f rest acc h.2 hd.2.2 (fun p hp q hq hu => hacc p hp q (by simp [hq]) hu)
    · rename_i hu
      have hu' : isUndefined v = false := by simpa using hu
      simp only [denoteMembers]
      rw [toDoc_denote f v h.1 hd.1 hu']
      rw [objInsert_append_new acc k (normI v) (fun p hp => by
        have := hacc p hp (k, v) (by simp) hu'
        exact fun e => this e.symm)]
      rw [toMembers_denote f rest (acc ++ [(k, normI v)]) h.2 hd.2.2 (by
        intro p hp q hq huq
        simp only [List.mem_append, List.mem_singleton] at hp
        rcases hp with hp | rfl
        · exact hacc p hp q (by simp [hq]) huq
        · exact hd.2.1 q hq huq)]
      simp
end

theorem numSpec_digits_natural (w n : Nat) (hn : n < 2 ^ 64) : NumSpec (jsonDeps w) (digits n) .natural n := by
  show NumSpec (jsonDeps w) (FmtSpec.digitsOf n) .natural n
  by_cases h0 : n = 0
  · subst h0
    rw [Decimal.digitsOf_lt10 (by decide)]; exact numSpec_zero w
  · obtain ⟨d, xs, hd, hz, hxs⟩ := Decimal.digitsOf_head (Nat.pos_of_ne_zero h0)
    have hval : decVal (d :: xs) = n := hd ▸ Decimal.decVal_digitsOf n
    rw [hd]
    have := numSpec_natural w d xs hz hxs (by rw [hval]; exact hn)
    rwa [hval] at this

theorem numSpec_digits_negative (w b : Nat) (h1 : 2 ^ 63 ≤ b) (h2 : b < 2 ^ 64) :
    NumSpec (jsonDeps w) (45 :: digits (2 ^ 64 - b)) .integer b := by
  show NumSpec (jsonDeps w) (45 :: FmtSpec.digitsOf (2 ^ 64 - b)) .integer b
  obtain ⟨d, xs, hd, hz, hxs⟩ := Decimal.digitsOf_head (show 0 < 2 ^ 64 - b by omega)
  have hval : decVal (d :: xs) = 2 ^ 64 - b := hd ▸ Decimal.decVal_digitsOf (2 ^ 64 - b)
  rw [hd]
  have := numSpec_negative w d xs hz hxs (by rw [hval]; omega)
  rw [hval] at this
  have e : 2 ^ 64 - (2 ^ 64 - b) = b := by omega
  rwa [e] at this

mutual
theorem toDoc_wf (w : Nat) (f : Fmt) (hf : FmtDecimal f) : ∀ (v : JVal), IntTree v → WF (jsonDeps w) (toDoc f v)
  | .null, _ => trivial
  | .tru, _ => trivial
  | .fals, _ => trivial
  | .nat n, h => by
    simp only [toDoc, WF]
    rw [hf.nat n (by simpa [IntTree] using h)]
    exact numSpec_digits_natural w n (by simpa [IntTree] using h)
  | .int b, h => by
    have hb : b < 2 ^ 64 := by simpa [IntTree] using h
    simp only [toDoc]
    split
    · rename_i hlt
      simp only [WF]
      rw [hf.intNonNeg b hlt]
      exact numSpec_digits_natural w b hb
    · rename_i hge
      simp only [WF]
      rw [hf.intNeg b (by omega) hb]
      exact numSpec_digits_negative w b (by omega) hb
  | .real _, h => by simp [IntTree] at h
  | .str s, _ => by simp only [toDoc, WF]; exact strSpec_escaped w s
  | .arr xs, h => by
    simp only [toDoc, WF]
    exact ⟨AllWs.nil, toItems_wf w f hf xs (by simpa [IntTree] using h)⟩
  | .obj ms, h => by
    simp only [toDoc, WF]
    exact ⟨AllWs.nil, toMembers_wf w f hf ms (by simpa [IntTree] using h)⟩
  | .ptr t, h => by simp only [toDoc]; exact toDoc_wf w f hf t (by simpa [IntTree] using h)
  | .undef, _ => trivial
theorem toItems_wf (w : Nat) (f : Fmt) (hf : FmtDecimal f) : ∀ (xs : List JVal), IntTreeList xs →
    WFItems (jsonDeps w) (toItems f xs)
  | [], _ => by simp [toItems, WFItems]
  | v :: rest, h => by
    simp only [IntTreeList] at h
    simp only [toItems]
    split
    · exact toItems_wf w f hf rest h.2
    · simp only [WFItems]
      exact ⟨AllWs.nil, toDoc_wf w f hf v h.1, AllWs.nil, toItems_wf w f hf rest h.2⟩
theorem toMembers_wf (w : Nat) (f : Fmt) (hf : FmtDecimal f) : ∀ (ms : List (List Nat × JVal)), IntTreeMembers ms →
    WFMembers (jsonDeps w) (toMembers f ms)
  | [], _ => by simp [toMembers, WFMembers]
  | (k, v) :: rest, h => by
    simp only [IntTreeMembers] at h
    simp only [toMembers]
    split
    · exact toMembers_wf w f hf rest h.2
    · simp only [WFMembers]
      exact ⟨AllWs.nil, strSpec_escaped w k, AllWs.nil, AllWs.nil, toDoc_wf w f hf v h.1,
        AllWs.nil, toMembers_wf w f hf rest h.2⟩
end

/-- The round trip for any formatter that prints integers in decimal; what it claims is said at `Props/C08.roundtrip_int_linked`. -/
theorem roundtrip_int (w : Nat) (f : Fmt) (hf : FmtDecimal f) (prec : Nat) (v : JVal)
    (hv : IntTree v) (hd : DistinctKeys v) (hu : isUndefined v = false)
    (hsz : (strValue f prec v []).length < 2 ^ 32) :
    parse (jsonDeps w) (strValue f prec v []).toArray = .ok (normI v) := by
  have e1 : strValue f prec v [] = (toDoc f v).print := by
    rw [strValue_eq, toDoc_print f prec v hv hu]; simp
  have := parse_print (jsonDeps w) (jsonDeps_safe w) (toDoc f v) (toDoc_wf w f hf v hv) [] [] AllWs.nil AllWs.nil
    (by simpa [e1] using hsz)
  rw [toDoc_denote f v hv hd hu] at this
  simpa [e1] using this

/-- The formatter the serializer is linked with: the `Digit::NumberToString` model (64-bit
integers; the real-number path is whatever `real` is given). -/
def numFmt (real : Nat → Nat → List Nat) : Fmt where
  nat n := match Qentem.NumToStr.intToString [] 8 false n with | .ok l => l | .error _ => []
  int b := match Qentem.NumToStr.intToString [] 8 true b with | .ok l => l | .error _ => []
  real := real

theorem numFmt_decimal (real : Nat → Nat → List Nat) : FmtDecimal (numFmt real) := by
  have hw : Qentem.Proofs.NumToStr.IsWidth 8 := Or.inr (Or.inr (Or.inr rfl))
  refine ⟨?_, ?_, ?_⟩
  · intro n hn
    have := Qentem.Props.C10.int_to_string_exact_unsigned [] 8 n hw (by simpa using hn)
    simp [numFmt, this, digits]
  · intro b hb
    have := Qentem.Props.C10.int_to_string_exact_signed [] 8 hw (b : Int) (by omega) (by omega)
    have e : (((b : Int) % (2 ^ (8 * 8) : Int)).toNat) = b := by omega
    rw [e] at this
    have hneg : ¬ ((b : Int) < 0) := by omega
    simp [numFmt, this, digits, hneg]
  · intro b h1 h2
    have := Qentem.Props.C10.int_to_string_exact_signed [] 8 hw ((b : Int) - 2 ^ 64) (by omega) (by omega)
    have e : ((((b : Int) - 2 ^ 64) % (2 ^ (8 * 8) : Int)).toNat) = b := by omega
    rw [e] at this
    have hneg : ((b : Int) - 2 ^ 64 < 0) := by omega
    have habs : ((b : Int) - 2 ^ 64).natAbs = 2 ^ 64 - b := by omega
    rw [habs] at this
    simp only [hneg, ↓reduceIte, List.nil_append] at this
    simp [numFmt, this, digits]

theorem roundtrip_int_linked (w : Nat) (real : Nat → Nat → List Nat) (prec : Nat) (v : JVal)
    (hv : IntTree v) (hd : DistinctKeys v) (hu : isUndefined v = false)
    (hsz : (strValue (numFmt real) prec v []).length < 2 ^ 32) :
    parse (jsonDeps w) (strValue (numFmt real) prec v []).toArray = .ok (normI v) :=
  roundtrip_int w (numFmt real) (numFmt_decimal real) prec v hv hd hu hsz

end Qentem.Json
