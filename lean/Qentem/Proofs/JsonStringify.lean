import Qentem.Model.JsonStringify
import Qentem.Proofs.UnicodeUnEscape
/-! `Value::Stringify` as coded (trailing-comma patch on the output stream) equals the
reference serializer for every tree (`strValue_eq`); what `JSONUtils::Escape` writes for one unit
(`escapeJson_cases`), from which: escaped bodies hold no control unit, are `wellEscaped`, and are read back
by `JSONUtils::UnEscape` as the original string (`unescape_escape`). -/
namespace Qentem.Json

/-- What the array loop of `Stringify` appends: every live item followed by a comma. -/
def itemsC (f : Fmt) (prec : Nat) : List JVal → List Nat
  | [] => []
  | v :: rest => if isUndefined v then itemsC f prec rest else specValue f prec v ++ [44] ++ itemsC f prec rest

/-- What the object loop appends: every live member followed by a comma. -/
def membersC (f : Fmt) (prec : Nat) : List (List Nat × JVal) → List Nat
  | [] => []
  | (k, v) :: rest => if isUndefined v then membersC f prec rest
      else [34] ++ escapeJson k ++ [34, 58] ++ specValue f prec v ++ [44] ++ membersC f prec rest

theorem closeWith_comma (out : List Nat) (b : Nat) : closeWith (out ++ [44]) b = out ++ [b] := by
  simp [closeWith]

theorem closeWith_other (out : List Nat) (c b : Nat) (h : c ≠ 44) : closeWith (out ++ [c]) b = out ++ [c, b] := by
  simp [closeWith]
  split
  · rename_i h2; simp at h2; omega
  · rfl

theorem itemsC_spec (f : Fmt) (prec : Nat) (xs : List JVal) :
    (itemsC f prec xs = [] ∧ ∀ b, specItems f prec xs b = []) ∨
    (itemsC f prec xs = specItems f prec xs true ++ [44] ∧ specItems f prec xs false = 44 :: specItems f prec xs true) := by
  induction xs with
  | nil => left; simp [itemsC, specItems]
  | cons v rest ih =>
    simp only [itemsC, specItems]
    split
    · exact ih
    · right
      rcases ih with ⟨h1, h3⟩ | ⟨h1, h2⟩
      · simp [h1, h3]
      · simp [h1, h2]

theorem membersC_spec (f : Fmt) (prec : Nat) (ms : List (List Nat × JVal)) :
    (membersC f prec ms = [] ∧ ∀ b, specMembers f prec ms b = []) ∨
    (membersC f prec ms = specMembers f prec ms true ++ [44] ∧ specMembers f prec ms false = 44 :: specMembers f prec ms true) := by
  induction ms with
  | nil => left; simp [membersC, specMembers]
  | cons kv rest ih =>
    obtain ⟨k, v⟩ := kv
    simp only [membersC, specMembers]
    split
    · exact ih
    · right
      rcases ih with ⟨h1, h3⟩ | ⟨h1, h2⟩
      · simp [h1, h3]
      · simp [h1, h2]

theorem close_items (f : Fmt) (prec : Nat) (xs : List JVal) (out : List Nat) :
    closeWith (out ++ [91] ++ itemsC f prec xs) 93 = out ++ [91] ++ specItems f prec xs true ++ [93] := by
  rcases itemsC_spec f prec xs with ⟨h1, h2⟩ | ⟨h1, _⟩
  · rw [h1, h2 true]; simp [closeWith]
  · rw [h1, ← List.append_assoc, closeWith_comma]

theorem close_members (f : Fmt) (prec : Nat) (ms : List (List Nat × JVal)) (out : List Nat) :
    closeWith (out ++ [123] ++ membersC f prec ms) 125 = out ++ [123] ++ specMembers f prec ms true ++ [125] := by
  rcases membersC_spec f prec ms with ⟨h1, h2⟩ | ⟨h1, _⟩
  · rw [h1, h2 true]; simp [closeWith]
  · rw [h1, ← List.append_assoc, closeWith_comma]

mutual
theorem strValue_eq (f : Fmt) (prec : Nat) : ∀ (v : JVal) (out : List Nat), strValue f prec v out = out ++ specValue f prec v
  | .obj ms, out => by
    simp only [strValue, specValue]
    rw [strMembers_eq f prec ms, close_members]; simp
  | .arr xs, out => by
    simp only [strValue, specValue]
    rw [strItems_eq f prec xs, close_items]; simp
  | .str s, out => by simp [strValue, specValue]
  | .nat n, out => by simp [strValue, specValue]
  | .int n, out => by simp [strValue, specValue]
  | .real b, out => by simp [strValue, specValue]
  | .fals, out => by simp [strValue, specValue]
  | .tru, out => by simp [strValue, specValue]
  | .null, out => by simp [strValue, specValue]
  | .ptr t, out => by simp only [strValue, specValue]; exact strValue_eq f prec t out
  | .undef, out => by simp [strValue, specValue]
theorem strMembers_eq (f : Fmt) (prec : Nat) : ∀ (ms : List (List Nat × JVal)) (out : List Nat),
    strMembers f prec ms out = out ++ membersC f prec ms
  | [], out => by simp [strMembers, membersC]
  | (k, v) :: rest, out => by
    simp only [strMembers, membersC]
    split
    · exact strMembers_eq f prec rest out
    · rw [strMembers_eq f prec rest, strValue_eq f prec v]; simp
theorem strItems_eq (f : Fmt) (prec : Nat) : ∀ (xs : List JVal) (out : List Nat),
    strItems f prec xs out = out ++ itemsC f prec xs
  | [], out => by simp [strItems, itemsC]
  | v :: rest, out => by
    simp only [strItems, itemsC]
    split
    · exact strItems_eq f prec rest out
    · rw [strItems_eq f prec rest, strValue_eq f prec v]; simp
end

def isHex (c : Nat) : Bool := (48 ≤ c && c ≤ 57) || (97 ≤ c && c ≤ 102) || (65 ≤ c && c ≤ 70)

/-- A string body is well escaped: no unit below 0x20, no bare quote, every backslash starts one
of the RFC 8259 escapes (`\" \\ \/ \b \f \n \r \t` or `\u` + 4 hex digits). -/
def wellEscaped : List Nat → Bool
  | [] => true
  | 92 :: 117 :: a :: b :: c :: d :: rest => isHex a && isHex b && isHex c && isHex d && wellEscaped rest
  | 92 :: e :: rest => (e == 34 || e == 92 || e == 47 || e == 98 || e == 102 || e == 110 || e == 114 || e == 116) && wellEscaped rest
  | c :: rest => c != 34 && c != 92 && 32 ≤ c && wellEscaped rest

/-- `e` is the letter of the two-unit escape `\e` of the code unit `c`. -/
def ShortEsc (c e : Nat) : Prop :=
  (c = 34 ∧ e = 34) ∨ (c = 92 ∧ e = 92) ∨ (c = 47 ∧ e = 47) ∨ (c = 8 ∧ e = 98) ∨ (c = 9 ∧ e = 116) ∨
  (c = 10 ∧ e = 110) ∨ (c = 12 ∧ e = 102) ∨ (c = 13 ∧ e = 114)

/-- The three ways `Escape` writes one unit: a two-unit escape, `\u00XX` for the other controls,
the unit itself. -/
theorem escapeJson_cases {P : List Nat → Prop} (c : Nat) (rest : List Nat)
    (hshort : ∀ e, ShortEsc c e → P (92 :: e :: escapeJson rest))
    (hctl : c < 32 → P (92 :: 117 :: 48 :: 48 :: (48 + c / 16) :: hexDigitLower (c % 16) :: escapeJson rest))
    (hplain : 32 ≤ c → c ≠ 34 → c ≠ 92 → P (c :: escapeJson rest)) : P (escapeJson (c :: rest)) := by
  rw [escapeJson]
  refine iteInduction (fun h => ?_) fun h1 => iteInduction (fun h => hshort _ (.inr (.inr (.inr (.inl ⟨h, rfl⟩))))) fun _ =>
    iteInduction (fun h => hshort _ (.inr (.inr (.inr (.inr (.inl ⟨h, rfl⟩)))))) fun _ =>
    iteInduction (fun h => hshort _ (.inr (.inr (.inr (.inr (.inr (.inl ⟨h, rfl⟩))))))) fun _ =>
    iteInduction (fun h => hshort _ (.inr (.inr (.inr (.inr (.inr (.inr (.inl ⟨h, rfl⟩)))))))) fun _ =>
    iteInduction (fun h => hshort _ (.inr (.inr (.inr (.inr (.inr (.inr (.inr ⟨h, rfl⟩)))))))) fun _ =>
    iteInduction hctl fun h => hplain (by omega) (by omega) (by omega)
  rcases h with h | h | h
  · exact hshort _ (.inl ⟨h, h⟩)
  · exact hshort _ (.inr (.inl ⟨h, h⟩))
  · exact hshort _ (.inr (.inr (.inl ⟨h, h⟩)))

theorem ShortEsc.ge32 {c e : Nat} (h : ShortEsc c e) : 32 ≤ e := by
  rcases h with ⟨_, rfl⟩ | ⟨_, rfl⟩ | ⟨_, rfl⟩ | ⟨_, rfl⟩ | ⟨_, rfl⟩ | ⟨_, rfl⟩ | ⟨_, rfl⟩ | ⟨_, rfl⟩ <;> decide

theorem hexDigitLower_ge (n : Nat) : 48 ≤ hexDigitLower n := by
  unfold hexDigitLower; split <;> omega

theorem escapeJson_ge32 (s : List Nat) : ∀ c ∈ escapeJson s, 32 ≤ c := by
  induction s with
  | nil => intro c h; cases h
  | cons c rest ih =>
    refine escapeJson_cases (P := fun l => ∀ x ∈ l, 32 ≤ x) c rest (fun e he => ?_) (fun _ => ?_) (fun h _ _ => ?_)
    · exact List.forall_mem_cons.2 ⟨by decide, List.forall_mem_cons.2 ⟨he.ge32, ih⟩⟩
    · have := hexDigitLower_ge (c % 16)
      simp only [List.forall_mem_cons]
      exact ⟨by decide, by decide, by decide, by decide, by omega, by omega, ih⟩
    · exact List.forall_mem_cons.2 ⟨h, ih⟩

theorem wellEscaped_plain (c : Nat) (rest : List Nat) (h1 : c ≠ 34) (h2 : c ≠ 92) (h3 : 32 ≤ c)
    (h : wellEscaped rest = true) : wellEscaped (c :: rest) = true := by
  unfold wellEscaped
  split <;> simp_all

theorem wellEscaped_short {c e : Nat} (rest : List Nat) (he : ShortEsc c e) (h : wellEscaped rest = true) :
    wellEscaped (92 :: e :: rest) = true := by
  rcases he with ⟨_, rfl⟩ | ⟨_, rfl⟩ | ⟨_, rfl⟩ | ⟨_, rfl⟩ | ⟨_, rfl⟩ | ⟨_, rfl⟩ | ⟨_, rfl⟩ | ⟨_, rfl⟩ <;> simp [wellEscaped, h]

theorem wellEscaped_ctl (c : Nat) (hc : c < 32) (rest : List Nat)
    (h : wellEscaped rest = true) : wellEscaped (92 :: 117 :: 48 :: 48 :: (48 + c / 16) :: hexDigitLower (c % 16) :: rest) = true := by
  have h1 : isHex (48 + c / 16) = true := by simp [isHex]; omega
  have h2 : isHex (hexDigitLower (c % 16)) = true := by
    simp only [isHex, hexDigitLower]; split <;> simp <;> omega
  have h0 : isHex 48 = true := by decide
  simp only [wellEscaped, h, h0, h1, h2, Bool.and_self]

theorem escapeJson_wellEscaped (s : List Nat) : wellEscaped (escapeJson s) = true := by
  induction s with
  | nil => rfl
  | cons c rest ih =>
    exact escapeJson_cases (P := fun l => wellEscaped l = true) c rest (fun e he => wellEscaped_short _ he ih)
      (fun hc => wellEscaped_ctl c hc _ ih) (fun h1 h2 h3 => wellEscaped_plain c _ h2 h3 h1 ih)

end Qentem.Json

namespace Qentem.Json
open Qentem.Unicode

/-! ## `JSONUtils::UnEscape` inverts `JSONUtils::Escape`

What `Escape` writes is a sequence of tokens the un-escaper accepts, one per unit (`escapeJson_toks`), and
`unEscapeB_string` says what the un-escaper does on every such sequence. -/

theorem hexFold_ctl : ∀ c, c < 32 → hexFold [48, 48, 48 + c / 16, hexDigitLower (c % 16)] 0 = c := by decide

theorem ShortEsc.simpleOut {c e : Nat} (h : ShortEsc c e) : simpleOut e = some c := by
  rcases h with ⟨rfl, rfl⟩ | ⟨rfl, rfl⟩ | ⟨rfl, rfl⟩ | ⟨rfl, rfl⟩ | ⟨rfl, rfl⟩ | ⟨rfl, rfl⟩ | ⟨rfl, rfl⟩ | ⟨rfl, rfl⟩ <;> rfl

theorem escapeJson_tok (w c : Nat) (rest : List Nat) :
    ∃ t : Tok, escapeJson (c :: rest) = t.src ++ escapeJson rest ∧ t.ok = true ∧ t.out w = [c] := by
  refine escapeJson_cases (P := fun l => ∃ t : Tok, l = t.src ++ escapeJson rest ∧ t.ok = true ∧ t.out w = [c]) c rest
    (fun e he => ⟨.simple e, rfl, by simp [Tok.ok, he.simpleOut], by simp [Tok.out, he.simpleOut]⟩)
    (fun hc => ⟨.u 117 48 48 (48 + c / 16) (hexDigitLower (c % 16)), rfl, ?_, ?_⟩)
    (fun h1 h2 h3 => ⟨.plain c, rfl, by rw [Tok.ok, isPlain_iff]; omega, rfl⟩)
  · -- a control unit is no high surrogate
    have hlt : c &&& 0xFC00 < 32 := Nat.lt_of_le_of_lt Nat.and_le_left hc
    simp only [Tok.ok, hexFold_ctl c hc, beq_self_eq_true, Bool.or_true, Bool.true_and, bne_iff_ne, ne_eq]
    omega
  · rw [Tok.out, hexFold_ctl c hc, toUTF_ascii w c (by omega)]

theorem escapeJson_toks (w : Nat) : ∀ s : List Nat,
    ∃ ts : List Tok, (∀ t ∈ ts, t.ok = true) ∧ ts.flatMap Tok.src = escapeJson s ∧ ts.flatMap (Tok.out w) = s
  | [] => ⟨[], nofun, rfl, rfl⟩
  | c :: rest => by
    obtain ⟨t, h1, h2, h3⟩ := escapeJson_tok w c rest
    obtain ⟨ts, g1, g2, g3⟩ := escapeJson_toks w rest
    exact ⟨t :: ts, List.forall_mem_cons.2 ⟨h2, g1⟩, by rw [List.flatMap_cons, g2, h1],
      by rw [List.flatMap_cons, g3, h3]; rfl⟩

/-- The un-escaper, started on `body`, the closing quote and anything behind it, consumes body and quote and decodes
the body to `text`: the stream when it was written to, else the body itself (what `stringOf` then takes from the input). -/
def Decodes (w : Nat) (body rest text : List Nat) : Prop :=
  (unEscapeB w (body ++ 34 :: rest) [] [] 0).2 = body.length + 1 ∧
  (if (unEscapeB w (body ++ 34 :: rest) [] [] 0).1.isEmpty then body else (unEscapeB w (body ++ 34 :: rest) [] [] 0).1) = text

theorem unEscapeB_tokens (w : Nat) (ts : List Tok) (hok : ∀ t ∈ ts, t.ok = true) (rest : List Nat) :
    Decodes w (ts.flatMap Tok.src) rest (ts.flatMap (Tok.out w)) := by
  unfold Decodes
  rw [unEscapeB_string w ts hok rest]
  refine ⟨rfl, ?_⟩
  cases hall : ts.all Tok.isPlainTok with
  | true => simp [flatMap_out_of_allPlain w ts hall]
  | false => simp [flatMap_out_ne_nil w ts hok hall]

theorem unescape_escape (w : Nat) (s rest : List Nat) : Decodes w (escapeJson s) rest s := by
  obtain ⟨ts, hok, hsrc, hout⟩ := escapeJson_toks w s
  have := unEscapeB_tokens w ts hok rest
  rwa [hsrc, hout] at this

end Qentem.Json
