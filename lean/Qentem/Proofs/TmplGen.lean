import Qentem.Proofs.TmplIifParse
import Qentem.Proofs.TmplSvarParse
/-!
# C02 — trees of segments, inline `{if}`s, super variables, `<if>` chains and `<loop>`s: the parse

`GT` / `GTs` / `GTail`: a node, a sequence of nodes, the rest of an `<if>` chain; `printGT` is what the document's
printer writes for it, `tagsGT cfg c D dep p b` the tags the document implies for the node `b` printed at position
`p` of the content `c`, under the enclosing loops `D` (innermost first: where each value name stands, the name, the
level) and at stack depth `dep` (the code's `Level` of a loop is the depth of the stack when it is opened).
`parseMain_gt` / `_gts` / `_gtail`, by mutual recursion over the tree: where the printed node stands at `p`,
`costGT b` steps of the main loop lead from the scanner before `p` to the scanner before `p + |printGT b|` and append
exactly `tagsGT`; a loop pushes one `LoopD` and one frame for its body.  `parse_gtree` is the case `p = 0`, no
enclosing loop, empty stack.
-/
namespace Qentem.Tmpl
open Qentem.Expr (Fault rd ScanCfg VarRef Item Num Val Env RealLike)
open Qentem.Generated.Tmpl

variable {R : Type}

/-- the units of a string given by its characters (for literals: spares decoding the UTF-8 bytes) -/
theorem str_ofList (l : List Char) : str (String.ofList l) = l.map Char.toNat := by
  unfold str; rw [String.toList_ofList]

mutual
inductive GT where
  | segs (l : List Seg)
  | ifc (e : List Nat) (body : GTs) (tail : GTail)
  | loop (S V : List Nat) (body : GTs)
  | iif (e : List Nat) (ts fs : Option (List Seg))
  | svar (path : List Nat) (args : List Seg)
inductive GTs where
  | nil
  | cons (b : GT) (r : GTs)
inductive GTail where
  | fin
  | els (body : GTs)
  | elif (e : List Nat) (body : GTs) (tail : GTail)
end

mutual
def printGT : GT → List Nat
  | .segs l => printSegs l
  | .ifc e body tail => IFOPEN ++ e ++ [34, 62] ++ printGTs body ++ printGTail tail
  | .loop S V body => LOOPW ++ (hdrOf S V ++ ([62] ++ (printGTs body ++ LOOPEND)))
  | .iif e ts fs => printIif e ts fs
  | .svar pa ar => printSvar pa ar
def printGTs : GTs → List Nat
  | .nil => []
  | .cons b r => printGT b ++ printGTs r
def printGTail : GTail → List Nat
  | .fin => IFEND
  | .els body => ELSE ++ printGTs body ++ IFEND
  | .elif e body tail => ELIF ++ e ++ ELIFEND ++ printGTs body ++ printGTail tail
end

mutual
def GT.toTpls : GT → List Tpl
  | .segs l => segsTpl l
  | .ifc e body tail => [.ifc ((some e, gtsTpl body) :: tailBrG tail)]
  | .loop S V body => [.loop S V (gtsTpl body)]
  | .iif e ts fs => [.iif e (ts.map segsTpl) (fs.map segsTpl)]
  | .svar pa ar => [.svar pa (segsTpl ar)]
def gtsTpl : GTs → List Tpl
  | .nil => []
  | .cons b r => b.toTpls ++ gtsTpl r
def tailBrG : GTail → List (Option (List Nat) × List Tpl)
  | .fin => []
  | .els body => [(none, gtsTpl body)]
  | .elif e body tail => (some e, gtsTpl body) :: tailBrG tail
end

mutual
theorem printGT_eq : ∀ (b : GT), printList b.toTpls = printGT b
  | .segs l => by simp only [GT.toTpls, printGT]; exact printSegs_eq l
  | .ifc e body tail => by
    have h1 : str "<if case=\"" = IFOPEN := by rw [str_ofList]; rfl
    have h2 : str "\">" = [34, 62] := by rw [str_ofList]; rfl
    simp only [GT.toTpls, printGT, printList, printTpl, printBranches, if_true, h1, h2, printGTs_eq body,
      printGTail_eq tail, List.append_nil, List.append_assoc]
  | .loop S V body => by
    simp only [GT.toTpls, printGT, printList, printTpl, printGTs_eq body, hdrOf, List.append_nil]
    rw [str_ofList, str_ofList, str_ofList, str_ofList, str_ofList, str_ofList]
    cases S <;> simp [LOOPW, LOOPEND, List.append_assoc]
  | .iif e ts fs => by
    cases ts <;> cases fs <;>
      simp [GT.toTpls, printGT, printList, printTpl, printIif, attrText, IIF1, TRUEA, FALSEA, str, printSegs_eq,
        List.append_assoc]
  | .svar pa ar => by
    simp only [GT.toTpls, printGT, printList, printTpl, printArgs_segs, printSvar, SVAR1]
    rw [str_ofList, str_ofList]
    simp [List.append_assoc]
theorem printGTs_eq : ∀ (bs : GTs), printList (gtsTpl bs) = printGTs bs
  | .nil => rfl
  | .cons b r => by simp only [gtsTpl, printGTs, printList_append, printGT_eq b, printGTs_eq r]
theorem printGTail_eq : ∀ (t : GTail), printBranches false (tailBrG t) ++ str "</if>" = printGTail t
  | .fin => by rfl
  | .els body => by
    have h4 : str "<else />" = ELSE := by rw [str_ofList]; rfl
    have h3 : str "</if>" = IFEND := by rw [str_ofList]; rfl
    simp only [tailBrG, printBranches, printGTail, h4, h3, printGTs_eq body, List.append_nil, List.append_assoc]
  | .elif e body tail => by
    have h1 : str "<elseif case=\"" = ELIF := by rw [str_ofList]; rfl
    have h2 : str "\" />" = ELIFEND := by rw [str_ofList]; rfl
    simp only [tailBrG, printBranches, printGTail, Bool.false_eq_true, if_false, h1, h2, printGTs_eq body,
      List.append_assoc, printGTail_eq tail]
end

mutual
def GT.ok : GT → Prop
  | .segs l => ∀ s ∈ l, s.ok
  | .ifc e body tail => (∀ x ∈ e, x ≠ 34) ∧ GTs.ok body ∧ GTail.ok tail
  | .loop S V body => HdrOk S V ∧ GTs.ok body
  | .iif e ts fs => MathOk e ∧ (∀ x ∈ e, x ≠ 34) ∧ ValOk ts ∧ ValOk fs ∧ (ts ≠ none ∨ fs ≠ none) ∧
      (printIif e ts fs).length < 65536
  | .svar pa ar => plainL pa ∧ (∀ x ∈ pa, x ≠ 44) ∧ 0 < pa.length ∧ pa.length ≤ 255 ∧
      (∀ a ∈ ar, a.ok ∧ a.isArg) ∧ ar ≠ [] ∧ ar.length ≤ 10
def GTs.ok : GTs → Prop
  | .nil => True
  | .cons b r => GT.ok b ∧ GTs.ok r
def GTail.ok : GTail → Prop
  | .fin => True
  | .els body => GTs.ok body
  | .elif e body tail => (∀ x ∈ e, x ≠ 34) ∧ GTs.ok body ∧ GTail.ok tail
end

mutual
/-- number of `step`s of the main loop -/
def costGT : GT → Nat
  | .segs l => nTags l
  | .ifc _ body tail => 1 + costGTs body + costGTail tail
  | .loop _ _ body => 1 + costGTs body + 1
  | .iif _ ts fs => 2 + nTagsVal ts + nTagsVal fs
  | .svar _ ar => 2 + nTags (argSegs ar)
def costGTs : GTs → Nat
  | .nil => 0
  | .cons b r => costGT b + costGTs r
def costGTail : GTail → Nat
  | .fin => 1
  | .els body => 1 + costGTs body + 1
  | .elif _ body tail => 1 + costGTs body + costGTail tail
end

mutual
def tagsGT (cfg : ScanCfg R) (c : List Nat) (D : List LoopD) (dep : Nat) (p : Nat) : GT → List (Tag R)
  | .segs l => tagsOfD cfg c D p l
  | .ifc e body tail =>
    [.ifT (.mk (itemsAtC cfg c (refsD D) (p + 10) (p + 10 + e.length)) (tagsGTs cfg c D (dep + 1) (p + 12 + e.length) body)
        (p + 12 + e.length) (p + 12 + e.length + (printGTs body).length) ::
      casesG cfg c D (dep + 1) (p + 12 + e.length + (printGTs body).length) tail) p
      (p + 12 + e.length + (printGTs body).length + (printGTail tail).length)]
  | .loop S V body =>
    [.loop (tagsGTs cfg c (⟨p + voOf S, V, trunc bits_LoopTag_Level dep⟩ :: D) (dep + 1)
        (p + 6 + (hdrOf S V).length) body)
      { loopFG D p (trunc bits_LoopTag_Level dep) S V with
        endOff := p + 6 + (hdrOf S V).length + (printGTs body).length }]
  | .iif e ts fs => [iifTag cfg c D p e ts fs]
  | .svar pa ar => [svarTag cfg c D p pa ar]
def tagsGTs (cfg : ScanCfg R) (c : List Nat) (D : List LoopD) (dep : Nat) (p : Nat) : GTs → List (Tag R)
  | .nil => []
  | .cons b r => tagsGT cfg c D dep p b ++ tagsGTs cfg c D dep (p + (printGT b).length) r
def casesG (cfg : ScanCfg R) (c : List Nat) (D : List LoopD) (dep : Nat) (q : Nat) : GTail → List (IfCase R)
  | .fin => []
  | .els body => [.mk [] (tagsGTs cfg c D dep (q + 8) body) (q + 8) (q + 8 + (printGTs body).length)]
  | .elif e body tail =>
    .mk (itemsAtC cfg c (refsD D) (q + 14) (q + 14 + e.length)) (tagsGTs cfg c D dep (q + 18 + e.length) body)
      (q + 18 + e.length) (q + 18 + e.length + (printGTs body).length) ::
    casesG cfg c D dep (q + 18 + e.length + (printGTs body).length) tail
end

theorem printGTail_pos (t : GTail) : 5 ≤ (printGTail t).length := by
  cases t <;> simp [printGTail, IFEND, ELSE, ELIF, ELIFEND] <;> omega

mutual
theorem parseMain_gt (cfg : ScanCfg R) (c : List Nat) (hn : c.length + 16 < 4294967296) :
    ∀ (b : GT) (D : List LoopD) (stk : List (Frame R)) (p : Nat) (acc : List (Tag R)),
      At c p (printGT b) → b.ok → ChainD c D →
      Steps cfg c (costGT b) (stP c (refsD D) false stk acc p)
        (stP c (refsD D) false stk (acc ++ tagsGT cfg c D stk.length p b) (p + (printGT b).length))
  | .segs l, D, stk, p, acc, h, hok, hD => parseMain_segs cfg c hn D hD false stk l p acc h hok
  | .ifc e body tail, D, stk, p, acc, h, hok, hD => by
    simp only [GT.ok] at hok
    obtain ⟨hq34, hbody, htail⟩ := hok
    simp only [printGT] at h
    have htp := printGTail_pos tail
    have hl : (IFOPEN ++ e ++ [34, 62]).length = 12 + e.length := by
      simp only [List.length_append, IFOPEN, List.length_cons, List.length_nil]; omega
    have hH : At c p (IFOPEN ++ e ++ [34, 62]) := h.left.left
    have hB : At c (p + 12 + e.length) (printGTs body) := h.left.right.cast (by rw [hl]; omega)
    have hT : At c (p + 12 + e.length + (printGTs body).length) (printGTail tail) :=
      h.right.cast (by rw [List.length_append, hl]; omega)
    have hle := hT.le
    have s1 := Steps.first ((show At c p IFOPEN from hH.left.left).next_if hn) (Nat.succ_ne_zero _)
      (stepIf_print cfg c p e (refsD D) hH hq34 (by omega) stk acc)
    refine ((s1.trans (parseMain_gts cfg c hn body D _ _ [] hB hbody hD)).trans
      (parseMain_gtail cfg c hn tail D stk acc [] _ _ p _ _ hT htail hD)).cast rfl ?_
    simp only [tagsGT, printGT, List.nil_append, List.length_cons, List.length_append, hl, Nat.add_assoc]
  | .loop S V body, D, stk, p, acc, h, hok, hD => by
    simp only [GT.ok] at hok
    obtain ⟨hh, hbody⟩ := hok
    simp only [printGT] at h
    have hW : At c p LOOPW := h.left
    have hH : At c (p + 5) (hdrOf S V ++ ([62] ++ (printGTs body ++ LOOPEND))) := h.right
    have hB : At c (p + 6 + (hdrOf S V).length) (printGTs body ++ LOOPEND) :=
      hH.right.right.cast (show p + 5 + (hdrOf S V).length + 1 = _ by omega)
    have hE : At c (p + 6 + (hdrOf S V).length + (printGTs body).length) LOOPEND := hB.right
    obtain ⟨hstep, hD'⟩ := stepLoop_print cfg c p S V (hW.append (hH.left.append hH.right.left)) hh D hD stk acc
    have s1 := Steps.first (cfg := cfg) (hW.next_loop hn) (Nat.succ_ne_zero _) hstep
    have s2 := parseMain_gts cfg c hn body (⟨p + voOf S, V, trunc bits_LoopTag_Level stk.length⟩ :: D)
      (.loop acc (loopFG D p (trunc bits_LoopTag_Level stk.length) S V) (refsD D) :: stk)
      (p + 6 + (hdrOf S V).length) [] hB.left hbody hD'
    have s3 := Steps.first (cfg := cfg) (hE.next_loopend hn) (Nat.succ_ne_zero _)
      (stepLoopEnd_print cfg c (refsD D) (LoopD.ref ⟨p + voOf S, V, trunc bits_LoopTag_Level stk.length⟩) acc
        (tagsGTs cfg c (⟨p + voOf S, V, trunc bits_LoopTag_Level stk.length⟩ :: D) (stk.length + 1)
          (p + 6 + (hdrOf S V).length) body)
        (loopFG D p (trunc bits_LoopTag_Level stk.length) S V) stk _
        (by simp only [loopFG]; omega) hE.le)
    have hend : p + (LOOPW ++ (hdrOf S V ++ ([62] ++ (printGTs body ++ LOOPEND)))).length =
        p + 6 + (hdrOf S V).length + (printGTs body).length + 7 := by
      simp only [List.length_append, LOOPW, LOOPEND, List.length_cons, List.length_nil]; omega
    simp only [printGT, tagsGT, hend]
    exact (s1.trans s2).trans s3
  | .iif e ts fs, D, stk, p, acc, h, hok, hD => by
    simp only [GT.ok] at hok
    obtain ⟨he, he34, hts, hfs, hone, hsz⟩ := hok
    exact parse_iif cfg c hn D hD stk e ts fs p acc h he he34 hts hfs hone hsz
  | .svar pa ar, D, stk, p, acc, h, hok, hD => by
    simp only [GT.ok] at hok
    obtain ⟨hp, hp44, hp0, hp255, hargs, hne, _⟩ := hok
    exact parse_svar cfg c hn D hD stk pa ar p acc h hp hp44 hp0 hp255 (fun a ha => (hargs a ha).1) hne
theorem parseMain_gts (cfg : ScanCfg R) (c : List Nat) (hn : c.length + 16 < 4294967296) :
    ∀ (bs : GTs) (D : List LoopD) (stk : List (Frame R)) (p : Nat) (acc : List (Tag R)),
      At c p (printGTs bs) → bs.ok → ChainD c D →
      Steps cfg c (costGTs bs) (stP c (refsD D) false stk acc p)
        (stP c (refsD D) false stk (acc ++ tagsGTs cfg c D stk.length p bs) (p + (printGTs bs).length))
  | .nil, D, stk, p, acc, h, hok, hD => (Steps.refl cfg c _).cast rfl (by simp only [tagsGTs, List.append_nil]; rfl)
  | .cons b r, D, stk, p, acc, h, hok, hD =>
    ((parseMain_gt cfg c hn b D stk p acc (At.left h) hok.1 hD).trans
      (parseMain_gts cfg c hn r D stk _ _ (At.right h) hok.2 hD)).cast rfl
      (by simp only [tagsGTs, printGTs, List.append_assoc, List.length_append, Nat.add_assoc])
theorem parseMain_gtail (cfg : ScanCfg R) (c : List Nat) (hn : c.length + 16 < 4294967296) :
    ∀ (t : GTail) (D : List LoopD) (stk : List (Frame R)) (accO : List (Tag R)) (done : List (IfCase R))
      (cur : List (Item R)) (curOff p0 : Nat) (sub : List (Tag R)) (p : Nat),
      At c p (printGTail t) → t.ok → ChainD c D →
      Steps cfg c (costGTail t) (stP c (refsD D) false (.ifT accO done cur curOff p0 :: stk) sub p)
        (stP c (refsD D) false stk (accO ++ [.ifT (done ++ .mk cur sub curOff p :: casesG cfg c D (stk.length + 1) p t) p0
          (p + (printGTail t).length)]) (p + (printGTail t).length))
  | .fin, D, stk, accO, done, cur, curOff, p0, sub, p, h, hok, hD => by
    simp only [printGTail] at h
    exact (Steps.first (cfg := cfg) (h.next_ifend hn) (Nat.succ_ne_zero _)
      (stepIfEnd_print cfg c (refsD D) stk accO done cur curOff p0 sub p h.le)).cast rfl rfl
  | .els body, D, stk, accO, done, cur, curOff, p0, sub, p, h, hok, hD => by
    simp only [GTail.ok] at hok
    simp only [printGTail] at h
    have hEl : At c p ELSE := h.left.left
    have hB : At c (p + 8) (printGTs body) := h.left.right
    have hE : At c (p + 8 + (printGTs body).length) IFEND :=
      h.right.cast (by rw [List.length_append, ← Nat.add_assoc]; rfl)
    have s1 := Steps.first (hEl.next_else hn) (Nat.succ_ne_zero _)
      (stepElse_print cfg c (refsD D) stk accO done cur curOff p0 sub p hEl)
    have s2 := parseMain_gts cfg c hn body D (.ifT accO (done ++ [.mk cur sub curOff p]) [] (p + 8) p0 :: stk) (p + 8) []
      hB hok hD
    have s3 := Steps.first (cfg := cfg) (hE.next_ifend hn) (Nat.succ_ne_zero _)
      (stepIfEnd_print cfg c (refsD D) stk accO (done ++ [.mk cur sub curOff p]) [] (p + 8) p0
        (tagsGTs cfg c D (stk.length + 1) (p + 8) body) _ hE.le)
    have hend : p + (ELSE ++ printGTs body ++ IFEND).length = p + 8 + (printGTs body).length + 5 := by
      simp only [List.length_append, ELSE, IFEND, List.length_cons, List.length_nil]; omega
    simp only [printGTail, casesG, hend]
    exact ((s1.trans s2).trans s3).cast rfl (by simp only [List.append_assoc, List.singleton_append])
  | .elif e body tail, D, stk, accO, done, cur, curOff, p0, sub, p, h, hok, hD => by
    simp only [GTail.ok] at hok
    obtain ⟨hq34, hbody, htail⟩ := hok
    simp only [printGTail] at h
    have htp := printGTail_pos tail
    have hl : (ELIF ++ e ++ ELIFEND).length = 18 + e.length := by
      simp only [List.length_append, ELIF, ELIFEND, List.length_cons, List.length_nil]; omega
    have hH : At c p (ELIF ++ e ++ ELIFEND) := h.left.left
    have hB : At c (p + 18 + e.length) (printGTs body) := h.left.right.cast (by rw [hl]; omega)
    have hT : At c (p + 18 + e.length + (printGTs body).length) (printGTail tail) :=
      h.right.cast (by rw [List.length_append, hl]; omega)
    have hle := hT.le
    have s1 := Steps.first ((show At c p ELIF from hH.left.left).next_elif hn) (Nat.succ_ne_zero _)
      (stepElif_print cfg c (refsD D) stk accO done cur curOff p0 sub p e hH hq34 (by omega))
    have hend : p + (ELIF ++ e ++ ELIFEND ++ printGTs body ++ printGTail tail).length =
        p + 18 + e.length + (printGTs body).length + (printGTail tail).length := by
      simp only [List.length_append, hl]; omega
    simp only [printGTail, casesG, hend]
    exact ((s1.trans (parseMain_gts cfg c hn body D _ _ [] hB hbody hD)).trans
      (parseMain_gtail cfg c hn tail D stk accO _ _ _ p0 _ _ hT htail hD)).cast rfl
      (by simp only [List.append_assoc, List.singleton_append]; rfl)
end

theorem parse_gt (cfg : ScanCfg R) (c : List Nat) (hn : c.length + 16 < 4294967296) :
    ∀ (b : GT) (D : List LoopD) (stk : List (Frame R)) (pre post : List Nat) (acc : List (Tag R)) (fuel o m o' m' : Nat),
      c = pre ++ (printGT b ++ post) → b.ok → ChainD c D →
      next c pre.length = .ok (o, m) → next c (pre.length + (printGT b).length) = .ok (o', m') →
      parseMain cfg c (fuel + costGT b) (stAtL (refsD D) stk acc o m) =
        parseMain cfg c fuel (stAtL (refsD D) stk (acc ++ tagsGT cfg c D stk.length pre.length b) o' m') :=
  fun b D stk pre _ acc fuel o m o' m' hc hok hD hnext hfin => by
    have h := parseMain_gt cfg c hn b D stk pre.length acc (At.of_eq hc) hok hD fuel
    rwa [stP_eq hnext, stP_eq hfin] at h

theorem parse_gtail (cfg : ScanCfg R) (c : List Nat) (hn : c.length + 16 < 4294967296) :
    ∀ (t : GTail) (D : List LoopD) (stk : List (Frame R)) (accO : List (Tag R)) (done : List (IfCase R)) (cur : List (Item R))
      (curOff p : Nat) (sub : List (Tag R)) (pre post : List Nat) (fuel o m o' m' : Nat),
      c = pre ++ (printGTail t ++ post) → t.ok → ChainD c D →
      next c pre.length = .ok (o, m) → next c (pre.length + (printGTail t).length) = .ok (o', m') →
      parseMain cfg c (fuel + costGTail t) (stAtL (refsD D) (.ifT accO done cur curOff p :: stk) sub o m) =
        parseMain cfg c fuel (stAtL (refsD D) stk (accO ++ [.ifT (done ++ .mk cur sub curOff pre.length ::
          casesG cfg c D (stk.length + 1) pre.length t) p (pre.length + (printGTail t).length)]) o' m') :=
  fun t D stk accO done cur curOff p sub pre _ fuel o m o' m' hc hok hD hnext hfin => by
    have h := parseMain_gtail cfg c hn t D stk accO done cur curOff p sub pre.length (At.of_eq hc) hok hD fuel
    rwa [stP_eq hnext, stP_eq hfin] at h

mutual
theorem costGT_le : ∀ (b : GT), costGT b ≤ (printGT b).length
  | .segs l => by simp only [costGT, printGT]; exact nTags_le l
  | .ifc e body tail => by
    have := costGTs_le body; have := costGTail_le tail
    simp [costGT, printGT, IFOPEN]; omega
  | .loop S V body => by
    have := costGTs_le body
    simp [costGT, printGT, LOOPW, LOOPEND]; omega
  | .iif e ts fs => by
    have h1 : nTagsVal ts ≤ tLen ts := by
      cases ts with
      | none => simp [nTagsVal, tLen]
      | some l => have := nTags_le l; simp only [nTagsVal, tLen]; omega
    have h2 : nTagsVal fs ≤ fLen fs := by
      cases fs with
      | none => simp [nTagsVal, fLen]
      | some l => have := nTags_le l; simp only [nTagsVal, fLen]; omega
    simp only [costGT, printGT, printIif_len]; omega
  | .svar pa ar => by
    have := nTags_le (argSegs ar)
    simp only [costGT, printGT, printSvar_len]; omega
theorem costGTs_le : ∀ (bs : GTs), costGTs bs ≤ (printGTs bs).length
  | .nil => by simp [costGTs]
  | .cons b r => by
    have := costGT_le b; have := costGTs_le r
    simp [costGTs, printGTs]; omega
theorem costGTail_le : ∀ (t : GTail), costGTail t ≤ (printGTail t).length
  | .fin => by simp [costGTail, printGTail, IFEND]
  | .els body => by have := costGTs_le body; simp [costGTail, printGTail, ELSE, IFEND]; omega
  | .elif e body tail => by
    have := costGTs_le body; have := costGTail_le tail
    simp [costGTail, printGTail, ELIF, ELIFEND]; omega
end

/-- the printed tree parses to exactly the implied tags -/
theorem parse_gtree (cfg : ScanCfg R) (bs : GTs) (hok : bs.ok)
    (hn : (printGTs bs).length + 16 < 4294967296) :
    parse cfg (printGTs bs) = .ok (tagsGTs cfg (printGTs bs) [] 0 0 bs) := by
  obtain ⟨o, m, hnx, _⟩ := next_total (printGTs bs) 0 (Nat.zero_le _)
  have h0 : finderNext (printGTs bs) ({} : PState R) = .ok (stAtC [] false [] [] o m) := by
    simp only [finderNext, hnx, bind, Except.bind]; rfl
  have hend : next (printGTs bs) (0 + (printGTs bs).length) = .ok ((printGTs bs).length, 0) := by
    rw [Nat.zero_add]
    exact next_plain_end _ _ (Nat.le_refl _) (fun i h1 h2 => absurd h2 (Nat.not_lt.mpr h1))
  have hcost := costGTs_le bs
  have hm := parseMain_gts cfg (printGTs bs) hn bs [] [] 0 ([] : List (Tag R))
    (At.of_eq (A := []) (B := []) (List.append_nil _).symm) hok (chainD_nil _)
    (2 * (printGTs bs).length + 3 - costGTs bs + 1)
  rw [stP_eq hnx, stP_eq hend] at hm
  rw [show 2 * (printGTs bs).length + 3 - costGTs bs + 1 + costGTs bs = 2 * (printGTs bs).length + 4 by omega] at hm
  have hm' : parseMain cfg (printGTs bs) (2 * (printGTs bs).length + 4) (stAtC [] false [] [] o m) =
      .ok (stAtC [] false [] (tagsGTs cfg (printGTs bs) [] 0 0 bs) (printGTs bs).length 0) :=
    hm.trans (by simp only [parseMain, stAtC, ne_eq, not_true_eq_false, if_false]; rfl)
  simp only [parse, h0, bind, Except.bind, hm']
  rfl

end Qentem.Tmpl
