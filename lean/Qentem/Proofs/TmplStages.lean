import Qentem.Proofs.TmplGenRender
import Qentem.Proofs.TmplBlocks
/-!
# C02 — segment runs, block lists, block trees and one loop as trees

Segment runs, block trees (`BT`) and one top-level loop are trees (`GT`) with an empty chain of
enclosing loops.  Each class is embedded in `GT`; the printed text, the tag list, the step count and
the side conditions of the embedded tree are those of the class, so `parse_gt` and `parse_gtree`
specialise to it.  Block lists (`Blk`) are block trees whose bodies are single segment runs: their
parse and their rendering are those of the tree.
Rendering: what the walk `renderW_gt` (Proofs/TmplGenRender.lean) asks of and says about the embedded tree is what the
class gives and wants (`pathW_toGT`, `expGT_toGT`, `rneedGT_toGT`, …), so `renderTop_segs`, `renderTop_tree`,
`renderTop_blks`, `renderTop_loop` are the walk.  Props/C02 uses these four with `parse_segs`, `parse_tree`, `parse_blks`; the statements for one tree
under a stack (`parse_bt`, `parse_tail`, `render_bt`, `render_tail`, with `printBT_eq`, `costBT_le`) say the same of a
subtree and have no user.  The reference interpreter on block trees (`expand_bt`) and block lists (`expandList_blks`).
-/
namespace Qentem.Tmpl
open Qentem.Expr (Fault rd ScanCfg VarRef Item Num Val Env RealLike)
open Qentem.Generated.Tmpl

variable {R : Type}

theorem parse_segs (cfg : ScanCfg R) (segs : List Seg) (hok : ∀ s ∈ segs, s.ok)
    (hn : (printSegs segs).length + 16 < 4294967296) :
    parse cfg (printSegs segs) = .ok (tagsOf cfg (printSegs segs) 0 segs) := by
  have h := parse_gtree cfg (.cons (.segs segs) .nil) ⟨hok, trivial⟩
    (by simpa only [printGTs, printGT, List.append_nil] using hn)
  simpa only [printGTs, printGT, tagsGTs, tagsGT, tagsOfD_nil, List.append_nil] using h

mutual
def BT.toGT : BT → GT
  | .segs l => .segs l
  | .ifc e body tail => .ifc e body.toGTs tail.toGTail
def BTs.toGTs : BTs → GTs
  | .nil => .nil
  | .cons b r => .cons b.toGT r.toGTs
def BTail.toGTail : BTail → GTail
  | .fin => .fin
  | .els body => .els body.toGTs
  | .elif e body tail => .elif e body.toGTs tail.toGTail
end

mutual
theorem printGT_toGT : ∀ b : BT, printGT b.toGT = printBT b
  | .segs _ => rfl
  | .ifc e body tail => by simp only [BT.toGT, printGT, printBT, printGTs_toGTs body, printGTail_toGTail tail]
theorem printGTs_toGTs : ∀ bs : BTs, printGTs bs.toGTs = printBTs bs
  | .nil => rfl
  | .cons b r => by simp only [BTs.toGTs, printGTs, printBTs, printGT_toGT b, printGTs_toGTs r]
theorem printGTail_toGTail : ∀ t : BTail, printGTail t.toGTail = printTail t
  | .fin => rfl
  | .els body => by simp only [BTail.toGTail, printGTail, printTail, printGTs_toGTs body]
  | .elif e body tail => by
    simp only [BTail.toGTail, printGTail, printTail, printGTs_toGTs body, printGTail_toGTail tail]
end

mutual
theorem toTpls_toGT : ∀ b : BT, b.toGT.toTpls = b.toTpls
  | .segs _ => rfl
  | .ifc e body tail => by simp only [BT.toGT, GT.toTpls, BT.toTpls, gtsTpl_toGTs body, tailBrG_toGTail tail]
theorem gtsTpl_toGTs : ∀ bs : BTs, gtsTpl bs.toGTs = btsTpl bs
  | .nil => rfl
  | .cons b r => by simp only [BTs.toGTs, gtsTpl, btsTpl, toTpls_toGT b, gtsTpl_toGTs r]
theorem tailBrG_toGTail : ∀ t : BTail, tailBrG t.toGTail = tailBr t
  | .fin => rfl
  | .els body => by simp only [BTail.toGTail, tailBrG, tailBr, gtsTpl_toGTs body]
  | .elif e body tail => by simp only [BTail.toGTail, tailBrG, tailBr, gtsTpl_toGTs body, tailBrG_toGTail tail]
end

theorem printBT_eq : ∀ (b : BT), printList b.toTpls = printBT b := fun b => by
  rw [← toTpls_toGT, printGT_eq, printGT_toGT]

theorem printBTs_eq : ∀ (bs : BTs), printList (btsTpl bs) = printBTs bs := fun bs => by
  rw [← gtsTpl_toGTs, printGTs_eq, printGTs_toGTs]

theorem printTail_eq : ∀ (t : BTail), printBranches false (tailBr t) ++ str "</if>" = printTail t := fun t => by
  rw [← tailBrG_toGTail, printGTail_eq, printGTail_toGTail]

mutual
theorem costGT_toGT : ∀ b : BT, costGT b.toGT = costBT b
  | .segs _ => rfl
  | .ifc e body tail => by simp only [BT.toGT, costGT, costBT, costGTs_toGTs body, costGTail_toGTail tail]
theorem costGTs_toGTs : ∀ bs : BTs, costGTs bs.toGTs = costBTs bs
  | .nil => rfl
  | .cons b r => by simp only [BTs.toGTs, costGTs, costBTs, costGT_toGT b, costGTs_toGTs r]
theorem costGTail_toGTail : ∀ t : BTail, costGTail t.toGTail = costTail t
  | .fin => rfl
  | .els body => by simp only [BTail.toGTail, costGTail, costTail, costGTs_toGTs body]
  | .elif e body tail => by
    simp only [BTail.toGTail, costGTail, costTail, costGTs_toGTs body, costGTail_toGTail tail]
end

mutual
theorem ok_toGT : ∀ b : BT, b.toGT.ok ↔ b.ok
  | .segs _ => Iff.rfl
  | .ifc e body tail => by simp only [BT.toGT, GT.ok, BT.ok, ok_toGTs body, ok_toGTail tail]
theorem ok_toGTs : ∀ bs : BTs, bs.toGTs.ok ↔ bs.ok
  | .nil => Iff.rfl
  | .cons b r => by simp only [BTs.toGTs, GTs.ok, BTs.ok, ok_toGT b, ok_toGTs r]
theorem ok_toGTail : ∀ t : BTail, t.toGTail.ok ↔ t.ok
  | .fin => Iff.rfl
  | .els body => by simp only [BTail.toGTail, GTail.ok, BTail.ok, ok_toGTs body]
  | .elif e body tail => by simp only [BTail.toGTail, GTail.ok, BTail.ok, ok_toGTs body, ok_toGTail tail]
end

mutual
theorem tagsGT_toGT (cfg : ScanCfg R) (c : List Nat) : ∀ (b : BT) (dep p : Nat),
    tagsGT cfg c [] dep p b.toGT = tagsBT cfg c p b
  | .segs l, _, p => by simp only [BT.toGT, tagsGT, tagsBT, tagsOfD_nil]
  | .ifc e body tail, dep, p => by
    simp only [BT.toGT, tagsGT, tagsBT, tagsGTs_toGTs cfg c body, casesG_toGTail cfg c tail, printGTs_toGTs,
      printGTail_toGTail]
    rfl
theorem tagsGTs_toGTs (cfg : ScanCfg R) (c : List Nat) : ∀ (bs : BTs) (dep p : Nat),
    tagsGTs cfg c [] dep p bs.toGTs = tagsBTs cfg c p bs
  | .nil, _, _ => rfl
  | .cons b r, dep, p => by
    simp only [BTs.toGTs, tagsGTs, tagsBTs, tagsGT_toGT cfg c b, tagsGTs_toGTs cfg c r, printGT_toGT]
theorem casesG_toGTail (cfg : ScanCfg R) (c : List Nat) : ∀ (t : BTail) (dep q : Nat),
    casesG cfg c [] dep q t.toGTail = casesT cfg c q t
  | .fin, _, _ => rfl
  | .els body, dep, q => by
    simp only [BTail.toGTail, casesG, casesT, tagsGTs_toGTs cfg c body, printGTs_toGTs]
  | .elif e body tail, dep, q => by
    simp only [BTail.toGTail, casesG, casesT, tagsGTs_toGTs cfg c body, casesG_toGTail cfg c tail, printGTs_toGTs]
    rfl
end

theorem parse_bt (cfg : ScanCfg R) (c : List Nat) (hn : c.length + 16 < 4294967296) :
    ∀ (b : BT) (stk : List (Frame R)) (pre post : List Nat) (acc : List (Tag R)) (fuel o m o' m' : Nat),
      c = pre ++ (printBT b ++ post) → b.ok →
      next c pre.length = .ok (o, m) → next c (pre.length + (printBT b).length) = .ok (o', m') →
      parseMain cfg c (fuel + costBT b) (stAt stk acc o m) =
        parseMain cfg c fuel (stAt stk (acc ++ tagsBT cfg c pre.length b) o' m') := by
  intro b stk pre post acc fuel o m o' m' hc hok hnext hfin
  rw [← printGT_toGT] at hc hfin
  have h := parse_gt cfg c hn b.toGT [] stk pre post acc fuel o m o' m' hc ((ok_toGT b).2 hok) (chainD_nil c)
    hnext hfin
  rw [costGT_toGT, tagsGT_toGT] at h
  exact h

theorem parse_tail (cfg : ScanCfg R) (c : List Nat) (hn : c.length + 16 < 4294967296) :
    ∀ (t : BTail) (stk : List (Frame R)) (accO : List (Tag R)) (done : List (IfCase R)) (cur : List (Item R))
      (curOff p : Nat) (sub : List (Tag R)) (pre post : List Nat) (fuel o m o' m' : Nat),
      c = pre ++ (printTail t ++ post) → t.ok →
      next c pre.length = .ok (o, m) → next c (pre.length + (printTail t).length) = .ok (o', m') →
      parseMain cfg c (fuel + costTail t) (stAt (.ifT accO done cur curOff p :: stk) sub o m) =
        parseMain cfg c fuel (stAt stk (accO ++ [.ifT (done ++ .mk cur sub curOff pre.length ::
          casesT cfg c pre.length t) p (pre.length + (printTail t).length)]) o' m') := by
  intro t stk accO done cur curOff p sub pre post fuel o m o' m' hc hok hnext hfin
  rw [← printGTail_toGTail] at hc hfin
  have h := parse_gtail cfg c hn t.toGTail [] stk accO done cur curOff p sub pre post fuel o m o' m' hc
    ((ok_toGTail t).2 hok) (chainD_nil c) hnext hfin
  rw [costGTail_toGTail, casesG_toGTail, printGTail_toGTail] at h
  exact h

theorem costBT_le : ∀ (b : BT), costBT b ≤ (printBT b).length := fun b => by
  rw [← costGT_toGT, ← printGT_toGT]; exact costGT_le b.toGT

theorem costTail_le : ∀ (t : BTail), costTail t ≤ (printTail t).length := fun t => by
  rw [← costGTail_toGTail, ← printGTail_toGTail]; exact costGTail_le t.toGTail

theorem parse_tree (cfg : ScanCfg R) (bs : BTs) (hok : bs.ok)
    (hn : (printBTs bs).length + 16 < 4294967296) :
    parse cfg (printBTs bs) = .ok (tagsBTs cfg (printBTs bs) 0 bs) := by
  have h := parse_gtree cfg bs.toGTs ((ok_toGTs bs).2 hok) (by rwa [printGTs_toGTs])
  rwa [printGTs_toGTs, tagsGTs_toGTs] at h

def Blk.toBT : Blk → BT
  | .segs l => .segs l
  | .ifc e b => .ifc e (.cons (.segs b) .nil) .fin
  | .ife e t f => .ifc e (.cons (.segs t) .nil) (.els (.cons (.segs f) .nil))

def blksBT : List Blk → BTs
  | [] => .nil
  | b :: r => .cons b.toBT (blksBT r)

theorem btsTpl_blks : ∀ bs : List Blk, btsTpl (blksBT bs) = blksTpl bs
  | [] => rfl
  | b :: r => by
    cases b <;> simp only [blksBT, Blk.toBT, btsTpl, BT.toTpls, tailBr, blksTpl, Blk.toTpls, List.append_nil, btsTpl_blks r]

theorem printBlks_eq (bs : List Blk) : printList (blksTpl bs) = printBTs (blksBT bs) := by
  rw [← btsTpl_blks, printBTs_eq]

theorem ok_blks : ∀ bs : List Blk, (∀ b ∈ bs, b.ok) → (blksBT bs).ok
  | [], _ => trivial
  | b :: r, h => by
    refine ⟨?_, ok_blks r fun x hx => h x (List.mem_cons_of_mem _ hx)⟩
    have hb := h b (List.mem_cons_self ..)
    cases b with
    | segs l => exact hb
    | ifc e body => exact ⟨hb.2.1, ⟨hb.2.2, trivial⟩, trivial⟩
    | ife e t f => exact ⟨hb.2.1, ⟨hb.2.2.1, trivial⟩, hb.2.2.2, trivial⟩

theorem parse_blks (cfg : ScanCfg R) (bs : List Blk) (hok : ∀ b ∈ bs, b.ok)
    (hn : (printBTs (blksBT bs)).length + 16 < 4294967296) :
    parse cfg (printBTs (blksBT bs)) = .ok (tagsBTs cfg (printBTs (blksBT bs)) 0 (blksBT bs)) :=
  parse_tree cfg (blksBT bs) (ok_blks bs hok) hn

section
variable [RealLike R]

omit [RealLike R] in
theorem pathOk_blks (rn : List Nat → Option (Num R)) : ∀ bs : List Blk, (∀ b ∈ bs, b.pathOk rn) → (blksBT bs).pathOk rn
  | [], _ => trivial
  | b :: r, h => by
    refine ⟨?_, pathOk_blks rn r fun x hx => h x (List.mem_cons_of_mem _ hx)⟩
    have hb := h b (List.mem_cons_self ..)
    cases b with
    | segs l => exact hb
    | ifc e body => exact ⟨⟨hb, trivial⟩, trivial⟩
    | ife e t f => exact ⟨⟨hb.1, trivial⟩, hb.2, trivial⟩

omit [RealLike R] in
/-- a case text of a block is free of `{`, so it has no operand paths to check -/
theorem caseOk_blks (rn : List Nat → Option (Num R)) : ∀ bs : List Blk, (∀ b ∈ bs, b.ok) → (∀ b ∈ bs, b.caseOk rn) →
    (blksBT bs).caseOk rn
  | [], _, _ => trivial
  | b :: r, h, hc => by
    refine ⟨?_, caseOk_blks rn r (fun x hx => h x (List.mem_cons_of_mem _ hx)) fun x hx => hc x (List.mem_cons_of_mem _ hx)⟩
    have hb := h b (List.mem_cons_self ..)
    have hcb := hc b (List.mem_cons_self ..)
    cases b with
    | segs l => trivial
    | ifc e body => exact ⟨Or.inl rfl, varsOk_of_plain rn e hb.1, ⟨trivial, trivial⟩, trivial⟩
    | ife e t f => exact ⟨Or.inr hcb, varsOk_of_plain rn e hb.1, ⟨trivial, trivial⟩, trivial, trivial⟩

theorem expBTs_blks (cx : RCtx R) : ∀ bs : List Blk, expBTs cx (blksBT bs) = expBlks cx bs
  | [] => rfl
  | b :: r => by
    cases b <;>
      simp only [blksBT, Blk.toBT, expBTs, expBT, expTail, expBlks, expBlk, hitOf, List.append_nil, expBTs_blks cx r]

theorem rcostBTs_blks : ∀ bs : List Blk, rcostBTs (blksBT bs) = rcost bs
  | [] => rfl
  | b :: r => by cases b <;> simp only [blksBT, Blk.toBT, rcostBTs, rcostBT, rcost, rcostBTs_blks r]

end

def loopGT (segs0 : List Seg) (S V : List Nat) (body segs1 : List Seg) : GTs :=
  .cons (.segs segs0) (.cons (.loop S V (.cons (.segs body) .nil)) (.cons (.segs segs1) .nil))

theorem gtsTpl_loop (segs0 : List Seg) (S V : List Nat) (body segs1 : List Seg) :
    gtsTpl (loopGT segs0 S V body segs1) = loopTpl segs0 S V body segs1 := by
  simp only [loopGT, gtsTpl, GT.toTpls, loopTpl, List.append_nil, List.singleton_append]

theorem printList_loopTpl (segs0 : List Seg) (S V : List Nat) (body segs1 : List Seg) :
    printList (loopTpl segs0 S V body segs1) = printGTs (loopGT segs0 S V body segs1) := by
  rw [← gtsTpl_loop, printGTs_eq]

theorem Seg.okB.ok {s : Seg} (h : s.okB) : s.ok := by
  cases s with
  | math _ => exact h.elim
  | _ => exact h

section
variable [RealLike R]

theorem pathOkV_nil {p : List Nat} (h : PathOk p) : PathOkV [] p :=
  let ⟨name, keys, h1, h2, h3, h4⟩ := h
  ⟨name, keys, h1, h2, h3, h4, fun _ hV => nomatch hV⟩

omit [RealLike R] in
theorem varsOkV_nil {rn : List Nat → Option (Num R)} {e : List Nat} {t : Nat} (h : varsOk rn e t) : varsOkV rn [] e t :=
  fun items hs v hv => pathOkV_nil (h items hs v hv)

omit [RealLike R] in
theorem Seg.pathW_nil {rn : List Nat → Option (Num R)} {s : Seg} (h : s.pathOk rn) : s.pathW rn [] := by
  cases s with
  | text _ => trivial
  | var p => exact pathOkV_nil h
  | raw p => exact pathOkV_nil h
  | math e => exact ⟨varsOkV_nil h, Or.inl rfl⟩

omit [RealLike R] in
mutual
theorem pathW_toGT (rn : List Nat → Option (Num R)) (n : Nat) : ∀ b : BT, b.pathOk rn → b.caseOk rn → b.toGT.pathW rn n []
  | .segs _, h, _ => fun s hs => Seg.pathW_nil (h s hs)
  | .ifc _ body tail, h, hc =>
    ⟨⟨varsOkV_nil hc.2.1, Or.inl rfl⟩, pathW_toGTs rn n body h.1 hc.2.2.1, pathW_toGTail rn n tail h.2 hc.2.2.2⟩
theorem pathW_toGTs (rn : List Nat → Option (Num R)) (n : Nat) : ∀ bs : BTs, bs.pathOk rn → bs.caseOk rn → bs.toGTs.pathW rn n []
  | .nil, _, _ => trivial
  | .cons b r, h, hc => ⟨pathW_toGT rn n b h.1 hc.1, pathW_toGTs rn n r h.2 hc.2⟩
theorem pathW_toGTail (rn : List Nat → Option (Num R)) (n : Nat) : ∀ t : BTail, t.pathOk rn → t.caseOk rn → t.toGTail.pathW rn n []
  | .fin, _, _ => trivial
  | .els body, h, hc => pathW_toGTs rn n body h hc
  | .elif _ body tail, h, hc =>
    ⟨⟨varsOkV_nil hc.2.1, Or.inl rfl⟩, pathW_toGTs rn n body h.1 hc.2.2.1, pathW_toGTail rn n tail h.2 hc.2.2.2⟩
end

omit [RealLike R] in
mutual
theorem caseV_toGT (rn : List Nat → Option (Num R)) : ∀ b : BT, b.caseOk rn → b.toGT.caseV rn
  | .segs _, _ => trivial
  | .ifc e body tail, hc =>
    ⟨hc.1.imp (fun h => by rw [h]; rfl) id, caseV_toGTs rn body hc.2.2.1, caseV_toGTail rn tail hc.2.2.2⟩
theorem caseV_toGTs (rn : List Nat → Option (Num R)) : ∀ bs : BTs, bs.caseOk rn → bs.toGTs.caseV rn
  | .nil, _ => trivial
  | .cons b r, hc => ⟨caseV_toGT rn b hc.1, caseV_toGTs rn r hc.2⟩
theorem caseV_toGTail (rn : List Nat → Option (Num R)) : ∀ t : BTail, t.caseOk rn → t.toGTail.caseV rn
  | .fin, _ => trivial
  | .els body, hc => caseV_toGTs rn body hc
  | .elif _ body tail, hc => ⟨hc.1, caseV_toGTs rn body hc.2.2.1, caseV_toGTail rn tail hc.2.2.2⟩
end

mutual
theorem expGT_toGT (cx : RCtx R) : ∀ b : BT, expGT cx [] b.toGT = expBT cx b
  | .segs l => expSegsB_nil cx l
  | .ifc e body tail => by
    simp only [BT.toGT, expGT, expBT, expGTs_toGTs cx body, expGTail_toGTail cx tail]; rfl
theorem expGTs_toGTs (cx : RCtx R) : ∀ bs : BTs, expGTs cx [] bs.toGTs = expBTs cx bs
  | .nil => rfl
  | .cons b r => by simp only [BTs.toGTs, expGTs, expBTs, expGT_toGT cx b, expGTs_toGTs cx r]
theorem expGTail_toGTail (cx : RCtx R) : ∀ t : BTail, expGTail cx [] t.toGTail = expTail cx t
  | .fin => rfl
  | .els body => by simp only [BTail.toGTail, expGTail, expTail, expGTs_toGTs cx body]
  | .elif e body tail => by
    simp only [BTail.toGTail, expGTail, expTail, expGTs_toGTs cx body, expGTail_toGTail cx tail]; rfl
end

mutual
theorem rcostGT_toGT : ∀ b : BT, rcostGT b.toGT = rcostBT b
  | .segs _ => rfl
  | .ifc _ _ _ => rfl
theorem rcostGTs_toGTs : ∀ bs : BTs, rcostGTs bs.toGTs = rcostBTs bs
  | .nil => rfl
  | .cons b r => by simp only [BTs.toGTs, rcostGTs, rcostBTs, rcostGT_toGT b, rcostGTs_toGTs r]
end

omit [RealLike R] in
mutual
theorem rneedGT_toGT (cx : RCtx R) : ∀ b : BT, rneedGT cx [] b.toGT = rneedBT b
  | .segs _ => rfl
  | .ifc _ body tail => by
    simp only [BT.toGT, rneedGT, rneedBT, rneedGTs_toGTs cx body, rneedGTail_toGTail cx tail, rcostGTs_toGTs]
theorem rneedGTs_toGTs (cx : RCtx R) : ∀ bs : BTs, rneedGTs cx [] bs.toGTs = rneedBTs bs
  | .nil => rfl
  | .cons b r => by simp only [BTs.toGTs, rneedGTs, rneedBTs, rneedGT_toGT cx b, rneedGTs_toGTs cx r]
theorem rneedGTail_toGTail (cx : RCtx R) : ∀ t : BTail, rneedGTail cx [] t.toGTail = rneedTail t
  | .fin => rfl
  | .els body => by simp only [BTail.toGTail, rneedGTail, rneedTail, rneedGTs_toGTs cx body, rcostGTs_toGTs]
  | .elif _ body tail => by
    simp only [BTail.toGTail, rneedGTail, rneedTail, rneedGTs_toGTs cx body, rneedGTail_toGTail cx tail, rcostGTs_toGTs]
end

mutual
theorem noLoop_toGT : ∀ b : BT, b.toGT.noLoop
  | .segs _ => trivial
  | .ifc _ body tail => ⟨noLoop_toGTs body, noLoop_toGTail tail⟩
theorem noLoop_toGTs : ∀ bs : BTs, bs.toGTs.noLoop
  | .nil => trivial
  | .cons b r => ⟨noLoop_toGT b, noLoop_toGTs r⟩
theorem noLoop_toGTail : ∀ t : BTail, t.toGTail.noLoop
  | .fin => trivial
  | .els body => noLoop_toGTs body
  | .elif _ body tail => ⟨noLoop_toGTs body, noLoop_toGTail tail⟩
end

theorem itemsOk_nil (items : List LoopItem) : ItemsOk items [] := fun _ h => nomatch h

theorem render_bt (cx : RCtx R) (cfg : ScanCfg R) (hg : cx.guardIndexRead = true) (hrn : cfg.readNum = cx.readNum) :
    ∀ (b : BT) (more : List (Tag R)) (endO : Nat) (post B txt : List Nat) (st : RState) (fuel : Nat),
      cx.content = B ++ (txt ++ (printBT b ++ post)) → b.ok → b.pathOk cfg.readNum → b.caseOk cfg.readNum → rneedBT b ≤ fuel →
      ∃ (B2 txt2 : List Nat) (st2 : RState), cx.content = B2 ++ (txt2 ++ post) ∧
        (B2 ++ txt2).length = (B ++ txt).length + (printBT b).length ∧
        st2.out ++ txt2 = st.out ++ (txt ++ expBT cx b) ∧ st2.items = st.items ∧
        render cx (fuel + rcostBT b) (tagsBT cfg cx.content (B ++ txt).length b ++ more) B.length endO st =
          render cx fuel more B2.length endO st2 := by
  intro b more endO post B txt st fuel hc hok hpath hcase hf
  rw [← printGT_toGT] at hc
  have h := renderW_gt cx cfg hg hrn b.toGT [] 0 more endO B.length (B ++ txt).length st fuel
    (At.of_eq (by rw [hc, List.append_assoc])) (by simp) ((ok_toGT b).2 hok)
    (pathW_toGT _ _ b hpath hcase) (caseV_toGT _ b hcase) (chainD_nil _) (itemsOk_nil _) (Nat.zero_le _)
    (fun _ he => nomatch he) (by rw [← rneedGT_toGT cx] at hf; exact Nat.le_trans (minGT_le cx _ _) hf)
  obtain ⟨o2, st2, g, g5⟩ := h
  obtain ⟨B2, txt2, h1, h2, h3, h4⟩ := g.lists hc
  rw [show dOf ([] : List EnvE) = [] from rfl, rcostGT_toGT, tagsGT_toGT, ← h4] at g5
  rw [printGT_toGT] at h2
  rw [show scOf ([] : List EnvE) = [] from rfl, expGT_toGT] at h3
  exact ⟨B2, txt2, st2, h1, h2, h3, g.items.eq (noLoop_toGT b), g5⟩

theorem render_tail (cx : RCtx R) (cfg : ScanCfg R) (hg : cx.guardIndexRead = true) (hrn : cfg.readNum = cx.readNum) :
    ∀ (t : BTail) (Pre post : List Nat) (st : RState) (fuel : Nat),
      cx.content = Pre ++ (printTail t ++ post) → t.ok → t.pathOk cfg.readNum → t.caseOk cfg.readNum → rneedTail t ≤ fuel →
      ifCases cx fuel (casesT cfg cx.content Pre.length t) st = .ok (emit st (expTail cx t)) := by
  intro t Pre post st fuel hc hok hpath hcase hf
  rw [← printGTail_toGTail] at hc
  obtain ⟨st', h1, h2, h3⟩ := renderW_gtail cx cfg hg hrn t.toGTail [] 0 Pre.length st fuel (At.of_eq hc) ((ok_toGTail t).2 hok)
    (pathW_toGTail _ _ t hpath hcase) (caseV_toGTail _ t hcase) (chainD_nil _) (itemsOk_nil _) (Nat.zero_le _)
    (fun _ he => nomatch he) (by rw [← rneedGTail_toGTail cx] at hf; exact Nat.le_trans (minGTail_le cx _ _) hf)
  rw [show dOf ([] : List EnvE) = [] from rfl, casesG_toGTail] at h1
  rw [show scOf ([] : List EnvE) = [] from rfl, expGTail_toGTail] at h2
  rw [h1]
  exact congrArg Except.ok (RState.ext' _ _ h2 (h3.eq (noLoop_toGTail t)))

theorem renderTop_tree (cx : RCtx R) (cfg : ScanCfg R) (hg : cx.guardIndexRead = true)
    (hrn : cfg.readNum = cx.readNum) (bs : BTs) (hc : cx.content = printBTs bs) (hok : bs.ok)
    (hpath : bs.pathOk cfg.readNum) (hcase : bs.caseOk cfg.readNum) (fuel : Nat) (hf : minGTs cx [] bs.toGTs ≤ fuel) :
    renderTop cx (tagsBTs cfg cx.content 0 bs) (fuel + rcostBTs bs) = .ok (expBTs cx bs) := by
  have h := renderTop_gtree cx cfg hg hrn bs.toGTs (by rw [printGTs_toGTs]; exact hc) ((ok_toGTs bs).2 hok)
    (pathW_toGTs _ _ bs hpath hcase) (caseV_toGTs _ bs hcase) fuel hf
  rwa [tagsGTs_toGTs, rcostGTs_toGTs, expGTs_toGTs] at h

omit [RealLike R] in
theorem minGTs_toGTs_le (cx : RCtx R) (bs : BTs) : minGTs cx [] bs.toGTs ≤ rneedBTs bs := by
  rw [← rneedGTs_toGTs cx]; exact minGTs_le cx _ _

omit [RealLike R] in
theorem minGTs_blks (cx : RCtx R) : ∀ bs : List Blk, minGTs cx [] (blksBT bs).toGTs ≤ rneed bs ∧ 1 ≤ rneed bs
  | [] => ⟨Nat.le_refl 1, Nat.le_refl 1⟩
  | b :: r => by
    have := minGTs_blks cx r
    cases b <;>
      simp only [blksBT, Blk.toBT, BTs.toGTs, BT.toGT, BTail.toGTail, minGTs, minGT, minGTail, rcostGTs, rcostGT, rneed] <;>
      omega

theorem renderTop_segs (cx : RCtx R) (cfg : ScanCfg R) (hg : cx.guardIndexRead = true)
    (hrn : cfg.readNum = cx.readNum) (segs : List Seg) (hc : cx.content = printSegs segs)
    (hok : ∀ s ∈ segs, s.ok) (hpath : ∀ s ∈ segs, s.pathOk cfg.readNum) (fuel : Nat) (hf : 2 ≤ fuel) :
    renderTop cx (tagsOf cfg cx.content 0 segs) (fuel + nTags segs) = .ok (expSegs cx segs) := by
  have h := renderTop_gtree cx cfg hg hrn (.cons (.segs segs) .nil)
    (by simpa only [printGTs, printGT, List.append_nil] using hc) ⟨hok, trivial⟩
    ⟨fun s hs => Seg.pathW_nil (hpath s hs), trivial⟩ ⟨trivial, trivial⟩ fuel
    (by simp only [minGTs, minGT]; omega)
  simpa only [tagsGTs, tagsGT, tagsOfD_nil, rcostGTs, rcostGT, expGTs, expGT, expSegsB_nil, List.append_nil,
    Nat.add_zero] using h

theorem renderTop_blks (cx : RCtx R) (cfg : ScanCfg R) (hg : cx.guardIndexRead = true)
    (hrn : cfg.readNum = cx.readNum) (bs : List Blk) (hc : cx.content = printBTs (blksBT bs))
    (hok : ∀ b ∈ bs, b.ok) (hpath : ∀ b ∈ bs, b.pathOk cfg.readNum) (hcase : ∀ b ∈ bs, b.caseOk cfg.readNum)
    (fuel : Nat) (hf : rneed bs ≤ fuel) :
    renderTop cx (tagsBTs cfg cx.content 0 (blksBT bs)) (fuel + rcost bs) = .ok (expBlks cx bs) := by
  have h := renderTop_tree cx cfg hg hrn (blksBT bs) hc (ok_blks bs hok)
    (pathOk_blks _ bs hpath) (caseOk_blks _ bs hok hcase) fuel (Nat.le_trans (minGTs_blks cx bs).1 hf)
  rwa [rcostBTs_blks, expBTs_blks] at h

theorem iterNeed_const (c nb : Nat) : ∀ l : List (List Nat × Doc), iterNeed (fun _ _ => c) nb l ≤ l.length + c + nb + 1
  | [] => by simp [iterNeed]
  | (k, v) :: r => by
    have := iterNeed_const c nb r
    simp only [iterNeed, List.length_cons]; omega

omit [RealLike R] in
theorem Seg.pathW_body {rn : List Nat → Option (Num R)} {V : List Nat} {s : Seg} (hb : s.okB) (hp : s.pathB V) :
    s.pathW rn [V] := by
  cases s with
  | text _ => trivial
  | var p =>
    obtain ⟨name, keys, h1, h2, h3, h4, h5⟩ := hp
    exact ⟨name, keys, h1, h2, h3, h4, fun V' hV' hpre => by cases List.mem_singleton.mp hV'; exact h5 hpre⟩
  | raw p =>
    obtain ⟨name, keys, h1, h2, h3, h4, h5⟩ := hp
    exact ⟨name, keys, h1, h2, h3, h4, fun V' hV' hpre => by cases List.mem_singleton.mp hV'; exact h5 hpre⟩
  | math _ => exact hb.elim

theorem renderTop_loop (cx : RCtx R) (cfg : ScanCfg R) (hg : cx.guardIndexRead = true)
    (hrn : cfg.readNum = cx.readNum) (segs0 : List Seg) (S V : List Nat) (body segs1 : List Seg)
    (hc : cx.content = printGTs (loopGT segs0 S V body segs1)) (hn : cx.content.length < 4294967296)
    (h0 : ∀ s ∈ segs0, s.ok) (hp0 : ∀ s ∈ segs0, s.pathOk cfg.readNum)
    (h1 : ∀ s ∈ segs1, s.ok) (hp1 : ∀ s ∈ segs1, s.pathOk cfg.readNum)
    (hb : ∀ s ∈ body, s.okB) (hpb : ∀ s ∈ body, s.pathB V) (hh : HdrOk S V) (hSp : S ≠ [] → PathOk S) (fuel : Nat) :
    renderTop cx (tagsGTs cfg cx.content [] 0 0 (loopGT segs0 S V body segs1))
        ((entsO (collOf cx S)).length + nTags body + nTags segs1 + 5 + fuel + nTags segs0) =
      .ok (expSegs cx segs0 ++ (outEnts (fun x key => expSegsB cx [⟨V, x, key⟩] body) (entsO (collOf cx S)) ++
        expSegs cx segs1)) := by
  have hi := iterNeed_const 1 (nTags body) (entsO (collOf cx S))
  have h := renderTop_gtree cx cfg hg hrn (loopGT segs0 S V body segs1) hc
    ⟨h0, ⟨hh, fun s hs => (hb s hs).ok, trivial⟩, h1, trivial⟩
    ⟨fun s hs => Seg.pathW_nil (hp0 s hs), ⟨hn, fun hS => pathOkV_nil (hSp hS), fun s hs => Seg.pathW_body (hb s hs) (hpb s hs),
      trivial⟩, fun s hs => Seg.pathW_nil (hp1 s hs), trivial⟩
    ⟨trivial, ⟨trivial, trivial⟩, trivial, trivial⟩
    ((entsO (collOf cx S)).length + nTags body + 4 + fuel)
    (by
      simp only [loopGT, minGTs, minGT, rcostGTs, rcostGT, Nat.max_self, Nat.add_zero,
        show collS cx [] S = collOf cx S from rfl]
      omega)
  simp only [loopGT, rcostGTs, rcostGT, expGTs, expGT, expSegsB_nil, List.append_nil, Nat.add_zero,
    show collS cx [] S = collOf cx S from rfl] at h
  rw [show (entsO (collOf cx S)).length + nTags body + nTags segs1 + 5 + fuel + nTags segs0 =
    (entsO (collOf cx S)).length + nTags body + 4 + fuel + (nTags segs0 + (1 + nTags segs1)) by omega]
  exact h


/-! The reference side of block trees is followed on its own and is not the embedding of `expand_gt`: that theorem asks
`GT.ok` and the bound `hU` on string units (the phrase loop of a super variable needs them); here fuel is all. -/

mutual
theorem expand_bt (cx : RCtx R) : ∀ (b : BT) (fuel : Nat), eneedBT b ≤ fuel →
    expandList (specOf cx) fuel [] b.toTpls = expBT cx b
  | .segs l, fuel, hf => by
    simp only [eneedBT] at hf
    simp only [BT.toTpls, expBT]
    rw [expandList_body cx [] l fuel hf, expSegsB_nil]
  | .ifc e body tail, fuel, hf => by
    simp only [eneedBT] at hf
    obtain ⟨f, rfl⟩ : ∃ f, fuel = f + 3 := ⟨fuel - 3, by omega⟩
    simp only [BT.toTpls, expandList, expandTpl, expandBranches, List.append_nil, expBT, hitOf]
    rw [expand_bts cx body f (by omega), expand_tail cx tail f (by omega)]
    by_cases hh : isTrue (evalText (specOf cx) [] e 34) = some true <;> simp [hh]
theorem expand_bts (cx : RCtx R) : ∀ (bs : BTs) (fuel : Nat), eneedBTs bs ≤ fuel →
    expandList (specOf cx) fuel [] (btsTpl bs) = expBTs cx bs
  | .nil, fuel, _ => by simp [btsTpl, expBTs, expandList_nil]
  | .cons b r, fuel, hf => by
    simp only [eneedBTs] at hf
    simp only [btsTpl, expBTs]
    rw [expandList_append, expand_bt cx b fuel (by omega), expand_bts cx r _ (by omega)]
theorem expand_tail (cx : RCtx R) : ∀ (t : BTail) (fuel : Nat), eneedTail t ≤ fuel →
    expandBranches (specOf cx) fuel [] (tailBr t) = expTail cx t
  | .fin, fuel, _ => by simp [tailBr, expTail, expandBranches_nil]
  | .els body, fuel, hf => by
    simp only [eneedTail] at hf
    obtain ⟨f, rfl⟩ : ∃ f, fuel = f + 1 := ⟨fuel - 1, by omega⟩
    simp only [tailBr, expandBranches, if_true, expTail]
    exact expand_bts cx body f (by omega)
  | .elif e body tail, fuel, hf => by
    simp only [eneedTail] at hf
    obtain ⟨f, rfl⟩ : ∃ f, fuel = f + 1 := ⟨fuel - 1, by omega⟩
    simp only [tailBr, expandBranches, expTail, hitOf]
    rw [expand_bts cx body f (by omega), expand_tail cx tail f (by omega)]
    by_cases hh : isTrue (evalText (specOf cx) [] e 34) = some true <;> simp [hh]
end

theorem eneed_pos (bs : List Blk) : 1 ≤ eneed bs := by
  induction bs with
  | nil => simp [eneed]
  | cons b r ih => cases b <;> simp [eneed] <;> omega

/-- Not read off `expand_bts` through `blksBT`: the statements about block lists give the fuel `eneed bs`, and the embedded
tree needs more (`eneed [.segs l] = |l| + 1`, `eneedBTs (blksBT [.segs l]) = 2·|l| + 2`). -/
theorem expandList_blks (cx : RCtx R) : ∀ (bs : List Blk) (fuel : Nat), eneed bs ≤ fuel →
    expandList (specOf cx) fuel [] (blksTpl bs) = expBlks cx bs := by
  intro bs
  induction bs with
  | nil => intro fuel _; simp [blksTpl, expBlks, expandList_nil]
  | cons b r ih =>
    intro fuel hf
    have hp := eneed_pos r
    cases b with
    | segs l =>
      simp only [eneed] at hf
      simp only [blksTpl, Blk.toTpls, expBlks, expBlk]
      rw [expandList_body_app cx [] l _ fuel (by omega), expSegsB_nil, ih _ (by omega)]
    | ifc e body =>
      simp only [eneed] at hf
      simp only [blksTpl, Blk.toTpls, expBlks, expBlk, List.cons_append, List.nil_append]
      obtain ⟨f, rfl⟩ : ∃ f, fuel = f + 3 := ⟨fuel - 3, by omega⟩
      simp only [expandList, expandTpl, expandBranches]
      rw [ih (f + 2) (by omega)]
      congr 1
      have h1 := expandList_body cx [] body f (by omega)
      rw [h1, expandBranches_nil, expSegsB_nil]
    | ife e tb fb =>
      simp only [eneed] at hf
      simp only [blksTpl, Blk.toTpls, expBlks, expBlk, List.cons_append, List.nil_append]
      obtain ⟨f, rfl⟩ : ∃ f, fuel = f + 4 := ⟨fuel - 4, by omega⟩
      simp only [expandList, expandTpl, expandBranches, if_true]
      rw [ih (f + 3) (by omega)]
      congr 1
      have h1 := expandList_body cx [] tb (f + 1) (by omega)
      have h2 := expandList_body cx [] fb f (by omega)
      rw [h1, h2, expSegsB_nil, expSegsB_nil]

end

end Qentem.Tmpl
