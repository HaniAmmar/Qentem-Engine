import Qentem.Proofs.ExprScanSafe
import Qentem.Proofs.TextAt
/-!
# C04 — `ScanPrint`: scanning the printed form of a flat expression list gives the list back

`printItems lit items`: operands in order, ` op ` between them, `(`…`)` around sub-lists, literals
written by `lit`.  `scan_printItems`: for every list of the class `pokItems` (numeric leaves,
binary operators between operands, no list that is a single parenthesised group) and every literal
printer whose literals the reader reads back (`LitOk`), `parseTop` on the printed text returns the
list.  Proof: partial correctness of `getOperation` / `skipParen` / `parseValue` / `parseLoop` on the
printed text by induction on their fuel, combined with the scanner's totality (`parseTop_total`).
`scan_print_tree`: the same for the printed flattening of a tree of the class `Tree.pok` (`flattenGo_pok`: its
flattening is in `pokItems`).  The vocabulary of the Props statements `scan_print_items` / `scan_print` —
`Operand.print`, `printItems`, `pokItems`, `lonePar`, `LitOk`, `isBinOp`, `Tree.pok` — is defined here.
-/
namespace Qentem.Expr
open Qentem.Generated.Expr

variable {R : Type}

/-- a real binary operator -/
def isBinOp (o : Op) : Prop := o ≠ .noOp ∧ o ≠ .error

mutual
def Operand.print (lit : Num R → List Nat) : Operand R → List Nat
  | .sub items => [cPOpen] ++ printItems lit items ++ [cPClose]
  | .num n => lit n
  | .var _ => []
  | .text _ _ => []
def printItems (lit : Num R → List Nat) : List (Item R) → List Nat
  | [] => []
  | (x, o) :: rest =>
    x.print lit ++ (match rest with | [] => [] | _ :: _ => [cSpace] ++ o.symbol ++ [cSpace]) ++ printItems lit rest
end

/-- a list that is one parenthesised group (the scanner unwraps it) -/
def lonePar : List (Item R) → Prop
  | [(.sub _, _)] => True
  | _ => False

mutual
def Operand.pok (Pn : Num R → Prop) : Operand R → Prop
  | .sub items => pokItems Pn items ∧ ¬ lonePar items
  | .num n => Pn n
  | .var _ => False
  | .text _ _ => False
def pokItems (Pn : Num R → Prop) : List (Item R) → Prop
  | [] => False
  | (x, o) :: rest => x.pok Pn ∧ (match rest with | [] => o = .noOp | _ :: _ => isBinOp o ∧ pokItems Pn rest)
end

/-- a printed literal: units the operator scan passes over, ending in a digit, read back by the reader -/
structure LitOk (rn : List Nat → Option (Num R)) (s : List Nat) (n : Num R) : Prop where
  ne : s ≠ []
  chars : ∀ x ∈ s, classify x = .other ∧ isWs x = false ∧ x ≠ cPClose
  last : ∀ x, s.getLast? = some x → W1.digitZero ≤ x ∧ x ≤ W1.digitNine
  read : rn s = some n

theorem getOperation_step (c : List Nat) (endO f off x : Nat) (hlt : off < endO) (hx : c[off]? = some x)
    (hq : classify x = .other) : getOperation c endO (f + 1) off = getOperation c endO f (off + 1) := by
  rw [getOperation_succ, if_pos hlt, rd_ok hx]
  simp only [bind, Except.bind, hq]

theorem symbol_nopar (o : Op) : ∀ x ∈ o.symbol, x ≠ cPOpen ∧ x ≠ cPClose := by
  cases o <;> decide

theorem getOperation_over (c : List Nat) (E : Nat) : ∀ (s : List Nat) (f p : Nat) (r : Op × Nat),
    Tmpl.At c p s → (∀ x ∈ s, classify x = .other) → p + s.length ≤ E → getOperation c E f p = .ok r →
    ∃ f', getOperation c E f' (p + s.length) = .ok r := by
  intro s
  induction s with
  | nil => intro f p r _ _ _ h; exact ⟨f, h⟩
  | cons x s ih =>
    intro f p r hseg hq hle h
    have hlen : p + (x :: s).length = p + 1 + s.length := by rw [List.length_cons]; omega
    rw [hlen] at hle ⊢
    cases f with
    | zero => cases h
    | succ f =>
      rw [getOperation_step c E f p x (by omega) hseg.head (hq x (List.mem_cons_self ..))] at h
      exact ih f (p + 1) r (Tmpl.At.right (u := [x]) hseg) (fun y hy => hq y (List.mem_cons_of_mem _ hy)) hle h

/-- nesting depth behind the text `s` entered at depth `d`, as `skipParen` counts it; `none` when a
`)` closes depth 0 (there the scan stops) -/
def depthAfter : List Nat → Nat → Option Nat
  | [], d => some d
  | x :: s, d =>
    if x = cPClose then (if d = 0 then none else depthAfter s (d - 1))
    else if x = cPOpen then depthAfter s (d + 1) else depthAfter s d

theorem skipParen_over (c : List Nat) (E : Nat) : ∀ (s : List Nat) (f p d d' r : Nat), Tmpl.At c p s →
    p + s.length ≤ E → depthAfter s d = some d' → skipParen c E f p d = .ok r →
    ∃ f', skipParen c E f' (p + s.length) d' = .ok r := by
  intro s
  induction s with
  | nil => intro f p d d' r _ _ hd h; cases hd; exact ⟨f, h⟩
  | cons x s ih =>
    intro f p d d' r hseg hle hd h
    have hlen : p + (x :: s).length = p + 1 + s.length := by rw [List.length_cons]; omega
    rw [hlen] at hle ⊢
    have hs : Tmpl.At c (p + 1) s := Tmpl.At.right (u := [x]) hseg
    cases f with
    | zero => cases h
    | succ f =>
      have hrd : rd c p = .ok x := rd_ok hseg.head
      rw [skipParen_succ, if_pos (by omega), hrd] at h
      rw [depthAfter] at hd
      by_cases h1 : x = cPClose
      · by_cases h0 : d = 0
        · rw [if_pos h1, if_pos h0] at hd; cases hd
        · rw [if_pos h1, if_neg h0] at hd
          exact ih f _ _ _ r hs hle hd (by simpa only [bind, Except.bind, if_pos h1, if_neg h0] using h)
      · by_cases h2 : x = cPOpen
        · rw [if_neg h1, if_pos h2] at hd
          exact ih f _ _ _ r hs hle hd (by simpa only [bind, Except.bind, if_neg h1, if_pos h2] using h)
        · rw [if_neg h1, if_neg h2] at hd
          exact ih f _ _ _ r hs hle hd (by simpa only [bind, Except.bind, if_neg h1, if_neg h2] using h)

theorem skipParen_close (c : List Nat) (E : Nat) (s : List Nat) (f p r : Nat)
    (hseg : Tmpl.At c p (s ++ [cPClose])) (hle : p + s.length < E) (hd : depthAfter s 0 = some 0)
    (h : skipParen c E f p 0 = .ok r) : r = p + s.length := by
  obtain ⟨f1, h1⟩ := skipParen_over c E s f p 0 0 r hseg.left (by omega) hd h
  cases f1 with
  | zero => cases h1
  | succ f1 =>
    have hrd : rd c (p + s.length) = .ok cPClose := rd_ok hseg.right.head
    rw [skipParen_succ, if_pos hle, hrd] at h1
    exact (Except.ok.inj h1).symm

theorem depthAfter_append : ∀ (s t : List Nat) (d : Nat),
    depthAfter (s ++ t) d = (depthAfter s d).bind (depthAfter t) := by
  intro s
  induction s with
  | nil => intro t d; rfl
  | cons x s ih =>
    intro t d
    simp only [List.cons_append, depthAfter, ih]
    split
    · split <;> rfl
    · split <;> rfl

theorem depthAfter_flat : ∀ (s : List Nat) (d : Nat), (∀ x ∈ s, x ≠ cPOpen ∧ x ≠ cPClose) →
    depthAfter s d = some d := by
  intro s
  induction s with
  | nil => intro d _; rfl
  | cons x s ih =>
    intro d h
    have hx := h x (List.mem_cons_self ..)
    rw [depthAfter, if_neg hx.2, if_neg hx.1]
    exact ih d (fun y hy => h y (List.mem_cons_of_mem _ hy))

theorem lit_nopar (rn : List Nat → Option (Num R)) (s : List Nat) (n : Num R) (h : LitOk rn s n) :
    ∀ x ∈ s, x ≠ cPOpen ∧ x ≠ cPClose := by
  intro x hx
  obtain ⟨h1, _, h3⟩ := h.chars x hx
  refine ⟨?_, h3⟩
  intro he; subst he
  have : classify cPOpen = .paren := by rfl
  rw [this] at h1; cases h1

theorem printItems_one (lit : Num R → List Nat) (x : Operand R) (o : Op) :
    printItems lit [(x, o)] = x.print lit := by
  simp [printItems]

theorem printItems_cons2 (lit : Num R → List Nat) (x : Operand R) (o : Op) (y : Item R) (r : List (Item R)) :
    printItems lit ((x, o) :: y :: r) = x.print lit ++ ([cSpace] ++ o.symbol ++ [cSpace]) ++ printItems lit (y :: r) := by
  rw [printItems]

theorem depthAfter_symbol (o : Op) (d : Nat) :
    depthAfter ([cSpace] ++ o.symbol ++ [cSpace]) d = some d :=
  depthAfter_flat _ d (fun z hz => by
    simp only [List.mem_append, List.mem_singleton] at hz
    rcases hz with (h | h) | h
    · subst h; decide
    · exact symbol_nopar o z h
    · subst h; decide)

mutual
theorem depthAfter_operand {lit : Num R → List Nat} {rn : List Nat → Option (Num R)} {Pn : Num R → Prop}
    (hlit : ∀ n, Pn n → LitOk rn (lit n) n) :
    ∀ (x : Operand R), x.pok Pn → ∀ d, depthAfter (x.print lit) d = some d
  | .num n, hx, d => depthAfter_flat _ d (lit_nopar rn _ n (hlit n hx))
  | .sub s, hx, d => by
    simp only [Operand.pok] at hx
    rw [Operand.print, depthAfter_append, depthAfter_append]
    show ((depthAfter (printItems lit s) (d + 1)).bind _) = _
    rw [depthAfter_items hlit s hx.1 (d + 1)]
    show depthAfter [cPClose] (d + 1) = some d
    rw [depthAfter, if_pos rfl, if_neg (Nat.succ_ne_zero d)]; rfl
  | .var _, hx, _ => hx.elim
  | .text _ _, hx, _ => hx.elim
theorem depthAfter_items {lit : Num R → List Nat} {rn : List Nat → Option (Num R)} {Pn : Num R → Prop}
    (hlit : ∀ n, Pn n → LitOk rn (lit n) n) :
    ∀ (items : List (Item R)), pokItems Pn items → ∀ d, depthAfter (printItems lit items) d = some d
  | [], hp, _ => hp.elim
  | (x, o) :: more, hp, d => by
    simp only [pokItems] at hp
    cases more with
    | nil => rw [printItems_one]; exact depthAfter_operand hlit x hp.1 d
    | cons y more' =>
      rw [printItems_cons2, depthAfter_append, depthAfter_append, depthAfter_operand hlit x hp.1 d]
      show (depthAfter _ d).bind _ = _
      rw [depthAfter_symbol o d]
      exact depthAfter_items hlit (y :: more') hp.2.2 d
end

theorem skipParen_operand (lit : Num R → List Nat) (rn : List Nat → Option (Num R)) (Pn : Num R → Prop) (hlit : ∀ n, Pn n → LitOk rn (lit n) n)
    (c : List Nat) (E : Nat) :
    ∀ (x : Operand R), x.pok Pn → ∀ (A rest : List Nat) (f skip p : Nat), c = A ++ (x.print lit ++ rest) →
      A.length + (x.print lit).length ≤ E →
      skipParen c E f A.length skip = .ok p → ∃ f', skipParen c E f' (A.length + (x.print lit).length) skip = .ok p :=
  fun x hx A _ f skip p hc hle h => skipParen_over c E _ f A.length skip skip p (Tmpl.At.of_eq hc) hle
    (depthAfter_operand hlit x hx skip) h

theorem getOperation_operand (lit : Num R → List Nat) (rn : List Nat → Option (Num R)) (Pn : Num R → Prop) (hlit : ∀ n, Pn n → LitOk rn (lit n) n)
    (c : List Nat) (E : Nat) (x : Operand R) (hx : x.pok Pn) (p f : Nat) (r : Op × Nat)
    (hseg : Tmpl.At c p (x.print lit)) (hle : p + (x.print lit).length ≤ E)
    (h : getOperation c E f p = .ok r) :
    ∃ f', getOperation c E f' (p + (x.print lit).length) = .ok r := by
  cases x with
  | num n =>
    exact getOperation_over c E (lit n) f p r hseg (fun y hy => ((hlit n hx).chars y hy).1) hle h
  | sub s =>
    simp only [Operand.pok] at hx
    simp only [Operand.print] at hseg hle ⊢
    have hl : ([cPOpen] ++ printItems lit s ++ [cPClose]).length = (printItems lit s).length + 2 := by simp
    rw [hl] at hle ⊢
    cases f with
    | zero => cases h
    | succ f =>
      have hrd : rd c p = .ok cPOpen := rd_ok (hseg.getElem 0 (by rw [hl]; omega))
      have hcl : classify cPOpen = .paren := by rfl
      simp only [getOperation, show p < E by omega, if_true, hrd, bind, Except.bind, hcl] at h
      cases hsp : skipParen c E (E + 1) (p + 1) 0 with
      | error e => rw [hsp] at h; cases h
      | ok off2 =>
        rw [hsp] at h
        have hin : Tmpl.At c (p + 1) (printItems lit s ++ [cPClose]) := by
          rw [List.append_assoc] at hseg; exact hseg.right
        have hoff := skipParen_close c E _ _ _ off2 hin (by omega)
          (depthAfter_items hlit s hx.1 0) hsp
        subst hoff
        have hclose : c[p + 1 + (printItems lit s).length]? = some cPClose := hin.right.head
        simp only [show p + 1 + (printItems lit s).length < E by omega, if_true] at h
        cases f with
        | zero => cases h
        | succ f =>
          rw [getOperation_step c E f _ cPClose (by omega) hclose (by rfl)] at h
          exact ⟨f, by rw [show p + ((printItems lit s).length + 2) = p + 1 + (printItems lit s).length + 1 by omega]; exact h⟩
  | var _ => exact hx.elim
  | text _ _ => exact hx.elim

theorem operand_last (lit : Num R → List Nat) (rn : List Nat → Option (Num R)) (Pn : Num R → Prop) (hlit : ∀ n, Pn n → LitOk rn (lit n) n)
    (x : Operand R) (hx : x.pok Pn) :
    ∃ ini z, x.print lit = ini ++ [z] ∧ (z = cPClose ∨ (W1.digitZero ≤ z ∧ z ≤ W1.digitNine)) := by
  cases x with
  | num n =>
    simp only [Operand.print]
    have hne := (hlit n hx).ne
    obtain ⟨ini, z, hz⟩ : ∃ ini z, lit n = ini ++ [z] := ⟨(lit n).dropLast, (lit n).getLast hne, (List.dropLast_concat_getLast hne).symm⟩
    refine ⟨ini, z, hz, Or.inr ((hlit n hx).last z (by rw [hz]; simp))⟩
  | sub s => exact ⟨[cPOpen] ++ printItems lit s, cPClose, by simp [Operand.print], Or.inl rfl⟩
  | var _ => simp [Operand.pok] at hx
  | text _ _ => simp [Operand.pok] at hx

theorem isExpression_after (c : List Nat) (q z : Nat) (h0 : c[q]? = some z) (h1 : c[q + 1]? = some cSpace)
    (hz : z = cPClose ∨ (W1.digitZero ≤ z ∧ z ≤ W1.digitNine)) : isExpression c (q + 2) = .ok true := by
  have hr1 : rd c (q + 1) = .ok cSpace := rd_ok h1
  have hr0 : rd c q = .ok z := rd_ok h0
  simp only [isExpression, hr1, bind, Except.bind, if_true, hr0]
  rcases hz with h | h
  · subst h
    simp [show ¬ (cPClose = cSpace) by decide]
  · have hne : ¬ (z = cSpace) := by
      have : cSpace = 32 := by decide
      have : W1.digitZero = 48 := by decide
      omega
    simp only [hne, if_false]
    by_cases hp : z = cPClose ∨ z = cBClose
    · simp [hp]
    · simp [hp, h]

/-- the operator `getOperation` answers at a unit `c0` followed by `c1` (after an operand) -/
def opAt (c0 c1 : Nat) : Option Op :=
  match classify c0 with
  | .two yes no second => some (if c1 = second then yes else no)
  | .sign op => some op
  | .single op => some op
  | _ => none

theorem getOperation_opAt (c : List Nat) (E f pos c0 c1 : Nat) (o : Op) (hlt : pos < E) (h0 : c[pos]? = some c0)
    (h1 : c[pos + 1]? = some c1) (hex : isExpression c pos = .ok true) (ho : opAt c0 c1 = some o) :
    getOperation c E (f + 1) pos = .ok (o, pos) := by
  have hr1 : rd c (pos + 1) = .ok c1 := rd_ok h1
  rw [getOperation_succ, if_pos hlt, rd_ok h0]
  simp only [bind, Except.bind]
  unfold opAt at ho
  cases hcl : classify c0 with
  | two yes no second =>
    rw [hcl] at ho
    simp only [Option.some.injEq] at ho
    simp only [hr1, ho]
  | sign op =>
    rw [hcl] at ho
    simp only [Option.some.injEq] at ho
    simp only [hex, if_true, ho]
  | single op =>
    rw [hcl] at ho
    simp only [Option.some.injEq] at ho
    simp only [ho]
  | paren => rw [hcl] at ho; cases ho
  | bracket => rw [hcl] at ho; cases ho
  | other => rw [hcl] at ho; cases ho

theorem symbol_opAt (o : Op) (hb : isBinOp o) :
    ∃ c0 c1, (o.symbol ++ [cSpace])[0]? = some c0 ∧ (o.symbol ++ [cSpace])[1]? = some c1 ∧
      opAt c0 c1 = some o := by
  cases o with
  | noOp => exact absurd rfl hb.1
  | error => exact absurd rfl hb.2
  | _ => exact ⟨_, _, rfl, rfl, rfl⟩

theorem operand_first (lit : Num R → List Nat) (rn : List Nat → Option (Num R)) (Pn : Num R → Prop) (hlit : ∀ n, Pn n → LitOk rn (lit n) n)
    (x : Operand R) (hx : x.pok Pn) :
    ∃ z tl, x.print lit = z :: tl ∧ isWs z = false ∧ (z = cPOpen ↔ ∃ s, x = .sub s) ∧ z ≠ cBOpen := by
  cases x with
  | num n =>
    simp only [Operand.print]
    have hne := (hlit n hx).ne
    cases hl : lit n with
    | nil => exact absurd hl hne
    | cons z tl =>
      have hz := (hlit n hx).chars z (by rw [hl]; simp)
      refine ⟨z, tl, rfl, hz.2.1, ⟨fun h => ?_, fun ⟨s, hs⟩ => by cases hs⟩, ?_⟩
      · subst h; have : classify cPOpen = .paren := rfl; rw [this] at hz; cases hz.1
      · intro h; subst h; have : classify cBOpen = .bracket := rfl; rw [this] at hz; cases hz.1
  | sub s => exact ⟨cPOpen, printItems lit s ++ [cPClose], by simp [Operand.print], by decide, ⟨fun _ => ⟨s, rfl⟩, fun _ => rfl⟩, by decide⟩
  | var _ => simp [Operand.pok] at hx
  | text _ _ => simp [Operand.pok] at hx

theorem trimLeft_ws (c : List Nat) (p : Nat) (ws : List Nat) (z : Nat) (hw : Tmpl.At c p ws)
    (hz0 : c[p + ws.length]? = some z) (hws : ws = [] ∨ ws = [cSpace]) (hz : isWs z = false)
    (end0 fuel : Nat) (he : p + ws.length < end0) (hf : 2 ≤ fuel) :
    trimLeft c end0 fuel p = .ok (p + ws.length) := by
  obtain ⟨f, rfl⟩ : ∃ f, fuel = f + 2 := ⟨fuel - 2, by omega⟩
  have hrz : rd c (p + ws.length) = .ok z := rd_ok hz0
  rcases hws with h | h <;> subst h
  · have he : p < end0 := he
    have hrz : rd c p = .ok z := hrz
    show trimLeft c end0 (f + 2) p = .ok p
    rw [trimLeft_succ, if_pos he, hrz]
    simp only [bind, Except.bind, hz, Bool.false_eq_true, if_false]
  · have hr0 : rd c p = .ok cSpace := rd_ok hw.head
    have hsp : isWs cSpace = true := by decide
    have he : p + 1 < end0 := he
    have hrz : rd c (p + 1) = .ok z := hrz
    show trimLeft c end0 (f + 2) p = .ok (p + 1)
    rw [trimLeft_succ, if_pos (by omega), hr0]
    simp only [bind, Except.bind, hsp, if_true]
    rw [trimLeft_succ, if_pos he, hrz]
    simp only [bind, Except.bind, hz, Bool.false_eq_true, if_false]

theorem trimRight_ws (c : List Nat) (q z : Nat) (ws : List Nat) (hz0 : c[q]? = some z)
    (hw : Tmpl.At c (q + 1) ws) (hws : ws = [] ∨ ws = [cSpace]) (hz : isWs z = false) (off : Nat)
    (ho : off ≤ q) : trimRight c off (q + 1 + ws.length) = .ok (q + 1) := by
  have hrz : rd c q = .ok z := rd_ok hz0
  rcases hws with h | h <;> subst h
  · rw [List.length_nil, Nat.add_zero, trimRight_succ, if_pos (by omega), hrz]
    simp only [bind, Except.bind, hz, Bool.false_eq_true, if_false]
  · have hr1 : rd c (q + 1) = .ok cSpace := rd_ok hw.head
    have hsp : isWs cSpace = true := by decide
    show trimRight c off (q + 1 + 1) = _
    rw [trimRight_succ, if_pos (by omega), hr1]
    simp only [bind, Except.bind, hsp, if_true]
    rw [trimRight_succ, if_pos (by omega), hrz]
    simp only [bind, Except.bind, hz, Bool.false_eq_true, if_false]

theorem symbol_step (o : Op) (hb : isBinOp o) :
    1 + (if o.rank < Op.greater.rank then 1 else 0) = o.symbol.length := by
  cases o <;> first | exact absurd rfl hb.1 | exact absurd rfl hb.2 | rfl

theorem quiet_space : classify cSpace = .other := by rfl

theorem pokItems_ne (items : List (Item R)) (h : pokItems Pn items) : items ≠ [] := by
  cases items with
  | nil => simp [pokItems] at h
  | cons _ _ => simp

theorem operand_len_pos (lit : Num R → List Nat) (rn : List Nat → Option (Num R)) (Pn : Num R → Prop) (hlit : ∀ n, Pn n → LitOk rn (lit n) n)
    (x : Operand R) (hx : x.pok Pn) : 0 < (x.print lit).length := by
  obtain ⟨z, tl, h, _⟩ := operand_first lit rn Pn hlit x hx
  rw [h]; simp

theorem getOperation_item (lit : Num R → List Nat) (rn : List Nat → Option (Num R)) (Pn : Num R → Prop) (hlit : ∀ n, Pn n → LitOk rn (lit n) n)
    (c : List Nat) (E : Nat) (x : Operand R) (hx : x.pok Pn) (p : Nat) (ws : List Nat)
    (hws : ws = [] ∨ ws = [cSpace]) (hw : Tmpl.At c p ws) (hxp : Tmpl.At c (p + ws.length) (x.print lit))
    (f : Nat) (r : Op × Nat) (h : getOperation c E f p = .ok r) :
    -- last operand
    (E = p + ws.length + (x.print lit).length → r = (.noOp, E)) ∧
    -- an operator follows
    (∀ o, isBinOp o → Tmpl.At c (p + ws.length + (x.print lit).length) ([cSpace] ++ (o.symbol ++ [cSpace])) →
      p + ws.length + (x.print lit).length + 1 + o.symbol.length < E →
      r = (o, p + ws.length + (x.print lit).length + 1)) := by
  have hwq : ∀ y ∈ ws, classify y = .other := by
    intro y hy; rcases hws with h | h <;> subst h
    · cases hy
    · simp at hy; subst hy; exact quiet_space
  -- over the white space and the operand
  have pass : p + ws.length + (x.print lit).length ≤ E →
      ∃ f2, getOperation c E f2 (p + ws.length + (x.print lit).length) = .ok r := fun hle => by
    obtain ⟨f1, h1⟩ := getOperation_over c E ws f p r hw hwq (by omega) h
    exact getOperation_operand lit rn Pn hlit c E x hx (p + ws.length) f1 r hxp hle h1
  refine ⟨fun hE => ?_, fun o hb hM hE => ?_⟩
  · obtain ⟨f2, h2⟩ := pass (by omega)
    rw [← hE] at h2
    cases f2 with
    | zero => cases h2
    | succ f2 =>
      rw [getOperation_succ, if_neg (Nat.lt_irrefl _)] at h2
      exact (Except.ok.inj h2).symm
  · obtain ⟨f2, h2⟩ := pass (by omega)
    -- the last unit of the operand, the space, the operator
    obtain ⟨ini, z, hz, hzd⟩ := operand_last lit rn Pn hlit x hx
    have hq : p + ws.length + (x.print lit).length = p + ws.length + ini.length + 1 := by
      rw [hz, List.length_append]; rfl
    rw [hz] at hxp
    have hzc : c[p + ws.length + ini.length]? = some z := hxp.right.head
    have hsp : c[p + ws.length + (x.print lit).length]? = some cSpace := hM.head
    have hsym : Tmpl.At c (p + ws.length + (x.print lit).length + 1) (o.symbol ++ [cSpace]) :=
      Tmpl.At.right (u := [cSpace]) hM
    obtain ⟨c0, c1, g0, g1, gop⟩ := symbol_opAt o hb
    have hex : isExpression c (p + ws.length + (x.print lit).length + 1) = .ok true := by
      rw [hq]
      exact isExpression_after c _ z hzc (by rw [← hq]; exact hsp) hzd
    cases f2 with
    | zero => cases h2
    | succ f2 =>
      rw [getOperation_step c E f2 _ cSpace (by omega) hsp quiet_space] at h2
      cases f2 with
      | zero => cases h2
      | succ f2 =>
        rw [getOperation_opAt c E f2 _ c0 c1 o (by omega) (hsym.get? g0) (hsym.get? g1) hex gop] at h2
        exact (Except.ok.inj h2).symm

/-- partial correctness of the three mutually recursive scanner functions on printed lists: the text
stands in `c` at `p`, white space `ws` (none, or the one space behind an operator) in front -/
theorem scan_print_pc (cfg : ScanCfg R) (lit : Num R → List Nat) (Pn : Num R → Prop) (hlit : ∀ n, Pn n → LitOk cfg.readNum (lit n) n)
    (c : List Nat) : ∀ f,
    (∀ (items : List (Item R)) (p E : Nat), pokItems Pn items → ¬ lonePar items →
      Tmpl.At c p (printItems lit items) → E = p + (printItems lit items).length →
      Ends (fun _ => True) (parseExpressions cfg c f p E) (· = items)) ∧
    (∀ (done rem : List (Item R)) (lastOp : Op) (ws : List Nat) (p E : Nat), pokItems Pn rem →
      Tmpl.At c p ws → Tmpl.At c (p + ws.length) (printItems lit rem) →
      E = p + ws.length + (printItems lit rem).length →
      ((ws = [] ∧ lastOp = .noOp ∧ ¬ lonePar rem) ∨ (ws = [cSpace] ∧ lastOp ≠ .noOp)) →
      Ends (fun _ => True) (parseLoop cfg c f E p done lastOp) (· = done ++ rem)) ∧
    (∀ (exprs : List (Item R)) (oper lastOp : Op) (x : Operand R) (ws ws' : List Nat) (p E : Nat), x.pok Pn →
      Tmpl.At c p ws → Tmpl.At c (p + ws.length) (x.print lit) →
      Tmpl.At c (p + ws.length + (x.print lit).length) ws' →
      E = p + ws.length + (x.print lit).length + ws'.length →
      (ws = [] ∨ ws = [cSpace]) → (ws' = [] ∨ ws' = [cSpace]) →
      (lastOp ≠ oper ∨ oper ≠ .noOp ∨ ∀ s, x ≠ .sub s) →
      Ends (fun _ => True) (parseValue cfg c f exprs oper lastOp p E) (· = some (exprs ++ [(x, oper)]))) := by
  intro f
  induction f with
  | zero =>
    refine ⟨?_, ?_, ?_⟩ <;> intros
    · rw [parseExpressions]; exact Ends.err trivial
    · rw [parseLoop]; exact Ends.err trivial
    · rw [parseValue]; exact Ends.err trivial
  | succ f ih =>
    obtain ⟨ihE, ihL, ihV⟩ := ih
    refine ⟨?_, ?_, ?_⟩
    · intro items p E hp hl hs hE
      rw [parseExpressions]
      exact (ihL [] items .noOp [] p E hp hs.nil hs hE (Or.inl ⟨rfl, rfl, hl⟩)).mono
        (fun r hr => hr.trans (List.nil_append _))
    · intro done rem lastOp ws p E hp hw hs hE hcase
      have hws : ws = [] ∨ ws = [cSpace] := hcase.imp (·.1) (·.1)
      cases rem with
      | nil => exact hp.elim
      | cons xo more =>
        obtain ⟨x, o⟩ := xo
        simp only [pokItems] at hp
        obtain ⟨hx, hmore⟩ := hp
        have hxl := operand_len_pos lit cfg.readNum Pn hlit x hx
        rw [parseLoop]
        cases more with
        | nil =>
          -- the last operand
          simp only at hmore
          subst hmore
          rw [printItems_one] at hs hE
          refine Ends.ite (fun _ => ?_) (fun h => absurd (by omega) h)
          refine Ends.bind (Ends.pc (fun r hg => (getOperation_item lit cfg.readNum Pn hlit c _ x hx p ws
            hws hw hs _ r hg).1 hE)) (fun r hr => ?_)
          subst hr
          refine Ends.ite (fun h => nomatch h) (fun _ => ?_)
          have hun : lastOp ≠ .noOp ∨ Op.noOp ≠ .noOp ∨ ∀ s, x ≠ .sub s := by
            rcases hcase with ⟨_, h2, h3⟩ | ⟨_, h2⟩
            · right; right; intro s hs; subst hs; exact h3 (by simp [lonePar])
            · left; exact h2
          refine Ends.bind (ihV done .noOp lastOp x ws [] p E hx hw hs hs.nil_end hE hws
            (Or.inl rfl) hun) (fun v hv => ?_)
          subst hv
          -- the loop is entered once more, behind the end
          cases f with
          | zero => simp only [parseLoop]; exact Ends.err trivial
          | succ f =>
            simp only [parseLoop]
            rw [if_neg (by omega), if_pos ⟨by omega, trivial⟩]
            exact rfl
        | cons y more' =>
          simp only at hmore
          obtain ⟨hb, hrest⟩ := hmore
          rw [printItems_cons2] at hs hE
          have hrl : 0 < (printItems lit (y :: more')).length := by
            obtain ⟨y1, y2⟩ := y
            simp only [pokItems] at hrest
            have := operand_len_pos lit cfg.readNum Pn hlit y1 hrest.1
            simp only [printItems, List.length_append]; omega
          simp only [List.length_append, List.length_cons, List.length_nil] at hE
          have hxp : Tmpl.At c (p + ws.length) (x.print lit) := hs.left.left
          have hM : Tmpl.At c (p + ws.length + (x.print lit).length) ([cSpace] ++ o.symbol ++ [cSpace]) :=
            hs.left.right
          have hnext : Tmpl.At c (p + ws.length + (x.print lit).length + 1 + o.symbol.length + 1)
              (printItems lit (y :: more')) := by
            have := hs.right
            simp only [List.length_append, List.length_cons, List.length_nil] at this
            exact this.cast (by omega)
          refine Ends.ite (fun _ => ?_) (fun h => absurd (by omega) h)
          refine Ends.bind (Ends.pc (fun r hg => (getOperation_item lit cfg.readNum Pn hlit c _ x hx p ws
            hws hw hxp _ r hg).2 o hb (by rw [← List.append_assoc]; exact hM) (by omega))) (fun r hr => ?_)
          subst hr
          refine Ends.ite (fun h => absurd h hb.2) (fun _ => ?_)
          refine Ends.bind (ihV done o lastOp x ws [cSpace] p _ hx hw hxp hM.left.left rfl hws
            (Or.inr rfl) (Or.inr (Or.inl hb.1))) (fun v hv => ?_)
          subst hv
          have hoff : p + ws.length + (x.print lit).length + 1 + 1 + (if o.rank < Op.greater.rank then 1 else 0) =
              p + ws.length + (x.print lit).length + 1 + o.symbol.length := by
            have := symbol_step o hb; omega
          show Ends _ (parseLoop cfg c f E (p + ws.length + (x.print lit).length + 1 + 1 +
            (if o.rank < Op.greater.rank then 1 else 0)) _ o) _
          rw [hoff]
          exact (ihL (done ++ [(x, o)]) (y :: more') o [cSpace]
            (p + ws.length + (x.print lit).length + 1 + o.symbol.length) E hrest
            ((Tmpl.At.right (u := [cSpace] ++ o.symbol) hM).cast
              (by simp only [List.length_append, List.length_cons, List.length_nil]; omega)) hnext
            (by simp only [List.length_cons, List.length_nil]; omega) (Or.inr ⟨rfl, hb.1⟩)).mono
            (fun r hr => by rw [hr]; simp)
    · intro exprs oper lastOp x ws ws' p E hx hw hxp hw' hE hws hws' hun
      obtain ⟨z, tl, hz, hzw, hzp, hzb⟩ := operand_first lit cfg.readNum Pn hlit x hx
      obtain ⟨ini, zl, hzl, hzd⟩ := operand_last lit cfg.readNum Pn hlit x hx
      have hxl := operand_len_pos lit cfg.readNum Pn hlit x hx
      have hzlw : isWs zl = false := by
        rcases hzd with h | h
        · subst h; decide
        · have h0 : W1.digitZero = 48 := by decide
          have hclose : W1.digitNine = 57 := by decide
          simp only [isWs]
          have : zl ≠ 32 ∧ zl ≠ 10 ∧ zl ≠ 9 ∧ zl ≠ 13 := by omega
          simp [this]
      have h0 : c[p + ws.length]? = some z := (hz ▸ hxp).head
      have hql : p + ws.length + (x.print lit).length = p + ws.length + ini.length + 1 := by
        rw [hzl, List.length_append]; rfl
      have hzlc : c[p + ws.length + ini.length]? = some zl := (hzl ▸ hxp).right.head
      have htl := trimLeft_ws c p ws z hw h0 hws hzw E (E - p + 1) (by omega) (by omega)
      have htr := trimRight_ws c (p + ws.length + ini.length) zl ws' hzlc (hql ▸ hw') hws' hzlw
        (p + ws.length) (by omega)
      rw [← hql, ← hE] at htr
      rw [parseValue, htl]
      simp only [bind, Except.bind]
      rw [htr]
      simp only []
      refine Ends.ite (fun _ => ?_) (fun h => absurd (by omega) h)
      rw [rd_ok h0]
      simp only []
      cases x with
      | num n =>
        have hzp' : ¬ (z = cPOpen) := fun h => by obtain ⟨s, hs⟩ := hzp.mp h; cases hs
        rw [if_neg hzp', if_neg hzb, Nat.add_sub_cancel_left]
        have hsl := hxp.take_drop
        simp only [Operand.print] at hsl ⊢
        rw [hsl, (hlit n hx).read]
        exact rfl
      | sub s =>
        simp only [Operand.pok] at hx
        have hzp' : z = cPOpen := hzp.mpr ⟨s, rfl⟩
        rw [if_pos hzp']
        have hpl : (Operand.print lit (.sub s)).length = (printItems lit s).length + 2 := by simp [Operand.print]
        have hin : Tmpl.At c (p + ws.length + 1) (printItems lit s) := by
          simp only [Operand.print, List.append_assoc] at hxp
          exact hxp.right.left
        refine Ends.bind (ihE s (p + ws.length + 1) _ hx.1 hx.2 hin (by omega)) (fun sub hs => ?_)
        subst hs
        have hne : sub.isEmpty = false := by
          cases sub with
          | nil => exact hx.1.elim
          | cons _ _ => rfl
        have hcond : lastOp ≠ oper ∨ oper ≠ .noOp := by
          rcases hun with h | h | h
          · exact Or.inl h
          · exact Or.inr h
          · exact absurd rfl (h sub)
        rw [if_pos hcond, hne]
        exact rfl
      | var _ => exact hx.elim
      | text _ _ => exact hx.elim

/-- `ScanPrint` for flat lists: the scanner on the printed text (followed by any unit) returns the list -/
theorem scan_printItems (cfg : ScanCfg R) (lit : Num R → List Nat) (Pn : Num R → Prop)
    (hlit : ∀ n, Pn n → LitOk cfg.readNum (lit n) n) (items : List (Item R)) (hp : pokItems Pn items)
    (hl : ¬ lonePar items) (t : Nat) :
    parseTop cfg (printItems lit items ++ [t]) 0 (printItems lit items).length = .ok items := by
  obtain ⟨r, hr⟩ := parseTop_total cfg (printItems lit items ++ [t]) 0 (printItems lit items).length (by simp)
  have := ((scan_print_pc cfg lit Pn hlit (printItems lit items ++ [t]) _).1 items 0 _ hp hl
    (Tmpl.At.of_eq (A := []) rfl) (Nat.zero_add _).symm).of_eq hr
  rw [hr, this]

/-- trees the printer covers: numeric leaves of `Pn`, real binary operators, no doubled parentheses -/
def Tree.pok (Pn : Num R → Prop) : Tree R → Prop
  | .leaf (.num n) => Pn n
  | .leaf _ => False
  | .paren t => t.pok Pn ∧ (∀ t', t ≠ .paren t')
  | .bin op l r => isBinOp op ∧ l.pok Pn ∧ r.pok Pn

theorem flattenGo_length (t : Tree R) : ∀ (last : Op) (acc : List (Item R)),
    acc.length < (flattenGo t last acc).length := by
  induction t with
  | leaf x => intro last acc; cases x <;> simp [flattenGo]
  | paren t _ => intro last acc; simp [flattenGo]
  | bin op l r ihl ihr => intro last acc; exact Nat.lt_trans (ihr last acc) (ihl op _)

theorem flattenGo_ne (t : Tree R) (last : Op) (acc : List (Item R)) : flattenGo t last acc ≠ [] :=
  fun h => absurd (h ▸ flattenGo_length t last acc) (Nat.not_lt_zero _)

theorem flattenGo_lone (t : Tree R) (last : Op) (h : lonePar (flattenGo t last [])) : ∃ t', t = .paren t' := by
  cases t with
  | leaf x => cases x <;> simp [flattenGo, lonePar] at h
  | paren t' => exact ⟨t', rfl⟩
  | bin op l r =>
    -- the list has at least two entries
    have h2 := Nat.lt_of_le_of_lt (Nat.succ_le_of_lt (flattenGo_length r last []))
      (flattenGo_length l op (flattenGo r last []))
    rw [flattenGo] at h
    generalize flattenGo l op (flattenGo r last []) = ys at h h2
    match ys, h, h2 with
    | [(.sub _, _)], _, h2 => exact absurd h2 (Nat.lt_irrefl 1)

theorem flattenGo_pok (Pn : Num R → Prop) : ∀ (t : Tree R) (last : Op) (acc : List (Item R)), t.pok Pn →
    (acc = [] → last = .noOp) → (acc ≠ [] → isBinOp last ∧ pokItems Pn acc) → pokItems Pn (flattenGo t last acc) := by
  intro t
  induction t with
  | leaf x =>
    intro last acc ht h1 h2
    cases x with
    | num n =>
      simp only [Tree.pok] at ht
      simp only [flattenGo, pokItems, Operand.pok]
      refine ⟨ht, ?_⟩
      cases acc with
      | nil => exact h1 rfl
      | cons a b => exact h2 (by simp)
    | var v => simp [Tree.pok] at ht
    | text o l => simp [Tree.pok] at ht
  | paren t ih =>
    intro last acc ht h1 h2
    simp only [Tree.pok] at ht
    simp only [flattenGo, pokItems, Operand.pok]
    refine ⟨⟨ih .noOp [] ht.1 (fun _ => rfl) (fun h => absurd rfl h), ?_⟩, ?_⟩
    · intro hl
      obtain ⟨t', ht'⟩ := flattenGo_lone t .noOp hl
      exact ht.2 t' ht'
    · cases acc with
      | nil => exact h1 rfl
      | cons a b => exact h2 (by simp)
  | bin op l r ihl ihr =>
    intro last acc ht h1 h2
    simp only [Tree.pok] at ht
    simp only [flattenGo]
    exact ihl op _ ht.2.1 (fun h => absurd h (flattenGo_ne r last acc)) (fun _ => ⟨ht.1, ihr last acc ht.2.2 h1 h2⟩)

/-- `ScanPrint`: scanning the printed form of a tree gives its flat list -/
theorem scan_print_tree (cfg : ScanCfg R) (lit : Num R → List Nat) (Pn : Num R → Prop)
    (hlit : ∀ n, Pn n → LitOk cfg.readNum (lit n) n) (t : Tree R) (ht : t.pok Pn) (hnp : ∀ t', t ≠ .paren t') (term : Nat) :
    parseTop cfg (printItems lit (flatten t) ++ [term]) 0 (printItems lit (flatten t)).length = .ok (flatten t) := by
  apply scan_printItems cfg lit Pn hlit (flatten t)
  · exact flattenGo_pok Pn t .noOp [] ht (fun _ => rfl) (fun h => absurd rfl h)
  · intro hl
    obtain ⟨t', ht'⟩ := flattenGo_lone t .noOp hl
    exact hnp t' ht'

end Qentem.Expr
