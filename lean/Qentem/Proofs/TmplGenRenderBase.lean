import Qentem.Proofs.TmplGenBase
import Qentem.Proofs.TmplLoop
/-!
# C02 — rendering under enclosing loops against the reference interpreter: variables, expressions, segments, one loop

`EnvE`: one enclosing loop with its current item and key.  The renderer's `loops_items_` holds the
items of the enclosing loops at their levels (`ItemsOk`); the reference interpreter's scope is the
list of their bindings, innermost first (`scOf`).  One theorem per kind of leaf: paths (`getValue_at`), expression
texts (`evalExprs_text`).  The renderer is followed by positions: its render offset `o` and its position `p` in the content,
the text between them pending (`pend`); a tag stands at a position (`At cx.content p w`).  `Rendered`: where the renderer
stands after a stretch of the content, the relation in which the rendering of segment runs (`render_segs_more_env`) and of trees (Proofs/TmplGenRender.lean) is stated.  One loop:
`loopIter_gen`, one rendering of the body per defined item, parametric in what the body prints and needs.
-/
namespace Qentem.Tmpl
open Qentem.Expr (Fault rd ScanCfg VarRef Item Num Val Env RealLike)
open Qentem.Generated.Tmpl

variable {R : Type}

/-- one enclosing loop with the item and key of the current iteration -/
structure EnvE where
  d : LoopD
  x : Doc
  key : List Nat

def dOf (E : List EnvE) : List LoopD := E.map (·.d)
def scOf (E : List EnvE) : List Binding := E.map (fun e => ⟨e.d.V, e.x, e.key⟩)

/-- `loops_items_` holds every enclosing loop's current item at the loop's level -/
def ItemsOk (items : List LoopItem) (E : List EnvE) : Prop :=
  ∀ e ∈ E, items[e.d.lv]? = some ⟨some e.x, e.key⟩

/-- the documented path shape; a path that starts with the value name of an enclosing loop has that
name as its name part -/
def PathOkV (Vs : List (List Nat)) (p : List Nat) : Prop :=
  ∃ name keys, p = name ++ brk keys ∧ name ≠ [] ∧ noB name ∧ (∀ k ∈ keys, noB k) ∧
    ∀ V ∈ Vs, V.isPrefixOf p = true → name = V

/-- the value names of the enclosing loops, innermost first -/
def vsOf (E : List EnvE) : List (List Nat) := E.map (·.d.V)

theorem dOf_nil_of_vs {E : List EnvE} (h : vsOf E = []) : dOf E = [] := by
  cases E with
  | nil => rfl
  | cons e r => cases h

theorem findV_name (name rest : List Nat) : ∀ (E : List EnvE),
    (∀ e ∈ E, e.d.V.isPrefixOf (name ++ rest) = true → name = e.d.V) →
    findV (dOf E) (name ++ rest) = (E.find? (fun e => e.d.V == name)).map (fun e => (e.d.V.length, e.d.lv)) := by
  intro E
  induction E with
  | nil => intro _; rfl
  | cons e r ih =>
    intro h
    simp only [dOf, List.map_cons, findV, List.find?_cons]
    by_cases hp : e.d.V.isPrefixOf (name ++ rest) = true
    · have hn := h e (List.mem_cons_self ..) hp
      have : (e.d.V == name) = true := by simp [← hn]
      simp [hp, this]
    · have hne : ¬ (e.d.V = name) := by
        intro he; apply hp; rw [he]; exact List.isPrefixOf_iff_prefix.2 (List.prefix_append name rest)
      have : (e.d.V == name) = false := by simpa using hne
      simp only [hp, Bool.false_eq_true, if_false, this]
      exact ih (fun x hx => h x (List.mem_cons_of_mem _ hx))

theorem find_sc (name : List Nat) : ∀ (E : List EnvE),
    (scOf E).find? (fun b => b.name == name) =
      (E.find? (fun e => e.d.V == name)).map (fun e => (⟨e.d.V, e.x, e.key⟩ : Binding)) := by
  intro E
  induction E with
  | nil => rfl
  | cons e r ih =>
    simp only [scOf, List.map_cons, List.find?_cons]
    cases h : (e.d.V == name)
    · simp only []; exact ih
    · rfl

/-- a `{var:…}` operand of an expression text `ct` scanned alone and its copy `k` units into the
content, under the chain `D` -/
def PvD (D : List LoopD) (ct : List Nat) (k n : Nat) (v v' : VarRef) : Prop :=
  v' = refD D (k + v.off) ((ct.drop v.off).take v.len) ∧ v.off + v.len < n

/-- The scanner keeps an operand's length in 16 bits.  Only the loop-variable check reads that length back, and
under an empty chain it reads nothing: the text needs a bound only under a loop. -/
theorem pvD_scan (cfg : ScanCfg R) (c ct : List Nat) (a : Nat) (h : At c a ct) (D : List LoopD)
    (hD : ChainD c D) (hlen : D = [] ∨ ct.length ≤ 65536) (off en : Nat) (h2 : off + 5 < en) (h3 : ct[en]? = some 125) :
    PvD D ct a ct.length (Qentem.Expr.scanVar ({ readNum := cfg.readNum } : ScanCfg R) off en)
      (Qentem.Expr.scanVar ({ cfg with loopVar := loopVarPure c (refsD D) } : ScanCfg R) (a + off) (a + en)) := by
  obtain ⟨A, post, hc, rfl⟩ := h
  have hen : en < ct.length := (List.getElem?_eq_some_iff.mp h3).1
  rcases hlen with rfl | hlen
  · have hm := Nat.mod_le (en - (off + 5)) (2 ^ Qentem.Generated.Expr.variableLengthBits)
    refine ⟨?_, by simp only [Qentem.Expr.scanVar]; omega⟩
    simp only [Qentem.Expr.scanVar, loopVarPure, checkLoopVariable, refsD, List.map_nil, refD, findV, mkV,
      List.length_take, List.length_drop]
    rw [show A.length + en - (A.length + off + 5) = en - (off + 5) by omega,
      show A.length + off + 5 = A.length + (off + 5) by omega]
    congr 1
    omega
  have hmod : (en - (off + 5)) % 2 ^ Qentem.Generated.Expr.variableLengthBits = en - (off + 5) := by
    apply Nat.mod_eq_of_lt
    have : (2 : Nat) ^ Qentem.Generated.Expr.variableLengthBits = 65536 := by decide
    omega
  -- the operand's text and what follows it
  have hsplit : ct = ct.take (off + 5) ++ ((ct.drop (off + 5)).take (en - (off + 5)) ++ 125 :: ct.drop (en + 1)) := by
    have h1 : ct = ct.take (off + 5) ++ ct.drop (off + 5) := (List.take_append_drop _ _).symm
    have h2' : ct.drop (off + 5) = (ct.drop (off + 5)).take (en - (off + 5)) ++ (ct.drop (off + 5)).drop (en - (off + 5)) :=
      (List.take_append_drop _ _).symm
    have h3' : (ct.drop (off + 5)).drop (en - (off + 5)) = ct.drop en := by
      rw [List.drop_drop]; congr 1; omega
    have h4 : ct.drop en = 125 :: ct.drop (en + 1) := by
      rw [List.drop_eq_getElem_cons hen]
      have := List.getElem?_eq_getElem hen
      rw [h3] at this
      rw [← Option.some.inj this]
    rw [h3', h4] at h2'
    rw [← h2']; exact h1
  have hcA : c = (A ++ ct.take (off + 5)) ++
      (((ct.drop (off + 5)).take (en - (off + 5)) ++ [125]) ++ (ct.drop (en + 1) ++ post)) := by
    rw [hc]; conv => lhs; rw [hsplit]
    simp only [List.append_assoc, List.cons_append, List.nil_append]
  have hlA : (A ++ ct.take (off + 5)).length = A.length + (off + 5) := by
    simp only [List.length_append, List.length_take]; omega
  have hpl : ((ct.drop (off + 5)).take (en - (off + 5))).length = en - (off + 5) := by
    simp only [List.length_take, List.length_drop]; omega
  have hck := checkLoopVariable_D c _ 125 _ ((At.of_eq hcA).cast hlA) (Or.inl rfl) D hD
  refine ⟨?_, ?_⟩
  · simp only [Qentem.Expr.scanVar, loopVarPure]
    rw [show A.length + off + 5 = A.length + (off + 5) by omega, hck,
      show A.length + en - (A.length + (off + 5)) = en - (off + 5) by omega, hmod]
    simp only [refD, hpl]
    cases findV D ((ct.drop (off + 5)).take (en - (off + 5))) with
    | none => rfl
    | some ab => obtain ⟨a, b⟩ := ab; rfl
  · simp only [Qentem.Expr.scanVar, hmod]; omega

theorem exprs_reloc_env (cfg : ScanCfg R) (c e : List Nat) (t a : Nat) (h : At c a (e ++ [t]))
    (hrel : Qentem.Expr.Reloc (e ++ [t]) c a) (D : List LoopD) (hD : ChainD c D)
    (hlen : D = [] ∨ e.length < 65536) (items : List (Item R))
    (hs : Qentem.Expr.parseTop ({ readNum := cfg.readNum } : ScanCfg R) (e ++ [t]) 0 e.length = .ok items) :
    ∃ items', exprs cfg c (refsD D) a (a + e.length) = .ok items' ∧
      Qentem.Expr.RelItems (PvD D (e ++ [t]) a (e.length + 1)) a (e.length + 1) items items' := by
  obtain ⟨items', h1, h2⟩ := Qentem.Expr.parseTop_relocV ({ readNum := cfg.readNum } : ScanCfg R)
    { cfg with loopVar := loopVarPure c (refsD D) } rfl hrel (PvD D (e ++ [t]) a (e.length + 1))
    (by
      intro off en _ h2 h3
      have := pvD_scan cfg c (e ++ [t]) a h D hD (hlen.imp id fun h => by simp; omega) off en h2 h3
      simpa using this)
    0 e.length (by simp) items hs
  exact ⟨items', by simpa [exprs] using h1, by simpa using h2⟩

theorem itemsOk_append (items extra : List LoopItem) (E : List EnvE) (h : ItemsOk items E) :
    ItemsOk (items ++ extra) E := by
  intro e he
  have := h e he
  have hlt : e.d.lv < items.length := by
    rcases Nat.lt_or_ge e.d.lv items.length with h' | h'
    · exact h'
    · rw [List.getElem?_eq_none h'] at this; cases this
  rw [List.getElem?_append_left hlt]; exact this

theorem itemsOk_set (items : List LoopItem) (E : List EnvE) (lv : Nat) (it : LoopItem) (h : ItemsOk items E)
    (hne : ∀ e ∈ E, e.d.lv ≠ lv) : ItemsOk (items.set lv it) E := by
  intro e he
  rw [List.getElem?_set_ne (Ne.symm (hne e he))]
  exact h e he

/-- sum of the per-item fuel needs -/
def sumEnts (Nf : Doc → List Nat → Nat) : List (List Nat × Doc) → Nat
  | [] => 0
  | (k, v) :: r => Nf v k + sumEnts Nf r

/-! ### where the renderer stands

The renderer is followed by its render offset `o` and its position `p` in the content; what lies between them is text it
has passed and not yet emitted. -/

/-- the text between the render offset `o` and the position `p`: passed and not yet emitted -/
def pend (c : List Nat) (o p : Nat) : List Nat := (c.drop o).take (p - o)

theorem pend_self (c : List Nat) (p : Nat) : pend c p p = [] := by simp [pend]

theorem slice_pend {c : List Nat} {o p : Nat} (ho : o ≤ p) (hp : p ≤ c.length) : slice c o p = .ok (pend c o p) := by
  simp [slice, pend, ho, hp]

theorem pend_split {c A post : List Nat} {o : Nat} (hc : c = A ++ post) (ho : o ≤ A.length) :
    c = A.take o ++ (A.drop o ++ post) ∧ pend c o A.length = A.drop o :=
  ⟨by rw [← List.append_assoc, List.take_append_drop]; exact hc, by
    rw [pend, hc, List.drop_append_of_le_length ho, List.take_append_of_le_length (by simp), List.take_of_length_le (by simp)]⟩

theorem pend_append {c s : List Nat} {o p : Nat} (h : At c p s) (ho : o ≤ p) : pend c o (p + s.length) = pend c o p ++ s := by
  obtain ⟨A, post, hc, rfl⟩ := h
  have h1 := pend_split (c := c) (A := A) (post := s ++ post) (o := o) hc ho
  have h2 := pend_split (c := c) (A := A ++ s) (post := post) (o := o) (by rw [hc, List.append_assoc])
    (by rw [List.length_append]; omega)
  rw [List.length_append] at h2
  rw [h2.2, h1.2, List.drop_append_of_le_length ho]

section
variable [RealLike R]

omit [RealLike R] in
theorem getValue_at (cx : RCtx R) (hg : cx.guardIndexRead = true) (st : RState)
    (a : Nat) (p : List Nat) (h : At cx.content a p) (E : List EnvE)
    (hp : PathOkV (vsOf E) p) (hit : ItemsOk st.items E) :
    getValue cx st (refD (dOf E) a p) = .ok (resolve cx.root (scOf E) p).1 ∧
    loopKeyText st (refD (dOf E) a p) =
      .ok (match (resolve cx.root (scOf E) p).2 with
        | some bd => if bd.key.length = 0 then none else some bd.key
        | none => none) := by
  obtain ⟨name, keys, rfl, hne, hn, hk, hpre0⟩ := hp
  have hpre : ∀ e ∈ E, e.d.V.isPrefixOf (name ++ brk keys) = true → name = e.d.V :=
    fun e he => hpre0 e.d.V (List.mem_map_of_mem he)
  have hsp := splitPath_ok name keys hn hk
  have hfv := findV_name name (brk keys) E hpre
  have hsc := find_sc name E
  have hres : resolve cx.root (scOf E) (name ++ brk keys) =
      match (E.find? (fun e => e.d.V == name)) with
      | some e => (follow (some e.x) keys, some ⟨e.d.V, e.x, e.key⟩)
      | none => (follow (cx.root.getKey name) keys, none) := by
    simp only [resolve, hsp, hsc]
    cases E.find? (fun e => e.d.V == name) <;> rfl
  rw [hres]
  simp only [refD, hfv]
  cases hf : E.find? (fun e => e.d.V == name) with
  | none =>
    simp only [Option.map_none, mkV]
    exact ⟨getValue_top cx hg st a name keys h hne hn hk, by simp [loopKeyText]⟩
  | some e =>
    have hmem : e ∈ E := List.mem_of_find?_eq_some hf
    have hev : e.d.V = name := by
      have := List.find?_some hf
      simpa using this
    simp only [Option.map_some, mkV, hev]
    have hie := hit e hmem
    refine ⟨getValue_loopvar cx hg st a name keys h hne hn hk e.d.lv _ hie, ?_⟩
    have hnl : name.length ≠ 0 := by
      have := List.length_pos_iff.mpr hne; omega
    simp [loopKeyText, hnl, itemAt, hie]

omit [RealLike R] in
theorem var_read_env (cx : RCtx R) (hg : cx.guardIndexRead = true) (st : RState) (o q : Nat) (w p : List Nat)
    (hw : w.length = 5) (ho : o ≤ q) (h : At cx.content q (w ++ p ++ [125]))
    (E : List EnvE) (hp : PathOkV (vsOf E) p) (hit : ItemsOk st.items E) :
    slice cx.content o q = .ok (pend cx.content o q) ∧
    getValue cx (emit st (pend cx.content o q)) (refD (dOf E) (q + 5) p) = .ok (resolve cx.root (scOf E) p).1 ∧
    loopKeyText (emit st (pend cx.content o q)) (refD (dOf E) (q + 5) p) =
      .ok (match (resolve cx.root (scOf E) p).2 with
        | some bd => if bd.key.length = 0 then none else some bd.key
        | none => none) ∧
    slice cx.content q (q + (p.length + 6)) = .ok (w ++ p ++ [125]) := by
  have hl : (w ++ p ++ [125]).length = p.length + 6 := by
    simp only [List.length_append, hw, List.length_cons, List.length_nil]; omega
  have hgk := getValue_at cx hg (emit st (pend cx.content o q)) _ p (h.left.right.cast (by rw [hw])) E hp hit
  exact ⟨slice_pend ho (Nat.le_trans (Nat.le_add_right _ _) h.le), hgk.1, hgk.2, hl ▸ h.slice_ok⟩

theorem renderVariable_env (cx : RCtx R) (hg : cx.guardIndexRead = true) (st : RState)
    (o q : Nat) (p : List Nat) (ho : o ≤ q) (h : At cx.content q ([123, 118, 97, 114, 58] ++ p ++ [125]))
    (E : List EnvE) (hp : PathOkV (vsOf E) p) (hit : ItemsOk st.items E) :
    renderVariable cx st (refD (dOf E) (q + 5) p) o =
      .ok (emit (emit st (pend cx.content o q)) (expSegB cx (scOf E) (.var p)), q + 5 + p.length + 1) := by
  obtain ⟨hsl, hgv, hkt, hsrc⟩ := var_read_env cx hg st o q _ p rfl ho h E hp hit
  have hsrc : slice cx.content q (q + (p.length + 6)) = .ok (printSeg (.var p)) := hsrc
  simp only [renderVariable, subChk, show W1.variablePrefixLength = 5 from rfl, show W1.variableFullLength = 6 from rfl,
    refD_off, refD_len, show 5 ≤ q + 5 by omega, if_true, Nat.add_sub_cancel, bind, Except.bind, hsl, hgv,
    hkt, expSegB]
  cases hv : (resolve cx.root (scOf E) p).1.bind (copyValue cx true) with
  | some t => simp; omega
  | none =>
    cases hb : (resolve cx.root (scOf E) p).2 with
    | none => simp only [hsrc]; simp; omega
    | some bd =>
      by_cases hk0 : bd.key.length = 0
      · have : bd.key.isEmpty = true := by simpa [List.isEmpty_iff_length_eq_zero] using hk0
        simp only [hk0, if_true, hsrc, this]; simp; omega
      · have : bd.key.isEmpty = false := by
          cases hbk : bd.key with
          | nil => simp [hbk] at hk0
          | cons a b => rfl
        simp only [hk0, if_false, this]; simp; omega

theorem renderRaw_env (cx : RCtx R) (hg : cx.guardIndexRead = true) (st : RState)
    (o q : Nat) (p : List Nat) (ho : o ≤ q) (h : At cx.content q ([123, 114, 97, 119, 58] ++ p ++ [125]))
    (E : List EnvE) (hp : PathOkV (vsOf E) p) (hit : ItemsOk st.items E) :
    renderRawVariable cx st (refD (dOf E) (q + 5) p) o =
      .ok (emit (emit st (pend cx.content o q)) (expSegB cx (scOf E) (.raw p)), q + 5 + p.length + 1) := by
  obtain ⟨hsl, hgv, _, hsrc⟩ := var_read_env cx hg st o q _ p rfl ho h E hp hit
  have hsrc : slice cx.content q (q + (p.length + 6)) = .ok (printSeg (.raw p)) := hsrc
  simp only [renderRawVariable, subChk, show W1.rawVariablePrefixLength = 5 from rfl,
    show W1.rawVariableFullLength = 6 from rfl, refD_off, refD_len, show 5 ≤ q + 5 by omega, if_true,
    Nat.add_sub_cancel, bind, Except.bind, hsl, hgv, expSegB]
  cases hv : (resolve cx.root (scOf E) p).1.bind (copyValue cx false) with
  | some t => simp; omega
  | none => simp only [hsrc]; simp; omega

theorem evalExprs_env (cx : RCtx R) (hg : cx.guardIndexRead = true) (st : RState) (E : List EnvE)
    (hit : ItemsOk st.items E) (envS : Env R) (k : Nat) (items0 items' : List (Item R))
    (hre : ∀ lk, Qentem.Expr.RelEnv envS ({ content := cx.content, lookup := lk, readNum := cx.readNum } : Env R) k)
    (hlookS : ∀ v, envS.lookup v =
      ((resolve cx.root (scOf E) ((envS.content.drop v.off).take v.len)).1).map (docVarVal (specOf cx)))
    (hrel : Qentem.Expr.RelItems (PvD (dOf E) envS.content k envS.content.length) k envS.content.length items0 items')
    (hpath : ∀ v ∈ itemsVars items0, PathOkV (vsOf E) ((envS.content.drop v.off).take v.len))
    (hlen : k + envS.content.length ≤ cx.content.length) (hne : items'.isEmpty = false) :
    evalExprs cx st items' = .ok (Qentem.Expr.evaluateTop envS true items0) ∧
      (∀ v, Qentem.Expr.evaluateTop envS true items0 = some v → ∃ x, v = .num x) := by
  let g : VarRef → Option Doc := fun v' => (resolve cx.root (scOf E) ((cx.content.drop v'.off).take v'.len)).1
  have hsl : ∀ v : VarRef, v.off + v.len < envS.content.length →
      (cx.content.drop (k + v.off)).take v.len = (envS.content.drop v.off).take v.len :=
    fun v hb => (hre (fun _ => none)).slice v.off v.len (by omega)
  have hget : ∀ v' ∈ itemsVars items', getValue cx st v' = .ok (g v') := by
    intro v' hv'
    obtain ⟨v, hv, hpv, hb⟩ := relItems_vars_back hrel v' hv'
    subst hpv
    have hp := hpath v hv
    have hs := hsl v hb
    have hlp : ((envS.content.drop v.off).take v.len).length = v.len := by
      simp only [List.length_take, List.length_drop]; omega
    have := (getValue_at cx hg st (k + v.off) _ (hs ▸ At.of_take_drop (by omega)) E hp hit).1
    rw [this]
    simp only [g, refD_off, refD_len, hlp, hs]
  let f : VarRef → Option (Qentem.Expr.VarVal R) := fun v => (g v).map (docToVarVal cx)
  have hres := resolveVars_ok cx st g (itemsVars items') hget
  let env' : Env R := ⟨cx.content,
    fun v => (((itemsVars items').map (fun w => (w, f w))).find? (fun p => p.1 == v)).bind (·.2), cx.readNum⟩
  have hrel2 := relItems_mem (Q := fun v v' => PvD (dOf E) envS.content k envS.content.length v v' ∧ v' ∈ itemsVars items')
    hrel (fun v v' h _ h2 => ⟨h, h2⟩)
  have hlk : Qentem.Expr.RelLookup (fun v v' => PvD (dOf E) envS.content k envS.content.length v v' ∧ v' ∈ itemsVars items') envS env' := by
    intro v v' ⟨⟨hpv, hb⟩, hm⟩
    show (((itemsVars items').map (fun w => (w, f w))).find? (fun p => p.1 == v')).bind (·.2) = envS.lookup v
    rw [find_resolved f _ v' hm, hlookS v]
    subst hpv
    have hlp : ((envS.content.drop v.off).take v.len).length = v.len := by
      simp only [List.length_take, List.length_drop]; omega
    simp only [f, g, refD_off, refD_len, hlp, hsl v hb]
    congr 1
  have hev := Qentem.Expr.evaluateTop_reloc (hre env'.lookup) hlk items0 items' hrel2
  refine ⟨?_, hev.2⟩
  simp only [evalExprs, hne, Bool.false_eq_true, if_false, hres, bind, Except.bind]
  exact congrArg Except.ok hev.1

/-- the environment in which the reference interpreter evaluates the text `e` followed by `t` -/
def specEnvS (cx : RCtx R) (sc : List Binding) (e : List Nat) (t : Nat) : Env R :=
  { content := e ++ [t],
    lookup := fun v => ((resolve cx.root sc (((e ++ [t]).drop v.off).take v.len)).1).map (docVarVal (specOf cx)),
    readNum := cx.readNum }

theorem evalText_eqS (cx : RCtx R) (sc : List Binding) (e : List Nat) (t : Nat) (items0 : List (Item R))
    (h0 : Qentem.Expr.parseTop ({ readNum := cx.readNum } : ScanCfg R) (e ++ [t]) 0 e.length = .ok items0) :
    evalText (specOf cx) sc e t =
      if items0.isEmpty then none else Qentem.Expr.evaluateTop (specEnvS cx sc e t) true items0 := by
  simp only [evalText, specOf, h0]
  cases items0 with
  | nil => rfl
  | cons x xs =>
    have hwf := Qentem.Expr.parseTop_wf ({ readNum := cx.readNum } : ScanCfg R) (e ++ [t]) 0 e.length (by simp)
    rw [h0] at hwf
    rcases hwf with h | h
    · cases h
    · simp only [List.isEmpty_cons, Bool.false_eq_true, if_false]
      exact (Qentem.Expr.evaluateTop_eq_tree _ _ h).symm

/-- the paths of the `{var:}` operands the scanner finds in an expression text have the documented
shape with respect to the enclosing loops -/
def varsOkV (rn : List Nat → Option (Num R)) (Vs : List (List Nat)) (e : List Nat) (t : Nat) : Prop :=
  ∀ items : List (Item R),
    Qentem.Expr.parseTop ({ readNum := rn } : ScanCfg R) (e ++ [t]) 0 e.length = .ok items →
    ∀ v ∈ itemsVars items, PathOkV Vs (((e ++ [t]).drop v.off).take v.len)

theorem evalExprs_text (cx : RCtx R) (cfg : ScanCfg R) (hg : cx.guardIndexRead = true)
    (hrn : cfg.readNum = cx.readNum) (st : RState) (e : List Nat) (t a : Nat)
    (h : At cx.content a (e ++ [t])) (hrel : Qentem.Expr.Reloc (e ++ [t]) cx.content a)
    (E : List EnvE) (hD : ChainD cx.content (dOf E)) (hit : ItemsOk st.items E)
    (hlen : vsOf E = [] ∨ e.length < 65536) (hvo : varsOkV cfg.readNum (vsOf E) e t) :
    evalExprs cx st (itemsAtC cfg cx.content (refsD (dOf E)) a (a + e.length)) =
        .ok (evalText (specOf cx) (scOf E) e t) ∧
      (∀ v, evalText (specOf cx) (scOf E) e t = some v → ∃ x, v = .num x) ∧
      ((∀ items : List (Item R), Qentem.Expr.parseTop ({ readNum := cfg.readNum } : ScanCfg R) (e ++ [t]) 0 e.length = .ok items →
          items ≠ []) →
        (itemsAtC cfg cx.content (refsD (dOf E)) a (a + e.length)).isEmpty = false) := by
  obtain ⟨items0, hitems0⟩ := Qentem.Expr.parseTop_total ({ readNum := cfg.readNum } : ScanCfg R) (e ++ [t]) 0 e.length (by simp)
  obtain ⟨items', hex, hrel'⟩ := exprs_reloc_env cfg cx.content e t a h hrel (dOf E) hD (hlen.imp dOf_nil_of_vs id)
    items0 hitems0
  have hitems : itemsAtC cfg cx.content (refsD (dOf E)) a (a + e.length) = items' := by
    simp only [itemsAtC, hex]
  rw [hitems]
  have hemp := hrel'.isEmpty
  have hne : (∀ items : List (Item R), Qentem.Expr.parseTop ({ readNum := cfg.readNum } : ScanCfg R) (e ++ [t]) 0 e.length = .ok items →
      items ≠ []) → items'.isEmpty = false := fun hx => by
    rw [← hemp]
    cases items0 with
    | nil => exact absurd rfl (hx [] hitems0)
    | cons x xs => rfl
  have hvars := hvo items0 hitems0
  rw [hrn] at hitems0
  have hspec := evalText_eqS cx (scOf E) e t items0 hitems0
  rcases Bool.eq_false_or_eq_true items'.isEmpty with hi | hi
  · rw [hi] at hemp
    simp only [hemp, if_true] at hspec
    exact ⟨by simp [evalExprs, hi, hspec], fun v hv => (by rw [hspec] at hv; cases hv), hne⟩
  · rw [hi] at hemp
    simp only [hemp, Bool.false_eq_true, if_false] at hspec
    have hre : ∀ lk, Qentem.Expr.RelEnv (specEnvS cx (scOf E) e t)
        ({ content := cx.content, lookup := lk, readNum := cx.readNum } : Env R) a :=
      fun lk => ⟨rfl, hrel.slice⟩
    have hl : (specEnvS cx (scOf E) e t).content.length = e.length + 1 := by simp [specEnvS]
    have hev := evalExprs_env cx hg st E hit (specEnvS cx (scOf E) e t) a items0 items' hre (fun _ => rfl)
      (by rw [hl]; exact hrel') hvars
      (by rw [hl]; have := h.le; rw [List.length_append] at this; exact this) hi
    rw [hspec]
    exact ⟨hev.1, hev.2, hne⟩

theorem truth_eq_isTrue (v : Option (Val R)) : truth v = isTrue v := by
  cases v with
  | none => rfl
  | some v => cases v <;> rfl

theorem case_val_env (cx : RCtx R) (cfg : ScanCfg R) (hg : cx.guardIndexRead = true)
    (hrn : cfg.readNum = cx.readNum) (st : RState)
    (e : List Nat) (q p : Nat) (h : At cx.content q (34 :: (e ++ [34]))) (hp : q + 1 = p) (E : List EnvE)
    (hD : ChainD cx.content (dOf E)) (hit : ItemsOk st.items E) (hlen : vsOf E = [] ∨ e.length < 65536)
    (hvo : varsOkV cfg.readNum (vsOf E) e 34) :
    (∃ v, evalExprs cx st (itemsAtC cfg cx.content (refsD (dOf E)) p (p + e.length)) = .ok v ∧
      truth v = isTrue (evalText (specOf cx) (scOf E) e 34)) ∧
    (exprOk cfg.readNum e → (itemsAtC cfg cx.content (refsD (dOf E)) p (p + e.length)).isEmpty = false) := by
  subst hp
  obtain ⟨h1, _, h3⟩ := evalExprs_text cx cfg hg hrn st e 34 (q + 1) h.tail
    (reloc_after 34 (by decide) (by decide) (by decide) h) E hD hit hlen hvo
  exact ⟨⟨_, h1, truth_eq_isTrue _⟩, h3⟩

theorem renderMath_env (cx : RCtx R) (cfg : ScanCfg R) (hg : cx.guardIndexRead = true)
    (hrn : cfg.readNum = cx.readNum) (st : RState)
    (o q : Nat) (e : List Nat) (ho : o ≤ q) (h : At cx.content q ([123, 109, 97, 116, 104, 58] ++ e ++ [125]))
    (E : List EnvE) (hD : ChainD cx.content (dOf E)) (hit : ItemsOk st.items E) (hlen : vsOf E = [] ∨ e.length < 65536)
    (hp : varsOkV cfg.readNum (vsOf E) e 125) :
    renderMath cx st (itemsAtC cfg cx.content (refsD (dOf E)) (q + 6) (q + 6 + e.length)) q (q + 6 + e.length + 1) o =
      .ok (emit (emit st (pend cx.content o q)) (expSegB cx (scOf E) (.math e)), q + 6 + e.length + 1) := by
  obtain ⟨h1, h2, _⟩ := evalExprs_text cx cfg hg hrn (emit st (pend cx.content o q)) e 125 (q + 6)
    (show At cx.content q ([123, 109, 97, 116, 104, 58] ++ (e ++ [125])) from
      (List.append_assoc _ e [125]) ▸ h).right (reloc_math h) E hD hit hlen hp
  have hsl := slice_pend ho (Nat.le_trans (Nat.le_add_right _ _) h.le)
  have hsrc : slice cx.content q (q + 6 + e.length + 1) = .ok (printSeg (.math e)) := by
    rw [show q + 6 + e.length + 1 = q + ([123, 109, 97, 116, 104, 58] ++ e ++ [125]).length by simp; omega]
    exact h.slice_ok
  simp only [renderMath, hsl, h1, bind, Except.bind, expSegB]
  cases hv : evalText (specOf cx) (scOf E) e 125 with
  | none => simp only [hsrc, Option.bind]
  | some v =>
    obtain ⟨z, hz⟩ := h2 v hv
    subst hz
    cases z <;> simp [Option.bind, numText, specOf]

def hitOfS (cx : RCtx R) (sc : List Binding) (e : List Nat) : Bool := isTrue (evalText (specOf cx) sc e 34) == some true

/-- path conditions of a segment under the enclosing loops -/
def Seg.pathV (rn : List Nat → Option (Num R)) (Vs : List (List Nat)) : Seg → Prop
  | .text _ => True
  | .var p => PathOkV Vs p
  | .raw p => PathOkV Vs p
  | .math e => varsOkV rn Vs e 125 ∧ e.length < 65536

/-- what rendering a segment needs of it: `Seg.pathV`, with an expression text bounded only under a loop -/
def Seg.pathW (rn : List Nat → Option (Num R)) (Vs : List (List Nat)) : Seg → Prop
  | .text _ => True
  | .var p => PathOkV Vs p
  | .raw p => PathOkV Vs p
  | .math e => varsOkV rn Vs e 125 ∧ (Vs = [] ∨ e.length < 65536)

omit [RealLike R] in
theorem Seg.pathW_of_pathV {rn : List Nat → Option (Num R)} {Vs : List (List Nat)} {s : Seg} (h : s.pathV rn Vs) :
    s.pathW rn Vs := by
  cases s with
  | math e => exact ⟨h.1, Or.inr h.2⟩
  | _ => exact h

/-- `loops_items_` after a stretch: the items of the enclosing loops are in place, and nothing has changed when
no loop ran (`free`) -/
def ItemsKept (E : List EnvE) (free : Prop) (a b : List LoopItem) : Prop := ItemsOk b E ∧ (free → b = a)

section
variable {E : List EnvE} {free f1 f2 : Prop} {a b c : List LoopItem}

theorem ItemsKept.same (h : ItemsOk a E) : ItemsKept E free a a := ⟨h, fun _ => rfl⟩

theorem ItemsKept.of_ok (h : ItemsOk b E) (hn : ¬ free) : ItemsKept E free a b := ⟨h, fun hf => (hn hf).elim⟩

theorem ItemsKept.ok (h : ItemsKept E free a b) : ItemsOk b E := h.1

theorem ItemsKept.eq (h : ItemsKept E free a b) (hf : free) : b = a := h.2 hf

theorem ItemsKept.imp (h : ItemsKept E f1 a b) (hf : free → f1) : ItemsKept E free a b := ⟨h.1, fun x => h.2 (hf x)⟩

theorem ItemsKept.trans (hf : free → f1 ∧ f2) (g : ItemsKept E f1 a b) (h : ItemsKept E f2 b c) : ItemsKept E free a c :=
  ⟨h.1, fun x => (h.2 (hf x).2).trans (g.2 (hf x).1)⟩

end

/-- Where the renderer stands after a stretch of the content.  It started with render offset `o` at position `p` (the text
between them passed and not yet emitted) in state `st`; it has gone through the printed text `W` at `p`, which prints `X`;
it stands at `p + W.length` with render offset `o2` in state `st2`. -/
structure Rendered (cx : RCtx R) (E : List EnvE) (free : Prop) (o p : Nat) (st : RState) (W X : List Nat) (o2 : Nat)
    (st2 : RState) : Prop where
  le : o2 ≤ p + W.length
  out : st2.out ++ pend cx.content o2 (p + W.length) = st.out ++ (pend cx.content o p ++ X)
  items : ItemsKept E free st.items st2.items

section
variable {cx : RCtx R} {E : List EnvE} {free f1 f2 : Prop} {o p o1 o2 : Nat} {post B txt W X W1 X1 W2 X2 B2 txt2 : List Nat}
  {st st' st1 st2 : RState}

omit [RealLike R] in
theorem Rendered.nil (ho : o ≤ p) (hit : ItemsOk st.items E) : Rendered cx E free o p st [] [] o st :=
  ⟨by simpa using ho, by simp, .same hit⟩

omit [RealLike R] in
theorem Rendered.trans (hf : free → f1 ∧ f2) (g : Rendered cx E f1 o p st W1 X1 o1 st1)
    (h : Rendered cx E f2 o1 (p + W1.length) st1 W2 X2 o2 st2) : Rendered cx E free o p st (W1 ++ W2) (X1 ++ X2) o2 st2 :=
  ⟨by rw [List.length_append, ← Nat.add_assoc]; exact h.le,
    by rw [List.length_append, ← Nat.add_assoc, h.out, ← List.append_assoc, g.out]; simp only [List.append_assoc],
    g.items.trans hf h.items⟩

omit [RealLike R] in
/-- literal text in front of the stretch is pending text -/
theorem Rendered.text {s : List Nat} (hs : At cx.content p s) (ho : o ≤ p)
    (h : Rendered cx E free o (p + s.length) st W X o2 st2) : Rendered cx E free o p st (s ++ W) (s ++ X) o2 st2 :=
  ⟨by rw [List.length_append, ← Nat.add_assoc]; exact h.le,
    by rw [List.length_append, ← Nat.add_assoc, h.out, pend_append hs ho]; simp only [List.append_assoc], h.items⟩

theorem Rendered.finish (h : Rendered cx E free o p st W X o2 st2) (hW : At cx.content p W) (f : Nat) :
    render cx (f + 1) [] o2 (p + W.length) st2 = .ok (emit st2 (pend cx.content o2 (p + W.length))) := by
  simp only [render, slice_pend h.le hW.le, bind, Except.bind]

omit [RealLike R] in
/-- the same in lists: what stands in front of the render offset, the pending text, what follows -/
theorem Rendered.lists (h : Rendered cx E free B.length (B ++ txt).length st W X o2 st2)
    (hc : cx.content = B ++ (txt ++ (W ++ post))) :
    ∃ B2 txt2, cx.content = B2 ++ (txt2 ++ post) ∧ (B2 ++ txt2).length = (B ++ txt).length + W.length ∧
      st2.out ++ txt2 = st.out ++ (txt ++ X) ∧ B2.length = o2 := by
  have h1 := pend_split (c := cx.content) (A := B ++ txt) (post := W ++ post) (o := B.length)
    (by rw [hc, List.append_assoc]) (by simp)
  have hl : (B ++ txt ++ W).length = (B ++ txt).length + W.length := List.length_append
  have h2 := pend_split (c := cx.content) (A := B ++ txt ++ W) (post := post) (o := o2)
    (by rw [hc]; simp only [List.append_assoc]) (by rw [hl]; exact h.le)
  rw [List.drop_left] at h1
  refine ⟨_, _, h2.1, by rw [List.take_append_drop, hl], ?_, List.length_take_of_le (by rw [hl]; exact h.le)⟩
  rw [← h2.2, hl, h.out, h1.2]

end

theorem render_segs_more_env (cx : RCtx R) (cfg : ScanCfg R) (hg : cx.guardIndexRead = true)
    (hrn : cfg.readNum = cx.readNum) (more : List (Tag R)) (endO : Nat) (E : List EnvE) (hD : ChainD cx.content (dOf E)) :
    ∀ (segs : List Seg) (o p : Nat) (st : RState) (fuel : Nat),
      At cx.content p (printSegs segs) → o ≤ p → (∀ s ∈ segs, s.pathW cfg.readNum (vsOf E)) →
      1 ≤ fuel → ItemsOk st.items E →
      ∃ (o2 : Nat) (st2 : RState),
        Rendered cx E True o p st (printSegs segs) (expSegsB cx (scOf E) segs) o2 st2 ∧
        render cx (fuel + nTags segs) (tagsOfD cfg cx.content (dOf E) p segs ++ more) o endO st =
          render cx fuel more o2 endO st2 := by
  intro segs
  induction segs with
  | nil =>
    intro o p st fuel _ ho _ _ hit
    exact ⟨o, st, Rendered.nil ho hit, by simp [tagsOfD, nTags]⟩
  | cons sg rest ih =>
    intro o p st fuel h ho hok hf hit
    have hokr : ∀ s ∈ rest, s.pathW cfg.readNum (vsOf E) := fun s hs => hok s (List.mem_cons_of_mem _ hs)
    have hsg := hok sg (List.mem_cons_self ..)
    simp only [printSegs] at h
    -- one tag, then the rest
    have htag : ∀ (T : Tag R) (w : Nat),
        p + (printSeg sg).length = w →
        tagsOfD cfg cx.content (dOf E) p (sg :: rest) = T :: tagsOfD cfg cx.content (dOf E) w rest →
        nTags (sg :: rest) = nTags rest + 1 →
        renderTag cx (fuel + nTags rest) T o st = .ok (emit (emit st (pend cx.content o p)) (expSegB cx (scOf E) sg), w) →
        ∃ (o2 : Nat) (st2 : RState),
          Rendered cx E True o p st (printSegs (sg :: rest)) (expSegsB cx (scOf E) (sg :: rest)) o2 st2 ∧
          render cx (fuel + nTags (sg :: rest)) (tagsOfD cfg cx.content (dOf E) p (sg :: rest) ++ more)
            o endO st = render cx fuel more o2 endO st2 := by
      intro T w hw htags hnt hrt
      subst hw
      have g : Rendered cx E True o p st (printSeg sg) (expSegB cx (scOf E) sg) (p + (printSeg sg).length)
          (emit (emit st (pend cx.content o p)) (expSegB cx (scOf E) sg)) :=
        ⟨Nat.le_refl _, by rw [pend_self]; simp only [emit, List.append_assoc, List.append_nil], ItemsKept.same hit⟩
      obtain ⟨o2, st2, h2, h5⟩ := ih _ _ (emit (emit st (pend cx.content o p)) (expSegB cx (scOf E) sg)) fuel h.right
        (Nat.le_refl _) hokr hf hit
      refine ⟨o2, st2, Rendered.trans (fun _ => ⟨trivial, trivial⟩) g h2, ?_⟩
      rw [htags, hnt, List.cons_append, ← Nat.add_assoc]
      simp only [render, hrt, bind, Except.bind]
      exact h5
    cases sg with
    | text s =>
      obtain ⟨o2, st2, h2, h5⟩ := ih o (p + s.length) st fuel h.right (by omega) hokr hf hit
      exact ⟨o2, st2, h2.text h.left ho, by simpa only [tagsOfD, nTags] using h5⟩
    | var pa =>
      have hv := renderVariable_env cx hg st o p pa ho h.left E hsg hit
      exact htag (.var (refD (dOf E) (p + 5) pa)) _
        (by simp only [printSeg, List.length_append, List.length_cons, List.length_nil]; omega) rfl rfl (by
          rw [show fuel + nTags rest = (fuel - 1 + nTags rest) + 1 by omega]
          simp only [renderTag]; exact hv)
    | raw pa =>
      have hv := renderRaw_env cx hg st o p pa ho h.left E hsg hit
      exact htag (.raw (refD (dOf E) (p + 5) pa)) _
        (by simp only [printSeg, List.length_append, List.length_cons, List.length_nil]; omega) rfl rfl (by
          rw [show fuel + nTags rest = (fuel - 1 + nTags rest) + 1 by omega]
          simp only [renderTag]; exact hv)
    | math e =>
      have hv := renderMath_env cx cfg hg hrn st o p e ho h.left E hD hit hsg.2 hsg.1
      exact htag (.math (itemsAtC cfg cx.content (refsD (dOf E)) (p + 6) (p + 6 + e.length)) p (p + 6 + e.length + 1)) _
        (by simp only [printSeg, List.length_append, List.length_cons, List.length_nil]; omega) rfl rfl (by
          rw [show fuel + nTags rest = (fuel - 1 + nTags rest) + 1 by omega]
          simp only [renderTag]; exact hv)

/-- fuel `loopIter` uses over the entries: one unit per turn, the body's need within the turn -/
def iterNeed (Nf : Doc → List Nat → Nat) (nb : Nat) : List (List Nat × Doc) → Nat
  | [] => 1
  | (k, v) :: r => max (Nf v k + nb) (iterNeed Nf nb r) + 1

theorem iterNeed_pos (Nf : Doc → List Nat → Nat) (nb : Nat) (l : List (List Nat × Doc)) : 1 ≤ iterNeed Nf nb l := by
  cases l with
  | nil => exact Nat.le_refl 1
  | cons kv r => obtain ⟨k, v⟩ := kv; simp only [iterNeed]; omega

theorem iterNeed_le (Nf Nf' : Doc → List Nat → Nat) (nb : Nat) (h : ∀ x k, Nf x k ≤ Nf' x k) :
    ∀ l : List (List Nat × Doc), iterNeed Nf nb l ≤ l.length + sumEnts Nf' l + nb + 1
  | [] => by simp [iterNeed]
  | (k, v) :: r => by
    have := iterNeed_le Nf Nf' nb h r
    have := h v k
    simp only [iterNeed, sumEnts, List.length_cons]; omega

theorem loopIter_gen (cx : RCtx R) (sub : List (Tag R)) (f : LoopFields) (set : Doc)
    (Eo : Doc → List Nat → List Nat) (Nf : Doc → List Nat → Nat) (nb : Nat) (Inv : List LoopItem → Prop)
    (hinv : ∀ items it, Inv items → Inv (items.set f.level it))
    (hbody : ∀ (x : Doc) (key : List Nat) (st : RState) (g : Nat), Inv st.items →
      st.items[f.level]? = some ⟨some x, key⟩ → Nf x key ≤ g →
      ∃ st', render cx (g + nb) sub (f.off + f.contentOff) f.endOff st = .ok st' ∧ st'.out = st.out ++ Eo x key ∧
        Inv st'.items ∧ f.level < st'.items.length) :
    ∀ (n idx : Nat) (st : RState) (fuel : Nat), idx + n = (entsOf set).length → f.level < st.items.length →
      Inv st.items → iterNeed Nf nb ((entsOf set).drop idx) ≤ fuel →
      ∃ st', loopIter cx fuel sub f set set.size idx st = .ok st' ∧
        st'.out = st.out ++ outEnts Eo ((entsOf set).drop idx) ∧ Inv st'.items := by
  intro n
  induction n with
  | zero =>
    intro idx st fuel hn hl hI hf
    have hpos := iterNeed_pos Nf nb ((entsOf set).drop idx)
    obtain ⟨g, rfl⟩ : ∃ g, fuel = g + 1 := ⟨fuel - 1, by omega⟩
    have : ¬ idx < set.size := by rw [← entsOf_length]; omega
    refine ⟨st, by simp [loopIter, this], ?_, hI⟩
    rw [List.drop_of_length_le (by omega)]; simp [outEnts]
  | succ n ih =>
    intro idx st fuel hn hl hI hf
    have hpos := iterNeed_pos Nf nb ((entsOf set).drop idx)
    obtain ⟨g, rfl⟩ : ∃ g, fuel = g + 1 := ⟨fuel - 1, by omega⟩
    have hlt : idx < set.size := by rw [← entsOf_length]; omega
    have hlt' : idx < (entsOf set).length := by omega
    obtain ⟨it, hit⟩ : ∃ it, st.items[f.level]? = some it := ⟨st.items[f.level], List.getElem?_eq_getElem hl⟩
    have hia : itemAt st f.level = .ok it := by simp [itemAt, hit]
    have hdrop : (entsOf set).drop idx = (entsOf set)[idx] :: (entsOf set).drop (idx + 1) :=
      List.drop_eq_getElem_cons hlt'
    obtain ⟨hval, hkey⟩ := itemOf_ents set idx it hlt'
    generalize hkv : (entsOf set)[idx] = kv at hval hkey
    obtain ⟨k, v⟩ := kv
    simp only at hval hkey
    generalize hit0 : itemOf set idx it = it0 at hval hkey
    have hget : (st.items.set f.level it0)[f.level]? = some it0 := by
      simp [List.getElem?_set_self hl]
    rw [hdrop, hkv] at hf ⊢
    simp only [iterNeed] at hf
    rw [loopIter_succ]
    simp only [hlt, if_true, hia, bind, Except.bind, hit0]
    cases hu : v.isUndefined
    · simp only [hu, Bool.false_eq_true, if_false] at hval
      have hk := hkey hu
      have hitem : it0 = ⟨some v, k⟩ := by cases it0; simp_all
      obtain ⟨st1, hr, ho, hI1, hl1⟩ := hbody v k { st with items := st.items.set f.level it0 } (g - nb)
        (hinv _ _ hI) (by show (st.items.set f.level it0)[f.level]? = some ⟨some v, k⟩; rw [hget, hitem]) (by omega)
      rw [show g - nb + nb = g by omega] at hr
      simp only [hval, Option.isSome_some, if_true, hr]
      obtain ⟨st', h1, h2, h3⟩ := ih (idx + 1) st1 g (by omega) hl1 hI1 (by omega)
      refine ⟨st', h1, ?_, h3⟩
      rw [h2, ho]; simp [outEnts, hu, List.append_assoc]
    · simp only [hu, if_true] at hval
      simp only [hval, Option.isSome_none, Bool.false_eq_true, if_false, pure, Except.pure]
      obtain ⟨st', h1, h2, h3⟩ := ih (idx + 1) { st with items := st.items.set f.level it0 } g
        (by omega) (by simp; exact hl) (hinv _ _ hI) (by omega)
      refine ⟨st', h1, ?_, h3⟩
      rw [h2]; simp [outEnts, hu]

end
end Qentem.Tmpl
