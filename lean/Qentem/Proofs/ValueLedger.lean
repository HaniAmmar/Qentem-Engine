import Qentem.Model.ValueLedger
import Qentem.Proofs.LedgerExec
/-!
Ledger accounting for the Value trace model.  `Acc m pre post`: the computation `m` consumes the blocks
`pre` and leaves the blocks `post result`, whatever else (`X`) is live — in continuation form over
`HashLedger.Exec` (from any heap whose live ids are `pre ++ X`, all below the fresh-id counter, the events
of `m` followed by a trace that runs from `post result ++ X` run without violation): at every counter `n` it is
the triple `HashLedger.Tri` of the events of `m n` (`Acc.tri`), and the rules below are the rules of `Tri`.
The lemmas about the operations compose such facts by framing in place (`frame`, `frameL`, `keep`, `useL`):
`pre` and `post` are kept in the order in which `owned` lists the blocks, and a permutation is stated only
where that order forces one (a block released from the middle, an item appended before the container block).
`Good f extra` says the same of a function applied through a reference: the subscripts preserve it (`Good_updPathL`),
every leaf action has it.
-/
namespace Qentem.ValueLedger
open Qentem.Value Qentem.Ledger Qentem.HashLedger

def Acc {α : Type} (m : LM α) (pre : List Nat) (post : α → List Nat) : Prop :=
  ∀ (n : Nat) (X : List Nat) (evs : List Ev) (L1 : List Nat) (n1 : Nat),
    Exec evs (post (m n).1 ++ X) (m n).2.2 L1 n1 → Exec ((m n).2.1 ++ evs) (pre ++ X) n L1 n1

theorem Acc.tri {α : Type} {m : LM α} {pre : List Nat} {post : α → List Nat} (h : Acc m pre post) (n : Nat) :
    Tri (m n).2.1 pre n (post (m n).1) (m n).2.2 := h n

theorem Acc.ret {α : Type} (a : α) (pre : List Nat) (post : α → List Nat) (h : pre = post a) :
    Acc (LM.pure a) pre post :=
  h ▸ fun n => Tri.nil _ n

theorem Acc.bind {α β : Type} {m : LM α} {f : α → LM β} {pre : List Nat} {mid : α → List Nat} {post : β → List Nat}
    (hm : Acc m pre mid) (hf : ∀ a, Acc (f a) (mid a) post) : Acc (LM.bind m f) pre post :=
  fun n => Tri.append (hm n) (hf _ _)

theorem Acc.map {α β : Type} {m : LM α} {pre : List Nat} {post : β → List Nat} (g : α → β)
    (hm : Acc m pre (fun a => post (g a))) : Acc (LM.bind m (fun a => LM.pure (g a))) pre post :=
  Acc.bind hm (fun a => Acc.ret (g a) _ post rfl)

theorem Acc.permPre {α : Type} {m : LM α} {pre pre' : List Nat} {post : α → List Nat}
    (h : Acc m pre post) (hp : pre'.Perm pre) : Acc m pre' post :=
  fun n => Tri.permPre (h n) hp

theorem Acc.permPost {α : Type} {m : LM α} {pre : List Nat} {post post' : α → List Nat}
    (h : Acc m pre post) (hp : ∀ a, (post a).Perm (post' a)) : Acc m pre post' :=
  fun n => Tri.permPost (h n) (hp _)

theorem Acc.frame {α : Type} {m : LM α} {pre : List Nat} {post : α → List Nat} (F : List Nat)
    (h : Acc m pre post) : Acc m (pre ++ F) (fun a => post a ++ F) :=
  fun n => Tri.frame F (h n)

theorem Acc.frameL {α : Type} {m : LM α} {pre : List Nat} {post : α → List Nat} (F : List Nat)
    (h : Acc m pre post) : Acc m (F ++ pre) (fun a => F ++ post a) :=
  ((h.frame F).permPre List.perm_append_comm).permPost (fun _ => List.perm_append_comm)

/-- run `m` (which consumes `pre1`) while `F` stays live, then continue. -/
theorem Acc.bindF {α β : Type} {m : LM α} {f : α → LM β} {pre pre1 : List Nat} {mid : α → List Nat} {post : β → List Nat}
    (F : List Nat) (hm : Acc m pre1 mid) (hp : pre.Perm (pre1 ++ F)) (hf : ∀ a, Acc (f a) (mid a ++ F) post) :
    Acc (LM.bind m f) pre post :=
  Acc.bind ((hm.frame F).permPre hp) hf

/-- a computation that consumes nothing, run while `F` stays live. -/
theorem Acc.keep {α : Type} {m : LM α} {post : α → List Nat} (F : List Nat) (h : Acc m [] post) :
    Acc m F (fun a => F ++ post a) :=
  (h.frameL F).permPre (by rw [List.append_nil])

/-- a computation that leaves nothing, run while `F` stays live. -/
theorem Acc.useL {α : Type} {m : LM α} {pre : List Nat} (F : List Nat) (h : Acc m pre (fun _ => [])) :
    Acc m (F ++ pre) (fun _ => F) :=
  (h.frameL F).permPost (fun _ => by rw [List.append_nil])

theorem Acc_alloc : Acc allocB [] (fun id => [id]) := fun n => Tri.alloc n 0

theorem Acc_freeAll (ids : List Nat) : Acc (freeAll ids) ids (fun _ => []) := fun n => Tri.frees ids n

theorem Acc_freeB (id : Nat) : Acc (freeB id) [id] (fun _ => []) := by
  have h : freeB id = freeAll [id] := by funext n; simp [freeAll, freeB]
  rw [h]; exact Acc_freeAll [id]

theorem Acc_freeOpt (b : Option Nat) : Acc (freeOpt b) (optId b) (fun _ => []) := by
  cases b with
  | none => exact Acc.ret _ _ _ rfl
  | some id => exact Acc_freeB id

theorem Acc_dispose (d : LDoc) : Acc (dispose d) (owned d) (fun _ => []) := Acc_freeAll _

theorem Acc.seq {β : Type} {m : LM Unit} {f : Unit → LM β} {pre1 pre2 : List Nat} {post : β → List Nat}
    (hm : Acc m pre1 (fun _ => [])) (hf : Acc (f ()) pre2 post) : Acc (LM.bind m f) (pre1 ++ pre2) post :=
  Acc.bind (mid := fun _ => pre2) ((hm.frame pre2).permPost (fun _ => by simp)) (fun _ => hf)

theorem Acc_allocTmp : ∀ k, Acc (allocTmp k) [] (fun ts => ts)
  | 0 => Acc.ret _ _ _ rfl
  | k + 1 => by
    rw [allocTmp]
    exact Acc.bind Acc_alloc (fun b => Acc.map _ ((Acc_allocTmp k).keep [b]))

@[simp] theorem owned_str (b : Option Nat) (s : List Nat) : owned (.str b s) = optId b := rfl
@[simp] theorem owned_arr (b : Option Nat) (c : Nat) (l : List LDoc) : owned (.arr b c l) = ownedItems l ++ optId b := rfl
@[simp] theorem owned_obj (b : Option Nat) (c : Nat) (l : List LSlot) : owned (.obj b c l) = ownedSlots l ++ optId b := rfl
@[simp] theorem owned_undef : owned .undef = [] := rfl
@[simp] theorem owned_null : owned .null = [] := rfl
@[simp] theorem owned_tru : owned .tru = [] := rfl
@[simp] theorem owned_fls : owned .fls = [] := rfl
@[simp] theorem owned_nat (n : Nat) : owned (.nat n) = [] := rfl
@[simp] theorem owned_int (i : Int) : owned (.int i) = [] := rfl
@[simp] theorem owned_real (b : Nat) : owned (.real b) = [] := rfl
@[simp] theorem owned_ptr (r : Nat) : owned (.ptr r) = [] := rfl
@[simp] theorem ownedItems_nil : ownedItems [] = [] := rfl
@[simp] theorem ownedItems_cons (d : LDoc) (r : List LDoc) : ownedItems (d :: r) = owned d ++ ownedItems r := rfl
@[simp] theorem ownedSlots_nil : ownedSlots [] = [] := rfl
@[simp] theorem ownedSlots_none (r : List LSlot) : ownedSlots (none :: r) = ownedSlots r := rfl
@[simp] theorem ownedSlots_some (kid : Nat) (k : List Nat) (v : LDoc) (r : List LSlot) :
    ownedSlots (some (kid, k, v) :: r) = owned v ++ kid :: ownedSlots r := rfl
@[simp] theorem optId_none : optId none = [] := rfl
@[simp] theorem optId_some (b : Nat) : optId (some b) = [b] := rfl

theorem ownedItems_append (a b : List LDoc) : ownedItems (a ++ b) = ownedItems a ++ ownedItems b := by
  induction a with
  | nil => simp
  | cons d r ih => simp [ih]

theorem ownedSlots_append (a b : List LSlot) : ownedSlots (a ++ b) = ownedSlots a ++ ownedSlots b := by
  induction a with
  | nil => simp
  | cons d r ih =>
    cases d with
    | none => simp [ih]
    | some e => obtain ⟨kid, k, v⟩ := e; simp [ih]

@[simp] theorem ownedItems_replicate_undef (n : Nat) : ownedItems (List.replicate n .undef) = [] := by
  induction n with
  | zero => simp
  | succ n ih => simp [List.replicate_succ, ih]

theorem ownedSlots_liveSlotsL (s : List LSlot) : ownedSlots (liveSlotsL s) = ownedSlots s := by
  induction s with
  | nil => rfl
  | cons a t ih =>
    cases a with
    | none => simp [liveSlotsL, ih]
    | some e => obtain ⟨kid, k, v⟩ := e; simp [liveSlotsL, ih]

/-- Perm goals between concatenations of the same lists in another order: compare element counts. -/
macro "perm_count" : tactic =>
  `(tactic| (refine List.perm_iff_count.mpr fun a_ => ?_
             simp only [List.count_append, List.count_cons, List.count_nil] <;> omega))

mutual
theorem Acc_copyL : ∀ d, Acc (copyL d) [] (fun c => owned c)
  | .str b s => by rw [copyL]; exact Acc.map _ Acc_alloc
  | .arr b c [] => by rw [copyL]; exact Acc.ret _ _ _ rfl
  | .arr b c (x :: xs) => by
    rw [copyL]
    refine Acc.bind Acc_alloc (fun nb => Acc.map _ ?_)
    simp only [owned_arr, optId_some]
    exact (Acc_copyItemsL (x :: xs)).frame [nb]
  | .obj b c [] => by rw [copyL]; exact Acc.ret _ _ _ rfl
  | .obj b c (x :: xs) => by
    rw [copyL]
    refine Acc.bind Acc_alloc (fun nb => Acc.map _ ?_)
    simp only [owned_obj, optId_some]
    exact (Acc_copySlotsL (x :: xs)).frame [nb]
  | .undef => Acc.ret _ _ _ rfl
  | .null => Acc.ret _ _ _ rfl
  | .tru => Acc.ret _ _ _ rfl
  | .fls => Acc.ret _ _ _ rfl
  | .nat _ => Acc.ret _ _ _ rfl
  | .int _ => Acc.ret _ _ _ rfl
  | .real _ => Acc.ret _ _ _ rfl
  | .ptr _ => Acc.ret _ _ _ rfl
theorem Acc_copyItemsL : ∀ l, Acc (copyItemsL l) [] (fun c => ownedItems c)
  | [] => Acc.ret _ _ _ rfl
  | d :: r => by
    rw [copyItemsL]
    refine Acc.bind (Acc_copyL d) (fun d' => Acc.map _ ?_)
    simp only [ownedItems_cons]
    exact (Acc_copyItemsL r).keep (owned d')
theorem Acc_copySlotsL : ∀ l, Acc (copySlotsL l) [] (fun c => ownedSlots c)
  | [] => Acc.ret _ _ _ rfl
  | none :: r => by rw [copySlotsL]; exact Acc_copySlotsL r
  | some (kid, k, v) :: r => by
    rw [copySlotsL]
    refine Acc.bind Acc_alloc (fun nk => Acc.bind ((Acc_copyL v).frame [nk]) (fun v' => Acc.map _ ?_))
    simp only [ownedSlots_some]
    exact ((Acc_copySlotsL r).keep [nk]).frameL (owned v')
end

/-- `f` turns the blocks of the referenced value plus `extra` into the blocks of its result. -/
def Good (f : LDoc → LM LDoc) (extra : List Nat) : Prop :=
  ∀ v, Acc (f v) (owned v ++ extra) (fun v' => owned v')

theorem Good.of_acc {f : LDoc → LM LDoc} (h : ∀ v, Acc (f v) (owned v) (fun v' => owned v')) : Good f [] :=
  fun v => (h v).permPre (by rw [List.append_nil])

/-! ### growing a table or an array: the new block comes before the old one goes -/

theorem Acc_tableResize (b : Option Nat) (slots : List LSlot) (n : Nat) :
    Acc (tableResize b slots n) (ownedSlots slots ++ optId b) (fun t => ownedSlots t.2.2 ++ optId t.1) := by
  unfold tableResize
  refine Acc.bind ((Acc_alloc.keep (optId b)).frameL (ownedSlots slots)) (fun nb => Acc.map _ ?_)
  simp only [ownedSlots_liveSlotsL, optId_some]
  exact ((Acc_freeOpt b).frame [nb]).frameL (ownedSlots slots)

theorem Acc_tableExpandIfFull (b : Option Nat) (c : Nat) (slots : List LSlot) :
    Acc (tableExpandIfFull b c slots) (ownedSlots slots ++ optId b) (fun t => ownedSlots t.2.2 ++ optId t.1) := by
  unfold tableExpandIfFull
  split
  · exact Acc_tableResize _ _ _
  · exact Acc.ret _ _ _ rfl

theorem Acc_arrayRealloc (b : Option Nat) (n : Nat) :
    Acc (arrayRealloc b n) (optId b) (fun g => optId g.1) := by
  unfold arrayRealloc
  exact Acc.bind (Acc_alloc.keep (optId b)) (fun nb => Acc.map _ ((Acc_freeOpt b).frame [nb]))

theorem Acc_arrayGrowIfFull (b : Option Nat) (c size : Nat) :
    Acc (arrayGrowIfFull b c size) (optId b) (fun g => optId g.1) := by
  unfold arrayGrowIfFull
  split
  · exact Acc_arrayRealloc _ _
  · exact Acc.ret _ _ _ rfl

/-! ### subscripts -/

/-- find-or-insert: `ek` are the caller's key blocks (consumed either way), `extra` what `f` consumes. -/
theorem Acc_slotUpdL (k : List Nat) (newKey : LM Nat) (found : LM Unit) (f : LDoc → LM LDoc) (ek extra : List Nat)
    (hnew : Acc newKey ek (fun kid => [kid])) (hfound : Acc found ek (fun _ => [])) (hf : Good f extra)
    (s : List LSlot) : Acc (slotUpdL k newKey found f s) (ownedSlots s ++ (ek ++ extra)) (fun s' => ownedSlots s') := by
  induction s with
  | nil =>
    rw [slotUpdL]
    refine Acc.bind (hnew.frame extra) (fun kid => Acc.map _ ?_)
    simp only [ownedSlots_some, ownedSlots_nil]
    exact ((hf .undef).frame [kid]).permPre List.perm_append_comm
  | cons a r ih =>
    cases a with
    | none => rw [slotUpdL]; exact Acc.map _ ih
    | some e =>
      obtain ⟨kid, k', v⟩ := e
      rw [slotUpdL]
      split
      · -- the member exists: the caller's key goes, then `f` works on the member's value
        refine Acc.bindF (owned v ++ extra ++ kid :: ownedSlots r) hfound ?_ (fun _ => Acc.map _ ((hf v).frame _))
        simp only [ownedSlots_some]
        perm_count
      · refine Acc.map _ ?_
        simp only [ownedSlots_some, List.append_assoc, List.cons_append]
        exact (ih.frameL [kid]).frameL (owned v)

theorem Acc_callerKey (kv : KV) : Acc (callerKey kv) [] (fun ck => ck.ids) := by
  cases kv with
  | plain => exact Acc.ret _ _ _ rfl
  | moved => exact Acc.map _ Acc_alloc
  | constCopy => exact Acc.map _ Acc_alloc

theorem Acc_newKeyOf (ck : CKey) : Acc (newKeyOf ck) ck.ids (fun kid => [kid]) := by
  cases ck with
  | plain => exact Acc_alloc
  | moved t => exact Acc.ret _ _ _ rfl
  | constCopy t => exact Acc.bind (Acc_alloc.keep [t]) (fun kid => Acc.map _ ((Acc_freeB t).frame [kid]))

theorem Acc_foundOf (ck : CKey) : Acc (foundOf ck) ck.ids (fun _ => []) := by
  cases ck with
  | plain => exact Acc.ret _ _ _ rfl
  | moved t => exact Acc_freeB t
  | constCopy t => exact Acc_freeB t

theorem Good_updKeyL (k : List Nat) (kv : KV) (f : LDoc → LM LDoc) (extra : List Nat) (hf : Good f extra) :
    Good (updKeyL k kv f) extra := by
  intro d
  unfold updKeyL
  refine Acc.bind (((Acc_callerKey kv).keep extra).frameL (owned d)) (fun ck => ?_)
  refine Acc.bind (mid := fun o => ownedSlots o.2.2 ++ optId o.1 ++ (extra ++ ck.ids)) ?_ (fun o => ?_)
  · split
    · exact Acc.ret _ _ _ rfl
    · exact Acc.map _ ((Acc_dispose d).frame _)
  refine Acc.bind ((Acc_tableExpandIfFull o.1 o.2.1 o.2.2).frame _) (fun e => ?_)
  exact Acc.bindF (optId e.1) (Acc_slotUpdL k _ _ f ck.ids extra (Acc_newKeyOf ck) (Acc_foundOf ck) hf e.2.2)
    (by perm_count) (fun s' => Acc.ret _ _ _ rfl)

theorem Acc_setAtIdxL (f : LDoc → LM LDoc) (extra : List Nat) (hf : Good f extra) (l : List LDoc) (i : Nat)
    (hi : i < l.length) : Acc (setAtIdxL i f l) (ownedItems l ++ extra) (fun l' => ownedItems l') := by
  induction l generalizing i with
  | nil => exact absurd hi (Nat.not_lt_zero _)
  | cons d r ih =>
    cases i with
    | zero =>
      rw [setAtIdxL]
      exact Acc.bindF (ownedItems r) (hf d) (by rw [ownedItems_cons]; perm_count) (fun d' => Acc.ret _ _ _ rfl)
    | succ i =>
      rw [setAtIdxL]
      refine Acc.map _ ?_
      simp only [ownedItems_cons, List.append_assoc]
      exact (ih i (Nat.lt_of_succ_lt_succ hi)).frameL (owned d)

theorem Acc_freshIdx (i : Nat) (f : LDoc → LM LDoc) (extra : List Nat) (hf : Good f extra) :
    Acc (freshIdx i f) extra (fun d => owned d) := by
  unfold freshIdx
  refine Acc.bind (Acc_alloc.keep extra) (fun nb => Acc.map _ ?_)
  simp only [owned_arr, ownedItems_append, ownedItems_replicate_undef, ownedItems_cons, ownedItems_nil, optId_some,
    List.nil_append, List.append_nil]
  exact (hf .undef).frame [nb]

theorem Good_updIdxL (i : Nat) (f : LDoc → LM LDoc) (extra : List Nat) (hf : Good f extra) :
    Good (updIdxL i f) extra := by
  intro d
  have hreset : Acc (LM.bind (dispose d) (fun _ => freshIdx i f)) (owned d ++ extra) (fun d' => owned d') :=
    Acc.bind ((Acc_dispose d).frame extra) (fun _ => Acc_freshIdx i f extra hf)
  unfold updIdxL
  split
  · rename_i b c items
    have hgrow : ∀ (m : LM (Option Nat × Nat)) (pad : List LDoc), Acc m (optId b) (fun g => optId g.1) →
        ownedItems pad = [] →
        Acc (LM.bind m (fun g => LM.bind (f .undef) (fun v => LM.pure (.arr g.1 g.2 (items ++ pad ++ [v])))))
          (owned (.arr b c items) ++ extra) (fun d' => owned d') := by
      intro m pad hm hpad
      refine Acc.permPre (pre := ownedItems items ++ extra ++ optId b) ?_ (by rw [owned_arr]; perm_count)
      refine Acc.bind (hm.frameL _) (fun g => Acc.map _ ?_)
      simp only [owned_arr, ownedItems_append, hpad, ownedItems_cons, ownedItems_nil, List.append_nil]
      exact ((hf .undef).frameL _).frame _
    split
    · rename_i hi
      exact Acc.bindF (optId b) (Acc_setAtIdxL f extra hf items i hi) (by rw [owned_arr]; perm_count)
        (fun its => Acc.ret _ _ _ rfl)
    · split
      · simpa using hgrow _ [] (Acc_arrayGrowIfFull b c items.length) rfl
      · exact hgrow _ _ (Acc_arrayRealloc b (i + 1)) (ownedItems_replicate_undef _)
  · rename_i b c s
    split
    · rename_i kid k v hs
      obtain ⟨pre, post, rfl, rfl⟩ := getElem?_split hs
      refine Acc.map _ ?_
      simp only [set_at_length, owned_obj, ownedSlots_append, ownedSlots_some]
      exact ((((hf v).frame (kid :: ownedSlots post)).frameL (ownedSlots pre)).frame (optId b)).permPre (by perm_count)
    · exact hreset
  · exact hreset

theorem Good_updPathL (p : List LSel) (f : LDoc → LM LDoc) (extra : List Nat) (hf : Good f extra) :
    Good (updPathL p f) extra := by
  induction p with
  | nil => exact hf
  | cons sel rest ih =>
    cases sel with
    | key k kv => exact Good_updKeyL k kv _ extra ih
    | idx i => exact Good_updIdxL i _ extra ih

/-! ### leaf actions -/

theorem Good_replaceBy (x : LDoc) : Good (replaceBy x) (owned x) :=
  fun v => Acc.map _ ((Acc_dispose v).frame (owned x))

theorem Good_replaceByCopy (x : LDoc) : Good (replaceByCopy x) [] :=
  .of_acc fun v => Acc.bind (Acc_dispose v) (fun _ => Acc_copyL x)

theorem Good_pure : Good LM.pure [] := .of_acc fun _ => Acc.ret _ _ _ rfl

theorem Acc_asArrL (v : LDoc) : Acc (asArrL v) (owned v) (fun a => ownedItems a.2.2 ++ optId a.1) := by
  unfold asArrL
  split
  · exact Acc.ret _ _ _ rfl
  · exact Acc.map _ (Acc_dispose v)

theorem Good_pushL (x : LDoc) : Good (pushL x) (owned x) := by
  intro v
  unfold pushL
  refine Acc.bind ((Acc_asArrL v).frame (owned x)) (fun a => Acc.map _ ?_)
  simp only [owned_arr, ownedItems_append, ownedItems_cons, ownedItems_nil, List.append_nil]
  exact ((Acc_arrayGrowIfFull a.1 a.2.1 a.2.2.length).frameL (ownedItems a.2.2 ++ owned x)).permPre (by perm_count)

theorem Acc_mergeSlotsL_move (src acc : List LSlot) :
    Acc (mergeSlotsL false src acc) (ownedSlots acc ++ ownedSlots src) (fun s' => ownedSlots s') := by
  induction src generalizing acc with
  | nil => exact Acc.ret _ _ _ (List.append_nil _)
  | cons a t ih =>
    cases a with
    | none => rw [mergeSlotsL]; exact ih acc
    | some e =>
      obtain ⟨kid, k, v⟩ := e
      simp only [mergeSlotsL, Bool.false_eq_true, if_false]
      exact Acc.bindF (ownedSlots t)
        (Acc_slotUpdL k _ _ _ [kid] (owned v) (Acc.ret _ _ _ rfl) (Acc_freeB kid) (Good_replaceBy v) acc)
        (by rw [ownedSlots_some]; perm_count) ih

theorem Acc_mergeSlotsL_copy (src acc : List LSlot) :
    Acc (mergeSlotsL true src acc) (ownedSlots acc) (fun s' => ownedSlots s') := by
  induction src generalizing acc with
  | nil => exact Acc.ret _ _ _ rfl
  | cons a t ih =>
    cases a with
    | none => rw [mergeSlotsL]; exact ih acc
    | some e =>
      obtain ⟨kid, k, v⟩ := e
      simp only [mergeSlotsL, if_true]
      exact Acc.bind
        ((Acc_slotUpdL k _ _ _ [] [] Acc_alloc (Acc.ret _ _ _ rfl) (Good_replaceByCopy v) acc).permPre
          (by rw [List.append_nil, List.append_nil]))
        ih

theorem Acc_objMergeL_move (b : Option Nat) (c : Nat) (s : List LSlot) (sb : Option Nat) (src : List LSlot) :
    Acc (objMergeL false b c s sb src) (ownedSlots s ++ optId b ++ (ownedSlots src ++ optId sb)) (fun d => owned d) := by
  unfold objMergeL
  refine Acc.bind (mid := fun t => ownedSlots t.2.2 ++ optId t.1 ++ (ownedSlots src ++ optId sb)) ?_ (fun t => ?_)
  · split
    · exact (Acc_tableResize b s _).frame _
    · exact Acc.ret _ _ _ rfl
  refine Acc.bindF (optId t.1 ++ optId sb) (Acc_mergeSlotsL_move src t.2.2) (by perm_count) (fun s' => ?_)
  simp only [Bool.false_eq_true, if_false]
  exact Acc.map _ (((Acc_freeOpt sb).useL (optId t.1)).frameL (ownedSlots s'))

theorem Acc_objMergeL_copy (b : Option Nat) (c : Nat) (s : List LSlot) (sb : Option Nat) (src : List LSlot) :
    Acc (objMergeL true b c s sb src) (ownedSlots s ++ optId b) (fun d => owned d) := by
  unfold objMergeL
  refine Acc.bind (mid := fun t => ownedSlots t.2.2 ++ optId t.1) ?_ (fun t => ?_)
  · split
    · exact Acc_tableResize b s _
    · exact Acc.ret _ _ _ rfl
  refine Acc.bind ((Acc_mergeSlotsL_copy src t.2.2).frame (optId t.1)) (fun s' => ?_)
  simp only [if_true]
  exact Acc.map _ (Acc.ret _ _ _ rfl)

theorem Good_addValueL_move (x : LDoc) : Good (addValueL false x) (owned x) := by
  intro v
  unfold addValueL
  split
  · exact Acc_objMergeL_move _ _ _ _ _
  · rw [if_neg Bool.false_ne_true]; exact Good_pushL x v

theorem Good_addValueL_copy (x : LDoc) : Good (addValueL true x) [] := by
  refine .of_acc fun v => ?_
  unfold addValueL
  split
  · exact Acc_objMergeL_copy _ _ _ _ _
  · rw [if_pos rfl]; exact Acc.bind ((Acc_copyL x).keep (owned v)) (fun x' => Good_pushL x' v)

theorem Good_addObjL (x : LDoc) : Good (addObjL x) (owned x) := by
  intro v
  unfold addObjL
  split
  · exact Acc_objMergeL_move _ _ _ _ _
  · exact Good_pushL x v

theorem Acc_pushAllL (xs : List LDoc) (v : LDoc) : Acc (pushAllL xs v) (owned v ++ ownedItems xs) (fun d => owned d) := by
  induction xs generalizing v with
  | nil => exact Acc.ret _ _ _ (List.append_nil _)
  | cons x r ih =>
    rw [pushAllL]
    exact Acc.bind (((Good_pushL x v).frame (ownedItems r)).permPre (by rw [ownedItems_cons, List.append_assoc])) ih

theorem Acc_arrConcatL (sb : Option Nat) (sc : Nat) (xs : List LDoc) (v : LDoc) :
    Acc (arrConcatL sb sc xs v) (owned v ++ (ownedItems xs ++ optId sb)) (fun d => owned d) := by
  unfold arrConcatL
  refine Acc.bind ((Acc_asArrL v).frame _) (fun a => ?_)
  split
  · exact Acc.map _ ((((Acc_freeOpt a.1).frameL _).frame _).permPost
      (fun _ => by rw [owned_arr, ownedItems_append, List.append_nil, List.append_assoc]))
  · refine Acc.bind (mid := fun g => ownedItems a.2.2 ++ optId g.1 ++ (ownedItems xs ++ optId sb)) ?_ (fun g => ?_)
    · split
      · exact ((Acc_arrayRealloc a.1 _).frameL _).frame _
      · exact Acc.ret _ _ _ rfl
    · exact Acc.map _ ((((Acc_freeOpt sb).frameL (ownedItems xs)).frameL _).permPost
        (fun _ => by rw [owned_arr, ownedItems_append, List.append_nil]; perm_count))

theorem Good_addArrL (x : LDoc) : Good (addArrL x) (owned x) := by
  intro v
  unfold addArrL
  split
  · exact Acc_arrConcatL _ _ _ v
  · exact Good_pushL x v

theorem ownedItems_dropUndefL : ∀ l : List LDoc, ownedItems (dropUndefL l) = ownedItems l
  | [] => rfl
  | a :: t => by
    have ih := ownedItems_dropUndefL t
    unfold dropUndefL
    split
    · rename_i h; cases h
    · rename_i h; cases h; exact ih
    · rename_i h; cases h; exact congrArg (owned a ++ ·) ih

theorem owned_vivArr (v : LDoc) : owned (vivArr v) = owned v := by
  cases v <;> rfl

theorem Good_mergeL_move (x : LDoc) : Good (mergeL false x) (owned x) := by
  intro v
  unfold mergeL
  rw [← owned_vivArr v]
  generalize vivArr v = v1
  unfold mergeCoreL
  split
  · rename_i b c items sb sc xs
    rw [if_neg Bool.false_ne_true]
    exact Acc.bind
      (((Acc_pushAllL (dropUndefL xs) _).frame (optId sb)).permPre
        (by rw [ownedItems_dropUndefL, List.append_assoc]; exact List.Perm.refl _))
      (fun r => Acc.map _ ((Acc_freeOpt sb).useL (owned r)))
  · exact Acc_objMergeL_move _ _ _ _ _
  · rw [if_neg Bool.false_ne_true]
    exact Acc.map _ ((Acc_dispose x).useL (owned v1))

theorem Good_mergeL_copy (x : LDoc) : Good (mergeL true x) [] := by
  refine .of_acc fun v => ?_
  unfold mergeL
  rw [← owned_vivArr v]
  generalize vivArr v = v1
  unfold mergeCoreL
  split
  · rename_i b c items sb sc xs
    rw [if_pos rfl]
    exact Acc.bind ((Acc_copyItemsL (dropUndefL xs)).keep _) (fun ys => Acc_pushAllL ys _)
  · exact Acc_objMergeL_copy _ _ _ _ _
  · rw [if_pos rfl]
    exact Acc.ret _ _ _ rfl

theorem Acc_slotRemoveL (k : List Nat) (s : List LSlot) :
    Acc (slotRemoveL k s) (ownedSlots s) (fun s' => ownedSlots s') := by
  induction s with
  | nil => exact Acc.ret _ _ _ rfl
  | cons a r ih =>
    cases a with
    | none => rw [slotRemoveL]; exact Acc.map _ ih
    | some e =>
      obtain ⟨kid, k', v⟩ := e
      rw [slotRemoveL]
      split
      · exact Acc.bind ((Acc_dispose v).frame _) (fun _ => Acc.map _ ((Acc_freeB kid).frame _))
      · exact Acc.map _ ((ih.frameL [kid]).frameL (owned v))

theorem Good_removeKeyL (k : List Nat) : Good (removeKeyL k) [] := by
  refine .of_acc fun v => ?_
  unfold removeKeyL
  split
  · exact Acc.map _ ((Acc_slotRemoveL k _).frame _)
  · exact Acc.ret _ _ _ rfl

theorem Good_removeIdxL (i : Nat) : Good (removeIdxL i) [] := by
  refine .of_acc fun v => ?_
  unfold removeIdxL
  split
  · rename_i b c s
    split
    · rename_i kid k x hs
      obtain ⟨pre, post, rfl, rfl⟩ := getElem?_split hs
      simp only [set_at_length, owned_obj, ownedSlots_append, ownedSlots_some]
      exact Acc.bind ((((Acc_dispose x).frame _).frameL _).frame _) (fun _ => Acc.map _
        (((((Acc_freeB kid).frame _).frameL _).frame _).permPost
          (fun _ => by rw [owned_obj, ownedSlots_append, ownedSlots_none]; exact List.Perm.refl _)))
    · exact Acc.ret _ _ _ rfl
  · rename_i b c items
    split
    · rename_i hi
      exact Acc.map _ (((Acc_setAtIdxL _ _ (Good_replaceBy .undef) items i hi).permPre
        (by rw [owned_undef, List.append_nil])).frame _)
    · exact Acc.ret _ _ _ rfl
  · exact Acc.ret _ _ _ rfl

theorem Good_resetPayloadL : Good resetPayloadL [] := by
  refine .of_acc fun v => ?_
  unfold resetPayloadL
  split
  iterate 3 exact Acc.map _ (Acc_dispose _)
  all_goals exact Acc.ret _ _ _ rfl

mutual
theorem Acc_compressL : ∀ d, Acc (compressL d) (owned d) (fun d' => owned d')
  | .arr b c items => by
    simp only [compressL]
    refine Acc.bind (mid := fun g => ownedItems items ++ optId g.1) ?_ (fun g => Acc.map _ ?_)
    · split
      · exact Acc.ret _ _ _ rfl
      · split
        · exact Acc.map _ ((Acc_freeOpt b).frameL _)
        · exact (Acc_arrayRealloc b _).frameL _
    · exact (Acc_compressItemsL items).frame _
  | .obj b c slots => by
    simp only [compressL]
    refine Acc.bind (mid := fun g => ownedSlots slots ++ optId g.1) ?_ (fun g => Acc.map _ ?_)
    · split
      · exact Acc.map _ ((Acc_freeOpt b).frameL _)
      · split
        · exact (Acc_arrayRealloc b _).frameL _
        · exact Acc.ret _ _ _ rfl
    · exact (Acc_compressSlotsL slots).frame _
  | .undef => Acc.ret _ _ _ rfl
  | .null => Acc.ret _ _ _ rfl
  | .tru => Acc.ret _ _ _ rfl
  | .fls => Acc.ret _ _ _ rfl
  | .nat _ => Acc.ret _ _ _ rfl
  | .int _ => Acc.ret _ _ _ rfl
  | .real _ => Acc.ret _ _ _ rfl
  | .ptr _ => Acc.ret _ _ _ rfl
  | .str _ _ => Acc.ret _ _ _ rfl
theorem Acc_compressItemsL : ∀ l, Acc (compressItemsL l) (ownedItems l) (fun l' => ownedItems l')
  | [] => Acc.ret _ _ _ rfl
  | d :: r => by
    unfold compressItemsL
    split
    · rename_i h; cases h
    · rename_i h; cases h; exact Acc_compressItemsL r
    · rename_i h; cases h
      refine Acc.bind ((Acc_compressL d).frame _) (fun d' => Acc.map _ ?_)
      exact (Acc_compressItemsL r).frameL _
theorem Acc_compressSlotsL : ∀ l, Acc (compressSlotsL l) (ownedSlots l) (fun l' => ownedSlots l')
  | [] => Acc.ret _ _ _ rfl
  | none :: r => by rw [compressSlotsL]; exact Acc_compressSlotsL r
  | some (kid, k, v) :: r => by
    rw [compressSlotsL]
    refine Acc.bind ((Acc_compressL v).frame _) (fun v' => Acc.map _ ?_)
    exact ((Acc_compressSlotsL r).frameL [kid]).frameL (owned v')
end

theorem Good_clearL : Good clearL [] := by
  refine .of_acc fun v => ?_
  unfold clearL
  split
  · exact Acc.map _ ((Acc_freeAll _).frame _)
  · exact Acc.map _ ((Acc_freeAll _).frame _)
  · exact Acc.ret _ _ _ rfl

def optOwned (r : Option LDoc) : List Nat :=
  match r with
  | some x => owned x
  | none => []

theorem Acc_reserveL (k n : Nat) : Acc (reserveL k n) [] (fun r => optOwned r) := by
  unfold reserveL
  split
  · split
    · exact Acc.ret _ _ _ rfl
    · exact Acc.map _ Acc_alloc
  · split
    · exact Acc.ret _ _ _ rfl
    · exact Acc.map _ Acc_alloc
  · exact Acc.ret _ _ _ rfl

end Qentem.ValueLedger
