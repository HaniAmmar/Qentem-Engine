import Qentem.Proofs.NumToStrKept
/-! C10, Fixed and SemiFixed: on every run `formatStringNumberFixed` prints `%.{p}f` of the run's kept integer
`sig b fl p ru`, stripped for SemiFixed (`formatFixed_fixedText`) — by cases: a pure fraction, a run with an integer
part (through `point_layout`), a run that needs no rounding (the same layouts with nothing cut). -/
namespace Qentem.Proofs.NumToStr
open Qentem.NumToStr Qentem.Generated.NumToStr Qentem

/-- a single digit is all that is left: `0` (everything was rounded away) or `1` (the fraction was rounded up to one) -/
theorem digit_tail (fixedT : Bool) (s t' : List Nat) (k p fl n : Nat) (pi : Bool) (hn : n < 10) (hk : k ≤ t'.length)
    (hdrop : t'.drop k = [48 + n]) (hp : p ≤ 1048576) :
    (finishNumber s.length (s ++ t') (s.length + k) >>= fun s' =>
      if fixedT then fixedPad s.length s' (s.length + k) p fl true pi else pure s') =
    .ok (s ++ (if fixedT then fixedText (n * 10 ^ p) p else FmtSpec.stripFraction (fixedText (n * 10 ^ p) p))) := by
  rw [finishNumber_drop s _ k hk, ok_bind, hdrop]
  rw [fixedText_int]
  cases fixedT
  · simp only [Bool.false_eq_true, if_false, pure, Except.pure]
    rw [stripFraction_int, D_lt10 hn]; rfl
  · simp only [if_true]
    unfold fixedPad
    by_cases hp0 : p = 0
    · simp [hp0, D_lt10 hn, pure, Except.pure]
    · have hc : (s.length + fl = s.length + k ∨ (s ++ [48 + n].reverse).length - s.length = 1 ∨
          (!true) = true ∧ pi = true) := by right; left; simp
      rw [if_neg hp0, if_pos hc, zerosLarge_eq hp, ok_bind]
      simp [hp0, D_lt10 hn, Ch.dot, pure, Except.pure]

theorem zero_tail (fixedT : Bool) (s t : List Nat) (p fl : Nat) (ht : 0 < t.length) (hp : p ≤ 1048576) :
    (finishNumber s.length (s ++ t.set (t.length - 1) 48) (s.length + (t.length - 1)) >>= fun s' =>
      if fixedT then fixedPad s.length s' (s.length + (t.length - 1)) p fl true false else pure s') =
    .ok (s ++ (if fixedT then fixedText 0 p else FmtSpec.stripFraction (fixedText 0 p))) := by
  have e1 : (t.set (t.length - 1) 48).drop (t.length - 1) = [48 + 0] := by
    rw [drop_set_self _ _ _ (by omega), List.drop_of_length_le (by omega)]
  have := digit_tail fixedT s _ (t.length - 1) p fl 0 false (by decide) (by simp) e1 hp
  rwa [Nat.zero_mul] at this

theorem frac_tail (fixedT : Bool) (s t'' : List Nat) (k p fl T d w : Nat) (pi : Bool) (hk : k ≤ t''.length)
    (hdrop : t''.drop k = Rl T ++ List.replicate d 48 ++ [46, 48]) (hT10 : T % 10 ≠ 0)
    (hp : p = d + (D T).length + w) (hkfl : k < fl) (hp' : p ≤ 1048576) :
    (finishNumber s.length (s ++ t'') (s.length + k) >>= fun s' =>
      if fixedT then fixedPad s.length s' (s.length + k) p fl true pi else pure s') =
    .ok (s ++ (if fixedT then fixedText (T * 10 ^ w) p else FmtSpec.stripFraction (fixedText (T * 10 ^ w) p))) := by
  have hLpos : 0 < (D T).length := D_length_pos T
  subst hp
  rw [finishNumber_drop s _ k hk, ok_bind, hdrop, strip_fixedText_low T d w hT10, fixedText_low T d w]
  have hrev : (Rl T ++ List.replicate d 48 ++ [46, 48]).reverse = 48 :: 46 :: (List.replicate d 48 ++ D T) := by
    simp [Rl, List.reverse_append]
  rw [hrev]
  cases fixedT
  · rfl
  · simp only [if_true]
    unfold fixedPad
    have hlen : (s ++ 48 :: 46 :: (List.replicate d 48 ++ D T)).length = s.length + 2 + (d + (D T).length) := by simp; omega
    have hc : ¬ (s.length + fl = s.length + k ∨ (s ++ 48 :: 46 :: (List.replicate d 48 ++ D T)).length - s.length = 1 ∨
        (!true) = true ∧ pi = true) := by rw [hlen]; simp; omega
    rw [if_neg (by omega), if_neg hc, if_pos rfl, hlen]
    have h15 : csub 15 (s.length + 2 + (d + (D T).length)) (s.length + 2) = .ok (d + (D T).length) := by
      simp [csub, pure, Except.pure]
    have h16 : csub 16 (d + (D T).length + w) (d + (D T).length) = .ok w := by
      simp [csub, pure, Except.pure]
    rw [h15, ok_bind, h16, ok_bind, zerosLarge_eq (by omega), ok_bind]
    simp [pure, Except.pure]

theorem keptUp_zero {b i : Nat} (ru : Bool) (h : (D b).length ≤ i) : keptUp b i ru = 0 := by
  have hLpos : 0 < (D b).length := D_length_pos b
  have hlt : b < 10 ^ i := (D_length_le_iff (by omega)).mp h
  have hlt2 : b < 10 ^ (i + 1) := lt_of_lt_of_le hlt (Nat.pow_le_pow_right (by decide) (by omega))
  unfold keptUp upCode
  rw [Nat.div_eq_of_lt hlt, Nat.div_eq_of_lt hlt2]
  simp

theorem set_of_drop {t : List Nat} {k a : Nat} (h : t.drop k = [a]) : t.set k a = t := by
  have hk : t[k]? = some a := by
    have : (t.drop k)[0]? = some a := by rw [h]; rfl
    simpa using this
  apply List.ext_getElem?
  intro m
  rw [List.getElem?_set]
  by_cases hm : k = m
  · subst hm
    have hlt : k < t.length := by
      by_contra hc
      rw [List.getElem?_eq_none (by omega)] at hk; cases hk
    rw [if_pos rfl, hk]; simp [hlt]
  · simp [hm]

/-- `formatStringNumberFixed` on a pure fraction after the rounding block: the layout of the zeros and the point, the
reversal, the padding -/
def fixedLow (fixedT : Bool) (start : Nat) (s : List Nat) (index nl fl p : Nat) (pi : Bool) : M (List Nat) := do
  let b ← fixedFraction start s index nl fl (fl - nl) pi
  let s ← finishNumber start b.1 b.2
  if fixedT then fixedPad start s b.2 p fl true pi else pure s

theorem formatFixed_low (fixedT : Bool) (s : List Nat) {b p fl : Nat} (ru : Bool)
    (hL : (D b).length ≤ fl) (hZ : fl - (D b).length ≤ p) :
    formatFixed fixedT s.length (s ++ Rl b) p fl ru = (do
      let a ← fixedRound s.length (s ++ Rl b) p fl ru
      fixedLow fixedT s.length a.1 a.2.1 (D b).length fl p a.2.2) := by
  have hLpos : 0 < (D b).length := D_length_pos b
  have hdiff : (if (D b).length < fl then fl - (D b).length else 0) = fl - (D b).length := by split <;> omega
  unfold formatFixed fixedLow
  rw [csub_Rl, ok_bind]
  simp only [hdiff, decide_eq_true hL, ne_eq, show ¬ (fl = 0) by omega, not_false_eq_true, if_true, hZ, pure_bind]

/-- carry out of the top digit of a pure fraction: `0.0…01` (or `1` when the first fractional digit carried) -/
theorem fixed_carry_case (fixedT : Bool) (s t' : List Nat) (k p fl nl : Nat) (hdrop : t'.drop k = [49])
    (htl : t'.length = k + 1) (hk : k ≤ nl) (hnl : nl ≤ fl) (hdp : fl - nl ≤ p) (hp : p ≤ 1048576) :
    fixedLow fixedT s.length (s ++ t') (s.length + k) nl fl p true =
    .ok (s ++ (if fixedT then fixedText (10 ^ (p - (fl - nl))) p
               else FmtSpec.stripFraction (fixedText (10 ^ (p - (fl - nl))) p))) := by
  have hidx : s.length + k < (s ++ t').length := by rw [List.length_append, htl]; omega
  unfold fixedLow fixedFraction
  rw [if_pos hnl, if_pos (Or.inr rfl)]
  by_cases hd0 : fl - nl = 0
  · rw [hd0]
    simp only [ne_eq, not_true_eq_false, if_false, Bool.not_true, Bool.false_eq_true, pure_bind, Nat.sub_zero]
    have := digit_tail fixedT s t' k p fl 1 true (by decide) (by omega) hdrop hp
    rwa [Nat.one_mul] at this
  · rw [if_pos hd0]
    have h9 : csub 9 (s.length + k) (if s.length + k = (s ++ t').length then 1 else 0) = .ok (s.length + k) := by
      rw [if_neg (by omega)]; simp [csub, pure, Except.pure]
    have hw : wrAt s.length (s ++ t') (s.length + k) Ch.one = .ok (s ++ t') := by
      rw [wrAt_append s t' _ (by omega), show Ch.one = 49 from rfl, set_of_drop hdrop]
    have h10 : csub 10 (fl - nl) 1 = .ok (fl - nl - 1) := by
      simp [csub, pure, Except.pure]; omega
    simp only [if_true, h9, ok_bind, hw, pure_bind]
    rw [h10, ok_bind, zerosLarge_eq (by omega), ok_bind, pure_bind]
    simp only []
    have := frac_tail fixedT s (t' ++ List.replicate (fl - nl - 1) 48 ++ [46, 48]) k p fl 1 (fl - nl - 1) (p - (fl - nl)) true
      (by simp [htl]; omega)
      (by rw [List.append_assoc, List.drop_append_of_le_length (by omega), hdrop, show Rl 1 = [49] by decide]; simp)
      (by decide) (by rw [show (D 1).length = 1 by decide]; omega) (by omega) hp
    rw [Nat.one_mul] at this
    rw [show s ++ t' ++ List.replicate (fl - nl - 1) 48 ++ [Ch.dot, Ch.zero] =
      s ++ (t' ++ List.replicate (fl - nl - 1) 48 ++ [46, 48]) by simp [Ch.dot, Ch.zero]]
    exact this

theorem fixed_keep_case (fixedT : Bool) (s : List Nat) {t' : List Nat} {k nl T : Nat} (hKept : Kept t' nl k T false)
    (p fl w : Nat) (hnl : nl ≤ fl) (hpeq : p = (fl - nl) + (D T).length + w) (hp : p ≤ 1048576) :
    fixedLow fixedT s.length (s ++ t') (s.length + k) nl fl p false =
    .ok (s ++ (if fixedT then fixedText (T * 10 ^ w) p else FmtSpec.stripFraction (fixedText (T * 10 ^ w) p))) := by
  have htl := hKept.len
  have hk := hKept.lt
  have hdrop := hKept.drop
  have hidx : s.length + k < (s ++ t').length := by rw [List.length_append, htl]; omega
  unfold fixedLow fixedFraction
  rw [if_pos hnl, if_pos (Or.inl hidx)]
  have hfin := frac_tail fixedT s (t' ++ List.replicate (fl - nl) 48 ++ [46, 48]) k p fl T (fl - nl) w false
      (by simp [htl]; omega)
      (by rw [List.append_assoc, List.drop_append_of_le_length (by omega), hdrop]; simp)
      hKept.last hpeq (by omega) hp
  by_cases hd0 : fl - nl = 0
  · rw [hd0] at hfin ⊢
    simp only [ne_eq, not_true_eq_false, if_false, Bool.not_false, if_true, pure_bind]
    rw [show s ++ t' ++ [Ch.dot, Ch.zero] = s ++ (t' ++ List.replicate 0 48 ++ [46, 48]) by simp [Ch.dot, Ch.zero]]
    exact hfin
  · rw [if_pos hd0]
    have h10 : csub 10 (fl - nl) 0 = .ok (fl - nl) := by simp [csub, pure, Except.pure]
    simp only [Bool.false_eq_true, if_false, pure_bind]
    rw [h10, ok_bind, zerosLarge_eq (by omega), ok_bind, pure_bind]
    simp only []
    rw [show s ++ t' ++ List.replicate (fl - nl) 48 ++ [Ch.dot, Ch.zero] =
      s ++ (t' ++ List.replicate (fl - nl) 48 ++ [46, 48]) by simp [Ch.dot, Ch.zero]]
    exact hfin

theorem fixed_zero_case (fixedT : Bool) (s t : List Nat) (p fl : Nat) (ht : 0 < t.length) (hnl : t.length ≤ fl)
    (hp : p ≤ 1048576) :
    fixedLow fixedT s.length (s ++ t) (s.length + t.length) t.length fl p false =
    .ok (s ++ (if fixedT then fixedText 0 p else FmtSpec.stripFraction (fixedText 0 p))) := by
  unfold fixedLow fixedFraction
  have hc : ¬ (s.length + t.length < (s ++ t).length ∨ false = true) := by simp
  rw [if_pos hnl, if_neg hc]
  rw [csub_pred 11 _ ht, ok_bind, wrAt_append s t _ (by omega), ok_bind, pure_bind]
  exact zero_tail fixedT s t p fl ht hp

/-- the branch `number_length ≤ fraction_length` of `formatStringNumberFixed`, when more fractional digits than the
precision were produced -/
theorem formatFixed_lt1 (fixedT : Bool) (s : List Nat) {b p fl : Nat} (ru : Bool)
    (hL : (D b).length ≤ fl) (hpf : p < fl) (hp : p ≤ 1048576) :
    formatFixed fixedT s.length (s ++ Rl b) p fl ru =
      .ok (s ++ (if fixedT then fixedText (keptUp b (fl - (p + 1)) ru) p
                 else FmtSpec.stripFraction (fixedText (keptUp b (fl - (p + 1)) ru) p))) := by
  have hLpos : 0 < (D b).length := D_length_pos b
  by_cases hZ : fl - (D b).length ≤ p
  · rw [formatFixed_low fixedT s ru hL hZ]
    unfold fixedRound
    rw [if_pos hpf]
    by_cases hR2 : fl - (p + 1) + 1 = (D b).length
    · -- the rounding digit is the top digit of the run
      obtain ⟨r, t', hr, hr1, hskip, hcase⟩ := round_skip_top s hR2 ru
      rw [hr1] at hskip
      rw [hr, ok_bind, pure_bind]
      simp only []
      rw [hr1, hskip]
      rcases hcase with ⟨hpi, rfl, hK⟩ | ⟨hpi, hdrop, htl, hK⟩
      · rw [hpi, hK, ← Rl_length b,
          fixed_zero_case fixedT s (Rl b) p fl (by rw [Rl_length]; omega) (by rw [Rl_length]; omega) hp]
      · rw [hpi, hK, fixed_carry_case fixedT s t' (D b).length p fl (D b).length hdrop htl (Nat.le_refl _) hL hZ hp,
          show p - (fl - (D b).length) = 0 by omega, Nat.pow_zero]
    · obtain ⟨r, t', k, T, hr, hr1, hskip, hik, hKept, hkept⟩ := round_skip s (b := b) (i := fl - (p + 1)) (by omega) ru
      rw [hr1] at hskip
      rw [hr, ok_bind, pure_bind]
      simp only []
      rw [hr1, hskip]
      have hDTlen := hKept.digits
      have hkL := hKept.lt
      cases hpiv : r.2.2
      · simp only [hpiv, Bool.false_eq_true, if_false, Nat.add_zero] at hkept
        rw [fixed_keep_case fixedT s (hpiv ▸ hKept) p fl (k - (fl - (p + 1) + 1)) hL (by omega) hp, hkept]
      · have htl := hKept.len
        have hdrop := hKept.drop
        obtain ⟨hkL2, hT1⟩ := hKept.carry hpiv
        subst hT1
        simp only [hpiv, if_true, Nat.one_mul] at hkept
        rw [fixed_carry_case fixedT s t' k p fl (D b).length (by rw [hdrop]; decide) (by omega) (by omega) hL hZ hp,
          hkept, show k - (fl - (p + 1) + 1) + 1 = p - (fl - (D b).length) by omega]
  · have hdiff : (if (D b).length < fl then fl - (D b).length else 0) = fl - (D b).length := by split <;> omega
    unfold formatFixed
    rw [csub_Rl, ok_bind]
    simp only [hdiff, decide_eq_true hL, ne_eq, show ¬ (fl = 0) by omega, not_false_eq_true, if_true, if_neg hZ]
    have ht : 0 < (Rl b).length := by rw [Rl_length]; exact hLpos
    rw [← Rl_length b, csub_pred 13 _ ht, ok_bind, wrAt_append s (Rl b) _ (by omega), ok_bind, pure_bind]
    rw [keptUp_zero ru (by omega)]
    exact zero_tail fixedT s (Rl b) p fl ht hp

theorem formatFixed_ge1 (fixedT : Bool) (s : List Nat) {b p fl : Nat} (ru : Bool)
    (hpf : p < fl) (hL : fl < (D b).length) (hp : p ≤ 1048576) :
    formatFixed fixedT s.length (s ++ Rl b) p fl ru =
      .ok (s ++ (if fixedT then fixedText (keptUp b (fl - (p + 1)) ru) p
                 else FmtSpec.stripFraction (fixedText (keptUp b (fl - (p + 1)) ru) p))) := by
  obtain ⟨r, t', k, T, hr, hr1, hskip, hik, hKept, hkept⟩ := round_skip s (b := b) (i := fl - (p + 1)) (by omega) ru
  obtain ⟨r2, hr2, hfin, hpad⟩ := point_layout 12 s (c := fl - (p + 1) + 1) hKept (by omega) (by omega) hL hik hkept
  have hpad := hpad p (by omega) hp
  rw [show fl - (fl - (p + 1) + 1) = p by omega] at hfin hpad
  rw [Nat.sub_self, Nat.pow_zero, Nat.mul_one] at hpad
  unfold formatFixed
  rw [csub_Rl, ok_bind]
  have hdiff : (if (D b).length < fl then fl - (D b).length else 0) = 0 := by split <;> omega
  simp only [ne_eq, show ¬ (fl = 0) by omega, not_false_eq_true, if_true, hdiff, Nat.zero_le]
  unfold fixedRound
  rw [if_pos hpf, hr, ok_bind, pure_bind]
  simp only []
  rw [hr1] at hskip ⊢
  rw [hskip, fixedFraction_point (by omega), hr2, ok_bind, pure_bind]
  simp only []
  rw [hfin, ok_bind, show decide ((D b).length ≤ fl) = false by simp; omega]
  cases fixedT
  · rfl
  · exact hpad

/-- no rounding (`0 < fl ≤ p`) and no trailing zero: the layouts see the run as it is -/
theorem formatFixed_exact (fixedT : Bool) (s : List Nat) {b fl p : Nat} (hb : 0 < b) (hb10 : b % 10 ≠ 0)
    (hfl0 : 0 < fl) (hfl : fl ≤ p) (hp : p ≤ 1048576) :
    formatFixed fixedT s.length (s ++ Rl b) p fl false =
      .ok (s ++ (if fixedT then fixedText (b * 10 ^ (p - fl)) p
                 else FmtSpec.stripFraction (fixedText (b * 10 ^ (p - fl)) p))) := by
  have hLpos : 0 < (D b).length := D_length_pos b
  by_cases hlen : (D b).length ≤ fl
  · -- a pure fraction
    rw [formatFixed_low fixedT s false hlen (by omega)]
    unfold fixedRound
    rw [if_neg (by omega), pure_bind]
    exact fixed_keep_case fixedT s (Kept.unrounded hb hb10) p fl (p - fl) hlen (by omega) hp
  · unfold formatFixed
    rw [csub_Rl, ok_bind]
    unfold fixedRound
    simp only [ne_eq, show ¬ (fl = 0) by omega, not_false_eq_true, if_true, show ¬ (p < fl) by omega, if_false, pure_bind]
    have hdiff : (if (D b).length < fl then fl - (D b).length else 0) = 0 := by split <;> omega
    obtain ⟨r2, hr2, hfin, hpad⟩ := point_layout 12 s (c := 0) (K := b) (Kept.unrounded hb hb10) hfl0
      (Nat.zero_le _) (by omega) (Nat.le_refl _) (by simp)
    have hpad := hpad p (by omega) hp
    rw [Nat.sub_zero] at hfin hpad
    have hstrip : FmtSpec.stripFraction (fixedText b fl) = FmtSpec.stripFraction (fixedText (b * 10 ^ (p - fl)) p) := by
      have h0 := strip_fixedText_shift b fl 0 hfl0 hb10
      rw [Nat.pow_zero, Nat.mul_one, Nat.add_zero] at h0
      rw [h0, show p = fl + (p - fl) by omega, Nat.add_sub_cancel_left, strip_fixedText_shift b fl _ hfl0 hb10]
    have hr2' : pointOrZeros 12 s.length (s ++ Rl b) s.length (D b).length fl false = .ok r2 := hr2
    simp only [hdiff, Nat.zero_le, if_true]
    rw [fixedFraction_point hlen, hr2', ok_bind]
    rw [hfin, ok_bind, decide_eq_false hlen, ← hstrip]
    cases fixedT
    · rfl
    · exact hpad

theorem formatFixed_fixedText (fixedT : Bool) (s : List Nat) {b p fl : Nat} (ru : Bool) (hb : 0 < b) (hp : p ≤ 1048576)
    (hshort : fl ≤ p → ru = false ∧ (0 < fl → b % 10 ≠ 0)) :
    formatFixed fixedT s.length (s ++ Rl b) p fl ru =
      .ok (s ++ (if fixedT then fixedText (sig b fl p ru) p else FmtSpec.stripFraction (fixedText (sig b fl p ru) p))) := by
  by_cases hpf : p < fl
  · rw [sig_long hpf, show fl - p - 1 = fl - (p + 1) by omega]
    by_cases hL : (D b).length ≤ fl
    · exact formatFixed_lt1 fixedT s ru hL hpf hp
    · exact formatFixed_ge1 fixedT s ru hpf (by omega) hp
  · obtain ⟨rfl, h10⟩ := hshort (by omega)
    rw [sig_short (by omega)]
    by_cases hfl0 : fl = 0
    · subst hfl0
      rw [formatFixed_integer fixedT s (Rl b) p hp, Nat.sub_zero, fixedText_int, stripFraction_int]
      cases fixedT <;> by_cases hp0 : p = 0 <;> simp [Rl, hp0]
    · exact formatFixed_exact fixedT s hb (h10 (by omega)) (by omega) (by omega) hp

end Qentem.Proofs.NumToStr
