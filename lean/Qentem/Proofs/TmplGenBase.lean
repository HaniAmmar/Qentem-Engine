import Qentem.Proofs.TmplWords
/-!
# C02 — the parser on printed text, from a state in general position

Printed text is described by words at positions (`At c p w`, with the finder and the scanners of `parse` run over such
words in Proofs/TmplWords.lean).  A state of the main loop on printed text is given by the position its finder was last
asked from (`stP`), and what the loop does over a piece of text is a run of steps between two such states (`Steps`).
Each step equation says what `step` returns at one tag word, ending in the scanner before the next position.  With
them: a run of segments from a state in general position (`stAtC`: any `loopChain`, inside or outside an inline
container), the steps of `<if>` chains, the loop step under a parent chain (`LoopD`).
-/
namespace Qentem.Tmpl
open Qentem.Expr (Fault rd ScanCfg VarRef Item Num Val Env RealLike)
open Qentem.Generated.Tmpl

variable {R : Type}

/-- the parser state inside a loop body -/
def stAtL (ch : List LoopRef) (stk : List (Frame R)) (acc : List (Tag R)) (o m : Nat) : PState R :=
  { storage := acc, stack := stk, loopChain := ch, isChild := false, off := o, mtch := m }

/-- the variable record `mkVar` makes from the answer of `checkLoopVariable` -/
def mkV (r : Option (Nat × Nat)) (off len : Nat) : VarRef :=
  match r with
  | some (a, b) => ⟨off, len, a, b⟩
  | none => ⟨off, len, 0, 0⟩

theorem parseMain_step (cfg : ScanCfg R) (c : List Nat) (f : Nat) (st st' : PState R) (hm : st.mtch ≠ 0)
    (h : step cfg c st = .ok st') : parseMain cfg c (f + 1) st = parseMain cfg c f st' := by
  simp only [parseMain, hm, ne_eq, not_false_eq_true, if_true, h, bind, Except.bind]

/-- the parser state in general position: any loop chain, inside or outside an inline container -/
def stAtC (ch : List LoopRef) (child : Bool) (stk : List (Frame R)) (acc : List (Tag R)) (o m : Nat) : PState R :=
  { storage := acc, stack := stk, loopChain := ch, isChild := child, off := o, mtch := m }

theorem finderNext_stAtC (c : List Nat) (ch : List LoopRef) (child : Bool) (stk : List (Frame R)) (acc : List (Tag R))
    (o m o' m' : Nat) (h : next c o = .ok (o', m')) :
    finderNext c (stAtC ch child stk acc o m) = .ok (stAtC ch child stk acc o' m') := by
  simp [finderNext, stAtC, h, bind, Except.bind]

/-- the finder's answer from position `p` on -/
def nx (c : List Nat) (p : Nat) : Nat × Nat :=
  match next c p with
  | .ok r => r
  | .error _ => (0, 0)

theorem nx_of {c : List Nat} {p : Nat} {r : Nat × Nat} (h : next c p = .ok r) : nx c p = r := by
  simp only [nx, h]

theorem next_nx {c : List Nat} {p : Nat} (h : p ≤ c.length) : next c p = .ok (nx c p) := by
  obtain ⟨o, m, hn, _⟩ := next_total c p h
  rw [nx_of hn, hn]

theorem nx_congr {c : List Nat} {p q : Nat} (h : next c p = next c q) : nx c p = nx c q := by
  simp only [nx, h]

-- used through the three lemmas above only: left reducible, every unification of states unfolds it into `next`
attribute [irreducible] nx

/-- the parser state whose finder has been asked from position `p` on -/
def stP (c : List Nat) (ch : List LoopRef) (child : Bool) (stk : List (Frame R)) (acc : List (Tag R)) (p : Nat) :
    PState R :=
  stAtC ch child stk acc (nx c p).1 (nx c p).2

theorem stP_eq {c : List Nat} {p o m : Nat} (h : next c p = .ok (o, m)) (ch : List LoopRef) (child : Bool)
    (stk : List (Frame R)) (acc : List (Tag R)) : stP c ch child stk acc p = stAtC ch child stk acc o m := by
  rw [stP, nx_of h]

theorem finderNext_stP (c : List Nat) (ch : List LoopRef) (child : Bool) (stk : List (Frame R)) (acc : List (Tag R))
    (o m : Nat) (h : o ≤ c.length) : finderNext c (stAtC ch child stk acc o m) = .ok (stP c ch child stk acc o) :=
  finderNext_stAtC c ch child stk acc o m _ _ (next_nx h)

/-- a computation that reaches `stAtC … o m` for whatever the finder answers from `q` reaches the scanner before `q` -/
theorem ok_stP {c : List Nat} {q : Nat} (hle : q ≤ c.length) {x : Except Fault (PState R)} {ch : List LoopRef} {child : Bool}
    {stk : List (Frame R)} {acc : List (Tag R)}
    (h : ∀ o m, next c q = .ok (o, m) → x = .ok (stAtC ch child stk acc o m)) : x = .ok (stP c ch child stk acc q) :=
  h _ _ (next_nx hle)

theorem stP_run {c t : List Nat} {p : Nat} (h : At c p t) (ht : plainL t) (ch : List LoopRef) (child : Bool)
    (stk : List (Frame R)) (acc : List (Tag R)) : stP c ch child stk acc p = stP c ch child stk acc (p + t.length) := by
  rw [stP, stP, nx_congr (h.run ht)]

/-- `n` steps of the main loop lead from `st` to `st'` -/
def Steps (cfg : ScanCfg R) (c : List Nat) (n : Nat) (st st' : PState R) : Prop :=
  ∀ fuel, parseMain cfg c (fuel + n) st = parseMain cfg c fuel st'

theorem Steps.refl (cfg : ScanCfg R) (c : List Nat) (st : PState R) : Steps cfg c 0 st st := fun _ => rfl

theorem Steps.trans {cfg : ScanCfg R} {c : List Nat} {n1 n2 : Nat} {a b d : PState R}
    (h1 : Steps cfg c n1 a b) (h2 : Steps cfg c n2 b d) : Steps cfg c (n1 + n2) a d := fun fuel => by
  rw [show fuel + (n1 + n2) = fuel + n2 + n1 by omega, h1, h2]

theorem Steps.one {cfg : ScanCfg R} {c : List Nat} {st st' : PState R} (hm : st.mtch ≠ 0)
    (h : step cfg c st = .ok st') : Steps cfg c 1 st st' := fun fuel => parseMain_step cfg c fuel st st' hm h

theorem Steps.first {cfg : ScanCfg R} {c : List Nat} {p o m : Nat} {ch : List LoopRef} {child : Bool}
    {stk : List (Frame R)} {acc : List (Tag R)} {st' : PState R} (hnx : next c p = .ok (o, m)) (hm : m ≠ 0)
    (h : step cfg c (stAtC ch child stk acc o m) = .ok st') : Steps cfg c 1 (stP c ch child stk acc p) st' := by
  rw [stP_eq hnx]; exact Steps.one hm h

theorem Steps.cast {cfg : ScanCfg R} {c : List Nat} {n n' : Nat} {a b b' : PState R}
    (h : Steps cfg c n a b) (hn : n = n') (hb : b = b') : Steps cfg c n' a b' := hn ▸ hb ▸ h

/-- the expression list `parse` stores for the text `[a, b)` under a loop chain -/
def itemsAtC (cfg : ScanCfg R) (c : List Nat) (ch : List LoopRef) (a b : Nat) : List (Item R) :=
  match exprs cfg c ch a b with
  | .ok l => l
  | .error _ => []

theorem exprs_itemsAtC (cfg : ScanCfg R) (c : List Nat) (ch : List LoopRef) (a b : Nat) (h : b < c.length) :
    exprs cfg c ch a b = .ok (itemsAtC cfg c ch a b) := by
  obtain ⟨items, hex⟩ := Qentem.Expr.parseTop_total ({ cfg with loopVar := loopVarPure c ch } : ScanCfg R) c a b h
  have hex' : exprs cfg c ch a b = .ok items := hex
  simp only [itemsAtC, hex']

/-- `p` is the position of the path -/
theorem stepVar_print (cfg : ScanCfg R) (c : List Nat) (child : Bool) (raw : Bool) (p : Nat) (pa : List Nat)
    (h : At c p (pa ++ [125])) (hp : plainL pa) (h0 : 0 < pa.length) (h255 : pa.length ≤ 255)
    (ch : List LoopRef) (stk : List (Frame R)) (acc : List (Tag R))
    (r : Option (Nat × Nat)) (hck : checkLoopVariable c p ch = .ok r) :
    step cfg c (stAtC ch child stk acc p (if raw then 3 else 2)) =
      .ok (stP c ch child stk (acc ++ [if raw then Tag.raw (mkV r p pa.length) else Tag.var (mkV r p pa.length)])
        (p + pa.length + 1)) := by
  rw [show step cfg c (stAtC ch child stk acc p (if raw then 3 else 2)) =
    stepVar c (stAtC ch child stk acc p (if raw then 3 else 2)) raw by cases raw <;> rfl]
  generalize (if raw then 3 else 2) = m
  refine ok_stP (by have := h.le; simp only [List.length_append, List.length_singleton] at this; omega)
    fun o' m' hnext => ?_
  have h1 : finderNext c (stAtC ch child stk acc p m) = .ok (stAtC ch child stk acc (p + pa.length + 1) 1) :=
    finderNext_stAtC c ch child stk acc _ m _ _ ((h.left.run hp).trans (next_at_close c _ h.right.head))
  have hlen : (p + pa.length + 1 - p - W1.inLineSuffixLength) % 256 = pa.length := by
    rw [show W1.inLineSuffixLength = 1 from rfl]; omega
  have htr : trunc bits_VariableTag_Length pa.length = pa.length := by
    simp only [trunc, show bits_VariableTag_Length = 16 from rfl]; omega
  have hne : pa.length ≠ 0 := by omega
  simp only [stepVar, h1, bind, Except.bind]
  cases r with
  | none =>
    simp only [stAtC, show W1.lineEndID = 1 from rfl, if_true, hlen, ne_eq, hne, not_false_eq_true, htr, mkVar, hck, bind,
      Except.bind, pure, Except.pure, finderNext, hnext, mkV]
  | some ab =>
    obtain ⟨a, b⟩ := ab
    simp only [stAtC, show W1.lineEndID = 1 from rfl, if_true, hlen, ne_eq, hne, not_false_eq_true, htr, mkVar, hck, bind,
      Except.bind, pure, Except.pure, finderNext, hnext, mkV]

/-- the two cases of `mathScan`'s loop body that occur on printed text -/
theorem mathScan_close (c : List Nat) (fuel : Nat) (st st' : PState R) (hm : st.mtch = 1)
    (h : finderNext c st = .ok st') : mathScan c (fuel + 1) st 0 = .ok (st', st.off) := by
  simp only [mathScan, hm, show W1.lineEndID = 1 from rfl, ne_eq, not_true_eq_false, and_false, if_false, pure,
    Except.pure, bind, Except.bind, if_true, h]

theorem mathScan_operand (c : List Nat) (fuel : Nat) (st st1 st2 : PState R) (hm : st.mtch = 2)
    (h1 : finderNext c st = .ok st1) (hm1 : st1.mtch = 1) (h2 : finderNext c st1 = .ok st2) :
    mathScan c (fuel + 1) st 0 = mathScan c fuel st2 0 := by
  simp only [mathScan, hm, show W1.lineEndID = 1 from rfl, show W1.mathID = 4 from rfl,
    show (2 : Nat) < 4 ∧ (2 : Nat) ≠ 1 from by decide, and_self, if_true, h1, bind, Except.bind, pure, Except.pure, hm1, ne_eq,
    show ¬ ((0 : Nat) + 1 = 0) by omega, not_false_eq_true, h2, Nat.add_sub_cancel]

/-- the `while (true)` of `case MathID` over the operands of the expression text: every
`{var:path}` is skipped, the `}` after the last stretch ends the tag -/
theorem mathScan_parts (c : List Nat) (ch : List LoopRef) (child : Bool) (hn : c.length + 16 < 4294967296) (stk : List (Frame R))
    (acc : List (Tag R)) (last : List Nat) (hl : plainL last) :
    ∀ (parts : List (List Nat × List Nat)) (p fuel : Nat),
      At c p (printMP parts ++ (last ++ [125])) → (∀ tp ∈ parts, plainL tp.1 ∧ plainL tp.2) →
      parts.length + 1 ≤ fuel →
      mathScan c fuel (stP c ch child stk acc p : PState R) 0 =
        .ok (stP c ch child stk acc (p + (printMP parts ++ last).length + 1), p + (printMP parts ++ last).length + 1) := by
  intro parts
  induction parts with
  | nil =>
    intro p fuel h _ hf
    simp only [printMP, List.nil_append] at h ⊢
    have hle : p + last.length + 1 ≤ c.length := by
      have := h.le; simp only [List.length_append, List.length_singleton] at this; omega
    rw [stP_eq ((h.left.run hl).trans (next_at_close c _ h.right.head))]
    obtain ⟨f, rfl⟩ : ∃ f, fuel = f + 1 := ⟨fuel - 1, by omega⟩
    exact mathScan_close c f _ _ rfl (finderNext_stP c ch child stk acc _ 1 hle)
  | cons tp r ih =>
    obtain ⟨t, q⟩ := tp
    intro p fuel h hall hf
    have htp := hall (t, q) (List.mem_cons_self ..)
    obtain ⟨f, rfl⟩ : ∃ f, fuel = f + 1 := ⟨fuel - 1, by simp only [List.length_cons] at hf; omega⟩
    simp only [printMP, List.append_assoc] at h
    obtain ⟨hv, hcl⟩ := next_operand c hn p t q _ h htp.1 htp.2
    have h4 : At c (p + t.length + 5 + q.length + 1) (printMP r ++ (last ++ [125])) := h.right.right.right.right
    rw [stP_eq hv, show p + (printMP ((t, q) :: r) ++ last).length + 1 =
        p + t.length + 5 + q.length + 1 + (printMP r ++ last).length + 1 by rw [printMP_cons_len]; omega,
      mathScan_operand c f _ _ _ rfl (finderNext_stAtC c ch child stk acc _ 2 _ _ hcl) rfl
        (finderNext_stP c ch child stk acc _ 1 (Nat.le_trans (Nat.le_add_right _ _) h4.le))]
    exact ih _ f h4 (fun x hx => hall x (List.mem_cons_of_mem _ hx)) (by simp only [List.length_cons] at hf; omega)

/-- `p` is the position of `e` -/
theorem stepMath_print (cfg : ScanCfg R) (c : List Nat) (ch : List LoopRef) (child : Bool) (hn : c.length + 16 < 4294967296)
    (p : Nat) (e : List Nat) (h : At c p (e ++ [125])) (hp : MathOk e)
    (stk : List (Frame R)) (acc : List (Tag R))
    (items : List (Item R)) (hex : exprs cfg c ch p (p + e.length) = .ok items) :
    step cfg c (stAtC ch child stk acc p 4) =
      .ok (stP c ch child stk (acc ++ [.math items (p - 6) (p + e.length + 1)]) (p + e.length + 1)) := by
  show stepMath cfg c (stAtC ch child stk acc p 4) = _
  obtain ⟨parts, last, rfl, hl, hall⟩ := hp
  rw [List.append_assoc] at h
  have hplen : parts.length + 1 ≤ c.length + 2 := by
    have := printMP_len_ge parts
    have := h.left.le
    omega
  have hscan := mathScan_parts c ch child hn stk acc last hl parts p (c.length + 2) h hall hplen
  simp only [stepMath, finderNext_stP c ch child stk acc p 4 (Nat.le_trans (Nat.le_add_right _ _) h.le), hscan, bind,
    Except.bind]
  simp only [stP, stAtC, show W1.inLineSuffixLength = 1 from rfl, show W1.mathPrefixLength = 6 from rfl, Nat.add_sub_cancel,
    hex, ne_eq, show ¬ (p + (printMP parts ++ last).length + 1 = 0) by omega, not_false_eq_true, if_true]

theorem stepIf_print (cfg : ScanCfg R) (c : List Nat) (p : Nat) (e : List Nat) (ch : List LoopRef)
    (h : At c p (IFOPEN ++ e ++ [34, 62])) (he : ∀ x ∈ e, x ≠ 34) (hlt : p + 12 + e.length < c.length)
    (stk : List (Frame R)) (acc : List (Tag R)) :
    step cfg c (stAtC ch false stk acc (p + 3) 9) =
      .ok (stP c ch false (.ifT acc [] (itemsAtC cfg c ch (p + 10) (p + 10 + e.length)) (p + 12 + e.length) p :: stk) []
        (p + 12 + e.length)) := by
  show stepIf cfg c (stAtC ch false stk acc (p + 3) 9) = _
  refine ok_stP (Nat.le_of_lt hlt) fun o1 m1 hnext => ?_
  have hpc := parseIfCase_word c (p + 3) e []
    (At.right (u := [60, 105, 102]) (v := 32 :: (W1.caseStr ++ 61 :: 34 :: (e ++ 34 :: ([] ++ [62])))) h) he
    (fun _ hx => nomatch hx)
  rw [show p + 3 + 9 + e.length + ([] : List Nat).length = p + 12 + e.length by simp only [List.length_nil]; omega,
    show p + 3 + 7 = p + 10 by omega] at hpc
  simp only [stepIf, stAtC, hpc, bind, Except.bind, hlt, if_true, exprs_itemsAtC cfg c ch _ _ (by omega : p + 10 + e.length < c.length),
    pure, Except.pure, push, finderNext, hnext, show W1.ifPrefixLength = 3 from rfl, Nat.add_sub_cancel]

theorem stepIfEnd_print (cfg : ScanCfg R) (c : List Nat) (ch : List LoopRef) (stk : List (Frame R)) (pre0 : List (Tag R)) (done : List (IfCase R))
    (cur : List (Item R)) (curOff off : Nat) (sub : List (Tag R)) (q : Nat) (hle : q + 5 ≤ c.length) :
    step cfg c (stAtC ch false (.ifT pre0 done cur curOff off :: stk) sub (q + 5) 10) =
      .ok (stP c ch false stk (pre0 ++ [.ifT (done ++ [.mk cur sub curOff q]) off (q + 5)]) (q + 5)) := by
  show stepIfEnd c (stAtC ch false (.ifT pre0 done cur curOff off :: stk) sub (q + 5) 10) = _
  refine ok_stP hle fun o2 m2 hnext => ?_
  simp only [stepIfEnd, stAtC, finderNext, hnext, bind, Except.bind, show W1.ifSuffixLength = 5 from rfl, Nat.add_sub_cancel]

theorem stepElse_print (cfg : ScanCfg R) (c : List Nat) (ch : List LoopRef) (stk : List (Frame R)) (pre0 : List (Tag R))
    (done : List (IfCase R)) (cur : List (Item R)) (curOff off : Nat) (sub : List (Tag R)) (q : Nat)
    (h : At c q ELSE) :
    step cfg c (stAtC ch false (.ifT pre0 done cur curOff off :: stk) sub (q + 5) 11) =
      .ok (stP c ch false (.ifT pre0 (done ++ [.mk cur sub curOff q]) [] (q + 8) off :: stk) [] (q + 8)) := by
  show stepElse cfg c (stAtC ch false (.ifT pre0 done cur curOff off :: stk) sub (q + 5) 11) = _
  refine ok_stP (show q + 8 ≤ c.length from h.le) fun o2 m2 hnext => ?_
  have h5 : c[q + 5]? = some 32 := h.get 5 (by decide)
  have h6 : c[q + 5 + 1]? = some 47 := h.get 6 (by decide)
  have h7 : c[q + 5 + 1 + 1]? = some 62 := h.get 7 (by decide)
  have hlt7 : q + 7 < c.length := (List.getElem?_eq_some_iff.mp h7).1
  have hscan : elseScan c (c.length + 1) (q + 5) = .ok (q + 7, false) := by
    rw [show c.length + 1 = (c.length - 2) + 1 + 1 + 1 by omega]
    simp [elseScan, Qentem.Expr.rd_ok h5, Qentem.Expr.rd_ok h6, Qentem.Expr.rd_ok h7, bind, Except.bind,
      show q + 5 < c.length by omega, show q + 5 + 1 < c.length by omega, show q + 5 + 1 + 1 < c.length by omega,
      show W1.multiLineLastChar = 62 by decide, show W1.ifPrefixFirst = 105 by decide]
  simp only [stepElse, stAtC, hscan, bind, Except.bind, Bool.false_eq_true, if_false, hlt7, if_true,
    show W1.elsePrefixLength = 5 from rfl, Nat.add_sub_cancel, finderNext, hnext]

theorem stepElif_print (cfg : ScanCfg R) (c : List Nat) (ch : List LoopRef) (stk : List (Frame R)) (pre0 : List (Tag R))
    (done : List (IfCase R)) (cur : List (Item R)) (curOff off : Nat) (sub : List (Tag R)) (q : Nat) (e : List Nat)
    (h : At c q (ELIF ++ e ++ ELIFEND)) (he : ∀ x ∈ e, x ≠ 34) (hlt : q + 18 + e.length < c.length) :
    step cfg c (stAtC ch false (.ifT pre0 done cur curOff off :: stk) sub (q + 5) 11) =
      .ok (stP c ch false (.ifT pre0 (done ++ [.mk cur sub curOff q])
        (itemsAtC cfg c ch (q + 14) (q + 14 + e.length)) (q + 18 + e.length) off :: stk) [] (q + 18 + e.length)) := by
  show stepElse cfg c (stAtC ch false (.ifT pre0 done cur curOff off :: stk) sub (q + 5) 11) = _
  refine ok_stP (Nat.le_of_lt hlt) fun o3 m3 hnext => ?_
  have h5 : c[q + 5]? = some 105 := h.get 5 (by simp [ELIF])
  have hl5 : q + 5 < c.length := (List.getElem?_eq_some_iff.mp h5).1
  have hscan : elseScan c (c.length + 1) (q + 5) = .ok (q + 7, true) := by
    simp [elseScan, Qentem.Expr.rd_ok h5, bind, Except.bind, hl5,
      show W1.multiLineLastChar = 62 by decide, show W1.ifPrefixFirst = 105 by decide,
      show W1.ifAfterElseLength = 2 by decide]
  have hpc := parseIfCase_word c (q + 7) e [32, 47]
    (At.right (u := [60, 101, 108, 115, 101, 105, 102]) (v := 32 :: (W1.caseStr ++ 61 :: 34 :: (e ++ 34 :: ([32, 47] ++ [62])))) h)
    he (by decide)
  rw [show q + 7 + 9 + e.length + [32, 47].length = q + 18 + e.length by simp only [List.length_cons, List.length_nil]; omega,
    show q + 7 + 7 = q + 14 by omega] at hpc
  have hne : q + 14 + e.length ≠ 0 := by omega
  simp only [stepElse, stAtC, hscan, bind, Except.bind, if_true, hpc, finderNext, hnext, hlt, hne, true_and, ne_eq,
    not_false_eq_true, exprs_itemsAtC cfg c ch _ _ (by omega : q + 14 + e.length < c.length),
    show W1.elsePrefixLength = 5 from rfl, Nat.add_sub_cancel]

theorem stepLoopEnd_print (cfg : ScanCfg R) (c : List Nat) (ch : List LoopRef) (ref : LoopRef) (acc sub : List (Tag R)) (f : LoopFields)
    (stk : List (Frame R)) (q : Nat) (hq : f.off + f.contentOff ≤ q) (hle : q + 7 ≤ c.length) :
    step cfg c (stAtC (ref :: ch) false (.loop acc f ch :: stk) sub (q + 7) 8) =
      .ok (stP c ch false stk (acc ++ [.loop sub { f with endOff := q }]) (q + 7)) := by
  show stepLoopEnd c (stAtC (ref :: ch) false (.loop acc f ch :: stk) sub (q + 7) 8) = _
  refine ok_stP hle fun o' m' hnext => ?_
  simp only [stepLoopEnd, stAtC, show W1.loopSuffixLength = 7 from rfl, Nat.add_sub_cancel, pure, Except.pure, bind,
    Except.bind, show ¬ (q < f.off + f.contentOff) by omega, if_false, finderNext, hnext]

/-- one enclosing loop: where its value name stands, the name, its level -/
structure LoopD where
  start : Nat
  V : List Nat
  lv : Nat

def LoopD.ref (d : LoopD) : LoopRef := ⟨d.start, d.V.length, d.lv⟩
def refsD (D : List LoopD) : List LoopRef := D.map LoopD.ref

/-- every enclosing loop's value name stands in the content at its recorded place and holds no `}` and no `"` -/
def ChainD (c : List Nat) (D : List LoopD) : Prop :=
  ∀ d ∈ D, (∃ B R, c = B ++ (d.V ++ R) ∧ B.length = d.start) ∧ (∀ x ∈ d.V, x ≠ 125 ∧ x ≠ 34)

theorem chainD_nil (c : List Nat) : ChainD c [] := fun _ h => nomatch h

/-- the first (innermost) loop whose value name is a prefix of `X`: (`IDLength`, `Level`) -/
def findV : List LoopD → List Nat → Option (Nat × Nat)
  | [], _ => none
  | d :: r, X => if d.V.isPrefixOf X then some (d.V.length, d.lv) else findV r X

theorem findV_none (pa : List Nat) : ∀ (D : List LoopD), (∀ d ∈ D, d.V.isPrefixOf pa = false) → findV D pa = none := by
  intro D
  induction D with
  | nil => intro _; rfl
  | cons d r ih =>
    intro h
    simp only [findV, h d (List.mem_cons_self ..), Bool.false_eq_true, if_false]
    exact ih (fun x hx => h x (List.mem_cons_of_mem _ hx))

/-- `IsEqual` of an enclosing loop's value name `V` against a path `pa` that is followed by a unit `s` not in `V` -/
theorem isEqualRange_at (c : List Nat) (s : Nat) : ∀ (V pa : List Nat) (p b : Nat), At c b V → At c p (pa ++ [s]) →
    (∀ x ∈ V, x ≠ s) → isEqualRange c V.length p b = .ok (V.isPrefixOf pa) := by
  intro V
  induction V with
  | nil => intro pa p b _ _ _; simp [isEqualRange]
  | cons v V' ih =>
    intro pa p b hb hp hV
    have hvs : v ≠ s := hV v (List.mem_cons_self ..)
    cases pa with
    | nil =>
      simp only [List.length_cons, isEqualRange, hp.read, hb.read, bind, Except.bind,
        List.isPrefixOf]
      exact if_neg fun h => hvs h.symm
    | cons a pa' =>
      simp only [List.length_cons, isEqualRange, hp.read, hb.read, bind, Except.bind,
        List.isPrefixOf]
      by_cases hav : a = v
      · subst hav
        simp only [if_true, beq_self_eq_true, Bool.true_and]
        exact ih pa' (p + 1) (b + 1) hb.tail hp.tail (fun y hy => hV y (List.mem_cons_of_mem _ hy))
      · have : (v == a) = false := by simpa using fun h => hav h.symm
        simp only [hav, if_false, this, Bool.false_and]

theorem checkLoopVariable_D (c : List Nat) (p s : Nat) (pa : List Nat) (h : At c p (pa ++ [s])) (hs : s = 125 ∨ s = 34) :
    ∀ (D : List LoopD), ChainD c D → checkLoopVariable c p (refsD D) = .ok (findV D pa) := by
  intro D
  induction D with
  | nil => intro _; rfl
  | cons d r ih =>
    intro hD
    obtain ⟨hat, hV⟩ := hD d (List.mem_cons_self ..)
    have hpre := isEqualRange_at c s d.V pa p d.start hat h
      (fun x hx => by rcases hs with h | h <;> subst h; exact (hV x hx).1; exact (hV x hx).2)
    simp only [refsD, List.map_cons, LoopD.ref, checkLoopVariable, hpre, bind, Except.bind, findV]
    cases d.V.isPrefixOf pa
    · simp only [Bool.false_eq_true, if_false]
      exact ih (fun x hx => hD x (List.mem_cons_of_mem _ hx))
    · simp

/-- the variable record of a path at `off` under the chain -/
def refD (D : List LoopD) (off : Nat) (pa : List Nat) : VarRef := mkV (findV D pa) off pa.length

theorem refD_off (D : List LoopD) (o : Nat) (pa : List Nat) : (refD D o pa).off = o := by
  simp only [refD, mkV]; split <;> rfl
theorem refD_len (D : List LoopD) (o : Nat) (pa : List Nat) : (refD D o pa).len = pa.length := by
  simp only [refD, mkV]; split <;> rfl

def tagsOfD (cfg : ScanCfg R) (c : List Nat) (D : List LoopD) (p : Nat) : List Seg → List (Tag R)
  | [] => []
  | .text s :: r => tagsOfD cfg c D (p + s.length) r
  | .var pa :: r => .var (refD D (p + 5) pa) :: tagsOfD cfg c D (p + 5 + pa.length + 1) r
  | .raw pa :: r => .raw (refD D (p + 5) pa) :: tagsOfD cfg c D (p + 5 + pa.length + 1) r
  | .math e :: r =>
    .math (itemsAtC cfg c (refsD D) (p + 6) (p + 6 + e.length)) p (p + 6 + e.length + 1) ::
      tagsOfD cfg c D (p + 6 + e.length + 1) r

theorem tagsOfD_nil (cfg : ScanCfg R) (c : List Nat) : ∀ (l : List Seg) (p : Nat),
    tagsOfD cfg c [] p l = tagsOf cfg c p l
  | [], _ => rfl
  | .text s :: r, p => by simp only [tagsOfD, tagsOf, tagsOfD_nil cfg c r]
  | .var pa :: r, p => by simp only [tagsOfD, tagsOf, tagsOfD_nil cfg c r]; rfl
  | .raw pa :: r, p => by simp only [tagsOfD, tagsOf, tagsOfD_nil cfg c r]; rfl
  | .math e :: r, p => by simp only [tagsOfD, tagsOf, tagsOfD_nil cfg c r]; rfl

theorem tagsOfD_append (cfg : ScanCfg R) (c : List Nat) (D : List LoopD) : ∀ (a b : List Seg) (p : Nat),
    tagsOfD cfg c D p (a ++ b) = tagsOfD cfg c D p a ++ tagsOfD cfg c D (p + (printSegs a).length) b := by
  intro a
  induction a with
  | nil => intro b p; simp [tagsOfD, printSegs]
  | cons s r ih =>
    intro b p
    cases s with
    | text t => simp only [List.cons_append, tagsOfD, ih, printSegs, printSeg, List.length_append]; congr 2; omega
    | var pa => simp only [List.cons_append, tagsOfD, ih, printSegs, printSeg, List.cons_append]; congr 3; simp; omega
    | raw pa => simp only [List.cons_append, tagsOfD, ih, printSegs, printSeg, List.cons_append]; congr 3; simp; omega
    | math e => simp only [List.cons_append, tagsOfD, ih, printSegs, printSeg, List.cons_append]; congr 3; simp; omega

theorem parseMain_var (cfg : ScanCfg R) (c : List Nat) (hn : c.length + 16 < 4294967296) (D : List LoopD) (hD : ChainD c D)
    (child raw : Bool) (stk : List (Frame R)) (acc : List (Tag R)) (p : Nat) (pa : List Nat)
    (h : At c p ((if raw then RAW else VAR) ++ (pa ++ [125]))) (hp : plainL pa) (h0 : 0 < pa.length) (h255 : pa.length ≤ 255) :
    Steps cfg c 1 (stP c (refsD D) child stk acc p)
      (stP c (refsD D) child stk (acc ++ [if raw then Tag.raw (refD D (p + 5) pa) else Tag.var (refD D (p + 5) pa)])
        (p + 5 + pa.length + 1)) := by
  have hr : At c (p + 5) (pa ++ [125]) := h.right.cast (by cases raw <;> rfl)
  have hnx : next c p = .ok (p + 5, if raw then 3 else 2) := by
    cases raw
    · exact (show At c p VAR from h.left).next_var hn
    · exact (show At c p RAW from h.left).next_raw hn
  exact Steps.first hnx (by cases raw <;> decide)
    (stepVar_print cfg c child raw (p + 5) pa hr hp h0 h255 (refsD D) stk acc _
      (checkLoopVariable_D c (p + 5) 125 pa hr (Or.inl rfl) D hD))

theorem parseMain_math (cfg : ScanCfg R) (c : List Nat) (hn : c.length + 16 < 4294967296) (D : List LoopD) (child : Bool)
    (stk : List (Frame R)) (acc : List (Tag R)) (p : Nat) (e : List Nat)
    (h : At c p (MATH ++ (e ++ [125]))) (he : MathOk e) :
    Steps cfg c 1 (stP c (refsD D) child stk acc p)
      (stP c (refsD D) child stk
        (acc ++ [.math (itemsAtC cfg c (refsD D) (p + 6) (p + 6 + e.length)) p (p + 6 + e.length + 1)])
        (p + 6 + e.length + 1)) := by
  have hr : At c (p + 6) (e ++ [125]) := h.right
  have hle : p + 6 + e.length + 1 ≤ c.length := by
    have := hr.le; simp only [List.length_append, List.length_singleton] at this; omega
  have hstep := stepMath_print cfg c (refsD D) child (by omega) (p + 6) e hr he stk acc _
    (exprs_itemsAtC cfg c _ _ _ (by omega))
  rw [Nat.add_sub_cancel] at hstep
  exact Steps.first (h.left.next_math hn) (Nat.succ_ne_zero _) hstep

theorem parseMain_segs (cfg : ScanCfg R) (c : List Nat) (hn : c.length + 16 < 4294967296)
    (D : List LoopD) (hD : ChainD c D) (child : Bool) (stk : List (Frame R)) :
    ∀ (segs : List Seg) (p : Nat) (acc : List (Tag R)), At c p (printSegs segs) → (∀ s ∈ segs, s.ok) →
      Steps cfg c (nTags segs) (stP c (refsD D) child stk acc p)
        (stP c (refsD D) child stk (acc ++ tagsOfD cfg c D p segs) (p + (printSegs segs).length))
  | [], p, acc, _, _ => (Steps.refl cfg c _).cast rfl (by simp only [tagsOfD, List.append_nil]; rfl)
  | sg :: rest, p, acc, h, hok => by
    have hokr : ∀ s ∈ rest, s.ok := fun s hs => hok s (List.mem_cons_of_mem _ hs)
    have hsg := hok sg (List.mem_cons_self ..)
    have h : At c p (printSeg sg ++ printSegs rest) := h
    have hr := h.right
    rw [show p + (printSegs (sg :: rest)).length = p + (printSeg sg).length + (printSegs rest).length by
      rw [Nat.add_assoc]; exact congrArg (p + ·) List.length_append]
    -- one tag `T` of `len` units, then the rest
    have htag : ∀ (T : Tag R) (len : Nat), (printSeg sg).length = len → nTags (sg :: rest) = nTags rest + 1 →
        tagsOfD cfg c D p (sg :: rest) = T :: tagsOfD cfg c D (p + len) rest →
        Steps cfg c 1 (stP c (refsD D) child stk acc p) (stP c (refsD D) child stk (acc ++ [T]) (p + len)) →
        Steps cfg c (nTags (sg :: rest)) (stP c (refsD D) child stk acc p)
          (stP c (refsD D) child stk (acc ++ tagsOfD cfg c D p (sg :: rest))
            (p + (printSeg sg).length + (printSegs rest).length)) := by
      intro T len hl hnt htags s1
      rw [hl] at hr ⊢
      rw [hnt, htags]
      exact (s1.trans (parseMain_segs cfg c hn D hD child stk rest (p + len) (acc ++ [T]) hr hokr)).cast
        (Nat.add_comm 1 _) (by rw [List.append_assoc, List.singleton_append])
    cases sg with
    | text s =>
      have ih := parseMain_segs cfg c hn D hD child stk rest (p + s.length) acc hr hokr
      rw [← stP_run (show At c p s from h.left) hsg] at ih
      exact ih
    | var pa =>
      obtain ⟨hp, h0, h255⟩ := hsg
      exact htag (.var (refD D (p + 5) pa)) (5 + pa.length + 1)
        (by simp only [printSeg, List.length_append, List.length_cons, List.length_nil]) rfl
        (by simp only [tagsOfD, ← Nat.add_assoc])
        ((parseMain_var cfg c hn D hD child false stk acc p pa (by rw [← List.append_assoc]; exact h.left) hp h0 h255).cast rfl
          (by rw [← Nat.add_assoc, ← Nat.add_assoc]; rfl))
    | raw pa =>
      obtain ⟨hp, h0, h255⟩ := hsg
      exact htag (.raw (refD D (p + 5) pa)) (5 + pa.length + 1)
        (by simp only [printSeg, List.length_append, List.length_cons, List.length_nil]) rfl
        (by simp only [tagsOfD, ← Nat.add_assoc])
        ((parseMain_var cfg c hn D hD child true stk acc p pa (by rw [← List.append_assoc]; exact h.left) hp h0 h255).cast rfl
          (by rw [← Nat.add_assoc, ← Nat.add_assoc]; rfl))
    | math e =>
      exact htag (.math (itemsAtC cfg c (refsD D) (p + 6) (p + 6 + e.length)) p (p + 6 + e.length + 1)) (6 + e.length + 1)
        (by simp only [printSeg, List.length_append, List.length_cons, List.length_nil]) rfl
        (by simp only [tagsOfD, ← Nat.add_assoc])
        ((parseMain_math cfg c hn D child stk acc p e (by rw [← List.append_assoc]; exact h.left) hsg).cast rfl
          (by rw [← Nat.add_assoc, ← Nat.add_assoc]))

/-- `ValueOffset` of the printed header -/
def voOf (S : List Nat) : Nat := if S.isEmpty then 13 else 20 + S.length

/-- the `Set` record of the printed header under the chain -/
def setOf (D : List LoopD) (p : Nat) (S : List Nat) : VarRef :=
  if S.isEmpty then ⟨0, 0, 0, 0⟩ else mkV (findV D S) (p + 11) S.length

/-- what `stepLoop` records for the printed header at `p` (without `endOff`) -/
def loopFG (D : List LoopD) (p lv : Nat) (S V : List Nat) : LoopFields :=
  { off := p, level := lv, set := setOf D p S, valueOff := voOf S, valueLen := V.length,
    contentOff := 6 + (hdrOf S V).length }

/-- side conditions on the two attribute texts of a printed loop -/
structure HdrOk (S V : List Nat) : Prop where
  s : plainL S
  s34 : ∀ x ∈ S, x ≠ 34
  sgt : ∀ x ∈ S, x ≠ 62
  /-- `voOf S = 20 + |S|` is stored in the 8-bit `ValueOffset` -/
  slen : S.length < 236
  v : plainL V
  v34 : ∀ x ∈ V, x ≠ 34
  vgt : ∀ x ∈ V, x ≠ 62
  vlen : V.length < 256

theorem hdrOf_len (S V : List Nat) : (hdrOf S V).length = (if S.isEmpty then 9 else 16 + S.length) + V.length := by
  unfold hdrOf
  cases S <;> simp <;> omega

/-- one round of `parseLoopAttributes` on a printed ` set="S"` with more to come -/
theorem pla_set (c : List Nat) (endO : Nat) (ch : List LoopRef) (fuel p : Nat) (att0 : LoopAtt) (tag : LoopFields)
    (S : List Nat) (h : At c p ([32, 115, 101, 116, 61, 34] ++ (S ++ [34]))) (hS : ∀ x ∈ S, x ≠ 34)
    (hlen : S.length < 65536) (h0 : tag.set.idLen = 0) (h1 : tag.set.level = 0) (he : p + 7 + S.length < endO)
    (r : Option (Nat × Nat)) (hck : checkLoopVariable c (p + 6) ch = .ok r) :
    parseLoopAttributes c endO ch (fuel + 1) p att0 tag =
      parseLoopAttributes c endO ch fuel (p + 7 + S.length) .set { tag with set := mkV r (p + 6) S.length } := by
  have h' : At c p (32 :: (W1.setStr ++ 61 :: 34 :: (S ++ [34]))) := h
  have c1 : c[p + 1]? = some 115 := h'.tail.head
  have hs := attrHead c endO p 3 115 W1.setStr _ h' rfl c1 rfl (by omega)
  have s5 : doSkipW c endO (· != 34) (p + 1 + 3 + 1) = .ok (p + 1 + 3 + 1 + 1 + S.length) :=
    (show At c (p + 1 + 3 + 1 + 1) S from h.right.left).skip (fun x hx => bne_iff_ne.mpr (hS x hx)) h.right.right.head rfl
      (by omega)
  have htr : trunc bits_VariableTag_Length S.length = S.length := Nat.mod_eq_of_lt hlen
  have hsv : setVar c ch tag.set (p + 1 + 3 + 1 + 1) S.length = .ok (mkV r (p + 6) S.length) := by
    rw [show p + 1 + 3 + 1 + 1 = p + 6 from rfl]
    simp only [setVar, hck, bind, Except.bind]
    cases r with
    | none => simp only [h0, h1, mkV]
    | some ab => obtain ⟨a, b⟩ := ab; rfl
  simp only [parseLoopAttributes, hs.sp, bind, Except.bind, show p + 1 < endO by omega, if_true, h'.tail.read,
    show W1.setSortChar = 115 from rfl, show W1.setLength = 3 from rfl, andEqualAt,
    show decide (endO - (p + 1) > 3) = true from decide_eq_true (by omega), hs.nm, pure, Except.pure, hs.eq, hs.sp2,
    show p + 1 + 3 + 1 < endO by omega, hs.quote, s5, Nat.add_sub_cancel_left, htr, hsv,
    show p + 1 + 3 + 1 + 1 + S.length + 1 < endO by omega]
  rw [show p + 1 + 3 + 1 + 1 + S.length + 1 = p + 7 + S.length by omega]

/-- the last round of `parseLoopAttributes`, on a printed ` value="V"` that ends at `endO` -/
theorem pla_value (c : List Nat) (ch : List LoopRef) (fuel p : Nat) (att0 : LoopAtt) (tag : LoopFields) (V : List Nat)
    (h : At c p ([32, 118, 97, 108, 117, 101, 61, 34] ++ (V ++ [34]))) (hV : ∀ x ∈ V, x ≠ 34)
    (hlen : V.length < 256) (vo : Nat) (hvo : p + 8 - tag.off = vo) (hoff : vo < 256) :
    parseLoopAttributes c (p + 9 + V.length) ch (fuel + 1) p att0 tag =
      .ok { tag with valueOff := vo, valueLen := V.length } := by
  subst hvo
  have h' : At c p (32 :: (W1.valueStr ++ 61 :: 34 :: (V ++ [34]))) := h
  have c1 : c[p + 1]? = some 118 := h'.tail.head
  have hs := attrHead c (p + 9 + V.length) p 5 118 W1.valueStr _ h' rfl c1 rfl (by omega)
  have s5 : doSkipW c (p + 9 + V.length) (· != 34) (p + 1 + 5 + 1) = .ok (p + 1 + 5 + 1 + 1 + V.length) :=
    (show At c (p + 1 + 5 + 1 + 1) V from h.right.left).skip (fun x hx => bne_iff_ne.mpr (hV x hx)) h.right.right.head rfl
      (by omega)
  have hvo : trunc bits_LoopTag_ValueOffset (p + 1 + 5 + 1 + 1 - tag.off) = p + 8 - tag.off := Nat.mod_eq_of_lt hoff
  have hvl : trunc bits_LoopTag_ValueLength V.length = V.length := Nat.mod_eq_of_lt hlen
  simp only [parseLoopAttributes, hs.sp, bind, Except.bind, show p + 1 < p + 9 + V.length by omega, if_true,
    h'.tail.read, show W1.setSortChar = 115 from rfl, show W1.valueChar = 118 from rfl,
    show ¬ ((118 : Nat) = 115) by decide, if_false, show W1.valueLength = 5 from rfl, andEqualAt,
    show decide (p + 9 + V.length - (p + 1) > 5) = true from decide_eq_true (by omega), hs.nm, pure, Except.pure, hs.eq,
    hs.sp2, show p + 1 + 5 + 1 < p + 9 + V.length by omega, hs.quote, s5, Nat.add_sub_cancel_left, hvo, hvl,
    show ¬ (p + 1 + 5 + 1 + 1 + V.length + 1 < p + 9 + V.length) by omega]

theorem stepLoop_of_attrs (cfg : ScanCfg R) (c : List Nat) (p : Nat) (Hm : List Nat) (h : At c p (LOOPW ++ (Hm ++ [62])))
    (hHm : plainL Hm) (hgt : ∀ x ∈ Hm, x ≠ 62) (hlen : Hm.length + 6 < 65536)
    (ch : List LoopRef) (stk : List (Frame R)) (acc : List (Tag R)) (f0 : LoopFields)
    (hpla : parseLoopAttributes c (p + 5 + Hm.length) ch (p + 5 + Hm.length + 2) (p + 5) .none
      ({ off := p, level := trunc bits_LoopTag_Level stk.length } : LoopFields) = .ok f0) :
    step cfg c (stAtC ch false stk acc (p + 5) 7) =
      .ok (stP c (⟨f0.off + f0.valueOff, f0.valueLen, f0.level⟩ :: ch) false
        (.loop acc { f0 with contentOff := 6 + Hm.length } ch :: stk) [] (p + 6 + Hm.length)) := by
  show stepLoop c (stAtC ch false stk acc (p + 5) 7) = _
  have hr : At c (p + 5) (Hm ++ [62]) := h.right
  obtain ⟨o1, m1, hnext, _, hge, _, _⟩ := next_total c (p + 6 + Hm.length)
    (by have := hr.le; simp only [List.length_append, List.length_singleton] at this; omega)
  rw [stP_eq hnext]
  have hrun : next c (p + 5) = .ok (o1, m1) := by
    rw [hr.run (plainL_append hHm (plainL_of_all [62] rfl)), List.length_append, List.length_singleton, ← Nat.add_assoc,
      show p + 5 + Hm.length + 1 = p + 6 + Hm.length by omega, hnext]
  have hsk : skipW c o1 (· != W1.multiLineLastChar) (p + 5) = .ok (p + 5 + Hm.length) :=
    hr.left.skip (fun x hx => bne_iff_ne.mpr (hgt x hx)) hr.right.head rfl (by omega)
  have hco : trunc bits_LoopTag_ContentOffset (p + 5 + Hm.length + W1.multiLineSuffixLength - p) = 6 + Hm.length := by
    simp only [trunc, show bits_LoopTag_ContentOffset = 16 from rfl, show W1.multiLineSuffixLength = 1 from rfl]
    omega
  simp only [stepLoop, finderNext_stAtC c ch false stk acc (p + 5) 7 o1 m1 hrun, bind, Except.bind]
  simp only [stAtC, show W1.loopPrefixLength = 5 from rfl, Nat.add_sub_cancel, hsk, show p + 5 + Hm.length < o1 by omega,
    if_true, hpla, hco, push]

theorem At.hdr_value {c S V : List Nat} {p : Nat} (h : At c (p + 5) (hdrOf S V)) : At c (p + voOf S) V := by
  cases S with
  | nil =>
    have hv : At c (p + 5) ([32, 118, 97, 108, 117, 101, 61, 34] ++ (V ++ [34])) := by
      simpa only [hdrOf, List.isEmpty_nil, if_true, List.nil_append, List.append_assoc] using h
    exact hv.right.left
  | cons x S' =>
    have hsv : At c (p + 5) (([32, 115, 101, 116, 61, 34] ++ (x :: S' ++ [34])) ++
        ([32, 118, 97, 108, 117, 101, 61, 34] ++ (V ++ [34]))) := by
      simpa only [hdrOf, List.isEmpty_cons, Bool.false_eq_true, if_false, List.append_assoc] using h
    exact hsv.right.right.left.cast (by
      simp only [voOf, List.isEmpty_cons, Bool.false_eq_true, if_false, List.length_append, List.length_cons, List.length_nil]
      omega)

theorem stepLoop_print (cfg : ScanCfg R) (c : List Nat) (p : Nat) (S V : List Nat) (h : At c p (LOOPW ++ (hdrOf S V ++ [62])))
    (hh : HdrOk S V) (D : List LoopD) (hD : ChainD c D) (stk : List (Frame R)) (acc : List (Tag R)) :
    step cfg c (stAtC (refsD D) false stk acc (p + 5) 7) =
      .ok (stP c (refsD (⟨p + voOf S, V, trunc bits_LoopTag_Level stk.length⟩ :: D)) false
        (.loop acc (loopFG D p (trunc bits_LoopTag_Level stk.length) S V) (refsD D) :: stk) []
        (p + 6 + (hdrOf S V).length)) ∧
    ChainD c (⟨p + voOf S, V, trunc bits_LoopTag_Level stk.length⟩ :: D) := by
  have hlen := hdrOf_len S V
  have hr : At c (p + 5) (hdrOf S V) := (show At c (p + 5) (hdrOf S V ++ [62]) from h.right).left
  have hgen := stepLoop_of_attrs cfg c p (hdrOf S V) h (hdrOf_all S V (plainL_of_all _ rfl) hh.s hh.v)
    (hdrOf_all S V (by decide) hh.sgt hh.vgt)
    (by rw [hlen]; have := hh.vlen; have := hh.slen; split <;> omega) (refsD D) stk acc
  have hD' : ChainD c (⟨p + voOf S, V, trunc bits_LoopTag_Level stk.length⟩ :: D) := by
    intro d hd
    rcases List.mem_cons.mp hd with h | h
    · subst h; exact ⟨hr.hdr_value, fun x hx => ⟨(hh.v x hx).2.2, hh.v34 x hx⟩⟩
    · exact hD d h
  refine ⟨?_, hD'⟩
  by_cases hSe : S = []
  · subst hSe
    simp only [List.isEmpty_nil, if_true] at hlen
    have hv : At c (p + 5) ([32, 118, 97, 108, 117, 101, 61, 34] ++ (V ++ [34])) := by
      simpa only [hdrOf, List.isEmpty_nil, if_true, List.nil_append, List.append_assoc] using hr
    have hpla := pla_value c (refsD D) (p + 5 + (hdrOf [] V).length + 1) (p + 5) .none
      ({ off := p, level := trunc bits_LoopTag_Level stk.length } : LoopFields) V hv hh.v34 hh.vlen 13
      (show p + 5 + 8 - p = 13 by omega) (by omega)
    rw [show p + 5 + 9 + V.length = p + 5 + (hdrOf [] V).length by rw [hlen]; omega] at hpla
    rw [hgen _ hpla]
    simp [refsD, LoopD.ref, loopFG, voOf, setOf]
  · have hSi : S.isEmpty = false := List.isEmpty_eq_false_iff.mpr hSe
    simp only [hSi, Bool.false_eq_true, if_false] at hlen
    have hsv : At c (p + 5) (([32, 115, 101, 116, 61, 34] ++ (S ++ [34])) ++ ([32, 118, 97, 108, 117, 101, 61, 34] ++ (V ++ [34]))) := by
      simpa only [hdrOf, hSi, Bool.false_eq_true, if_false, List.append_assoc] using hr
    have hset := hsv.left
    have hval : At c (p + 5 + 7 + S.length) ([32, 118, 97, 108, 117, 101, 61, 34] ++ (V ++ [34])) :=
      hsv.right.cast (by simp only [List.length_append, List.length_cons, List.length_nil]; omega)
    have hck := checkLoopVariable_D c (p + 5 + 6) 34 S hset.right (Or.inr rfl) D hD
    have hE : p + 5 + (hdrOf S V).length = p + 5 + 7 + S.length + 9 + V.length := by rw [hlen]; omega
    have hpla : parseLoopAttributes c (p + 5 + (hdrOf S V).length) (refsD D) (p + 5 + (hdrOf S V).length + 2) (p + 5) .none
        ({ off := p, level := trunc bits_LoopTag_Level stk.length } : LoopFields) =
        .ok { off := p, level := trunc bits_LoopTag_Level stk.length, set := mkV (findV D S) (p + 5 + 6) S.length,
              valueOff := 20 + S.length, valueLen := V.length } := by
      rw [hE]
      exact (pla_set c _ (refsD D) _ (p + 5) .none _ S hset hh.s34 (by have := hh.slen; omega) rfl rfl (by omega) _ hck).trans
        (pla_value c (refsD D) _ _ .set _ V hval hh.v34 hh.vlen _ (show p + 5 + 7 + S.length + 8 - p = 20 + S.length by omega)
          (by have := hh.slen; omega))
    rw [hgen _ hpla]
    simp [refsD, LoopD.ref, loopFG, voOf, setOf, hSi]

end Qentem.Tmpl
