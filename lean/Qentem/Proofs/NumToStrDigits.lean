import Qentem.Model.NumToStr
import Mathlib.Data.Nat.Digits.Defs
import Mathlib.Tactic.Ring
/-! C10 helper: the digit run of `realToString` by its meaning.  For every configuration of the right `Shape` (double, float),
every finite non-zero input, every format and every precision ≤ 40 (any precision when the value has no fraction) the model's
digit run — `bigIntDropDigits`, the multiplication loop with its mid-loop right shifts, the checked BigInt width — never faults
and equals `runSpec`: the value `valNum / valDen` scaled by a power of ten and cut to an integer, with the flag that says
whether anything was cut off (`digitRun_spec`).  No product reaches the word at which `realToString` starts dropping low words,
so no digit is lost. -/
namespace Qentem.Proofs.NumToStr
open Qentem.NumToStr Qentem.Generated.NumToStr Qentem

theorem ok_bind {α β : Type} (a : α) (f : α → M β) : (Except.ok a >>= f) = f a := rfl

theorem findFirstBitLoop_spec : ∀ (j fuel n k : Nat), n % 2 ^ j = 0 → (n / 2 ^ j) % 2 = 1 → j < fuel →
    findFirstBitLoop fuel n k = k + j := by
  intro j
  induction j with
  | zero =>
    intro fuel n k _ h1 hf
    obtain ⟨f, rfl⟩ := Nat.exists_eq_succ_of_ne_zero (by omega : fuel ≠ 0)
    simp at h1
    simp [findFirstBitLoop, h1]
  | succ j ih =>
    intro fuel n k h0 h1 hf
    obtain ⟨f, rfl⟩ := Nat.exists_eq_succ_of_ne_zero (by omega : fuel ≠ 0)
    have hpow : 2 ^ (j + 1) = 2 * 2 ^ j := by rw [Nat.pow_succ]; ring
    have h2 : n % 2 = 0 := by
      have : 2 ∣ n := Dvd.dvd.trans ⟨2 ^ j, hpow⟩ (Nat.dvd_of_mod_eq_zero h0)
      omega
    have h3 : (n / 2) % 2 ^ j = 0 := by
      have : 2 ^ (j + 1) ∣ n := Nat.dvd_of_mod_eq_zero h0
      obtain ⟨c, rfl⟩ := this
      rw [hpow, Nat.mul_assoc, Nat.mul_div_cancel_left _ (by norm_num)]
      exact Nat.mul_mod_right _ _
    have h4 : (n / 2) / 2 ^ j % 2 = 1 := by
      rw [Nat.div_div_eq_div_mul, ← hpow]; exact h1
    rw [findFirstBitLoop]
    simp only [show ¬ (n % 2 = 1) by omega, if_false]
    rw [ih f (n / 2) (k + 1) h3 h4 (by omega)]
    omega

theorem findFirstBit_spec {j n : Nat} (h0 : n % 2 ^ j = 0) (h1 : (n / 2 ^ j) % 2 = 1) (hj : j < 64) :
    findFirstBit n = j := by
  simp [findFirstBit, findFirstBitLoop_spec j 64 n 0 h0 h1 hj]


theorem exists_ctz : ∀ m, 0 < m → ∃ j, m % 2 ^ j = 0 ∧ (m / 2 ^ j) % 2 = 1 := by
  intro m
  induction m using Nat.strong_induction_on with
  | _ m ih =>
    intro hm
    by_cases hodd : m % 2 = 1
    · exact ⟨0, by simp [Nat.mod_one], by simpa using hodd⟩
    · obtain ⟨j, h1, h2⟩ := ih (m / 2) (by omega) (by omega)
      refine ⟨j + 1, ?_, ?_⟩
      · have hpow : 2 ^ (j + 1) = 2 * 2 ^ j := by rw [Nat.pow_succ]; ring
        have hm2 : m = 2 * (m / 2) := by omega
        obtain ⟨c, hc⟩ := Nat.dvd_of_mod_eq_zero h1
        rw [hpow, hm2, hc]
        rw [show 2 * (2 ^ j * c) = 2 * 2 ^ j * c by ring]
        exact Nat.mul_mod_right _ _
      · have hpow : 2 ^ (j + 1) = 2 * 2 ^ j := by rw [Nat.pow_succ]; ring
        rw [hpow, ← Nat.div_div_eq_div_mul]; exact h2


theorem pow5_eq : ∀ i, i ≤ 27 → tbl C8.powerOfFive i = .ok (5 ^ i) := by decide +kernel

/-! ### `bigIntDropDigits` -/

theorem mod_mul_ne_zero_iff (b p q : Nat) (hp : 0 < p) :
    (b % p ≠ 0 ∨ (b / p) % q ≠ 0) ↔ b % (p * q) ≠ 0 := by
  rw [Nat.mod_mul]
  constructor
  · intro h hz
    have h1 : b % p = 0 := by omega
    have h2 : p * (b / p % q) = 0 := by omega
    rcases h with h | h
    · exact h h1
    · rcases Nat.mul_eq_zero.mp h2 with h3 | h3
      · omega
      · exact h h3
  · intro h
    by_cases h1 : b % p = 0
    · right; intro h2; apply h; simp [h1, h2]
    · left; exact h1

theorem dropDigitsLoop_eq : ∀ (fuel b drop : Nat) (inexact : Bool), drop / 27 < fuel →
    dropDigitsLoop fuel b drop inexact =
      .ok (b / 5 ^ (27 * (drop / 27)), drop % 27, inexact || decide (b % 5 ^ (27 * (drop / 27)) ≠ 0)) := by
  intro fuel
  induction fuel with
  | zero => intro b drop inexact h; omega
  | succ k ih =>
    intro b drop inexact h
    rw [dropDigitsLoop]
    have h27 : C8.maxPowerOfFive = 27 := rfl
    by_cases hd : 27 ≤ drop
    · rw [h27, if_pos hd, pow5_eq 27 (Nat.le_refl _)]
      simp only [ok_bind]
      rw [ih _ _ _ (by omega)]
      have e1 : (drop - 27) / 27 = drop / 27 - 1 := by omega
      have e2 : (drop - 27) % 27 = drop % 27 := by omega
      have e3 : 27 * (drop / 27) = 27 + 27 * (drop / 27 - 1) := by omega
      rw [e1, e2, e3, Nat.pow_add, Nat.div_div_eq_div_mul]
      have := mod_mul_ne_zero_iff b (5 ^ 27) (5 ^ (27 * (drop / 27 - 1))) (Nat.pow_pos (by decide))
      have hb : ((inexact || b % 5 ^ 27 != 0) || decide (b / 5 ^ 27 % 5 ^ (27 * (drop / 27 - 1)) ≠ 0)) =
          (inexact || decide (b % (5 ^ 27 * 5 ^ (27 * (drop / 27 - 1))) ≠ 0)) := by
        rw [Bool.or_assoc]
        congr 1
        rw [Bool.eq_iff_iff]
        simp only [Bool.or_eq_true, decide_eq_true_eq, bne_iff_ne, ne_eq]
        exact this
      rw [hb]
    · have hz : drop / 27 = 0 := by omega
      rw [h27, if_neg hd, hz]
      simp [Nat.mod_eq_of_lt (by omega : drop < 27), Nat.mod_one, pure, Except.pure]

theorem dropDigits_eq (b drop : Nat) :
    dropDigits b drop = .ok (b / 5 ^ drop, decide (b % 5 ^ drop ≠ 0)) := by
  unfold dropDigits
  have h27 : C8.maxPowerOfFive = 27 := rfl
  rw [h27, dropDigitsLoop_eq _ _ _ _ (by omega)]
  simp only [ok_bind, Bool.false_or]
  have hsplit : drop = 27 * (drop / 27) + drop % 27 := by omega
  by_cases hr : drop % 27 = 0
  · simp only [hr, ne_eq, not_true_eq_false, if_false, pure, Except.pure]
    have : 27 * (drop / 27) = drop := by omega
    rw [this]
  · simp only [hr, ne_eq, not_false_eq_true, if_true, pow5_eq _ (by omega : drop % 27 ≤ 27), ok_bind, pure, Except.pure]
    have hq : 5 ^ drop = 5 ^ (27 * (drop / 27)) * 5 ^ (drop % 27) := by rw [← Nat.pow_add, ← hsplit]
    rw [hq, Nat.div_div_eq_div_mul]
    have := mod_mul_ne_zero_iff b (5 ^ (27 * (drop / 27))) (5 ^ (drop % 27)) (Nat.pow_pos (by decide))
    have hb : (decide (b % 5 ^ (27 * (drop / 27)) ≠ 0) || b / 5 ^ (27 * (drop / 27)) % 5 ^ (drop % 27) != 0) =
        decide (b % (5 ^ (27 * (drop / 27)) * 5 ^ (drop % 27)) ≠ 0) := by
      rw [Bool.eq_iff_iff]
      simp only [Bool.or_eq_true, decide_eq_true_eq, bne_iff_ne, ne_eq]
      exact this
    rw [hb]

/-! ### the multiplication loop -/

theorem bigIndex_lt {v mi : Nat} (hmi : 0 < mi) (h : v < 2 ^ (64 * mi)) : ¬ (mi ≤ bigIndex v) := by
  unfold bigIndex
  by_cases hv : v = 0
  · simp [hv]; omega
  · simp only [hv, if_false, wordBits]
    have := (Nat.log2_lt hv).mpr h
    omega

theorem bigFit_eq {tb v : Nat} (h : v < 2 ^ tb) : bigFit tb v = .ok v := by
  simp [bigFit, h, pure, Except.pure]

theorem mulLoop_eq (tb mi : Nat) (hmi : 0 < mi) (hfit : 64 * mi ≤ tb) :
    ∀ (fuel b shift times : Nat), 27 ≤ times → times / 27 ≤ fuel → b * 5 ^ times < 2 ^ (64 * mi) →
      mulLoop tb mi fuel b shift times = .ok (b * 5 ^ (27 * (times / 27)), shift, times % 27) := by
  intro fuel
  induction fuel with
  | zero => intro b shift times h27 hq _; omega
  | succ k ih =>
    intro b shift times h27 hq hlt
    have hM : C8.maxPowerOfFive = 27 := rfl
    have hsplit : 5 ^ times = 5 ^ 27 * 5 ^ (times - 27) := by rw [← Nat.pow_add]; congr 1; omega
    have hb27 : b * 5 ^ 27 * 5 ^ (times - 27) < 2 ^ (64 * mi) := by rw [Nat.mul_assoc, ← hsplit]; exact hlt
    have hle : b * 5 ^ 27 ≤ b * 5 ^ 27 * 5 ^ (times - 27) := Nat.le_mul_of_pos_right _ (Nat.pow_pos (by decide))
    have hlt27 : b * 5 ^ 27 < 2 ^ (64 * mi) := lt_of_le_of_lt hle hb27
    have hfit27 : b * 5 ^ 27 < 2 ^ tb := lt_of_lt_of_le hlt27 (Nat.pow_le_pow_right (by decide) hfit)
    rw [mulLoop, hM, pow5_eq 27 (Nat.le_refl _)]
    have hns : ¬ (mi ≤ bigIndex (b * 5 ^ 27) ∧ C8.maxShift ≤ shift) := fun h => bigIndex_lt hmi hlt27 h.1
    rw [ok_bind, bigFit_eq hfit27, ok_bind, if_neg hns]
    show (if 27 ≤ times - 27 then mulLoop tb mi k (b * 5 ^ 27) shift (times - 27)
          else pure (b * 5 ^ 27, shift, times - 27)) = _
    by_cases hmore : 27 ≤ times - 27
    · rw [if_pos hmore, ih _ _ _ hmore (by omega) hb27]
      have e1 : (times - 27) / 27 = times / 27 - 1 := by omega
      have e2 : (times - 27) % 27 = times % 27 := by omega
      have e3 : 27 * (times / 27) = 27 + 27 * (times / 27 - 1) := by omega
      rw [e1, e2, e3, Nat.pow_add, Nat.mul_assoc]
    · rw [if_neg hmore]
      have e1 : times / 27 = 1 := by omega
      have e2 : times - 27 = times % 27 := by omega
      rw [e1, e2]; rfl


/-- the two quantities `runFraction` derives from the fraction length and the digits needed: how many fractional
digits it produces, and how many binary places it shifts out afterwards -/
def fracLen (fl0 needed0 : Nat) : Nat := if needed0 + 1 < fl0 then needed0 + 1 else fl0
def fracShift (fl0 needed0 : Nat) : Nat := if needed0 + 1 < fl0 then fl0 - (needed0 + 1) else 0

theorem fracLen_eq_min (fl0 needed0 : Nat) : fracLen fl0 needed0 = min (needed0 + 1) fl0 := by
  unfold fracLen; split <;> omega

theorem fracShift_eq_sub (fl0 needed0 : Nat) : fracShift fl0 needed0 = fl0 - (needed0 + 1) := by
  unfold fracShift; split <;> omega

theorem runFraction_eq {c : Cfg} {m j fl0 needed0 : Nat} (hmi : 0 < c.maxIndex) (hfit : 64 * c.maxIndex ≤ c.totalBits)
    (hroom : (m / 2 ^ j) * 5 ^ fracLen fl0 needed0 < 2 ^ (64 * c.maxIndex)) :
    runFraction c m j fl0 needed0 =
      .ok ((m / 2 ^ j) * 5 ^ fracLen fl0 needed0 / 2 ^ fracShift fl0 needed0, fracLen fl0 needed0, decide (needed0 + 1 < fl0)) := by
  have hM : C8.maxPowerOfFive = 27 := rfl
  have hfitb : ∀ v, v < 2 ^ (64 * c.maxIndex) → v < 2 ^ c.totalBits :=
    fun v hv => lt_of_lt_of_le hv (Nat.pow_le_pow_right (by decide) hfit)
  show (do
      let r ←
        if C8.maxPowerOfFive ≤ fracLen fl0 needed0 then
          mulLoop c.totalBits c.maxIndex (fracLen fl0 needed0 / C8.maxPowerOfFive + 1) (m >>> j) (fracShift fl0 needed0) (fracLen fl0 needed0)
        else pure (m >>> j, fracShift fl0 needed0, fracLen fl0 needed0)
      let b ← if r.2.2 ≠ 0 then do
          let p ← tbl C8.powerOfFive r.2.2
          bigFit c.totalBits (r.1 * p)
        else pure r.1
      pure (b >>> r.2.1, fracLen fl0 needed0, decide (needed0 + 1 < fl0))) = _
  generalize fracLen fl0 needed0 = fl at *
  generalize fracShift fl0 needed0 = sh at *
  rw [Nat.shiftRight_eq_div_pow, hM]
  have fin : ∀ X : Nat, (Except.ok X >>= fun b => (pure (b >>> sh, fl, decide (needed0 + 1 < fl0)) : M _)) =
      Except.ok (X / 2 ^ sh, fl, decide (needed0 + 1 < fl0)) := by
    intro X; rw [ok_bind, Nat.shiftRight_eq_div_pow]; rfl
  by_cases h27 : 27 ≤ fl
  · rw [if_pos h27, mulLoop_eq _ _ hmi hfit _ _ _ _ h27 (by omega) hroom, ok_bind]
    have hsplit : fl = 27 * (fl / 27) + fl % 27 := by omega
    by_cases hr : fl % 27 = 0
    · have e : 27 * (fl / 27) = fl := by omega
      show (if fl % 27 ≠ 0 then _ else _) = _
      rw [if_neg (by simpa using hr), e]
      exact fin _
    · have hq : m / 2 ^ j * 5 ^ (27 * (fl / 27)) * 5 ^ (fl % 27) = m / 2 ^ j * 5 ^ fl := by
        rw [Nat.mul_assoc, ← Nat.pow_add, ← hsplit]
      show (if fl % 27 ≠ 0 then _ else _) = _
      rw [if_pos (by simpa using hr), pow5_eq _ (by omega : fl % 27 ≤ 27), ok_bind]
      show (bigFit c.totalBits (m / 2 ^ j * 5 ^ (27 * (fl / 27)) * 5 ^ (fl % 27)) >>= _) = _
      rw [hq, bigFit_eq (hfitb _ hroom)]
      exact fin _
  · rw [if_neg h27]
    show (do
      let b ← if fl ≠ 0 then do
          let p ← tbl C8.powerOfFive fl
          bigFit c.totalBits (m / 2 ^ j * p)
        else pure (m / 2 ^ j)
      pure (b >>> sh, fl, decide (needed0 + 1 < fl0))) = _
    by_cases hr : fl = 0
    · rw [if_neg (by simpa using hr), show m / 2 ^ j * 5 ^ fl = m / 2 ^ j by rw [hr, Nat.pow_zero, Nat.mul_one]]
      exact fin _
    · rw [if_pos hr, pow5_eq _ (by omega : fl ≤ 27), ok_bind, bigFit_eq (hfitb _ hroom)]
      exact fin _

theorem shift_room {M m k tb : Nat} (hm : m < 2 ^ (M + 1)) (h : M + 1 + k ≤ tb) : m * 2 ^ k < 2 ^ tb := by
  have h1 : m * 2 ^ k < 2 ^ (M + 1) * 2 ^ k := Nat.mul_lt_mul_of_pos_right hm (Nat.two_pow_pos _)
  rw [← Nat.pow_add] at h1
  exact lt_of_lt_of_le h1 (Nat.pow_le_pow_right (by decide) h)

/-- the products of the fraction block stay below the word at which low words would be dropped -/
theorem frac_room {M B K m j fl0 needed0 : Nat}
    (hroom : 2 ^ (M + 1) * 5 ^ ((B + M) * 30103 / 100000 + 1 + 41) < K) (hm : m < 2 ^ (M + 1))
    (hn : needed0 ≤ (B + M) * 30103 / 100000 + 1 + 40) : m / 2 ^ j * 5 ^ fracLen fl0 needed0 < K := by
  have h1 : m / 2 ^ j < 2 ^ (M + 1) := lt_of_le_of_lt (Nat.div_le_self _ _) hm
  have h2 : fracLen fl0 needed0 ≤ (B + M) * 30103 / 100000 + 1 + 41 := by rw [fracLen_eq_min]; omega
  calc _ < 2 ^ (M + 1) * 5 ^ fracLen fl0 needed0 := Nat.mul_lt_mul_of_pos_right h1 (Nat.pow_pos (by decide))
    _ ≤ 2 ^ (M + 1) * 5 ^ ((B + M) * 30103 / 100000 + 1 + 41) :=
        Nat.mul_le_mul_left _ (Nat.pow_le_pow_right (by decide) h2)
    _ < _ := hroom

/-! ### the digit run by its meaning -/

/-- what the proofs need to know about a configuration: IEEE layout with `M` mantissa bits and bias `B`,
a BigInt wide enough that neither the left shift nor the products by powers of five (precision ≤ 40)
reach the word where `realToString` would start dropping low words, binary exponents within the range for
which the digit estimate is checked (`est_table`), and digit runs far shorter than a 32-bit length.  In `room` the
exponent of five is the longest fraction the run forms: the digit estimate, precision 40, and one more digit for rounding. -/
structure Shape (c : Cfg) (M B : Nat) : Prop where
  msize : c.mantissaSize = M
  bias : c.bias = B
  lead : c.leadingBit = 2 ^ M
  mlt : M < 63
  maxIdx : 0 < c.maxIndex
  fit : 64 * c.maxIndex ≤ c.totalBits
  wide : B + 1 ≤ c.totalBits
  room : 2 ^ (M + 1) * 5 ^ ((B + M) * 30103 / 100000 + 1 + 41) < 2 ^ (64 * c.maxIndex)
  bpos : 0 < B
  est : B + M ≤ 1130
  len : c.totalBits ≤ 2 ^ 20

theorem shape64 : Shape f64 52 1023 := by
  refine ⟨rfl, rfl, by decide, by decide, by decide, by decide, by decide, ?_, by decide, by decide, by decide⟩
  show 2 ^ 53 * 5 ^ 365 < 2 ^ (64 * 20)
  decide +kernel

theorem shape32 : Shape f32 23 127 := by
  refine ⟨rfl, rfl, by decide, by decide, by decide, by decide, by decide, ?_, by decide, by decide, by decide⟩
  show 2 ^ 24 * 5 ^ 87 < 2 ^ (64 * 4)
  decide +kernel

/-- the mantissa as an integer: hidden bit for normal numbers, doubled for subnormals (whose exponent is read as `-B`) -/
def mant (M f e : Nat) : Nat := if e = 0 then 2 * f else 2 ^ M + f

/-- the decimal digit estimate `⌊e·30103/100000⌋+1` -/
def estDigits (M j pe e : Nat) : Nat := (pe + (if e = 0 then M - j else 0)) * 30103 / 100000 + 1

/-- number of binary fraction digits of the value (0 for integers) -/
def fracBits (M B f e : Nat) : Nat :=
  let j := findFirstBit (mant M f e)
  if B ≤ e then (M - j) - (e - B) else (M - j) + (B - e)

theorem estDigits_normal {M j pe e : Nat} (he0 : e ≠ 0) : estDigits M j pe e = pe * 30103 / 100000 + 1 := by
  simp only [estDigits, if_neg he0, Nat.add_zero]

theorem estDigits_le {M B j pe e : Nat} (hpe : pe ≤ B) : estDigits M j pe e ≤ (B + M) * 30103 / 100000 + 1 := by
  unfold estDigits
  have : pe + (if e = 0 then M - j else 0) ≤ B + M := by split <;> omega
  have := Nat.div_le_div_right (c := 100000) (Nat.mul_le_mul_right 30103 this)
  omega

/-- the value handled by the digit run, as the fraction `valNum / valDen` (`m · 2^(e-B-M)`) -/
def valNum (M B f e : Nat) : Nat := if B ≤ e then mant M f e * 2 ^ (e - B) else mant M f e
def valDen (M B e : Nat) : Nat := if B ≤ e then 2 ^ M else 2 ^ (M + (B - e))

theorem valDen_pos (M B e : Nat) : 0 < valDen M B e := by unfold valDen; split <;> exact Nat.two_pow_pos _

/-- decimal digits dropped by the no-fraction block (`0` in the fraction block) -/
def runDrop (M B f e p fmt : Nat) : Nat :=
  let j := findFirstBit (mant M f e)
  let pe := if B ≤ e then e - B else B - e
  let digits := estDigits M j pe e
  let fixed := decide (fmt = fmtSemiFixed) || decide (fmt = fmtFixed)
  let extra := decide (p < digits) && !fixed
  if decide (B ≤ e) && (decide (M - j ≤ pe) || extra) then (if extra then digits - (p + 1) else 0) else 0

/-- fractional decimal digits the run produces (`0` in the no-fraction block) -/
def runFl (M B f e p fmt : Nat) : Nat :=
  let j := findFirstBit (mant M f e)
  let pe := if B ≤ e then e - B else B - e
  let digits := estDigits M j pe e
  let fixed := decide (fmt = fmtSemiFixed) || decide (fmt = fmtFixed)
  let extra := decide (p < digits) && !fixed
  if decide (B ≤ e) && (decide (M - j ≤ pe) || extra) then 0
  else fracLen (if decide (B ≤ e) then M - j - pe else M - j + pe)
    (if decide (B ≤ e) then (if fixed then p else p - digits) else digits + p)

theorem runFl_or_runDrop {M B f e p fmt : Nat} : runFl M B f e p fmt = 0 ∨ runDrop M B f e p fmt = 0 := by
  unfold runFl runDrop
  simp only []
  by_cases h : (decide (B ≤ e) && (decide (M - findFirstBit (mant M f e) ≤ if B ≤ e then e - B else B - e) ||
      (decide (p < estDigits M (findFirstBit (mant M f e)) (if B ≤ e then e - B else B - e) e) &&
        !(decide (fmt = fmtSemiFixed) || decide (fmt = fmtFixed))))) = true
  · exact Or.inl (if_pos h)
  · exact Or.inr (if_neg h)

/-- the value `valNum / valDen` scaled by `10^runFl / 10^runDrop` and cut to an integer, the digit estimate, the fraction
length, the sign of the exponent, and whether anything was cut off -/
def runSpec (M B f e p fmt : Nat) : Nat × Nat × Nat × Bool × Bool :=
  (valNum M B f e * 10 ^ runFl M B f e p fmt / (valDen M B e * 10 ^ runDrop M B f e p fmt),
    estDigits M (findFirstBit (mant M f e)) (if B ≤ e then e - B else B - e) e, runFl M B f e p fmt, decide (B ≤ e),
    decide (valNum M B f e * 10 ^ runFl M B f e p fmt % (valDen M B e * 10 ^ runDrop M B f e p fmt) ≠ 0))

/-- the trailing-zero count of a mantissa: what `Platform::FindFirstBit` returns -/
theorem findFirstBit_mant {M m : Nat} (hM : M < 63) (h0 : 0 < m) (hlt : m < 2 ^ (M + 1)) :
    findFirstBit m ≤ M ∧ m % 2 ^ findFirstBit m = 0 ∧ (m / 2 ^ findFirstBit m) % 2 = 1 := by
  obtain ⟨j, h1, h2⟩ := exists_ctz m h0
  have hj : j ≤ M := by
    by_contra hcon
    have hle : 2 ^ (M + 1) ≤ 2 ^ j := Nat.pow_le_pow_right (by decide) (by omega)
    have := Nat.le_of_dvd h0 (Nat.dvd_of_mod_eq_zero h1)
    omega
  have e : findFirstBit m = j := findFirstBit_spec h1 h2 (by omega)
  rw [e]; exact ⟨hj, h1, h2⟩

theorem mant_pos {M f e : Nat} (h : e ≠ 0 ∨ f ≠ 0) : 0 < mant M f e := by
  unfold mant; split
  · omega
  · exact Nat.add_pos_left (Nat.two_pow_pos M) f

theorem mant_lt {M f e : Nat} (hf : f < 2 ^ M) : mant M f e < 2 ^ (M + 1) := by
  unfold mant; rw [Nat.pow_succ]; split <;> omega

/-! ### floors of scaled fractions -/

theorem odd_mul_pow_mod {mo a b : Nat} (hodd : mo % 2 = 1) : (mo * 2 ^ a) % 2 ^ b = 0 ↔ b ≤ a := by
  constructor
  · intro h
    by_contra hlt
    have hb : b = a + (b - a - 1) + 1 := by omega
    have hd : 2 ^ b ∣ mo * 2 ^ a := Nat.dvd_of_mod_eq_zero h
    rw [hb, Nat.pow_succ, Nat.pow_add, Nat.mul_comm mo] at hd
    have h2 : 2 ^ a * (2 ^ (b - a - 1) * 2) ∣ 2 ^ a * mo := by
      rw [← Nat.mul_assoc]; exact hd
    have h3 := Nat.dvd_of_mul_dvd_mul_left (Nat.two_pow_pos a) h2
    have h4 : 2 ∣ mo := Dvd.dvd.trans ⟨2 ^ (b - a - 1), by ring⟩ h3
    omega
  · intro h
    have e : a = b + (a - b) := by omega
    rw [e, Nat.pow_add, ← Nat.mul_assoc, Nat.mul_comm mo, Nat.mul_assoc]
    exact Nat.mul_mod_right _ _

theorem pow5_odd (k : Nat) : 5 ^ k % 2 = 1 := by
  induction k with
  | zero => rfl
  | succ k ih => rw [Nat.pow_succ, Nat.mul_mod, ih]

theorem odd_mul_odd {a b : Nat} (ha : a % 2 = 1) (hb : b % 2 = 1) : (a * b) % 2 = 1 := by
  rw [Nat.mul_mod, ha, hb]

/-- equal fractions have equal scaled floors and the same exactness: `a/b = c/2^k` -/
theorem cross_floor {a b c k t : Nat} (hb : 0 < b) (h : a * 2 ^ k = c * b) :
    a * t / b = c * t / 2 ^ k ∧ ((a * t) % b ≠ 0 ↔ (c * t) % 2 ^ k ≠ 0) := by
  have h2 : 0 < 2 ^ k := Nat.two_pow_pos k
  have e1 : a * t * 2 ^ k = c * t * b := by
    calc a * t * 2 ^ k = a * 2 ^ k * t := by ring
      _ = c * b * t := by rw [h]
      _ = c * t * b := by ring
  constructor
  · calc a * t / b = a * t * 2 ^ k / (b * 2 ^ k) := (Nat.mul_div_mul_right _ _ h2).symm
      _ = c * t * b / (2 ^ k * b) := by rw [e1, Nat.mul_comm b]
      _ = c * t / 2 ^ k := Nat.mul_div_mul_right _ _ hb
  · rw [not_iff_not]
    constructor
    · intro hm
      have hd : b ∣ a * t := Nat.dvd_of_mod_eq_zero hm
      have : b * 2 ^ k ∣ a * t * 2 ^ k := Nat.mul_dvd_mul_right hd _
      rw [e1, Nat.mul_comm b] at this
      exact Nat.mod_eq_zero_of_dvd (Nat.dvd_of_mul_dvd_mul_right hb this)
    · intro hm
      have hd : 2 ^ k ∣ c * t := Nat.dvd_of_mod_eq_zero hm
      have : 2 ^ k * b ∣ c * t * b := Nat.mul_dvd_mul_right hd _
      rw [← e1, Nat.mul_comm (2 ^ k)] at this
      exact Nat.mod_eq_zero_of_dvd (Nat.dvd_of_mul_dvd_mul_right h2 this)

theorem frac_floor {mo fl sh : Nat} (hodd : mo % 2 = 1) :
    mo * 10 ^ fl / 2 ^ (sh + fl) = mo * 5 ^ fl / 2 ^ sh ∧ ((mo * 10 ^ fl) % 2 ^ (sh + fl) ≠ 0 ↔ 0 < sh) := by
  have e10 : (10 : Nat) ^ fl = 5 ^ fl * 2 ^ fl := by rw [← Nat.mul_pow]
  have e : mo * 10 ^ fl = mo * 5 ^ fl * 2 ^ fl := by rw [e10, Nat.mul_assoc]
  constructor
  · rw [e, Nat.pow_add, Nat.mul_div_mul_right _ _ (Nat.two_pow_pos fl)]
  · rw [e]
    have := odd_mul_pow_mod (a := fl) (b := sh + fl) (odd_mul_odd hodd (pow5_odd fl))
    constructor
    · intro h; by_contra h0
      exact h (this.mpr (by omega))
    · intro h hz
      have := this.mp hz
      omega

/-- The fraction block on a value `N / D = mo / 2^fl0` (`mo` odd): the product by `5^fl` shifted by the binary places
not needed is the decimal expansion cut after `fl` fractional digits, exact only when no place is shifted out. -/
theorem frac_cut {mo N D fl0 needed0 : Nat} (hodd : mo % 2 = 1) (hD : 0 < D) (hcross : N * 2 ^ fl0 = mo * D) :
    mo * 5 ^ fracLen fl0 needed0 / 2 ^ fracShift fl0 needed0 = N * 10 ^ fracLen fl0 needed0 / D ∧
    (decide (needed0 + 1 < fl0) = true ↔ N * 10 ^ fracLen fl0 needed0 % D ≠ 0) := by
  have hfl0 : fl0 = fracShift fl0 needed0 + fracLen fl0 needed0 := by rw [fracShift_eq_sub, fracLen_eq_min]; omega
  obtain ⟨c1, c2⟩ := cross_floor (t := 10 ^ fracLen fl0 needed0) hD hcross
  have hff := frac_floor (fl := fracLen fl0 needed0) (sh := fracShift fl0 needed0) hodd
  rw [← hfl0] at hff
  refine ⟨by rw [c1, hff.1], ?_⟩
  rw [c2, hff.2, decide_eq_true_eq, fracShift_eq_sub]
  omega

/-! ### the two blocks as cuts of the value -/

/-- The no-fraction block on a mantissa `m = mo · 2^j` (`mo` odd): the shift to the integer part and the decimal drop are
`m · 2^pe / 2^M` cut at `10^drop`, and `round_up` says whether either step cut anything off. -/
theorem runNoFraction_cut {c : Cfg} {m mo j pe drop : Nat} (hm : m = mo * 2 ^ j) (hodd : mo % 2 = 1)
    (hroom : c.mantissaSize + drop < pe → m * 2 ^ (pe - (c.mantissaSize + drop)) < 2 ^ c.totalBits) :
    runNoFraction c m j pe drop =
      .ok (m * 2 ^ pe / (2 ^ c.mantissaSize * 10 ^ drop), decide (m * 2 ^ pe % (2 ^ c.mantissaSize * 10 ^ drop) ≠ 0)) := by
  -- the decimal drop that follows the shift, on either result of the shift
  have hdrop : ∀ r : Nat × Bool, (if drop ≠ 0 then do
        let d ← dropDigits r.1 drop
        pure (d.1, r.2 || d.2)
      else (pure r : M (Nat × Bool))) = .ok (r.1 / 5 ^ drop, r.2 || decide (r.1 % 5 ^ drop ≠ 0)) := by
    intro r
    by_cases hd : drop = 0
    · subst hd
      rw [if_neg (by simp)]
      simp [Nat.mod_one, pure, Except.pure]
    · rw [if_pos hd, dropDigits_eq, ok_bind]; rfl
  -- a shift result `X = m·2^pe / 2^(M+drop)` with its flag, followed by the drop, is the cut at `2^M · 10^drop`
  have hden : 2 ^ c.mantissaSize * 10 ^ drop = 2 ^ (c.mantissaSize + drop) * 5 ^ drop := by
    rw [Nat.pow_add, Nat.mul_assoc, ← Nat.mul_pow]
  have hcut : ∀ (X : Nat) (s : Bool), X = m * 2 ^ pe / 2 ^ (c.mantissaSize + drop) →
      (s = true ↔ m * 2 ^ pe % 2 ^ (c.mantissaSize + drop) ≠ 0) →
      (Except.ok (X / 5 ^ drop, s || decide (X % 5 ^ drop ≠ 0)) : M (Nat × Bool)) =
        .ok (m * 2 ^ pe / (2 ^ c.mantissaSize * 10 ^ drop), decide (m * 2 ^ pe % (2 ^ c.mantissaSize * 10 ^ drop) ≠ 0)) := by
    intro X s hX hs
    have hsplit := mod_mul_ne_zero_iff (m * 2 ^ pe) (2 ^ (c.mantissaSize + drop)) (5 ^ drop) (Nat.two_pow_pos _)
    rw [hden, hX, Nat.div_div_eq_div_mul]
    congr 2
    rw [Bool.eq_iff_iff, Bool.or_eq_true, decide_eq_true_eq, decide_eq_true_eq, hs, hsplit]
  unfold runNoFraction
  by_cases hlt : c.mantissaSize + drop < pe
  · rw [if_pos hlt, Nat.shiftLeft_eq, bigFit_eq (hroom hlt), ok_bind, pure_bind]
    refine (hdrop _).trans (hcut _ false ?_ ?_)
    · have e : pe = (pe - (c.mantissaSize + drop)) + (c.mantissaSize + drop) := by omega
      conv_rhs => rw [e, Nat.pow_add, ← Nat.mul_assoc, Nat.mul_div_cancel _ (Nat.two_pow_pos _)]
    · have e : pe = (pe - (c.mantissaSize + drop)) + (c.mantissaSize + drop) := by omega
      rw [e, Nat.pow_add, ← Nat.mul_assoc, Nat.mul_mod_left]
      simp
  · rw [if_neg hlt, Nat.shiftRight_eq_div_pow, pure_bind]
    refine (hdrop _).trans (hcut _ _ ?_ ?_)
    · have e : c.mantissaSize + drop = pe + (c.mantissaSize + drop - pe) := by omega
      conv_rhs => rw [e, Nat.pow_add, Nat.mul_comm m, Nat.mul_div_mul_left _ _ (Nat.two_pow_pos _)]
    · have hh : m * 2 ^ pe = mo * 2 ^ (j + pe) := by rw [hm, Nat.pow_add, Nat.mul_assoc]
      rw [hh, decide_eq_true_eq, ne_eq, odd_mul_pow_mod hodd]
      omega

theorem runFraction_cut {c : Cfg} {m mo j N D fl0 needed0 : Nat} (hmi : 0 < c.maxIndex) (hfit : 64 * c.maxIndex ≤ c.totalBits)
    (hmo : m / 2 ^ j = mo) (hodd : mo % 2 = 1) (hD : 0 < D) (hcross : N * 2 ^ fl0 = mo * D)
    (hroom : mo * 5 ^ fracLen fl0 needed0 < 2 ^ (64 * c.maxIndex)) :
    runFraction c m j fl0 needed0 =
      .ok (N * 10 ^ fracLen fl0 needed0 / D, fracLen fl0 needed0, decide (N * 10 ^ fracLen fl0 needed0 % D ≠ 0)) := by
  obtain ⟨h1, h2⟩ := frac_cut (needed0 := needed0) hodd hD hcross
  rw [runFraction_eq hmi hfit (hmo ▸ hroom), hmo, h1]
  congr 3
  rw [Bool.eq_iff_iff, h2, decide_eq_true_eq]

theorem int_cut_lt {M m pe drop mi tb : Nat} (hm : m < 2 ^ (M + 1)) (hM1 : 2 ^ (M + 1) < 2 ^ (64 * mi)) (hfit : 64 * mi ≤ tb)
    (hroom : M + drop < pe → m * 2 ^ (pe - (M + drop)) < 2 ^ tb) : m * 2 ^ pe / (2 ^ M * 10 ^ drop) < 2 ^ tb := by
  have hden : 2 ^ M * 10 ^ drop = 2 ^ (M + drop) * 5 ^ drop := by rw [Nat.pow_add, Nat.mul_assoc, ← Nat.mul_pow]
  rw [hden, ← Nat.div_div_eq_div_mul]
  refine lt_of_le_of_lt (Nat.div_le_self _ _) ?_
  by_cases hlt : M + drop < pe
  · have e : pe = (pe - (M + drop)) + (M + drop) := by omega
    rw [e, Nat.pow_add, ← Nat.mul_assoc, Nat.mul_div_cancel _ (Nat.two_pow_pos _)]
    exact hroom hlt
  · have e : M + drop = pe + (M + drop - pe) := by omega
    rw [e, Nat.pow_add, Nat.mul_comm m, Nat.mul_div_mul_left _ _ (Nat.two_pow_pos _)]
    exact lt_of_lt_of_le (lt_of_le_of_lt (Nat.div_le_self _ _) (lt_trans hm hM1)) (Nat.pow_le_pow_right (by decide) hfit)

theorem frac_lt {x sh mi tb : Nat} (hfit : 64 * mi ≤ tb) (hroom : x < 2 ^ (64 * mi)) : x / 2 ^ sh < 2 ^ tb :=
  lt_of_le_of_lt (Nat.div_le_self _ _) (lt_of_lt_of_le hroom (Nat.pow_le_pow_right (by decide) hfit))

/-- the digit run never faults and is the run by its meaning; the BigInt it returns fits the declared width -/
theorem digitRun_spec {c : Cfg} {M B : Nat} (hc : Shape c M B) {f e p fmt : Nat}
    (hf : f < 2 ^ M) (he : e ≤ 2 * B) (hnz : e ≠ 0 ∨ f ≠ 0) (hp : p ≤ 40 ∨ (B ≤ e ∧ fracBits M B f e = 0)) :
    digitRun c f (e * 2 ^ M) p fmt = .ok (runSpec M B f e p fmt) ∧ (runSpec M B f e p fmt).1 < 2 ^ c.totalBits := by
  obtain ⟨c1, c2, c3, c4, c5, c6, c7, c8, _, _, _⟩ := hc
  -- without a fraction no product by a power of five is formed, and the precision does not matter
  have hp' : p ≤ 40 ∨ (B ≤ e ∧ M - findFirstBit (mant M f e) ≤ e - B) :=
    hp.imp id (fun h => ⟨h.1, by have := h.2; simp only [fracBits, h.1, if_true] at this; omega⟩)
  clear hp
  have hm0 := mant_pos (M := M) hnz
  have hmlt := mant_lt (e := e) hf
  obtain ⟨hj, hjd, hjo⟩ := findFirstBit_mant c4 hm0 hmlt
  have hmo : mant M f e = mant M f e / 2 ^ findFirstBit (mant M f e) * 2 ^ findFirstBit (mant M f e) :=
    (Nat.div_mul_cancel (Nat.dvd_of_mod_eq_zero hjd)).symm
  have hmant : (if e * 2 ^ M ≠ 0 then f ||| 2 ^ M else f <<< 1) = mant M f e := by
    unfold mant
    by_cases h0 : e = 0
    · simp [h0, Nat.shiftLeft_eq, Nat.mul_comm]
    · have : e * 2 ^ M ≠ 0 := Nat.mul_ne_zero h0 (Nat.pos_iff_ne_zero.mp (Nat.two_pow_pos M))
      have h2 := Nat.two_pow_add_eq_or_of_lt hf 1
      simp only [Nat.mul_one] at h2
      simp [h0, this, h2, Nat.or_comm]
  have hb0 : (e * 2 ^ M = 0) ↔ e = 0 := by
    constructor
    · intro h; rcases Nat.mul_eq_zero.mp h with h | h
      · exact h
      · exact absurd h (Nat.pos_iff_ne_zero.mp (Nat.two_pow_pos M))
    · intro h; simp [h]
  have hcs : csub 20 M (findFirstBit (mant M f e)) = .ok (M - findFirstBit (mant M f e)) := by
    simp [csub, hj, pure, Except.pure]
  have hpe : (if B ≤ e then e - B else B - e) ≤ B := by split <;> omega
  have hroomNF : ∀ drop, M + drop < (if B ≤ e then e - B else B - e) →
      mant M f e * 2 ^ ((if B ≤ e then e - B else B - e) - (M + drop)) < 2 ^ c.totalBits := by
    intro drop hlt
    exact shift_room hmlt (by omega)
  have hM1 : 2 ^ (M + 1) < 2 ^ (64 * c.maxIndex) :=
    lt_of_le_of_lt (Nat.le_mul_of_pos_right _ (Nat.pow_pos (by decide))) c8
  have hroomF : ∀ fl0 needed0, needed0 ≤ (B + M) * 30103 / 100000 + 1 + 40 →
      mant M f e / 2 ^ findFirstBit (mant M f e) * 5 ^ fracLen fl0 needed0 < 2 ^ (64 * c.maxIndex) :=
    fun fl0 needed0 hn => frac_room c8 hmlt hn
  unfold digitRun runSpec runFl runDrop valNum valDen
  simp only [c1, c2, c3, hmant, Nat.shiftRight_eq_div_pow, Nat.mul_div_cancel _ (Nat.two_pow_pos M), hcs, ok_bind, hb0]
  have hest : ∀ j pe, (pe + if e = 0 then M - j else 0) * 30103 / 100000 + 1 = estDigits M j pe e := fun _ _ => rfl
  simp only [hest]
  generalize findFirstBit (mant M f e) = j at *
  generalize hpeq : (if B ≤ e then e - B else B - e) = pe at *
  have hpe' : B ≤ e → pe = e - B := fun h => by rw [← hpeq, if_pos h]
  have hdgle := estDigits_le (M := M) (j := j) (e := e) hpe
  clear c8
  generalize (decide (fmt = fmtSemiFixed) || decide (fmt = fmtFixed)) = fixed
  by_cases hnf : (decide (B ≤ e) && (decide (M - j ≤ pe) || (decide (p < estDigits M j pe e) && !fixed))) = true
  · -- no fraction: the value is `mant · 2^pe / 2^M`, cut at `10^drop`
    have hpos : B ≤ e := by simp only [Bool.and_eq_true, decide_eq_true_eq] at hnf; exact hnf.1
    simp only [if_pos hnf, if_pos hpos, Nat.pow_zero, Nat.mul_one, ← hpe' hpos]
    by_cases hx : (decide (p < estDigits M j pe e) && !fixed) = true
    · have hpd : p < estDigits M j pe e := by simp at hx; exact hx.1
      have hcs21 : csub 21 (estDigits M j pe e) (p + 1) = .ok (estDigits M j pe e - (p + 1)) := by
        simp [csub, pure, Except.pure]; omega
      simp only [hx, Bool.not_true, Bool.false_eq_true, if_false, if_true, hcs21, ok_bind]
      rw [runNoFraction_cut hmo hjo (by rw [c1]; exact hroomNF _), ok_bind, c1]
      exact ⟨rfl, int_cut_lt hmlt hM1 c6 (hroomNF _)⟩
    · simp only [hx, Bool.not_false, Bool.false_eq_true, if_true, if_false, pure_bind]
      rw [runNoFraction_cut hmo hjo (by rw [c1]; exact hroomNF _), ok_bind, c1]
      exact ⟨rfl, int_cut_lt hmlt hM1 c6 (hroomNF _)⟩
  · -- fraction: the value is the odd part of the mantissa over `2^fl0`
    simp only [if_neg hnf, Nat.pow_zero, Nat.mul_one]
    by_cases hpos : B ≤ e
    · have hnb : ¬ (M - j ≤ pe) := by
        intro h; apply hnf; simp [hpos, h]
      have hcs22 : csub 22 (M - j) pe = .ok (M - j - pe) := by simp [csub, pure, Except.pure]; omega
      have hcross : mant M f e * 2 ^ (e - B) * 2 ^ (M - j - pe) = mant M f e / 2 ^ j * 2 ^ M := by
        conv_lhs => rw [hmo]
        rw [Nat.mul_assoc, Nat.mul_assoc, ← Nat.pow_add, ← Nat.pow_add]; congr 2; have := hpe' hpos; omega
      simp only [hpos, decide_true, if_true, hcs22, ok_bind]
      cases hfx : fixed
      · have hnp : ¬ (p < estDigits M j pe e) := by
          intro h; apply hnf; simp [hpos, h, hfx]
        have hcs23 : csub 23 p (estDigits M j pe e) = .ok (p - estDigits M j pe e) := by
          simp [csub, pure, Except.pure]; omega
        simp only [Bool.false_eq_true, if_false, hcs23, ok_bind, pure_bind]
        rw [runFraction_cut c5 c6 rfl hjo (Nat.two_pow_pos M) hcross (hroomF _ _ (by omega)), ok_bind]
        exact ⟨rfl, (frac_cut hjo (Nat.two_pow_pos M) hcross).1 ▸ frac_lt c6 (hroomF _ _ (by omega))⟩
      · simp only [if_true, pure_bind]
        rw [runFraction_cut c5 c6 rfl hjo (Nat.two_pow_pos M) hcross (hroomF _ _ (by omega)), ok_bind]
        exact ⟨rfl, (frac_cut hjo (Nat.two_pow_pos M) hcross).1 ▸ frac_lt c6 (hroomF _ _ (by omega))⟩
    · have hcross : mant M f e * 2 ^ (M - j + pe) = mant M f e / 2 ^ j * 2 ^ (M + (B - e)) := by
        conv_lhs => rw [hmo]
        rw [Nat.mul_assoc, ← Nat.pow_add]; congr 2; rw [← hpeq, if_neg hpos]; omega
      simp only [hpos, decide_false, Bool.false_eq_true, if_false, pure_bind]
      rw [runFraction_cut c5 c6 rfl hjo (Nat.two_pow_pos _) hcross (hroomF _ _ (by omega)), ok_bind]
      exact ⟨rfl, (frac_cut hjo (Nat.two_pow_pos _) hcross).1 ▸ frac_lt c6 (hroomF _ _ (by omega))⟩

end Qentem.Proofs.NumToStr
