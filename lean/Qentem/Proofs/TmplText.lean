import Qentem.Proofs.TmplFinder
import Qentem.Model.Tmpl.Render
/-!
# C01/C02 — content without a tag-start character parses to no tags and renders to itself
-/
namespace Qentem.Tmpl
open Qentem.Expr (ScanCfg RealLike)
open Qentem.Generated.Tmpl

/-- no `{` and no `<` anywhere -/
def NoTagStart (c : List Nat) : Prop :=
  ∀ x ∈ c, x ≠ W1.inLineFirstChar ∧ x ≠ W1.multiLineFirstChar

theorem nextF_noStart (c : List Nat) (h : NoTagStart c) : ∀ (f off o m : Nat),
    nextF c f off = .ok (o, m) → m ≤ 1 := by
  intro f
  induction f with
  | zero => intro off o m hr; simp [nextF] at hr; omega
  | succ f ih =>
    intro off o m hr
    simp only [nextF] at hr
    by_cases hlt : off < c.length
    · have hmem := h c[off] (List.getElem_mem hlt)
      have hid : ¬ firstCharID c[off] < W1.firstCharsCount := by
        simp only [firstCharID, hmem.1, hmem.2, if_false]; decide
      simp only [hlt, if_true, rd_getElem c off hlt, bind, Except.bind, hid, if_false] at hr
      by_cases hs : c[off] = W1.singleChar
      · simp only [hs, if_true] at hr; simp at hr; omega
      · simp only [hs, if_false] at hr; exact ih _ _ _ hr
    · simp only [hlt, if_false] at hr; simp at hr; omega

variable {R : Type}

structure TextInv (c : List Nat) (st : PState R) : Prop where
  storage : st.storage = []
  stack : st.stack = []
  child : st.isChild = false
  mtch : st.mtch ≤ 1
  off : st.off ≤ c.length

theorem finderNext_text (c : List Nat) (h : NoTagStart c) (st : PState R) (hi : TextInv c st) :
    ∃ st', finderNext c st = .ok st' ∧ TextInv c st' ∧ (st'.mtch ≠ 0 → st.off < st'.off) := by
  obtain ⟨o, m, h1, h2, _, h4, _⟩ := next_total c st.off hi.off
  refine ⟨{ st with off := o, mtch := m }, ?_, ?_, ?_⟩
  · simp [finderNext, h1, bind, Except.bind]
  · exact ⟨hi.storage, hi.stack, hi.child, nextF_noStart c h _ _ _ _ h1, h2⟩
  · exact h4

theorem parseMain_text (cfg : ScanCfg R) (c : List Nat) (h : NoTagStart c) :
    ∀ (fuel : Nat) (st : PState R), TextInv c st →
      (if st.mtch = 0 then 1 else c.length + 2 - st.off) ≤ fuel →
      ∃ st', parseMain cfg c fuel st = .ok st' ∧ st'.storage = [] ∧ st'.stack = [] := by
  intro fuel
  induction fuel with
  | zero => intro st hi hf; have := hi.off; split at hf <;> omega
  | succ fuel ih =>
    intro st hi hf
    simp only [parseMain]
    by_cases hm : st.mtch = 0
    · simp only [hm, ne_eq, not_true_eq_false, if_false]
      exact ⟨st, rfl, hi.storage, hi.stack⟩
    · have hm1 : st.mtch = 1 := by have := hi.mtch; omega
      have hstep : step cfg c st = finderNext c st := by
        have : st.mtch = W1.lineEndID := hm1
        simp only [step, this, if_true, stepLineEnd, hi.child, hi.stack]
        rfl
      obtain ⟨st', h1, h2, h3⟩ := finderNext_text c h st hi
      simp only [ne_eq, hm, not_false_eq_true, if_true, hstep, h1, bind, Except.bind]
      apply ih st' h2
      simp only [hm, if_false] at hf
      have hoff := hi.off
      have hoff' := h2.off
      by_cases hm' : st'.mtch = 0
      · simp only [hm', if_true]; omega
      · simp only [hm', if_false]; have := h3 hm'; omega

theorem parse_text (cfg : ScanCfg R) (c : List Nat) (h : NoTagStart c) : parse cfg c = .ok [] := by
  have hi0 : TextInv c ({} : PState R) := ⟨rfl, rfl, rfl, Nat.zero_le 1, Nat.zero_le _⟩
  obtain ⟨st0, h1, h2, _⟩ := finderNext_text c h ({} : PState R) hi0
  obtain ⟨st', h3, h4, h5⟩ := parseMain_text cfg c h (2 * c.length + 4) st0 h2 (by
    have := h2.off
    split <;> omega)
  simp only [parse, h1, h3, bind, Except.bind, h4, h5, cleanup]

theorem render_text [RealLike R] (cx : RCtx R) (cfg : ScanCfg R) (h : NoTagStart cx.content)
    (fuel : Nat) :
    (parse cfg cx.content).bind (fun tags => renderTop cx tags (fuel + 1)) = .ok cx.content := by
  rw [parse_text cfg cx.content h]
  simp [Except.bind, renderTop, render, slice, emit, bind]

end Qentem.Tmpl
