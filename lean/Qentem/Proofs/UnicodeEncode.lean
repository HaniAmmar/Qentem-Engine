import Qentem.Model.Unicode
/-!
Helper lemmas for C20: the shift/mask form of the encoders restated with `/` and `%`
(so that `omega` applies), and what the standard decoders do on one well-formed sequence.
-/
theorem Qentem.Unicode.char_ofNat_toNat (cp : Nat) (hv : cp.isValidChar) : (Char.ofNat cp).toNat = cp := by
  unfold Char.ofNat; rw [dif_pos hv]
  simp [Char.toNat, Char.ofNatAux, UInt32.toNat]

namespace Qentem.Unicode

theorem toNat_ofNat_of_lt (n : Nat) (h : n < 256) : (UInt8.ofNat n).toNat = n := by
  rw [UInt8.toNat_ofNat']; exact Nat.mod_eq_of_lt h

theorem map_cons_congr (a b : Nat) (h : a = b) (o : Option (List Nat)) :
    o.map (a :: ·) = o.map (b :: ·) := by subst h; rfl

theorem flatMap_congr_mem {α : Type} (l : List α) (f g : α → List Nat) (h : ∀ i ∈ l, f i = g i) :
    l.flatMap f = l.flatMap g := by
  induction l with
  | nil => rfl
  | cons a t ih => simp [List.flatMap_cons, h a (by simp), ih (fun i hi => h i (by simp [hi]))]

theorem or80 : ∀ y, y < 64 → 0x80 ||| y = 0x80 + y := by decide
theorem orC0 : ∀ y, y < 32 → 0xC0 ||| y = 0xC0 + y := by decide
theorem orE0 : ∀ y, y < 16 → 0xE0 ||| y = 0xE0 + y := by decide
theorem orF0 : ∀ y, y < 8 → 0xF0 ||| y = 0xF0 + y := by decide

theorem orD800 (y : Nat) (h : y < 1024) : 0xD800 ||| y = 0xD800 + y := by
  have := Nat.two_pow_add_eq_or_of_lt (i := 10) (b := y) (by simpa using h) 54
  simpa using this.symm

theorem orDC00 (y : Nat) (h : y < 1024) : 0xDC00 ||| y = 0xDC00 + y := by
  have := Nat.two_pow_add_eq_or_of_lt (i := 10) (b := y) (by simpa using h) 55
  simpa using this.symm

theorem and3F (x : Nat) : x &&& 0x3F = x % 64 := Nat.and_two_pow_sub_one_eq_mod x 6
theorem and3FF (x : Nat) : x &&& 0x3FF = x % 1024 := Nat.and_two_pow_sub_one_eq_mod x 10

theorem andFC00 (x : Nat) : x &&& 0xFC00 = (x / 1024 % 64) * 1024 := by
  have hd : (x &&& 0xFC00) / 2 ^ 10 = x / 2 ^ 10 &&& 0xFC00 / 2 ^ 10 := Nat.and_div_two_pow
  have hm : (x &&& 0xFC00) % 2 ^ 10 = x % 2 ^ 10 &&& 0xFC00 % 2 ^ 10 := Nat.and_mod_two_pow
  have h63 : x / 1024 &&& 63 = x / 1024 % 64 := Nat.and_two_pow_sub_one_eq_mod _ 6
  simp at hd hm
  rw [h63] at hd
  omega

theorem xorD800 (x : Nat) (h : 0xD800 ≤ x ∧ x ≤ 0xDBFF) : x ^^^ 0xD800 = x - 0xD800 := by
  have hd : (x ^^^ 0xD800) / 2 ^ 10 = x / 2 ^ 10 ^^^ 0xD800 / 2 ^ 10 := Nat.xor_div_two_pow
  have hm : (x ^^^ 0xD800) % 2 ^ 10 = x % 2 ^ 10 ^^^ 0xD800 % 2 ^ 10 := Nat.xor_mod_two_pow
  have h54 : x / 1024 = 54 := by omega
  simp [h54] at hd hm
  omega

/-- The high-surrogate test of `UnEscape` (`(code & 0xFC00U) != 0xD800U`) is the range test. -/
theorem isHigh_iff (x : Nat) (h : x < 0x10000) : x &&& 0xFC00 = 0xD800 ↔ (0xD800 ≤ x ∧ x ≤ 0xDBFF) := by
  rw [andFC00]; omega

/-! ### the encoders in arithmetic form (valid for every `u < 0x200000`, scalar or not) -/

theorem toUTF8_arith (u : Nat) (h : u < 0x200000) : toUTF8 u =
    if u < 0x80 then [u]
    else if u < 0x800 then [0xC0 + u / 64, 0x80 + u % 64]
    else if u < 0x10000 then [0xE0 + u / 4096, 0x80 + u / 64 % 64, 0x80 + u % 64]
    else [0xF0 + u / 262144, 0x80 + u / 4096 % 64, 0x80 + u / 64 % 64, 0x80 + u % 64] := by
  unfold toUTF8
  have e6 : u >>> 6 = u / 64 := Nat.shiftRight_eq_div_pow u 6
  have e12 : u >>> 12 = u / 4096 := Nat.shiftRight_eq_div_pow u 12
  have e18 : u >>> 18 = u / 262144 := Nat.shiftRight_eq_div_pow u 18
  have m (x : Nat) : (0x80 ||| x % 64) % 256 = 0x80 + x % 64 := by
    rw [or80 _ (Nat.mod_lt _ (by decide))]; omega
  rw [e6, e12, e18, and3F, and3F, and3F, m, m, m]
  by_cases c1 : u < 0x80
  · rw [if_pos c1, if_pos c1, Nat.mod_eq_of_lt (by omega)]
  rw [if_neg c1, if_neg c1]
  by_cases c2 : u < 0x800
  · rw [if_pos c2, if_pos c2, orC0 _ (by omega), Nat.mod_eq_of_lt (by omega)]
  rw [if_neg c2, if_neg c2]
  by_cases c3 : u < 0x10000
  · rw [if_pos c3, if_pos c3, orE0 _ (by omega), Nat.mod_eq_of_lt (by omega)]
  · rw [if_neg c3, if_neg c3, orF0 _ (by omega), Nat.mod_eq_of_lt (by omega)]

theorem toUTF16_arith (u : Nat) (h : u < 0x110000) : toUTF16 u =
    if u < 0x10000 then [u]
    else [0xD800 + (u - 0x10000) / 1024, 0xDC00 + (u - 0x10000) % 1024] := by
  unfold toUTF16
  by_cases c : u < 0x10000
  · rw [if_pos c, if_pos c, Nat.mod_eq_of_lt c]
  · have e10 : (u - 0x10000) >>> 10 = (u - 0x10000) / 1024 := Nat.shiftRight_eq_div_pow _ 10
    rw [if_neg c, if_neg c]
    simp only [e10, and3FF]
    rw [orD800 _ (by omega), orDC00 _ (Nat.mod_lt _ (by decide)), Nat.mod_eq_of_lt (by omega), Nat.mod_eq_of_lt (by omega)]

theorem toUTF_ascii (w c : Nat) (hc : c < 0x80) : toUTF w c = [c] := by
  simp only [toUTF, toUTF8, toUTF16, toUTF32, if_pos hc, if_pos (show c < 0x10000 by omega),
    Nat.mod_eq_of_lt (show c < 256 by omega), Nat.mod_eq_of_lt (show c < 65536 by omega),
    Nat.mod_eq_of_lt (show c < 4294967296 by omega), ite_self]

theorem base64_2 (u : Nat) : u / 64 * 64 + u % 64 = u := Nat.div_add_mod' u 64

/-- One more digit (base `B`) on top of a number already split as `q * k + c`. -/
theorem digits_step {a b c q u : Nat} (B k : Nat) (h2 : a * B + b = q) (h1 : q * k + c = u) :
    a * (B * k) + b * k + c = u := by
  rw [← h1, ← h2, Nat.add_mul, Nat.mul_assoc]

theorem base64_3 (u : Nat) : u / 4096 * 4096 + u / 64 % 64 * 64 + u % 64 = u :=
  digits_step 64 64 (Nat.div_div_eq_div_mul u 64 64 ▸ base64_2 (u / 64)) (base64_2 u)

theorem base64_4 (u : Nat) : u / 262144 * 262144 + u / 4096 % 64 * 4096 + u / 64 % 64 * 64 + u % 64 = u := by
  have h := digits_step (a := u / 262144) (b := u / 4096 % 64) (c := u / 64 % 64 * 64 + u % 64) (q := u / 4096)
    (u := u) 64 4096 (Nat.div_div_eq_div_mul u 4096 64 ▸ base64_2 (u / 4096)) (by rw [← Nat.add_assoc]; exact base64_3 u)
  rw [← Nat.add_assoc] at h; exact h

theorem utf8Decode_1 (b0 : Nat) (r : List Nat) (h : b0 < 0x80) :
    utf8Decode (b0 :: r) = (utf8Decode r).map (b0 :: ·) := by
  rw [utf8Decode.eq_def]; simp [h]

theorem ite_le {c : Prop} [Decidable c] {x y z : Nat} (h1 : c → x ≤ z) (h2 : y ≤ z) : (if c then x else y) ≤ z := by
  by_cases e : c
  · rw [if_pos e]; exact h1 e
  · rw [if_neg e]; exact h2

theorem le_ite {c : Prop} [Decidable c] {x y z : Nat} (h1 : c → z ≤ x) (h2 : z ≤ y) : z ≤ (if c then x else y) := by
  by_cases e : c
  · rw [if_pos e]; exact h1 e
  · rw [if_neg e]; exact h2

theorem mod64 (b : Nat) (h : 0x80 ≤ b ∧ b ≤ 0xBF) : b % 64 = b - 0x80 := by omega

theorem utf8Decode_2 (b0 b1 : Nat) (r : List Nat) (h0 : 0xC2 ≤ b0 ∧ b0 ≤ 0xDF) (h1 : 0x80 ≤ b1 ∧ b1 ≤ 0xBF) :
    utf8Decode (b0 :: b1 :: r) = (utf8Decode r).map (((b0 - 0xC0) * 64 + (b1 - 0x80)) :: ·) := by
  have n1 : ¬ b0 < 0x80 := by omega
  have e0 : b0 % 32 = b0 - 0xC0 := by omega
  rw [utf8Decode.eq_def]; simp [n1, h0, h1, isCont, e0, mod64 b1 h1]

theorem utf8Decode_3 (b0 b1 b2 : Nat) (r : List Nat) (h0 : 0xE0 ≤ b0 ∧ b0 ≤ 0xEF) (h1 : 0x80 ≤ b1 ∧ b1 ≤ 0xBF)
    (hlo : b0 = 0xE0 → 0xA0 ≤ b1) (hhi : b0 = 0xED → b1 ≤ 0x9F) (h2 : 0x80 ≤ b2 ∧ b2 ≤ 0xBF) :
    utf8Decode (b0 :: b1 :: b2 :: r) =
      (utf8Decode r).map (((b0 - 0xE0) * 4096 + (b1 - 0x80) * 64 + (b2 - 0x80)) :: ·) := by
  have n1 : ¬ b0 < 0x80 := by omega
  have n2 : ¬ (0xC2 ≤ b0 ∧ b0 ≤ 0xDF) := by omega
  have e0 : b0 % 16 = b0 - 0xE0 := by omega
  have lo : (if b0 = 0xE0 then 0xA0 else 0x80) ≤ b1 := ite_le hlo h1.1
  have hi : b1 ≤ (if b0 = 0xED then 0x9F else 0xBF) := le_ite hhi h1.2
  rw [utf8Decode.eq_def]; simp [n1, n2, h0, lo, hi, h2, isCont, e0, mod64 b1 h1, mod64 b2 h2]

theorem utf8Decode_4 (b0 b1 b2 b3 : Nat) (r : List Nat) (h0 : 0xF0 ≤ b0 ∧ b0 ≤ 0xF4) (h1 : 0x80 ≤ b1 ∧ b1 ≤ 0xBF)
    (hlo : b0 = 0xF0 → 0x90 ≤ b1) (hhi : b0 = 0xF4 → b1 ≤ 0x8F) (h2 : 0x80 ≤ b2 ∧ b2 ≤ 0xBF) (h3 : 0x80 ≤ b3 ∧ b3 ≤ 0xBF) :
    utf8Decode (b0 :: b1 :: b2 :: b3 :: r) =
      (utf8Decode r).map (((b0 - 0xF0) * 262144 + (b1 - 0x80) * 4096 + (b2 - 0x80) * 64 + (b3 - 0x80)) :: ·) := by
  have n1 : ¬ b0 < 0x80 := by omega
  have n2 : ¬ (0xC2 ≤ b0 ∧ b0 ≤ 0xDF) := by omega
  have n3 : ¬ (0xE0 ≤ b0 ∧ b0 ≤ 0xEF) := by omega
  have e0 : b0 % 8 = b0 - 0xF0 := by omega
  have lo : (if b0 = 0xF0 then 0x90 else 0x80) ≤ b1 := ite_le hlo h1.1
  have hi : b1 ≤ (if b0 = 0xF4 then 0x8F else 0xBF) := le_ite hhi h1.2
  rw [utf8Decode.eq_def]; simp [n1, n2, n3, h0, lo, hi, h2, h3, isCont, e0, mod64 b1 h1, mod64 b2 h2, mod64 b3 h3]

theorem utf16Decode_1 (u : Nat) (r : List Nat) (h : u < 0xD800 ∨ (0xE000 ≤ u ∧ u < 0x10000)) :
    utf16Decode (u :: r) = (utf16Decode r).map (u :: ·) := by
  rw [utf16Decode.eq_def]; simp [h]

theorem utf16Decode_2 (u l : Nat) (r : List Nat) (hu : 0xD800 ≤ u ∧ u ≤ 0xDBFF) (hl : 0xDC00 ≤ l ∧ l ≤ 0xDFFF) :
    utf16Decode (u :: l :: r) =
      (utf16Decode r).map ((0x10000 + (u - 0xD800) * 0x400 + (l - 0xDC00)) :: ·) := by
  have n : ¬ (u < 0xD800 ∨ (0xE000 ≤ u ∧ u < 0x10000)) := by omega
  rw [utf16Decode.eq_def]; simp [n, hu, hl]

end Qentem.Unicode
