import Qentem.Proofs.TmplGenBase
/-!
# C02 — the parse of a printed `{svar:path, a1, …}`

The `, ` before each argument is a *text segment* (`argSegs`): the arguments are then one run of segments parsed
inside the container (`parseMain_segs` with `isChild`), between the step at `{svar:` and the closing `}`.
-/
namespace Qentem.Tmpl
open Qentem.Expr (Fault rd ScanCfg VarRef Item Num Val Env RealLike)
open Qentem.Generated.Tmpl
variable {R : Type}

/-- the arguments of a super variable as a run of segments: `, ` before each -/
def argSegs : List Seg → List Seg
  | [] => []
  | a :: r => .text [44, 32] :: a :: argSegs r

def printSvar (path : List Nat) (args : List Seg) : List Nat :=
  SVAR1 ++ (path ++ (printSegs (argSegs args) ++ [125]))

/-- `p` is the position of the path -/
theorem stepSvar_print (cfg : ScanCfg R) (c : List Nat) (ch : List LoopRef) (stk : List (Frame R)) (acc : List (Tag R)) (p : Nat)
    (path : List Nat) (h : At c p (path ++ [44]))
    (hp : plainL path) (hp44 : ∀ x ∈ path, x ≠ 44) (hp0 : 0 < path.length) (hp255 : path.length ≤ 255) :
    step cfg c (stAtC ch false stk acc p 5) =
      .ok (stP c ch true (.svar acc ⟨p, path.length, 0, 0⟩ (p - 6) :: stk) [] (p + path.length)) := by
  show stepSvar c (stAtC ch false stk acc p 5) = _
  obtain ⟨o1, m1, hnext, _, hge, _⟩ := next_total c (p + path.length) h.left.le
  rw [stP_eq hnext]
  have hrun : next c p = .ok (o1, m1) := (h.left.run hp).trans hnext
  have hsk : skipW c o1 (· != W1.variablesSeparatorChar) p = .ok (p + path.length) :=
    h.left.skip (fun x hx => bne_iff_ne.mpr (hp44 x hx)) h.right.head rfl hge
  have hoff : (stAtC ch false stk acc p 5 : PState R).off = p := rfl
  have hoff1 : (stAtC ch false stk acc o1 m1 : PState R).off = o1 := rfl
  have hlen : trunc bits_VariableTag_Length ((p + path.length - p) % 256) = path.length := by
    simp only [trunc, show bits_VariableTag_Length = 16 from rfl, Nat.add_sub_cancel_left]
    omega
  simp only [stepSvar, hoff, finderNext_stAtC c ch false stk acc p 5 o1 m1 hrun, bind, Except.bind, hoff1, hsk, hlen,
    show W1.superVariablePrefixLength = 6 from rfl, show path.length ≠ 0 by omega, ne_eq, not_false_eq_true, if_true]
  rfl

theorem stepLineEnd_svar (cfg : ScanCfg R) (c : List Nat) (ch : List LoopRef) (pre sub : List (Tag R)) (v : VarRef)
    (off : Nat) (rest : List (Frame R)) (endO : Nat) (hle : endO ≤ c.length) :
    step cfg c (stAtC ch true (.svar pre v off :: rest) sub endO 1) =
      .ok (stP c ch false rest (pre ++ [.svar sub v off endO]) endO) := by
  rw [← finderNext_stP c ch false rest _ endO 1 hle]
  show stepLineEnd c (stAtC ch true (.svar pre v off :: rest) sub endO 1) = _
  simp only [stepLineEnd, stAtC, bind, Except.bind]
  rfl

/-- an argument of a super variable is a tag, not text -/
def Seg.isArg : Seg → Prop
  | .text _ => False
  | _ => True

theorem printSvar_len (path : List Nat) (args : List Seg) :
    (printSvar path args).length = 6 + path.length + (printSegs (argSegs args)).length + 1 := by
  simp [printSvar, SVAR1]; omega

theorem argSegs_ok : ∀ (args : List Seg), (∀ a ∈ args, a.ok) → ∀ s ∈ argSegs args, s.ok := by
  intro args
  induction args with
  | nil => intro _ s hs; simp [argSegs] at hs
  | cons a r ih =>
    intro h s hs
    simp only [argSegs, List.mem_cons] at hs
    rcases hs with rfl | rfl | hs
    · exact plainL_of_all _ rfl
    · exact h _ (List.mem_cons_self ..)
    · exact ih (fun a ha => h a (List.mem_cons_of_mem _ ha)) s hs

theorem nTags_argSegs : ∀ (args : List Seg), (∀ a ∈ args, a.isArg) → nTags (argSegs args) = args.length := by
  intro args
  induction args with
  | nil => intro _; rfl
  | cons a r ih =>
    intro h
    have ha := h a (List.mem_cons_self ..)
    have := ih (fun a ha => h a (List.mem_cons_of_mem _ ha))
    cases a <;> simp [argSegs, nTags, this, Seg.isArg] at ha ⊢

/-- the tag `parse` stores for a printed super variable at `p` -/
def svarTag (cfg : ScanCfg R) (c : List Nat) (D : List LoopD) (p : Nat) (path : List Nat) (args : List Seg) : Tag R :=
  .svar (tagsOfD cfg c D (p + 6 + path.length) (argSegs args)) ⟨p + 6, path.length, 0, 0⟩ p
    (p + (printSvar path args).length)

theorem parse_svar (cfg : ScanCfg R) (c : List Nat) (hn : c.length + 16 < 4294967296) (D : List LoopD) (hD : ChainD c D)
    (stk : List (Frame R)) (path : List Nat) (args : List Seg) (p : Nat) (acc : List (Tag R))
    (h : At c p (printSvar path args))
    (hp : plainL path) (hp44 : ∀ x ∈ path, x ≠ 44) (hp0 : 0 < path.length) (hp255 : path.length ≤ 255)
    (hargs : ∀ a ∈ args, a.ok) (hne : args ≠ []) :
    Steps cfg c (2 + nTags (argSegs args)) (stP c (refsD D) false stk acc p)
      (stP c (refsD D) false stk (acc ++ [svarTag cfg c D p path args]) (p + (printSvar path args).length)) := by
  obtain ⟨a0, ar, rfl⟩ := List.exists_cons_of_ne_nil hne
  -- where the pieces stand
  have hP : At c (p + 6) (path ++ (printSegs (argSegs (a0 :: ar)) ++ [125])) := h.right
  have hS : At c (p + 6 + path.length) (printSegs (argSegs (a0 :: ar)) ++ [125]) := hP.right
  have hcomma : At c (p + 6 + path.length) [44] :=
    (show At c (p + 6 + path.length) ([44] ++ (32 :: (printSeg a0 ++ printSegs (argSegs ar)))) from hS.left).left
  have hlenE : p + (printSvar path (a0 :: ar)).length = p + 6 + path.length + (printSegs (argSegs (a0 :: ar))).length + 1 := by
    rw [printSvar_len]; omega
  -- `{svar:path`, the arguments inside the container, the closing `}`
  have s1 := Steps.first (cfg := cfg) (h.left.next_svar hn) (Nat.succ_ne_zero _)
    (stepSvar_print cfg c (refsD D) stk acc (p + 6) path (hP.left.append hcomma) hp hp44 hp0 hp255)
  have s2 := parseMain_segs cfg c hn D hD true (.svar acc ⟨p + 6, path.length, 0, 0⟩ (p + 6 - 6) :: stk) (argSegs (a0 :: ar))
    (p + 6 + path.length) [] hS.left (argSegs_ok _ hargs)
  have s3 := Steps.first (cfg := cfg) (next_at_close c _ hS.right.head) (Nat.succ_ne_zero _)
    (stepLineEnd_svar cfg c (refsD D) acc ([] ++ tagsOfD cfg c D (p + 6 + path.length) (argSegs (a0 :: ar)))
      ⟨p + 6, path.length, 0, 0⟩ (p + 6 - 6) stk _ (by rw [← hlenE]; exact h.le))
  rw [hlenE]
  exact ((s1.trans s2).trans s3).cast (by omega) (by simp only [svarTag, hlenE, Nat.add_sub_cancel, List.nil_append])

theorem printArgs_segs : ∀ (args : List Seg), printArgs (segsTpl args) = printSegs (argSegs args) := by
  intro args
  induction args with
  | nil => rfl
  | cons a r ih =>
    have h1 := printSegs_eq [a]
    simp only [segsTpl, printList, printSegs, List.append_nil] at h1
    simp only [segsTpl, printArgs, argSegs, printSegs, printSeg, ih, h1]
    simp [str]

end Qentem.Tmpl
