import Qentem.Proofs.NumToStrIntClass
/-! C10: the digit run handed to the string formatters, for every finite value and every format — where each of the
two blocks of `digitRun` cuts the value, the digit estimate against the value, and `RunOf`: the run with what the
layouts use of it. -/
namespace Qentem.Proofs.NumToStr
open Qentem.NumToStr Qentem.Generated.NumToStr Qentem

/-- the digit estimate `⌊e·30103/100000⌋ + 1` is exactly the digit count of `2^e`, for every binary exponent a
double or float can have: one kernel evaluation over the list of exponents -/
theorem est_table : ∀ e, e ≤ 1130 → 10 ^ (e * 30103 / 100000) ≤ 2 ^ e ∧ 2 ^ e < 10 ^ (e * 30103 / 100000 + 1) := by
  have h : (List.range 1131).all (fun e =>
      decide (10 ^ (e * 30103 / 100000) ≤ 2 ^ e ∧ 2 ^ e < 10 ^ (e * 30103 / 100000 + 1))) = true := by
    decide +kernel
  intro e he
  exact of_decide_eq_true (List.all_eq_true.mp h e (List.mem_range.mpr (by omega)))

theorem est_le_len {n pe : Nat} (hpe : pe ≤ 1130) (h : 2 ^ pe ≤ n) : pe * 30103 / 100000 + 1 ≤ (D n).length :=
  D_length_gt (le_trans (est_table pe hpe).1 h)

/-- where the fraction block stops when the binary fraction is longer: one digit past the precision (counted
from the estimated leading digit in the Default format and below one) -/
def cutAt (B e p fmt dg : Nat) : Nat := if B ≤ e then (if fmt = 0 then p - dg else p) else dg + p

theorem cutAt_lt1 {B e : Nat} (h : ¬ B ≤ e) (p fmt dg : Nat) : cutAt B e p fmt dg = dg + p := if_neg h

theorem cutAt_default {B e : Nat} (h : B ≤ e) (p dg : Nat) : cutAt B e p 0 dg = p - dg := by rw [cutAt, if_pos h, if_pos rfl]

theorem cutAt_fixed {B e fmt : Nat} (h : B ≤ e) (hf : fmt ≠ 0) (p dg : Nat) : cutAt B e p fmt dg = p := by
  rw [cutAt, if_pos h, if_neg hf]

theorem odd5_mod10 {x : Nat} (h2 : x % 2 = 1) (h5 : x % 5 = 0) : x % 10 = 5 := by omega

/-- why the last digit of a finite expansion is not a zero -/
theorem odd_mul_pow5_mod10 {mo k : Nat} (hmo : mo % 2 = 1) (hk : k ≠ 0) : (mo * 5 ^ k) % 10 = 5 := by
  apply odd5_mod10 (odd_mul_odd hmo (pow5_odd k))
  obtain ⟨j, rfl⟩ := Nat.exists_eq_succ_of_ne_zero hk
  rw [Nat.pow_succ, ← Nat.mul_assoc]; exact Nat.mul_mod_left _ _

/-- the no-fraction block of `digitRun`; only dropped integer digits make it sticky -/
theorem runSpec_noFraction {M B f e p fmt : Nat} (hM : M < 63) (hf : f < 2 ^ M) (hfmt : fmt ≤ 2) (hpos : B ≤ e)
    (he0 : e ≠ 0) (h : fracBits M B f e = 0 ∨ (fmt = 0 ∧ p < (e - B) * 30103 / 100000 + 1)) :
    ∃ b ru, runSpec M B f e p fmt = (b, (e - B) * 30103 / 100000 + 1, 0, true, ru) ∧
      runDrop M B f e p fmt =
        (if fmt = 0 ∧ p < (e - B) * 30103 / 100000 + 1 then (e - B) * 30103 / 100000 + 1 - (p + 1) else 0) ∧
      (ru = true → fmt = 0 ∧ p < (e - B) * 30103 / 100000 + 1) := by
  obtain ⟨hfl, hd⟩ := runFl_noFraction (M := M) (f := f) (p := p) hfmt hpos he0 h
  refine ⟨_, _, by rw [runSpec, hfl, if_pos hpos, estDigits_normal he0, decide_eq_true hpos], hd, ?_⟩
  intro hru
  by_contra hx
  rw [hd, if_neg hx, Nat.pow_zero, Nat.mul_one, Nat.mul_one,
    valDen_dvd hM hf (Or.inl he0) hpos (h.resolve_right hx)] at hru
  simp at hru

/-- the fraction block of `digitRun` -/
theorem runFl_fraction {M B f e p fmt : Nat} (hfmt : fmt ≤ 2) (hfb : B ≤ e → 0 < fracBits M B f e)
    (hx : B ≤ e → fmt = 0 → estDigits M (findFirstBit (mant M f e)) (e - B) e ≤ p) :
    runFl M B f e p fmt = fracLen (fracBits M B f e)
        (cutAt B e p fmt (estDigits M (findFirstBit (mant M f e)) (if B ≤ e then e - B else B - e) e)) ∧
      runDrop M B f e p fmt = 0 := by
  by_cases hpos : B ≤ e
  · have hfb' := hfb hpos
    simp only [fracBits, hpos, if_true] at hfb'
    have hnb : ¬ (M - findFirstBit (mant M f e) ≤ e - B) := by omega
    have h3 : fmt = 0 ∨ fmt = 1 ∨ fmt = 2 := by omega
    rcases h3 with rfl | rfl | rfl
    · have hnx : ¬ (p < estDigits M (findFirstBit (mant M f e)) (e - B) e) := by have := hx hpos rfl; omega
      have hfix : (decide ((0:Nat) = fmtSemiFixed) || decide ((0:Nat) = fmtFixed)) = false := by decide
      simp only [runFl, runDrop, cutAt, fracBits, hpos, if_true, decide_true, Bool.true_and, hfix, Bool.not_false,
        Bool.and_true, hnx, hnb, decide_false, Bool.or_false, Bool.false_eq_true, if_false, and_self]
    · have hfix : (decide ((1:Nat) = fmtSemiFixed) || decide ((1:Nat) = fmtFixed)) = true := by decide
      simp only [runFl, runDrop, cutAt, fracBits, hpos, if_true, decide_true, hfix, Bool.not_true,
        Bool.and_false, hnb, decide_false, Bool.or_false, Bool.false_eq_true, if_false, and_self,
        show ¬ ((1:Nat) = 0) by decide]
    · have hfix : (decide ((2:Nat) = fmtSemiFixed) || decide ((2:Nat) = fmtFixed)) = true := by decide
      simp only [runFl, runDrop, cutAt, fracBits, hpos, if_true, decide_true, hfix, Bool.not_true,
        Bool.and_false, hnb, decide_false, Bool.or_false, Bool.false_eq_true, if_false, and_self,
        show ¬ ((2:Nat) = 0) by decide]
  · simp only [runFl, runDrop, cutAt, fracBits, hpos, if_false, decide_false, Bool.false_and, Bool.false_eq_true,
      and_self]

/-- a whole expansion is an odd multiple of a power of five, so it ends in 5 -/
theorem runSpec_fraction {M B f e p fmt : Nat} (hM : M < 63) (hf : f < 2 ^ M) (hnz : e ≠ 0 ∨ f ≠ 0) (hfmt : fmt ≤ 2)
    (hfb : B ≤ e → 0 < fracBits M B f e)
    (hx : B ≤ e → fmt = 0 → estDigits M (findFirstBit (mant M f e)) (e - B) e ≤ p) :
    ∃ b, runSpec M B f e p fmt =
        (b, estDigits M (findFirstBit (mant M f e)) (if B ≤ e then e - B else B - e) e,
          fracLen (fracBits M B f e)
            (cutAt B e p fmt (estDigits M (findFirstBit (mant M f e)) (if B ≤ e then e - B else B - e) e)),
          decide (B ≤ e),
          decide (cutAt B e p fmt (estDigits M (findFirstBit (mant M f e)) (if B ≤ e then e - B else B - e) e) + 1 <
            fracBits M B f e)) ∧
      runDrop M B f e p fmt = 0 ∧
      (¬ (cutAt B e p fmt (estDigits M (findFirstBit (mant M f e)) (if B ≤ e then e - B else B - e) e) + 1 <
          fracBits M B f e) → b % 10 = 5) := by
  obtain ⟨hfl, hd⟩ := runFl_fraction (M := M) (f := f) (e := e) (p := p) hfmt hfb hx
  obtain ⟨_, _, hjo⟩ := findFirstBit_mant hM (mant_pos (M := M) hnz) (mant_lt (e := e) hf)
  have hfb0 : fracBits M B f e ≠ 0 := by
    by_cases hpos : B ≤ e
    · have := hfb hpos; omega
    · unfold fracBits; rw [if_neg hpos]; omega
  generalize cutAt B e p fmt (estDigits M (findFirstBit (mant M f e)) (if B ≤ e then e - B else B - e) e) = N at hfl ⊢
  refine ⟨valNum M B f e * 10 ^ fracLen (fracBits M B f e) N / valDen M B e, ?_, hd, ?_⟩
  · rw [runSpec, hfl, hd, Nat.pow_zero, Nat.mul_one]
    refine Prod.ext rfl (Prod.ext rfl (Prod.ext rfl (Prod.ext rfl ?_)))
    exact decide_eq_decide.mpr (frac_sticky_iff hM hf hnz hfb N)
  · intro hN
    rw [frac_whole hM hf hnz hfb hN]
    exact odd_mul_pow5_mod10 hjo hfb0

theorem FinVal.est_ge1 {c : Cfg} {M B f e num den : Nat} (hc : Shape c M B) (hv : FinVal M B f e num den)
    (hpos : B ≤ e) (he0 : e ≠ 0) : 10 ^ ((e - B) * 30103 / 100000) * den ≤ num :=
  le_trans (Nat.mul_le_mul_right _ (est_table _ (by have := hc.est; have := hv.he; omega)).1) (hv.ge_pow hpos he0)

/-- binary exponent of the lowest possible leading bit of a value below one: `v ≥ 2^-lowExp` -/
def lowExp (M B f e : Nat) : Nat := (B - e) + (if e = 0 then M - findFirstBit (mant M f e) else 0)

theorem lowExp_pos {M B f e : Nat} (h : e < B) : 1 ≤ lowExp M B f e := by unfold lowExp; omega

theorem lowExp_le_fracBits {M B f e : Nat} (h : e < B) : lowExp M B f e ≤ fracBits M B f e := by
  unfold lowExp fracBits
  simp only [show ¬ (B ≤ e) by omega, if_false]
  split <;> omega

theorem lowExp_le {M B f e : Nat} : lowExp M B f e ≤ B + M := by unfold lowExp; split <;> omega

theorem estDigits_lt1 (M B f e : Nat) :
    estDigits M (findFirstBit (mant M f e)) (B - e) e = lowExp M B f e * 30103 / 100000 + 1 := by
  simp only [estDigits, lowExp]

theorem FinVal.lt_one {M B f e num den : Nat} (hv : FinVal M B f e num den) (hM : M < 63) (hneg : e < B) :
    num < den ∧ den ≤ num * 2 ^ lowExp M B f e := by
  obtain ⟨k, hk, hvn, hvd⟩ := hv.hval
  obtain ⟨hj, hdiv, _⟩ := hv.mant_odd hM
  have hmlt := mant_lt (e := e) hv.hf
  rw [valNum, if_neg (by omega)] at hvn
  rw [valDen, if_neg (by omega)] at hvd
  have hlow : 2 ^ (M + (B - e)) ≤ mant M f e * 2 ^ lowExp M B f e := by
    unfold lowExp
    by_cases he0 : e = 0
    · -- subnormal: the mantissa is at least its lowest set bit
      have h2j : 2 ^ findFirstBit (mant M f e) ≤ mant M f e :=
        Nat.le_of_dvd (mant_pos hv.hnz) (Nat.dvd_of_mod_eq_zero hdiv)
      rw [if_pos he0]
      calc 2 ^ (M + (B - e)) = 2 ^ findFirstBit (mant M f e) * 2 ^ (B - e + (M - findFirstBit (mant M f e))) := by
            rw [← Nat.pow_add]; congr 1; omega
        _ ≤ _ := Nat.mul_le_mul_right _ h2j
    · rw [if_neg he0, Nat.add_zero, Nat.pow_add]
      refine Nat.mul_le_mul_right _ ?_
      unfold mant; rw [if_neg he0]; exact Nat.le_add_right _ _
  constructor
  · refine Nat.lt_of_mul_lt_mul_left (a := k) ?_
    rw [← hvn, ← hvd]
    exact lt_of_lt_of_le hmlt (Nat.pow_le_pow_right (by decide) (by omega))
  · refine Nat.le_of_mul_le_mul_left ?_ hk
    rw [← Nat.mul_assoc, ← hvn, ← hvd]
    exact hlow

theorem FinVal.est_lt1 {c : Cfg} {M B f e num den : Nat} (hc : Shape c M B) (hv : FinVal M B f e num den)
    (hneg : e < B) :
    num < den ∧ den ≤ num * 10 ^ (lowExp M B f e * 30103 / 100000 + 1) ∧
      lowExp M B f e * 30103 / 100000 + 1 ≤ fracBits M B f e := by
  obtain ⟨hlt, hlow⟩ := hv.lt_one hc.mlt hneg
  have hE1 := lowExp_pos (M := M) (f := f) hneg
  have hEfb := lowExp_le_fracBits (M := M) (f := f) hneg
  have hE1130 : lowExp M B f e ≤ 1130 := le_trans lowExp_le hc.est
  exact ⟨hlt, le_trans hlow (Nat.mul_le_mul_left _ (Nat.le_of_lt (est_table _ hE1130).2)), by omega⟩

theorem run_ge_pow {num den b fl d k : Nat} (hden : 0 < den) (hb : b = num * 10 ^ fl / (den * 10 ^ d))
    (h : 10 ^ k * (den * 10 ^ d) ≤ num * 10 ^ fl) : 0 < b ∧ k < (D b).length := by
  have : 10 ^ k ≤ b := by
    rw [hb]; exact (Nat.le_div_iff_mul_le (Nat.mul_pos hden (Nat.pow_pos (by decide)))).mpr h
  exact ⟨lt_of_lt_of_le (Nat.pow_pos (by decide)) this, D_length_gt this⟩

/-- What the string formatters are handed for `num/den` at precision `p` in format `fmt` — the run `b` with `fl`
fractional digits after `d` integer digits were dropped, the digit estimate `dg`, the sticky flag `ru` — and what the
layouts use of them. -/
structure RunOf (M B f e p fmt num den b dg fl : Nat) (ru : Bool) (d : Nat) : Prop where
  spec : runSpec M B f e p fmt = (b, dg, fl, decide (B ≤ e), ru)
  num_pos : 0 < num
  pos : 0 < b
  exact : Cut (num * 10 ^ fl) (den * 10 ^ d) b ru
  one_zero : fl = 0 ∨ d = 0
  drop : d = if B ≤ e ∧ fmt = 0 ∧ p < dg then dg - (p + 1) else 0
  int_part : B ≤ e ↔ fl < (D b).length
  est_fits : 0 < fl → B ≤ e → fmt = 0 → dg ≤ p
  cut_at : ru = true → (0 < fl ∧ fl = cutAt B e p fmt dg + 1) ∨ (B ≤ e ∧ fmt = 0 ∧ p < dg)
  last : ru = false → 0 < fl → b % 10 ≠ 0
  /-- the estimate is a lower bound on the digits before the point, resp. an upper bound on the zeros behind it -/
  digits_ge1 : B ≤ e → dg + fl ≤ (D b).length + d
  digits_lt1 : e < B → fl < (D b).length + dg
  len : (D b).length ≤ 2 ^ 20
  dg_le : dg ≤ 1130
  fl_small : fl ≤ 1130

theorem run_of {c : Cfg} {M B f e num den : Nat} (hc : Shape c M B) (hv : FinVal M B f e num den) (p fmt : Nat)
    (hfmt : fmt ≤ 2)
    (hp : p ≤ 40 ∨ (B ≤ e ∧ fracBits M B f e = 0 ∧ (fmt = 0 → (e - B) * 30103 / 100000 + 1 ≤ p))) :
    ∃ b dg fl ru d, RunOf M B f e p fmt num den b dg fl ru d := by
  have hden := hv.hden
  have hmm := hv.mant_odd hc.mlt
  have hex := hv.cut p fmt
  have hblen := runSpec_digits_le hc (p := p) (fmt := fmt) hv.hf hv.he hv.hnz (hp.imp id (fun h => ⟨h.1, h.2.1⟩))
  have hBM := hc.est
  by_cases hpos : B ≤ e
  · have he0 : e ≠ 0 := by have := hc.bpos; omega
    have hnum : 0 < num := lt_of_lt_of_le hden (hv.ge_one hpos he0)
    have hest := hv.est_ge1 hc hpos he0
    have hpe : e - B ≤ 1130 := by have := hv.he; omega
    by_cases hN : fracBits M B f e = 0 ∨ (fmt = 0 ∧ p < (e - B) * 30103 / 100000 + 1)
    · -- no fraction
      obtain ⟨b, ru, hrs, hrd, hru⟩ := runSpec_noFraction (p := p) hc.mlt hv.hf hfmt hpos he0 hN
      rw [hrs, hrd] at hex
      rw [hrs] at hblen
      simp only at hex hblen
      generalize hdg : (e - B) * 30103 / 100000 = dg1 at *
      generalize hd : (if fmt = 0 ∧ p < dg1 + 1 then dg1 + 1 - (p + 1) else 0) = d at *
      have hdle : d ≤ dg1 := by rw [← hd]; split <;> omega
      obtain ⟨hb0, hL⟩ : 0 < b ∧ dg1 - d < (D b).length := by
        refine run_ge_pow hden hex.quot ?_
        calc 10 ^ (dg1 - d) * (den * 10 ^ d) = 10 ^ dg1 * den := by
              rw [Nat.mul_comm den, ← Nat.mul_assoc, ← Nat.pow_add, show dg1 - d + d = dg1 by omega]
          _ ≤ num * 10 ^ 0 := by rw [Nat.pow_zero, Nat.mul_one]; exact hest
      exact ⟨b, dg1 + 1, 0, ru, d,
        { spec := by rw [hrs, decide_eq_true hpos]
          num_pos := hnum
          pos := hb0
          exact := hex
          one_zero := Or.inl rfl
          drop := by rw [← hd]; simp only [hpos, true_and]
          int_part := ⟨fun _ => by omega, fun _ => hpos⟩
          est_fits := fun h => absurd h (Nat.lt_irrefl 0)
          cut_at := fun h => Or.inr ⟨hpos, hru h⟩
          last := fun _ h => absurd h (Nat.lt_irrefl 0)
          digits_ge1 := fun _ => by omega
          digits_lt1 := fun h => by omega
          len := hblen
          dg_le := by omega
          fl_small := by omega }⟩
    · -- the fraction block, from one up
      have hfb : 0 < fracBits M B f e := by omega
      have hx : fmt = 0 → (e - B) * 30103 / 100000 + 1 ≤ p := fun h => by omega
      obtain ⟨b, hrs, hrd, hodd⟩ := runSpec_fraction (M := M) (f := f) (e := e) (p := p) hc.mlt hv.hf hv.hnz hfmt
        (fun _ => hfb) (fun _ h => by rw [estDigits_normal he0]; exact hx h)
      simp only [hpos, if_true, estDigits_normal he0] at hrs hodd
      rw [hrs, hrd] at hex
      rw [hrs] at hblen
      simp only at hex hblen
      have hp40 : p ≤ 40 := hp.elim id (fun h => by omega)
      generalize hdg : (e - B) * 30103 / 100000 = dg1 at *
      generalize hN' : cutAt B e p fmt (dg1 + 1) = N at *
      generalize hfbd : fracBits M B f e = fb at *
      have hfl2 : N + 1 < fb → fracLen fb N = N + 1 := fun h => by rw [fracLen_eq_min]; omega
      have hfl0 : 0 < fracLen fb N := by rw [fracLen_eq_min]; omega
      have hfl3 : fracLen fb N ≤ fb := by rw [fracLen_eq_min]; omega
      generalize fracLen fb N = fl at *
      obtain ⟨hb0, hL⟩ : 0 < b ∧ dg1 + fl < (D b).length := by
        refine run_ge_pow hden hex.quot ?_
        calc 10 ^ (dg1 + fl) * (den * 10 ^ 0) = 10 ^ dg1 * den * 10 ^ fl := by rw [Nat.pow_zero, Nat.mul_one, Nat.pow_add]; ring
          _ ≤ num * 10 ^ fl := Nat.mul_le_mul_right _ hest
      have hfbM : fb ≤ 1130 := by
        rw [← hfbd]; unfold fracBits; rw [if_pos hpos]; have := hmm.1; omega
      exact ⟨b, dg1 + 1, fl, decide (N + 1 < fb), 0,
        { spec := by rw [hrs]; simp [hpos]
          num_pos := hnum
          pos := hb0
          exact := hex
          one_zero := Or.inr rfl
          drop := by rw [if_neg]; intro h; have := hx h.2.1; omega
          int_part := ⟨fun _ => by omega, fun _ => hpos⟩
          est_fits := fun _ _ h => hx h
          cut_at := fun h => Or.inl ⟨hfl0, by rw [hN']; exact hfl2 (by simpa using h)⟩
          last := fun h _ => by rw [hodd (by simpa using h)]; decide
          digits_ge1 := fun _ => by omega
          digits_lt1 := fun h => by omega
          len := hblen
          dg_le := by omega
          fl_small := by omega }⟩
  · -- the fraction block, below one
    have hneg : e < B := by omega
    obtain ⟨hnumlt, hlow, hdgfb⟩ := hv.est_lt1 hc hneg
    have hnum : 0 < num := by
      by_contra h0
      have : num = 0 := by omega
      rw [this, Nat.zero_mul] at hlow; omega
    obtain ⟨b, hrs, hrd, hodd⟩ := runSpec_fraction (M := M) (f := f) (e := e) (p := p) hc.mlt hv.hf hv.hnz hfmt
      (fun h => absurd h hpos) (fun h => absurd h hpos)
    simp only [hpos, if_false, estDigits_lt1] at hrs hodd
    rw [hrs, hrd] at hex
    rw [hrs] at hblen
    simp only at hex hblen
    have hp40 : p ≤ 40 := hp.elim id (fun h => absurd h.1 hpos)
    have hE1130 : lowExp M B f e ≤ 1130 := le_trans lowExp_le hBM
    generalize hdg : lowExp M B f e * 30103 / 100000 = dg1 at hrs hex hblen hlow hdgfb hodd
    have hN' : cutAt B e p fmt (dg1 + 1) = dg1 + 1 + p := cutAt_lt1 hpos _ _ _
    simp only [hN'] at hrs hex hodd
    generalize hfbd : fracBits M B f e = fb at *
    have hfl2 : dg1 + 1 + p + 1 < fb → fracLen fb (dg1 + 1 + p) = dg1 + 1 + p + 1 := fun h => by rw [fracLen_eq_min]; omega
    have hfl0 : dg1 + 1 ≤ fracLen fb (dg1 + 1 + p) := by rw [fracLen_eq_min]; omega
    have hfl3 : fracLen fb (dg1 + 1 + p) ≤ fb := by rw [fracLen_eq_min]; omega
    generalize fracLen fb (dg1 + 1 + p) = fl at *
    have hb' : b = num * 10 ^ fl / den := by have := hex.quot; rwa [Nat.pow_zero, Nat.mul_one] at this
    obtain ⟨hb0, hL⟩ : 0 < b ∧ fl - (dg1 + 1) < (D b).length := by
      refine run_ge_pow hden hex.quot ?_
      calc 10 ^ (fl - (dg1 + 1)) * (den * 10 ^ 0) ≤ 10 ^ (fl - (dg1 + 1)) * (num * 10 ^ (dg1 + 1)) := by
            rw [Nat.pow_zero, Nat.mul_one]; exact Nat.mul_le_mul_left _ hlow
        _ = num * 10 ^ fl := by
            rw [Nat.mul_comm, Nat.mul_assoc, ← Nat.pow_add, show dg1 + 1 + (fl - (dg1 + 1)) = fl by omega]
    have hblt : b < 10 ^ fl := by
      rw [hb', Nat.div_lt_iff_lt_mul hden]
      calc num * 10 ^ fl < den * 10 ^ fl := Nat.mul_lt_mul_of_pos_right hnumlt (Nat.pow_pos (by decide))
        _ = 10 ^ fl * den := Nat.mul_comm _ _
    have hLfl : (D b).length ≤ fl := (D_length_le_iff (by omega)).mpr hblt
    have hfbM : fb ≤ 1130 := by
      rw [← hfbd]; unfold fracBits; rw [if_neg hpos]; have := hmm.1; omega
    exact ⟨b, dg1 + 1, fl, decide (dg1 + 1 + p + 1 < fb), 0,
      { spec := by rw [hrs]; simp [hpos]
        num_pos := hnum
        pos := hb0
        exact := hex
        one_zero := Or.inr rfl
        drop := by rw [if_neg (fun h => hpos h.1)]
        int_part := ⟨fun h => absurd h hpos, fun h => by omega⟩
        est_fits := fun _ h => absurd h hpos
        cut_at := fun h => Or.inl ⟨by omega, by rw [hN']; exact hfl2 (by simpa using h)⟩
        last := fun h _ => by rw [hodd (by simpa using h)]; decide
        digits_ge1 := fun h => absurd h hpos
        digits_lt1 := fun _ => by omega
        len := hblen
        dg_le := by omega
        fl_small := by omega }⟩

theorem RunOf.short_default {M B f e p num den b dg fl d : Nat} {ru : Bool}
    (hR : RunOf M B f e p 0 num den b dg fl ru d) (h : (D b).length ≤ p) :
    (B ≤ e → dg ≤ p) ∧ ru = false ∧ d = 0 := by
  have hd := hR.drop
  have h1 := hR.one_zero
  by_cases hpos : B ≤ e
  · have hg := hR.digits_ge1 hpos
    have hdg : dg ≤ p := by
      by_contra hc
      rw [if_pos ⟨hpos, rfl, by omega⟩] at hd
      omega
    rw [if_neg (fun hc => by omega)] at hd
    refine ⟨fun _ => hdg, ?_, hd⟩
    cases hru : ru
    · rfl
    · rcases hR.cut_at hru with ⟨_, h2⟩ | ⟨_, _, h3⟩
      · rw [cutAt_default hpos] at h2; omega
      · omega
  · rw [if_neg (fun hc => hpos hc.1)] at hd
    refine ⟨fun hc => absurd hc hpos, ?_, hd⟩
    cases hru : ru
    · rfl
    · have hl := hR.digits_lt1 (by omega)
      rcases hR.cut_at hru with ⟨_, h2⟩ | ⟨h1, _⟩
      · rw [cutAt_lt1 hpos] at h2; omega
      · exact absurd h1 hpos

theorem RunOf.fixed {M B f e p fmt num den b dg fl d : Nat} {ru : Bool}
    (hR : RunOf M B f e p fmt num den b dg fl ru d) (hf : fmt ≠ 0) :
    d = 0 ∧ (fl ≤ p → ru = false) := by
  have hd := hR.drop
  rw [if_neg (fun hc => hf hc.2.1)] at hd
  refine ⟨hd, fun hflp => ?_⟩
  cases hru : ru
  · rfl
  · rcases hR.cut_at hru with ⟨_, h2⟩ | ⟨_, h3, _⟩
    · by_cases hpos : B ≤ e
      · rw [cutAt_fixed hpos hf] at h2; omega
      · rw [cutAt_lt1 hpos] at h2; omega
    · exact absurd h3 hf

end Qentem.Proofs.NumToStr
