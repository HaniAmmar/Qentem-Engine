import Qentem.Proofs.StrToNumRound
import Qentem.Proofs.StrToNumSign
/-! C09: what the two finishers of the scaling routines assemble.  `posFinish` (normalise, round, assemble) is the
capped raw pattern `codeRaw`; `negFinish` (normalise to 54 bits, three exponent cases, round, assemble) is the raw
pattern of `b·2^-sh` rounded half-up at the effective binade `max bit (sh − 1022)` (`codeRawNeg`), which stays below
infinity; the positive path's `codeRaw b s` is the same pattern of `(b·2^(s+t))·2^-t`. -/
namespace Qentem.StrToNum
open Qentem.Round Qentem.Generated.StrToNum

theorem pack_normal (n e : Nat) (h1 : 2 ^ 52 ≤ n) (h2 : n < 2 ^ 53) (he : e < 2047) :
    (n &&& 0xFFFFFFFFFFFFF) ||| ((e * 2 ^ 52) % 2 ^ 64) = e * 2 ^ 52 + (n - 2 ^ 52) := by
  have hm : (0xFFFFFFFFFFFFF : Nat) = 2 ^ 52 - 1 := by decide
  rw [hm, Nat.and_two_pow_sub_one_eq_mod]
  have h3 : n % 2 ^ 52 = n - 2 ^ 52 := by omega
  have h4 : (e * 2 ^ 52) % 2 ^ 64 = e * 2 ^ 52 := Nat.mod_eq_of_lt (by omega)
  rw [h3, h4, Nat.or_comm, Nat.mul_comm]
  exact (Nat.two_pow_add_eq_or_of_lt (by omega) e).symm

theorem pack_carry (e : Nat) (he : e < 2047) :
    ((2 ^ 53 : Nat) &&& 0xFFFFFFFFFFFFF) ||| ((e * 2 ^ 52) % 2 ^ 64) = e * 2 ^ 52 := by
  have h4 : (e * 2 ^ 52) % 2 ^ 64 = e * 2 ^ 52 := Nat.mod_eq_of_lt (by omega)
  have h0 : ((2 ^ 53 : Nat) &&& 0xFFFFFFFFFFFFF) = 0 := by decide
  rw [h0, h4]; simp

/-- a 53-bit significand `n` (or `2^53` after a rounding carry) under the exponent `e ≥ 1`, the carry counted into
the exponent: the pattern `(e − 1)·2^52 + n` -/
theorem pack_round (n e : Nat) (h1 : 2 ^ 52 ≤ n) (h2 : n ≤ 2 ^ 53) (he1 : 1 ≤ e)
    (he : e + b2n (decide (n > 0x1FFFFFFFFFFFFF)) < 2047) :
    (n &&& 0xFFFFFFFFFFFFF) ||| (((e + b2n (decide (n > 0x1FFFFFFFFFFFFF))) * 2 ^ 52) % 2 ^ 64) =
      (e - 1) * 2 ^ 52 + n := by
  obtain ⟨w, rfl⟩ : ∃ w, e = w + 1 := ⟨e - 1, by omega⟩
  by_cases hc : n > 0x1FFFFFFFFFFFFF
  · obtain rfl : n = 2 ^ 53 := by omega
    rw [decide_eq_true hc, show b2n true = 1 from rfl] at he ⊢
    rw [pack_carry _ he]
    omega
  · rw [decide_eq_false hc, show b2n false = 0 from rfl, Nat.add_zero] at he ⊢
    rw [pack_normal n _ h1 (by omega) he]
    omega

theorem bshr_mod (b k : Nat) (h : b / 2 ^ k < 2 ^ 64) : bshr b k % 2 ^ 64 = b / 2 ^ k := by
  unfold bshr; exact Nat.mod_eq_of_lt h

theorem roundBit_eq_halfUp (b k : Nat) (h : b / 2 ^ k < 2 ^ 63) : roundBit (b / 2 ^ k) = halfUp b (2 ^ k) := by
  unfold roundBit halfUp
  rw [Nat.mod_eq_of_lt (by omega)]

theorem posFinish_eq (b s : Nat) (hb : 0 < b) (hb256 : b < 2 ^ 256) (hs : s + 1 < 2 ^ 32) :
    posFinish b s = cap (codeRaw b s) := by
  have hb0 : b ≠ 0 := by omega
  obtain ⟨hlo, hhi⟩ := log2_bounds b hb0
  have hbias : bias = 1023 := rfl
  unfold posFinish codeRaw cap infBits
  simp only [hbias, ge_iff_le]
  have htop := halfUp_top b
  generalize hbit : Nat.log2 b = bit at *
  by_cases hbit52 : bit ≤ 52
  · simp only [hbit52, if_true]
    have hb53 : b < 2 ^ 53 := Nat.lt_of_lt_of_le hhi (Nat.pow_le_pow_right (by decide) (by omega))
    have hnlo : 2 ^ 52 ≤ b * 2 ^ (52 - bit) := by
      calc 2 ^ 52 = 2 ^ bit * 2 ^ (52 - bit) := by rw [← Nat.pow_add]; congr 1; omega
        _ ≤ b * 2 ^ (52 - bit) := Nat.mul_le_mul_right _ hlo
    have hnhi : b * 2 ^ (52 - bit) < 2 ^ 53 := by
      calc b * 2 ^ (52 - bit) < 2 ^ (bit + 1) * 2 ^ (52 - bit) :=
            Nat.mul_lt_mul_of_pos_right hhi (Nat.pow_pos (by decide))
        _ = 2 ^ 53 := by rw [← Nat.pow_add]; congr 1; omega
    rw [Nat.mod_eq_of_lt (show b < 2 ^ 64 by omega)]
    generalize b * 2 ^ (52 - bit) = n at *
    rw [Nat.mod_eq_of_lt (show n < 2 ^ 64 by omega)]
    by_cases he : 0x7FF ≤ 1023 + bit + s
    · rw [if_pos he, if_pos (by omega)]
    · rw [if_neg he, if_neg (by omega), pack_normal n _ hnlo hnhi (by omega)]
      omega
  · simp only [hbit52, if_false]
    have hb53 : 2 ^ 53 ≤ b := Nat.le_trans (Nat.pow_le_pow_right (by decide) (by omega)) hlo
    have hthi : b / 2 ^ (bit - 53) < 2 ^ 54 := hbit ▸ (top_bits b hb53).2
    obtain ⟨hnlo, hnhi⟩ := htop hb53
    have hrb : roundBit (bshr b (bit - 53) % 2 ^ 64) = halfUp b (2 ^ (bit - 53)) := by
      rw [bshr_mod b _ (by omega), roundBit_eq_halfUp b _ (by omega)]
    rw [hrb]
    generalize halfUp b (2 ^ (bit - 53)) = n at *
    clear hrb hthi hlo hhi hb256
    have hc1 : b2n (decide (n > 0x1FFFFFFFFFFFFF)) ≤ 1 := by unfold b2n; split <;> omega
    rw [add32_eq _ _ (by omega), ← Nat.add_assoc]
    have hn : n = 2 ^ 53 ∧ b2n (decide (n > 0x1FFFFFFFFFFFFF)) = 1 ∨
        n < 2 ^ 53 ∧ b2n (decide (n > 0x1FFFFFFFFFFFFF)) = 0 := by
      by_cases h : n > 0x1FFFFFFFFFFFFF
      · exact Or.inl ⟨by omega, by rw [decide_eq_true h]; rfl⟩
      · exact Or.inr ⟨by omega, by rw [decide_eq_false h]; rfl⟩
    by_cases he : 0x7FF ≤ 1023 + bit + s + b2n (decide (n > 0x1FFFFFFFFFFFFF))
    · rw [if_pos he, if_pos (by rcases hn with ⟨h, hf⟩ | ⟨h, hf⟩ <;> rw [hf] at he <;> omega)]
    · rw [if_neg he, pack_round n _ hnlo hnhi (by omega) (by omega),
        if_neg (by rcases hn with ⟨h, hf⟩ | ⟨h, hf⟩ <;> rw [hf] at he <;> omega)]
      omega

theorem powerOfPositiveTen_code (v x b s : Nat) (hps : posScale v x = some (b, s)) (hb : 0 < b) (hb256 : b < 2 ^ 256)
    (hs : s + 1 < 2 ^ 32) : powerOfPositiveTen v x = some (cap (codeRaw b s)) := by
  simp [powerOfPositiveTen, hps, posFinish_eq b s hb hb256 hs]

/-- the code's raw pattern of `b·2^-sh` -/
def codeRawNeg (b sh : Nat) : Nat :=
  (max (Nat.log2 b) (sh - 1022) + 1022 - sh) * 2 ^ 52 + halfUp b (2 ^ (max (Nat.log2 b) (sh - 1022) - 53))

theorem negFinish_eq (b sh : Nat) (hb53 : 2 ^ 53 ≤ b) (hb256 : b < 2 ^ 256) (hsh : sh < 2 ^ 31) :
    negFinish b sh = codeRawNeg b sh := by
  have hb0 : b ≠ 0 := ne_zero_of_two_pow_le hb53
  obtain ⟨hlo, hhi⟩ := log2_bounds b hb0
  have hbit53 := log2_ge hb53
  have hbit256 : Nat.log2 b < 256 := (Nat.log2_lt hb0).2 hb256
  have hbias : bias = 1023 := rfl
  obtain ⟨htlo, hthi⟩ := top_bits b hb53
  obtain ⟨hnlo, hnhi⟩ := halfUp_top b hb53
  clear hb256
  unfold negFinish codeRawNeg
  simp only [hbias]
  generalize Nat.log2 b = bit at *
  have hsub : sub32 bit 53 = bit - 53 := by unfold sub32; omega
  have hmod := bshr_mod b (bit - 53) (by omega)
  rw [hsub, hmod]
  -- the two normal branches: exponent `ex ≥ 1` with `ex + sh = 1023 + bit`
  have normal : ∀ ex : Nat, ex + sh = 1023 + bit → 1 ≤ ex →
      (let n := roundBit (b / 2 ^ (bit - 53))
       (n &&& 0xFFFFFFFFFFFFF) ||| ((add32 ex (b2n (decide (n > 0x1FFFFFFFFFFFFF))) * 2 ^ 52) % 2 ^ 64)) =
      (bit + 1022 - sh) * 2 ^ 52 + halfUp b (2 ^ (bit - 53)) := by
    intro ex hex hex1
    simp only [roundBit_eq_halfUp b (bit - 53) (by omega)]
    generalize halfUp b (2 ^ (bit - 53)) = n at *
    clear hmod hsub htlo hthi hlo hhi
    have hc1 : b2n (decide (n > 0x1FFFFFFFFFFFFF)) ≤ 1 := by unfold b2n; split <;> omega
    have he : bit + 1022 - sh = ex - 1 := by omega
    rw [add32_eq ex _ (by omega), pack_round n ex hnlo hnhi hex1 (by omega), he]
  by_cases hA : sh ≤ bit
  · simp only [hA, if_true]
    rw [show max bit (sh - 1022) = bit by omega, add32_eq 1023 (bit - sh) (by omega)]
    exact normal (1023 + (bit - sh)) (by omega) (by omega)
  · simp only [hA, if_false]
    by_cases hB : 1023 > sh - bit
    · simp only [hB, if_true]
      rw [show max bit (sh - 1022) = bit by omega]
      exact normal (1023 - (sh - bit)) (by omega) (by omega)
    · simp only [hB, if_false]
      clear normal hmod hsub htlo hthi hlo
      have hq : add32 (sh - bit - 1023) 1 = sh - bit - 1022 := by rw [add32_eq _ _ (by omega)]; omega
      have hdd : b / 2 ^ (bit - 53) / 2 ^ (sh - bit - 1022) = b / 2 ^ (sh - 1022 - 53) := by
        rw [Nat.div_div_eq_div_mul, ← Nat.pow_add, show bit - 53 + (sh - bit - 1022) = sh - 1022 - 53 by omega]
      have hlt : b / 2 ^ (sh - 1022 - 53) < 2 ^ 53 := by
        rw [Nat.div_lt_iff_lt_mul (Nat.pow_pos (by decide)), ← Nat.pow_add]
        exact Nat.lt_of_lt_of_le hhi (Nat.pow_le_pow_right (by decide) (by omega))
      rw [show max bit (sh - 1022) = sh - 1022 by omega, hq, hdd, roundBit_eq_halfUp b (sh - 1022 - 53) (by omega),
        show sh - 1022 + 1022 - sh = 0 by omega, Nat.zero_mul, Nat.zero_add]
      have hn52 : halfUp b (2 ^ (sh - 1022 - 53)) ≤ 2 ^ 52 := by unfold halfUp; omega
      generalize halfUp b (2 ^ (sh - 1022 - 53)) = n at *
      by_cases hc : n > 0xFFFFFFFFFFFFF
      · obtain rfl : n = 2 ^ 52 := by omega
        simp [b2n]
      · have hn : n < 2 ^ 52 := by omega
        simp only [hc, decide_false, b2n, Bool.false_eq_true, if_false, Nat.zero_mul, Nat.zero_mod, Nat.or_zero]
        rw [show (0xFFFFFFFFFFFFF : Nat) = 2 ^ 52 - 1 from rfl, Nat.and_two_pow_sub_one_eq_mod]
        exact Nat.mod_eq_of_lt hn

theorem codeRawNeg_lt_inf (b sh : Nat) (hb53 : 2 ^ 53 ≤ b) (hb256 : b < 2 ^ 256) : codeRawNeg b sh < infBits := by
  have hbit53 := log2_ge hb53
  have hbit256 : Nat.log2 b < 256 := (Nat.log2_lt (ne_zero_of_two_pow_le hb53)).2 hb256
  have h2 := (top_bits b hb53).2
  clear hb256
  unfold codeRawNeg infBits
  generalize Nat.log2 b = bit at *
  generalize hBe : max bit (sh - 1022) = Be
  have hhu : halfUp b (2 ^ (Be - 53)) ≤ 2 ^ 53 := by
    have h1 : b / 2 ^ (Be - 53) ≤ b / 2 ^ (bit - 53) :=
      Nat.div_le_div_left (Nat.pow_le_pow_right (by decide) (by omega)) (Nat.pow_pos (by decide))
    unfold halfUp; omega
  have hexp : Be + 1022 - sh ≤ 1277 := by omega
  have : (Be + 1022 - sh) * 2 ^ 52 ≤ 1277 * 2 ^ 52 := Nat.mul_le_mul_right _ hexp
  omega

theorem powerOfNegativeTen_code (v x b s : Nat) (hps : negScale v x = some (b, s)) (hb53 : 2 ^ 53 ≤ b)
    (hs : s < 2 ^ 31) : powerOfNegativeTen v x = some (cap (codeRawNeg b s)) := by
  have hb256 := negScale_lt v x b s hps
  rw [cap_of_lt (codeRawNeg_lt_inf b s hb53 hb256)]
  simp [powerOfNegativeTen, hps, negFinish_eq b s hb53 hb256 hs]

/-- the positive path's pattern in the form of the negative path's, at any shift -/
theorem codeRawNeg_shift (b s t : Nat) (hb : b ≠ 0) (hbit : 52 < Nat.log2 b) (ht : t ≤ 1022) :
    codeRawNeg (b * 2 ^ (s + t)) t = codeRaw b s := by
  unfold codeRawNeg codeRaw
  rw [log2_mul_pow b (s + t) hb, if_neg (by omega)]
  have hm : max (Nat.log2 b + (s + t)) (t - 1022) = Nat.log2 b + (s + t) := by omega
  have h1 : 2 ^ (Nat.log2 b + (s + t) - 53) = 2 ^ (Nat.log2 b - 53) * 2 ^ (s + t) := by
    rw [← Nat.pow_add]; congr 1; omega
  rw [hm, h1, halfUp_scale _ _ _ (Nat.pow_pos (by decide))]
  congr 2
  omega

/-- the same for every `b`, also one that needs no rounding, at a shift of 54: the shifted integer has 55 bits -/
theorem codeRaw_eq_neg (b s : Nat) (hb0 : 0 < b) : codeRaw b s = codeRawNeg (b * 2 ^ (s + 54)) 54 := by
  have hb : b ≠ 0 := by omega
  by_cases hbit : 52 < Nat.log2 b
  · exact (codeRawNeg_shift b s 54 hb hbit (by decide)).symm
  · obtain ⟨hlo, hhi⟩ := log2_bounds b hb
    unfold codeRawNeg codeRaw
    rw [log2_mul_pow b (s + 54) hb, if_pos (by omega)]
    have hm : max (Nat.log2 b + (s + 54)) (54 - 1022) = Nat.log2 b + (s + 54) := by omega
    rw [hm]
    have e1 : b * 2 ^ (s + 54) = b * 2 ^ (52 - Nat.log2 b) * 2 * 2 ^ (Nat.log2 b + (s + 54) - 53) := by
      rw [Nat.mul_assoc, Nat.mul_assoc, ← Nat.pow_succ', ← Nat.pow_add]; congr 2; omega
    have e2 : halfUp (b * 2 ^ (s + 54)) (2 ^ (Nat.log2 b + (s + 54) - 53)) = b * 2 ^ (52 - Nat.log2 b) := by
      rw [e1]
      generalize b * 2 ^ (52 - Nat.log2 b) = m
      unfold halfUp
      rw [Nat.mul_div_cancel _ (Nat.pow_pos (by decide))]
      omega
    rw [e2]
    congr 2

end Qentem.StrToNum
