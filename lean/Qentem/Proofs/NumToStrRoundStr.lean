import Qentem.Proofs.NumToStrRef
import Qentem.Proofs.NumToStrExact
import Mathlib.Tactic.IntervalCases
/-! C10: `roundStringNumber` on a digit run.  The test it performs on the digits is arithmetic round-half-even of
`N / (den · 10^(i+1))` when the run is `⌊N/den⌋` and the sticky flag says whether `N/den` is an integer (`upCode`,
`roundHalfEven_digits`); its carry block adds one to the number above the rounding position (`roundCarry_spec`). -/
namespace Qentem.Proofs.NumToStr
open Qentem.NumToStr Qentem.Generated.NumToStr Qentem

/-- the digit run as a list, least significant digit first -/
abbrev Rl (b : Nat) : List Nat := (D b).reverse

theorem Rl_lt10 {b : Nat} (h : b < 10) : Rl b = [48 + b] := by simp [Rl, D_lt10 h]

theorem Rl_step {b : Nat} (h : 10 ≤ b) : Rl b = (48 + b % 10) :: Rl (b / 10) := by
  simp [Rl, D_step h]

theorem Rl_length (b : Nat) : (Rl b).length = (D b).length := by simp [Rl]

theorem Rl_get : ∀ (k b : Nat), k < (D b).length → (Rl b)[k]? = some (48 + b / 10 ^ k % 10) := by
  intro k
  induction k with
  | zero =>
    intro b _
    by_cases h : b < 10
    · simp [Rl_lt10 h, Nat.mod_eq_of_lt h]
    · simp [Rl_step (by omega : 10 ≤ b)]
  | succ k ih =>
    intro b hk
    by_cases h : b < 10
    · rw [D_lt10 h] at hk; simp at hk
    · have h10 : 10 ≤ b := by omega
      have hlen : (D b).length = (D (b / 10)).length + 1 := by rw [D_step h10]; simp
      rw [Rl_step h10, List.getElem?_cons_succ, ih (b / 10) (by omega), Nat.div_div_eq_div_mul, Nat.pow_succ, Nat.mul_comm]

theorem Rl_drop {b k : Nat} (hk : k < (D b).length) : (Rl b).drop k = Rl (b / 10 ^ k) := by
  by_cases hk0 : k = 0
  · subst hk0; simp
  · rw [Rl, List.drop_reverse, (D_take_drop (pow_le_of_len (by omega) hk)).1]

theorem Rl_take {b k : Nat} (hk : k < (D b).length) : (Rl b).take k = (Dk k (b % 10 ^ k)).reverse := by
  by_cases hk0 : k = 0
  · subst hk0; simp [Dk]
  · rw [Rl, List.take_reverse, (D_take_drop (pow_le_of_len (by omega) hk)).2]

theorem Dk_any_nonzero : ∀ (k x : Nat), x < 10 ^ k → ((Dk k x).any (· != 48) = decide (x ≠ 0)) := by
  intro k
  induction k with
  | zero => intro x hx; simp at hx; simp [Dk, hx]
  | succ k ih =>
    intro x hx
    have hx' : x / 10 < 10 ^ k := by rw [Nat.pow_succ] at hx; omega
    simp only [Dk, List.any_append, ih _ hx', List.any_cons, List.any_nil, Bool.or_false]
    rw [Bool.eq_iff_iff]
    simp only [Bool.or_eq_true, decide_eq_true_eq, bne_iff_ne, ne_eq]
    omega

theorem skipWhile_spec (c : Nat) : ∀ (fuel : Nat) (s : List Nat) (idx : Nat), s.length ≤ idx + fuel + 1 →
    idx ≤ skipWhile c fuel s idx ∧
    (∀ m, idx ≤ m → m < skipWhile c fuel s idx → s[m]? = some c) ∧
    ¬ (skipWhile c fuel s idx + 1 < s.length ∧ s[skipWhile c fuel s idx]? = some c) ∧
    (skipWhile c fuel s idx = idx ∨ skipWhile c fuel s idx + 1 ≤ s.length) := by
  intro fuel
  induction fuel with
  | zero =>
    intro s idx h
    simp only [skipWhile]
    exact ⟨Nat.le_refl _, fun m h1 h2 => by omega, fun hc => by omega, by simp⟩
  | succ f ih =>
    intro s idx h
    rw [skipWhile]
    by_cases hc : idx + 1 < s.length ∧ s[idx]? = some c
    · rw [if_pos hc]
      obtain ⟨h1, h2, h3, h4⟩ := ih s (idx + 1) (by omega)
      refine ⟨by omega, ?_, h3, ?_⟩
      · intro m hm1 hm2
        by_cases hm : m = idx
        · rw [hm]; exact hc.2
        · exact h2 m (by omega) hm2
      · rcases h4 with h4 | h4
        · right; rw [h4]; omega
        · right; exact h4
    · rw [if_neg hc]
      exact ⟨Nat.le_refl _, fun m h1 h2 => by omega, hc, Or.inl rfl⟩

theorem skipWhile_idem (c : Nat) (s : List Nat) (idx fuel fuel' : Nat) (h : s.length ≤ idx + fuel + 1) :
    skipWhile c fuel' s (skipWhile c fuel s idx) = skipWhile c fuel s idx := by
  obtain ⟨_, _, h3, _⟩ := skipWhile_spec c fuel s idx h
  cases fuel' with
  | zero => rfl
  | succ f => rw [skipWhile, if_neg h3]

/-- `c = 0`: a run of zeros, `c = 1`: a run of nines; adding `c` carries through it -/
theorem digits_run {b a c : Nat} : ∀ (n : Nat), (∀ m, a ≤ m → m < a + n → b / 10 ^ m % 10 = 9 * c) →
    b / 10 ^ a + c = (b / 10 ^ (a + n) + c) * 10 ^ n := by
  intro n
  induction n with
  | zero => intro _; simp
  | succ n ih =>
    intro h
    have h1 := ih (fun m h1 h2 => h m h1 (by omega))
    have h2 := h (a + n) (by omega) (by omega)
    have e : b / 10 ^ (a + (n + 1)) = b / 10 ^ (a + n) / 10 := by
      rw [← Nat.add_assoc, Nat.pow_succ, Nat.div_div_eq_div_mul]
    rw [h1, e, Nat.pow_succ]
    generalize b / 10 ^ (a + n) = x at *
    have : x + c = (x / 10 + c) * 10 := by omega
    calc (x + c) * 10 ^ n = (x / 10 + c) * 10 * 10 ^ n := by rw [← this]
      _ = (x / 10 + c) * (10 ^ n * 10) := by ring

/-- what `roundStringNumber` tests, on the number `b` of the run: rounding digit `d`, the digits below it, the
sticky flag, the parity of the kept part -/
def upCode (b i : Nat) (ru : Bool) : Bool :=
  decide (5 < b / 10 ^ i % 10) ||
    (decide (b / 10 ^ i % 10 = 5) && (ru || decide (b % 10 ^ i ≠ 0) || decide (b / 10 ^ (i + 1) % 2 = 1)))

theorem upCode_iff (b i : Nat) (ru : Bool) :
    upCode b i ru = true ↔
      (10 ^ (i + 1) < 2 * (b % 10 ^ (i + 1)) ∨
        (2 * (b % 10 ^ (i + 1)) = 10 ^ (i + 1) ∧ (ru = true ∨ b / 10 ^ (i + 1) % 2 = 1))) := by
  have hrem : b % 10 ^ (i + 1) = b % 10 ^ i + 10 ^ i * (b / 10 ^ i % 10) := by
    rw [Nat.pow_succ, Nat.mod_mul]
  have hlow : b % 10 ^ i < 10 ^ i := Nat.mod_lt _ (Nat.pow_pos (by decide))
  have hd : b / 10 ^ i % 10 < 10 := Nat.mod_lt _ (by decide)
  have hT : 0 < 10 ^ i := Nat.pow_pos (by decide)
  unfold upCode
  rw [hrem, Nat.pow_succ]
  clear hrem
  generalize b / 10 ^ i % 10 = d at *
  generalize b % 10 ^ i = low at *
  generalize 10 ^ i = T at *
  generalize b / (T * 10) % 2 = par
  simp only [Bool.or_eq_true, Bool.and_eq_true, decide_eq_true_eq, ne_eq]
  -- the remainder `low + T·d` against `5·T`: decided by `d` alone unless `d = 5`, then by `low`
  rcases Nat.lt_trichotomy d 5 with h | rfl | h
  · have := Nat.mul_le_mul_left T (show d ≤ 4 by omega)
    cases ru <;> simp only [Bool.false_eq_true, false_or, true_or, and_true] <;> omega
  · cases ru <;> simp only [Bool.false_eq_true, false_or, true_or, or_true, true_and, and_true, true_iff] <;> omega
  · have := Nat.mul_le_mul_left T (show 6 ≤ d by omega)
    cases ru <;> simp only [Bool.false_eq_true, false_or, true_or, and_true] <;> omega

theorem roundHalfEven_digits {N den b i : Nat} {ru : Bool} (hden : 0 < den) (hcut : Cut N den b ru) :
    FmtSpec.roundHalfEven N (den * 10 ^ (i + 1)) = b / 10 ^ (i + 1) + (if upCode b i ru then 1 else 0) := by
  obtain ⟨hb, hru⟩ := hcut
  have hc : 0 < 10 ^ (i + 1) := Nat.pow_pos (by decide)
  have hq : N / (den * 10 ^ (i + 1)) = b / 10 ^ (i + 1) := by rw [hb, Nat.div_div_eq_div_mul]
  have hr : N % (den * 10 ^ (i + 1)) = N % den + den * (b % 10 ^ (i + 1)) := by rw [hb, Nat.mod_mul]
  have he : N % den < den := Nat.mod_lt _ hden
  have hrem : b % 10 ^ (i + 1) < 10 ^ (i + 1) := Nat.mod_lt _ hc
  have heven : 10 ^ (i + 1) = 2 * (5 * 10 ^ i) := by rw [Nat.pow_succ]; ring
  unfold FmtSpec.roundHalfEven
  simp only [hq, hr]
  have hiff := upCode_iff b i ru
  generalize upCode b i ru = u at *
  generalize b % 10 ^ (i + 1) = rem at *
  generalize N % den = e at *
  generalize b / 10 ^ (i + 1) = K at *
  rw [heven] at hiff hrem ⊢
  generalize 5 * 10 ^ i = h at *
  have hX1 : h < rem → den * h + den ≤ den * rem := by
    intro hlt
    calc den * h + den = den * (h + 1) := by ring
      _ ≤ den * rem := Nat.mul_le_mul_left _ hlt
  have hX2 : rem < h → den * rem + den ≤ den * h := by
    intro hlt
    calc den * rem + den = den * (rem + 1) := by ring
      _ ≤ den * h := Nat.mul_le_mul_left _ hlt
  have hX3 : rem = h → den * rem = den * h := fun h => by rw [h]
  have hY : den * (2 * h) = 2 * (den * h) := by ring
  rw [hY]
  generalize den * h = Y at *
  generalize den * rem = X at *
  cases u
  · simp only [Bool.false_eq_true, if_false, Nat.add_zero]
    have hn := hiff.not.mp (by simp)
    rw [if_neg]
    intro hcon
    apply hn
    rcases Nat.lt_trichotomy rem h with hlt | heq | hgt
    · have := hX2 hlt; omega
    · have := hX3 heq
      rcases hcon with hcon | hcon
      · have : ru = true := hru.mpr (by omega)
        right; exact ⟨by omega, Or.inl this⟩
      · right; exact ⟨by omega, Or.inr hcon.2⟩
    · left; omega
  · simp only [if_true]
    have hy := hiff.mp rfl
    rw [if_pos]
    rcases hy with hy | ⟨hy1, hy2⟩
    · left; have := hX1 (by omega); omega
    · have hrh : rem = h := by omega
      have := hX3 hrh
      rcases hy2 with hy2 | hy2
      · left; have : e ≠ 0 := hru.mp hy2; omega
      · by_cases he0 : e = 0
        · right; exact ⟨by omega, hy2⟩
        · left; omega

theorem wrAt_append (s t : List Nat) {k : Nat} (v : Nat) (h : k < t.length) :
    wrAt s.length (s ++ t) (s.length + k) v = .ok (s ++ t.set k v) := by
  unfold wrAt
  rw [if_neg (by omega), if_pos (by rw [List.length_append]; omega), List.set_append_right _ _ (by omega),
    Nat.add_sub_cancel_left]; rfl

/-- `number_length = stream.Length() - started_at` on a stream that ends with the digit run -/
theorem csub_Rl (site : Nat) (s : List Nat) (b : Nat) : csub site (s ++ Rl b).length s.length = .ok (D b).length := by
  simp [csub, pure, Except.pure]

/-- `--index` above the start of the stream -/
theorem csub_pred (site a : Nat) {n : Nat} (h : 0 < n) : csub site (a + n) 1 = .ok (a + (n - 1)) := by
  unfold csub; rw [if_pos (by omega)]; show Except.ok _ = Except.ok _; congr 1; omega

theorem rdAt_Rl (s : List Nat) {b k : Nat} (hk : k < (D b).length) :
    rdAt (s ++ Rl b) (s.length + k) = .ok (48 + b / 10 ^ k % 10) := by
  unfold rdAt
  rw [List.getElem?_append_right (by omega), Nat.add_sub_cancel_left, Rl_get k b hk]
  rfl

theorem anyNonZero_Rl (s : List Nat) {b i : Nat} (hi : i < (D b).length) :
    anyNonZero (s ++ Rl b) s.length (s.length + i) = decide (b % 10 ^ i ≠ 0) := by
  unfold anyNonZero
  have h1 : ((s ++ Rl b).take (s.length + i)).drop s.length = (Rl b).take i := by
    rw [List.take_append, List.take_of_length_le (by omega), Nat.add_sub_cancel_left, List.drop_left']
    rfl
  rw [h1, Rl_take hi, List.any_reverse, Ch.zero]
  exact Dk_any_nonzero i _ (Nat.mod_lt _ (Nat.pow_pos (by decide)))

theorem five_lt (x : Nat) : decide (Ch.five < 48 + x) = decide (5 < x) := by
  by_cases hx : 5 < x
  · have : Ch.five < 48 + x := by show 53 < 48 + x; omega
    simp [hx, this]
  · have : ¬ (Ch.five < 48 + x) := by show ¬ (53 < 48 + x); omega
    simp [hx, this]

theorem five_eq (x : Nat) : (48 + x = Ch.five) ↔ x = 5 := by
  show 48 + x = 53 ↔ _; omega

theorem round_test (s : List Nat) {b i : Nat} (hi : i < (D b).length) (ru : Bool) :
    roundTest s.length (s ++ Rl b) (s.length + i) ru = .ok (upCode b i ru) := by
  unfold roundTest
  rw [anyNonZero_Rl s hi, rdAt_Rl s hi, ok_bind]
  simp only [five_lt, five_eq, Ch.zero]
  unfold upCode
  by_cases h5 : b / 10 ^ i % 10 = 5
  · by_cases hru : (ru || decide (b % 10 ^ i ≠ 0)) = true
    · simp only [h5, hru, Bool.not_true, Bool.false_eq_true, and_false, if_false, pure_bind, Bool.true_or]
      simp [pure, Except.pure]
    · simp only [Bool.not_eq_true] at hru
      simp only [h5, hru, Bool.not_false, and_self, if_true]
      by_cases hl : s.length + i + 1 < (s ++ Rl b).length
      · have hi1 : i + 1 < (D b).length := by simp at hl; omega
        rw [if_pos hl, Nat.add_assoc, rdAt_Rl s hi1, ok_bind]
        simp [pure, Except.pure, bind, Except.bind]
      · rw [if_neg hl]
        have hK : b / 10 ^ (i + 1) = 0 := by
          apply Nat.div_eq_of_lt
          have : (D b).length ≤ i + 1 := by simp at hl; omega
          exact (D_length_le_iff (by omega)).mp this
        simp [hK, pure, Except.pure, bind, Except.bind]
  · simp [h5, pure, Except.pure, bind, Except.bind]

theorem Rl_succ {x : Nat} (h9 : x % 10 ≠ 9) : (Rl x).set 0 (48 + x % 10 + 1) = Rl (x + 1) := by
  by_cases h : x < 10
  · rw [Rl_lt10 h, Rl_lt10 (by omega : x + 1 < 10), Nat.mod_eq_of_lt h]; simp; omega
  · have h10 : 10 ≤ x := by omega
    rw [Rl_step h10, Rl_step (by omega : 10 ≤ x + 1)]
    have e1 : (x + 1) % 10 = x % 10 + 1 := by omega
    have e2 : (x + 1) / 10 = x / 10 := by omega
    simp [e1, e2]; omega

theorem drop_set_self : ∀ (l : List Nat) (k a : Nat), k < l.length → (l.set k a).drop k = a :: l.drop (k + 1) := by
  intro l
  induction l with
  | nil => intro k a h; simp at h
  | cons x xs ih =>
    intro k a h
    cases k with
    | zero => simp
    | succ k => simp at h; simp [ih k a h]

theorem getElem?_append_len (s t : List Nat) (k : Nat) : (s ++ t)[s.length + k]? = t[k]? := by
  rw [List.getElem?_append_right (by omega), Nat.add_sub_cancel_left]

/-- positions of `s ++ Rl b` that all hold the character of the digit `d` are digits `d` of `b` -/
theorem Rl_digits_of_get (s : List Nat) {b a k d : Nat} (hk : k ≤ (D b).length)
    (h : ∀ m, s.length + a ≤ m → m < s.length + k → (s ++ Rl b)[m]? = some (48 + d)) :
    ∀ m, a ≤ m → m < a + (k - a) → b / 10 ^ m % 10 = d := by
  intro m hm1 hm2
  have := h (s.length + m) (by omega) (by omega)
  rw [getElem?_append_len, Rl_get m b (by omega)] at this
  injection this with this; omega

/-- the carry block: the digit above the nines is incremented, or the carry runs out of the top digit (`pi`) — a `1`
is appended, or the top `9` becomes the `1` -/
theorem roundCarry_spec (s : List Nat) {b i : Nat} (hi : i < (D b).length) :
    ∃ k t' pi, roundCarry s.length (s ++ Rl b) (s.length + i + 1) = .ok (s ++ t', s.length + k, pi) ∧
      i + 1 ≤ k ∧
      ((pi = false ∧ k < (D b).length ∧ t'.length = (D b).length ∧ t'.drop k = Rl (b / 10 ^ k + 1) ∧
          (b / 10 ^ k) % 10 ≠ 9 ∧ b / 10 ^ (i + 1) + 1 = (b / 10 ^ k + 1) * 10 ^ (k - (i + 1)))
       ∨ (pi = true ∧ t'.drop k = [49] ∧ t'.length = k + 1 ∧ b / 10 ^ (i + 1) + 1 = 10 ^ ((D b).length - (i + 1)) ∧
          (k = (D b).length - 1 ∧ i + 1 < (D b).length ∨ k = (D b).length ∧ i + 1 = (D b).length))) := by
  have hlen : (s ++ Rl b).length = s.length + (D b).length := by simp
  obtain ⟨h1, h2, h3, h4⟩ := skipWhile_spec Ch.nine (s ++ Rl b).length (s ++ Rl b) (s.length + i + 1) (by omega)
  unfold roundCarry
  generalize skipWhile Ch.nine (s ++ Rl b).length (s ++ Rl b) (s.length + i + 1) = j at *
  by_cases hA : (s ++ Rl b).length ≤ j
  · -- push
    have hj : j = s.length + i + 1 := by rcases h4 with h4 | h4 <;> omega
    have hL : (D b).length = i + 1 := by omega
    refine ⟨(D b).length, Rl b ++ [49], true, ?_, by omega, Or.inr ⟨rfl, ?_, by simp, ?_, Or.inr ⟨rfl, hL.symm⟩⟩⟩
    · simp only [hA, if_true, Ch.one, pure, Except.pure]
      rw [hj, hL, List.append_assoc, Nat.add_assoc]
    · rw [List.drop_append_of_le_length (by simp), List.drop_of_length_le (by simp)]; simp
    · have : b < 10 ^ (i + 1) := (D_length_le_iff (by omega)).mp (by omega)
      rw [Nat.div_eq_of_lt this, hL]; simp
  · have hjlt : j < s.length + (D b).length := by omega
    obtain ⟨k, rfl⟩ : ∃ k, j = s.length + k := ⟨j - s.length, by omega⟩
    have hk : k < (D b).length := by omega
    have hik : i + 1 ≤ k := by omega
    have hnines : ∀ m, i + 1 ≤ m → m < (i + 1) + (k - (i + 1)) → b / 10 ^ m % 10 = 9 :=
      Rl_digits_of_get s (by omega) fun m h h' => h2 m (by omega) h'
    have hrun : b / 10 ^ (i + 1) + 1 = (b / 10 ^ (i + 1 + (k - (i + 1))) + 1) * 10 ^ (k - (i + 1)) :=
      digits_run (c := 1) _ hnines
    rw [show (i + 1) + (k - (i + 1)) = k by omega] at hrun
    rw [if_neg hA, rdAt_Rl s hk, ok_bind]
    have hklen : k < (Rl b).length := by rw [Rl_length]; omega
    have hw : ∀ v, wrAt s.length (s ++ Rl b) (s.length + k) v = .ok (s ++ (Rl b).set k v) :=
      fun v => wrAt_append s (Rl b) v hklen
    by_cases h9 : b / 10 ^ k % 10 = 9
    · -- all nines up to the top digit
      have hd9 : (48 + b / 10 ^ k % 10 = Ch.nine) := by rw [h9]; rfl
      have htop : k + 1 = (D b).length := by
        by_contra hne
        apply h3
        refine ⟨by omega, ?_⟩
        rw [getElem?_append_len, Rl_get k b hk, h9]; rfl
      refine ⟨k, (Rl b).set k 49, true, ?_, hik, Or.inr ⟨rfl, ?_, by rw [List.length_set, Rl_length]; omega, ?_, Or.inl ⟨by omega, by omega⟩⟩⟩
      · simp only [hd9, if_true, hw, ok_bind, pure, Except.pure, Ch.one]
      · rw [drop_set_self _ _ _ hklen, List.drop_of_length_le (by rw [Rl_length]; omega)]
      · have hx : b / 10 ^ k < 10 := top_digit_lt (by omega)
        have hx9 : b / 10 ^ k = 9 := by rw [← Nat.mod_eq_of_lt hx]; exact h9
        rw [hrun, hx9, ← htop, show k + 1 - (i + 1) = (k - (i + 1)) + 1 by omega, Nat.pow_succ]; ring
    · have hd9 : ¬ (48 + b / 10 ^ k % 10 = Ch.nine) := by
        intro h; apply h9; have : Ch.nine = 57 := rfl; omega
      refine ⟨k, (Rl b).set k (48 + b / 10 ^ k % 10 + 1), false, ?_, hik, Or.inl ⟨rfl, hk, by simp, ?_, h9, hrun⟩⟩
      · simp only [hd9, if_false, hw, ok_bind, pure, Except.pure]
      · rw [drop_set_self _ _ _ hklen, ← Rl_succ h9, ← Rl_drop hk]
        have hdk : (Rl b).drop k = (48 + b / 10 ^ k % 10) :: (Rl b).drop (k + 1) := by
          rw [List.drop_eq_getElem_cons hklen]
          congr 1
          have := Rl_get k b hk
          rw [List.getElem?_eq_getElem hklen] at this
          injection this
        rw [hdk]; simp

end Qentem.Proofs.NumToStr
