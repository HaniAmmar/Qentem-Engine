import Qentem.Proofs.TmplGen
import Qentem.Proofs.TmplIifRender
import Qentem.Proofs.TmplSvarRender
/-!
# C02 — rendering trees against the reference interpreter

One walk over the renderer, `renderW_gt` / `renderW_gts` / `renderW_gtail`: rendering the tags of a tree under the
enclosing loops `E` takes the renderer over the printed tree and appends `expGT (scOf E)` of it (`Rendered`,
Proofs/TmplGenRenderBase.lean).  It asks of a tree only what the code reads (`GT.pathW`), of the fuel only what the
renderer's recursion uses (`minGT`), and says what becomes of `loops_items_` (`ItemsKept`).
`renderTop_gtree` is the walk from the top, and what Props/C02 uses (with `GTs.pathW_of_pathV`, `minGTs_le`); `render_gt`,
`render_gtail` state the walk for one tree under `GT.pathV` and `rneedGT`, in lists instead of positions (`Rendered.lists`),
and have no user.  The smaller classes of
templates embed in `GT` (Proofs/TmplStages.lean).  `expand_gt`: the reference interpreter on the same trees.
-/
namespace Qentem.Tmpl
open Qentem.Expr (Fault rd ScanCfg VarRef Item Num Val Env RealLike)
open Qentem.Generated.Tmpl

variable {R : Type}

section
variable [RealLike R]

mutual
def GT.pathV (rn : List Nat → Option (Num R)) : List (List Nat) → GT → Prop
  | Vs, .segs l => ∀ s ∈ l, s.pathV rn Vs
  | Vs, .ifc e body tail => (varsOkV rn Vs e 34 ∧ e.length < 65536) ∧ GTs.pathV rn Vs body ∧ GTail.pathV rn Vs tail
  | Vs, .loop S V body => (S ≠ [] → PathOkV Vs S) ∧ GTs.pathV rn (V :: Vs) body
  | Vs, .iif e ts fs => (varsOkV rn Vs e 34 ∧ e.length < 65536) ∧ ValPath rn Vs ts ∧ ValPath rn Vs fs
  | Vs, .svar pa ar => PathOkV Vs pa ∧ (∀ V ∈ Vs, V.isPrefixOf pa = false) ∧ ∀ a ∈ ar, a.pathV rn Vs
def GTs.pathV (rn : List Nat → Option (Num R)) : List (List Nat) → GTs → Prop
  | _, .nil => True
  | Vs, .cons b r => GT.pathV rn Vs b ∧ GTs.pathV rn Vs r
def GTail.pathV (rn : List Nat → Option (Num R)) : List (List Nat) → GTail → Prop
  | _, .fin => True
  | Vs, .els body => GTs.pathV rn Vs body
  | Vs, .elif e body tail => (varsOkV rn Vs e 34 ∧ e.length < 65536) ∧ GTs.pathV rn Vs body ∧ GTail.pathV rn Vs tail
end

mutual
def GT.caseV (rn : List Nat → Option (Num R)) : GT → Prop
  | .segs _ => True
  | .ifc e body tail => (tail = .fin ∨ exprOk rn e) ∧ GTs.caseV rn body ∧ GTail.caseV rn tail
  | .loop _ _ body => GTs.caseV rn body
  | .iif _ _ _ => True
  | .svar _ _ => True
def GTs.caseV (rn : List Nat → Option (Num R)) : GTs → Prop
  | .nil => True
  | .cons b r => GT.caseV rn b ∧ GTs.caseV rn r
def GTail.caseV (rn : List Nat → Option (Num R)) : GTail → Prop
  | .fin => True
  | .els body => GTs.caseV rn body
  | .elif e body tail => exprOk rn e ∧ GTs.caseV rn body ∧ GTail.caseV rn tail
end

mutual
def rcostGT : GT → Nat
  | .segs l => nTags l
  | .ifc _ _ _ => 1
  | .loop _ _ _ => 1
  | .iif _ _ _ => 1
  | .svar _ _ => 1
def rcostGTs : GTs → Nat
  | .nil => 0
  | .cons b r => rcostGT b + rcostGTs r
end

/-- the collection a loop runs over under the bindings `sc` -/
def collS (cx : RCtx R) (sc : List Binding) (S : List Nat) : Option Doc :=
  if S.isEmpty then some cx.root else (resolve cx.root sc S).1

mutual
/-- what the document says a tree prints under the bindings `sc` -/
def expGT (cx : RCtx R) : List Binding → GT → List Nat
  | sc, .segs l => expSegsB cx sc l
  | sc, .ifc e body tail => if hitOfS cx sc e = true then expGTs cx sc body else expGTail cx sc tail
  | sc, .loop S V body => outEnts (fun x key => expGTs cx (⟨V, x, key⟩ :: sc) body) (entsO (collS cx sc S))
  | sc, .iif e ts fs => expIif cx sc e ts fs
  | sc, .svar pa ar => expSvar cx sc pa ar
def expGTs (cx : RCtx R) : List Binding → GTs → List Nat
  | _, .nil => []
  | sc, .cons b r => expGT cx sc b ++ expGTs cx sc r
def expGTail (cx : RCtx R) : List Binding → GTail → List Nat
  | _, .fin => []
  | sc, .els body => expGTs cx sc body
  | sc, .elif e body tail => if hitOfS cx sc e = true then expGTs cx sc body else expGTail cx sc tail
end

mutual
/-- render fuel a tree needs under the bindings `sc` (depends on the value: one unit per loop item) -/
def rneedGT (cx : RCtx R) : List Binding → GT → Nat
  | _, .segs _ => 1
  | sc, .ifc _ body tail => rneedGTs cx sc body + rcostGTs body + rneedGTail cx sc tail + 3
  | sc, .loop S V body =>
    (entsO (collS cx sc S)).length +
      sumEnts (fun x key => rneedGTs cx (⟨V, x, key⟩ :: sc) body) (entsO (collS cx sc S)) + rcostGTs body + 3
  | _, .iif _ ts fs => nTagsVal ts + nTagsVal fs + 3
  | sc, .svar pa _ => svarNeed cx sc pa + 1
def rneedGTs (cx : RCtx R) : List Binding → GTs → Nat
  | _, .nil => 1
  | sc, .cons b r => rneedGT cx sc b + rneedGTs cx sc r
def rneedGTail (cx : RCtx R) : List Binding → GTail → Nat
  | _, .fin => 1
  | sc, .els body => rneedGTs cx sc body + rcostGTs body + 1
  | sc, .elif _ body tail => rneedGTs cx sc body + rcostGTs body + rneedGTail cx sc tail + 1
end

theorem rneedGTail_pos (cx : RCtx R) (sc : List Binding) (t : GTail) : 1 ≤ rneedGTail cx sc t := by
  cases t <;> simp [rneedGTail] <;> omega

mutual
/-- side conditions of rendering a tree under the enclosing loops `Vs`, `n` the length of the content: what
`GT.pathV` asks, except that the case text of an `<if>` / `<elseif>` and a `{math:}` text are bounded only under a loop
(the scanner's 16-bit operand length is only read back by the loop-variable check); in addition the content is bounded
where a loop records its level -/
def GT.pathW (rn : List Nat → Option (Num R)) (n : Nat) : List (List Nat) → GT → Prop
  | Vs, .segs l => ∀ s ∈ l, s.pathW rn Vs
  | Vs, .ifc e body tail =>
    (varsOkV rn Vs e 34 ∧ (Vs = [] ∨ e.length < 65536)) ∧ GTs.pathW rn n Vs body ∧ GTail.pathW rn n Vs tail
  | Vs, .loop S V body => n < 4294967296 ∧ (S ≠ [] → PathOkV Vs S) ∧ GTs.pathW rn n (V :: Vs) body
  | Vs, .iif e ts fs => (varsOkV rn Vs e 34 ∧ e.length < 65536) ∧ ValPath rn Vs ts ∧ ValPath rn Vs fs
  | Vs, .svar pa ar => PathOkV Vs pa ∧ (∀ V ∈ Vs, V.isPrefixOf pa = false) ∧ ∀ a ∈ ar, a.pathV rn Vs
def GTs.pathW (rn : List Nat → Option (Num R)) (n : Nat) : List (List Nat) → GTs → Prop
  | _, .nil => True
  | Vs, .cons b r => GT.pathW rn n Vs b ∧ GTs.pathW rn n Vs r
def GTail.pathW (rn : List Nat → Option (Num R)) (n : Nat) : List (List Nat) → GTail → Prop
  | _, .fin => True
  | Vs, .els body => GTs.pathW rn n Vs body
  | Vs, .elif e body tail =>
    (varsOkV rn Vs e 34 ∧ (Vs = [] ∨ e.length < 65536)) ∧ GTs.pathW rn n Vs body ∧ GTail.pathW rn n Vs tail
end

mutual
/-- the render fuel a tree uses under the bindings `sc`: what the tags after it are left with is at least
`fuel` when the tree is given `fuel + rcostGT b` -/
def minGT (cx : RCtx R) : List Binding → GT → Nat
  | _, .segs _ => 1
  | sc, .ifc _ body tail => max (minGTs cx sc body + rcostGTs body) (minGTail cx sc tail) + 2
  | sc, .loop S V body =>
    iterNeed (fun x key => minGTs cx (⟨V, x, key⟩ :: sc) body) (rcostGTs body) (entsO (collS cx sc S)) + 1
  | _, .iif _ ts fs => nTagsVal ts + nTagsVal fs + 3
  | sc, .svar pa _ => svarNeed cx sc pa + 1
def minGTs (cx : RCtx R) : List Binding → GTs → Nat
  | _, .nil => 1
  | sc, .cons b r => max (minGT cx sc b) (minGTs cx sc r)
def minGTail (cx : RCtx R) : List Binding → GTail → Nat
  | _, .fin => 1
  | sc, .els body => minGTs cx sc body + rcostGTs body + 1
  | sc, .elif _ body tail => max (minGTs cx sc body + rcostGTs body) (minGTail cx sc tail) + 1
end

omit [RealLike R] in
theorem minGTail_pos (cx : RCtx R) (sc : List Binding) (t : GTail) : 1 ≤ minGTail cx sc t := by
  cases t <;> simp only [minGTail] <;> omega

omit [RealLike R] in
theorem minGTs_pos (cx : RCtx R) : ∀ (sc : List Binding) (bs : GTs), 1 ≤ minGTs cx sc bs
  | _, .nil => Nat.le_refl 1
  | sc, .cons b r => by have := minGTs_pos cx sc r; simp only [minGTs]; omega

mutual
/-- no `<loop>` anywhere in the tree: rendering it leaves `loops_items_` as it was -/
def GT.noLoop : GT → Prop
  | .segs _ => True
  | .ifc _ body tail => GTs.noLoop body ∧ GTail.noLoop tail
  | .loop _ _ _ => False
  | .iif _ _ _ => True
  | .svar _ _ => True
def GTs.noLoop : GTs → Prop
  | .nil => True
  | .cons b r => GT.noLoop b ∧ GTs.noLoop r
def GTail.noLoop : GTail → Prop
  | .fin => True
  | .els body => GTs.noLoop body
  | .elif _ body tail => GTs.noLoop body ∧ GTail.noLoop tail
end

theorem render_cons_done {free : Prop} (cx : RCtx R) (T : Tag R) (more : List (Tag R)) (endO o p : Nat) (W X : List Nat)
    (st : RState) (fuel : Nat) (E : List EnvE) (w : Nat) (hw : w = p + W.length)
    (h : ∃ st', renderTag cx fuel T o st = .ok (st', w) ∧ st'.out = st.out ++ (pend cx.content o p ++ X) ∧
      ItemsKept E free st.items st'.items) :
    ∃ (o2 : Nat) (st2 : RState), Rendered cx E free o p st W X o2 st2 ∧
      render cx (fuel + 1) (T :: more) o endO st = render cx fuel more o2 endO st2 := by
  obtain ⟨st', hrt, ho, hI⟩ := h
  subst hw
  exact ⟨_, st', ⟨Nat.le_refl _, by rw [pend_self, List.append_nil]; exact ho, hI⟩, by simp only [render, hrt, bind, Except.bind]⟩

/-- a closed run of trees: the walk from `q` with nothing pending and no tag behind it, then the end of the run -/
theorem render_gts_finish {free : Prop} (cx : RCtx R) (cfg : ScanCfg R) (bs : GTs) (E : List EnvE) (dep q : Nat)
    (hq : At cx.content q (printGTs bs)) (st : RState) (fuel : Nat) (hf : minGTs cx (scOf E) bs + rcostGTs bs ≤ fuel)
    (h : ∀ k, minGTs cx (scOf E) bs ≤ k → ∃ (o2 : Nat) (st2 : RState),
      Rendered cx E free q q st (printGTs bs) (expGTs cx (scOf E) bs) o2 st2 ∧
      render cx (k + rcostGTs bs) (tagsGTs cfg cx.content (dOf E) dep q bs ++ []) q (q + (printGTs bs).length) st =
        render cx k [] o2 (q + (printGTs bs).length) st2) :
    ∃ st', render cx fuel (tagsGTs cfg cx.content (dOf E) dep q bs) q (q + (printGTs bs).length) st = .ok st' ∧
      st'.out = st.out ++ expGTs cx (scOf E) bs ∧ ItemsKept E free st.items st'.items := by
  obtain ⟨o2, st2, g, g5⟩ := h (fuel - rcostGTs bs) (by omega)
  have hp := minGTs_pos cx (scOf E) bs
  rw [List.append_nil, Nat.sub_add_cancel (by omega)] at g5
  obtain ⟨f, hfe⟩ : ∃ f, fuel - rcostGTs bs = f + 1 := ⟨fuel - rcostGTs bs - 1, by omega⟩
  rw [g5, hfe, g.finish hq f]
  exact ⟨_, rfl, g.out.trans (by rw [pend_self, List.nil_append]), g.items⟩

omit [RealLike R] in
theorem len_ifopen (e : List Nat) : (IFOPEN ++ e ++ [34, 62]).length = 12 + e.length := by
  simp only [List.length_append, IFOPEN, List.length_cons, List.length_nil]; omega

omit [RealLike R] in
theorem len_elif (e : List Nat) : (ELIF ++ e ++ ELIFEND).length = 18 + e.length := by
  simp only [List.length_append, ELIF, ELIFEND, List.length_cons, List.length_nil]; omega

/-- A case text that is no expression is admitted only when no case follows: then nothing more is printed. -/
theorem renderIf_env (cx : RCtx R) (cfg : ScanCfg R) (hg : cx.guardIndexRead = true) (hrn : cfg.readNum = cx.readNum)
    (E : List EnvE) (hD : ChainD cx.content (dOf E)) (o p : Nat) (e : List Nat) (ho : o ≤ p)
    (h : At cx.content p (IFOPEN ++ e ++ [34, 62]))
    (hlen : vsOf E = [] ∨ e.length < 65536) (hvo : varsOkV cfg.readNum (vsOf E) e 34)
    (sub : List (Tag R)) (o1 o2 w : Nat) (rest : List (IfCase R)) (hfirst : rest = [] ∨ exprOk cfg.readNum e)
    (st : RState) (hit : ItemsOk st.items E) (F : Nat) :
    renderTag cx (F + 3)
        (.ifT (.mk (itemsAtC cfg cx.content (refsD (dOf E)) (p + 10) (p + 10 + e.length)) sub o1 o2 :: rest) p w) o st =
      (if hitOfS cx (scOf E) e = true then render cx (F + 1) sub o1 o2 (emit st (pend cx.content o p))
        else ifCases cx (F + 1) rest (emit st (pend cx.content o p))).bind fun s => .ok (s, w) := by
  have hq : At cx.content (p + 9) (34 :: (e ++ [34])) :=
    (show At cx.content p ([60, 105, 102, 32, 99, 97, 115, 101, 61] ++ ((34 :: (e ++ [34])) ++ [62])) by
      simpa [IFOPEN] using h).right.left
  obtain ⟨⟨v, hv, hvt⟩, hne⟩ := case_val_env cx cfg hg hrn (emit st (pend cx.content o p)) e _ _ hq rfl E hD hit hlen hvo
  have hsl := slice_pend ho (Nat.le_trans (Nat.le_add_right _ _) h.le)
  simp only [renderTag, hsl, bind, Except.bind]
  cases hie : (itemsAtC cfg cx.content (refsD (dOf E)) (p + 10) (p + 10 + e.length)).isEmpty with
  | true =>
    have hr : rest = [] := hfirst.resolve_right fun h => by rw [hne h] at hie; cases hie
    have hhit : hitOfS cx (scOf E) e = false := by
      simp only [evalExprs, hie, if_true, Except.ok.injEq] at hv
      rw [hitOfS, ← hvt, ← hv]; rfl
    simp only [if_true, hhit, hr, ifCases, Bool.false_eq_true, if_false]
  | false =>
    simp only [Bool.false_eq_true, if_false]
    rw [ifCases_cons cx (F + 1) _ _ _ _ _ _ v hie hv, hvt, show (isTrue (evalText (specOf cx) (scOf E) e 34) == some true) =
      hitOfS cx (scOf E) e from rfl]

theorem renderLoop_env (cx : RCtx R) (hg : cx.guardIndexRead = true) (E : List EnvE) (o p : Nat) (S V : List Nat)
    (ho : o ≤ p) (h : At cx.content p (LOOPW ++ hdrOf S V)) (hSp : S ≠ [] → PathOkV (vsOf E) S)
    (lv : Nat) (hlv : ∀ e ∈ E, e.d.lv < lv) (sub : List (Tag R)) (eO : Nat)
    (Eo : Doc → List Nat → List Nat) (Nf : Doc → List Nat → Nat) (nb : Nat)
    (hbody : ∀ (x : Doc) (key : List Nat) (s1 : RState) (k : Nat), ItemsOk s1.items E →
      s1.items[lv]? = some ⟨some x, key⟩ → Nf x key ≤ k →
      ∃ st', render cx (k + nb) sub (p + (6 + (hdrOf S V).length)) eO s1 = .ok st' ∧
        st'.out = s1.out ++ Eo x key ∧ ItemsOk st'.items E ∧ lv < st'.items.length)
    (st : RState) (hit : ItemsOk st.items E) (fuel : Nat)
    (hf : iterNeed Nf nb (entsO (collS cx (scOf E) S)) + 1 ≤ fuel) :
    ∃ st', renderTag cx fuel (.loop sub { loopFG (dOf E) p lv S V with endOff := eO }) o st = .ok (st', eO + 7) ∧
      st'.out = st.out ++ (pend cx.content o p ++ outEnts Eo (entsO (collS cx (scOf E) S))) ∧ ItemsOk st'.items E := by
  have hsl := slice_pend ho (Nat.le_trans (Nat.le_add_right _ _) h.le)
  -- the collection
  have hset : (if (setOf (dOf E) p S).len ≠ 0 then getValue cx (emit st (pend cx.content o p)) (setOf (dOf E) p S)
      else pure (some cx.root)) = .ok (collS cx (scOf E) S) := by
    by_cases hSe : S = []
    · subst hSe; simp [setOf, collS, pure, Except.pure]
    · have hSi : S.isEmpty = false := List.isEmpty_eq_false_iff.mpr hSe
      have hSl : S.length ≠ 0 := fun h0 => hSe (List.length_eq_zero_iff.mp h0)
      have hS : At cx.content (p + 11) S :=
        (show At cx.content p (LH1 ++ (S ++ ([34] ++ ([32, 118, 97, 108, 117, 101, 61, 34] ++ V ++ [34])))) by
          simpa [hdrOf, hSi, LH1, LOOPW, List.append_assoc] using h).right.left
      have hgv := (getValue_at cx hg (emit st (pend cx.content o p)) _ S hS E (hSp hSe) hit).1
      have hso : setOf (dOf E) p S = refD (dOf E) (p + 11) S := by
        simp [setOf, hSi, refD]
      rw [hso, refD_len]
      simp only [hSl, ne_eq, not_false_eq_true, if_true, hgv, collS, hSi, Bool.false_eq_true, if_false]
  obtain ⟨g, rfl⟩ : ∃ g, fuel = g + 1 := ⟨fuel - 1, by omega⟩
  have h7 : W1.loopSuffixLength = 7 := by decide
  simp only [renderTag, loopFG, hsl, bind, Except.bind, hset, h7]
  cases hcoll : collS cx (scOf E) S with
  | none => exact ⟨emit st (pend cx.content o p), rfl, by simp [entsO, outEnts, emit], hit⟩
  | some set0 =>
    simp only [not_true_eq_false, ne_eq, if_false, pure, Except.pure, show ¬ ((0 : Nat) > 1) by omega]
    obtain ⟨st', h1, h2, h3⟩ := loopIter_gen cx sub
      { set := setOf (dOf E) p S, off := p, endOff := eO,
        contentOff := 6 + (hdrOf S V).length, valueOff := voOf S, valueLen := V.length, level := lv }
      set0 Eo Nf nb (fun items => ItemsOk items E)
      (fun items it hI => itemsOk_set items E lv it hI (fun e he => Nat.ne_of_lt (hlv e he)))
      hbody (entsOf set0).length 0
      ⟨(emit st (pend cx.content o p)).out, (emit st (pend cx.content o p)).items ++ List.replicate (lv + 1 - (emit st (pend cx.content o p)).items.length) ({} : LoopItem)⟩
      g (by omega) (by simp; omega) (itemsOk_append _ _ E hit)
      (by simp only [hcoll, entsO, List.drop_zero] at hf ⊢; omega)
    exact ⟨st', by simp only [h1], by rw [h2]; simp [entsO, emit, List.append_assoc], h3⟩

mutual
theorem renderW_gt (cx : RCtx R) (cfg : ScanCfg R) (hg : cx.guardIndexRead = true) (hrn : cfg.readNum = cx.readNum) :
    ∀ (b : GT) (E : List EnvE) (dep : Nat) (more : List (Tag R)) (endO o p : Nat) (st : RState) (fuel : Nat),
      At cx.content p (printGT b) → o ≤ p → b.ok → b.pathW cfg.readNum cx.content.length (vsOf E) → b.caseV cfg.readNum →
      ChainD cx.content (dOf E) → ItemsOk st.items E → dep ≤ p → (∀ e ∈ E, e.d.lv < dep) →
      minGT cx (scOf E) b ≤ fuel →
      ∃ (o2 : Nat) (st2 : RState),
        Rendered cx E b.noLoop o p st (printGT b) (expGT cx (scOf E) b) o2 st2 ∧
        render cx (fuel + rcostGT b) (tagsGT cfg cx.content (dOf E) dep p b ++ more) o endO st =
          render cx fuel more o2 endO st2
  | .segs l, E, dep, more, endO, o, p, st, fuel, h, ho, _, hpath, _, hD, hit, _, _, hf => by
    simp only [GT.pathW] at hpath
    simp only [minGT] at hf
    obtain ⟨o2, st2, g, g5⟩ := render_segs_more_env cx cfg hg hrn more endO E hD l o p st fuel h ho hpath hf hit
    exact ⟨o2, st2, g, by simpa [rcostGT, tagsGT] using g5⟩
  | .ifc e body tail, E, dep, more, endO, o, p, st, fuel, h, ho, hok, hpath, hcase, hD, hit, hdp, hlv, hf => by
    simp only [GT.ok] at hok
    obtain ⟨_, hbody, htail⟩ := hok
    simp only [GT.pathW] at hpath
    obtain ⟨⟨hvo, he16⟩, hpb, hpt⟩ := hpath
    simp only [GT.caseV] at hcase
    obtain ⟨hfirst, hcb, hct⟩ := hcase
    simp only [minGT] at hf
    simp only [printGT] at h
    have hb : At cx.content (p + 12 + e.length) (printGTs body) := h.left.right.cast (by rw [len_ifopen]; omega)
    have ht : At cx.content (p + 12 + e.length + (printGTs body).length) (printGTail tail) :=
      h.right.cast (by rw [List.length_append, len_ifopen]; omega)
    simp only [tagsGT, rcostGT, List.cons_append, List.nil_append]
    refine render_cons_done cx _ more endO o p (printGT (.ifc e body tail)) _ st fuel E
      (p + 12 + e.length + (printGTs body).length + (printGTail tail).length)
      (by rw [printGT, List.length_append, List.length_append, len_ifopen]; omega) ?_
    obtain ⟨F, rfl⟩ : ∃ F, fuel = F + 3 := ⟨fuel - 3, by have := minGTail_pos cx (scOf E) tail; omega⟩
    rw [renderIf_env cx cfg hg hrn E hD o p e ho h.left.left he16 hvo _ _ _ _ _ (hfirst.imp (fun h => by rw [h]; rfl) id) st hit F]
    have hlv' : ∀ x ∈ E, x.d.lv < dep + 1 := fun x hx => Nat.lt_succ_of_lt (hlv x hx)
    cases hhit : hitOfS cx (scOf E) e with
    | true =>
      simp only [if_true, expGT, hhit]
      obtain ⟨st', r1, r2, r3⟩ := render_gts_finish cx cfg body E (dep + 1) _ hb (emit st (pend cx.content o p)) (F + 1)
        (by omega) fun k hk => renderW_gts cx cfg hg hrn body E (dep + 1) [] _ _ _ _ k hb (Nat.le_refl _) hbody hpb hcb hD hit
          (by omega) hlv' hk
      exact ⟨st', by rw [r1]; rfl, by rw [r2]; simp [emit, List.append_assoc], r3.imp And.left⟩
    | false =>
      simp only [Bool.false_eq_true, if_false, expGT, hhit]
      obtain ⟨st', r1, r2, r3⟩ := renderW_gtail cx cfg hg hrn tail E (dep + 1) _ (emit st (pend cx.content o p)) (F + 1) ht
        htail hpt hct hD hit (by omega) hlv' (by omega)
      exact ⟨st', by rw [r1]; rfl, by rw [r2]; simp [emit, List.append_assoc], r3.imp And.right⟩
  | .loop S V body, E, dep, more, endO, o, p, st, fuel, h, ho, hok, hpath, hcase, hD, hit, hdp, hlv, hf => by
    simp only [GT.ok] at hok
    obtain ⟨hh, hbody⟩ := hok
    simp only [GT.pathW] at hpath
    obtain ⟨hn32, hSp, hpb⟩ := hpath
    simp only [GT.caseV] at hcase
    simp only [minGT] at hf
    simp only [printGT] at h
    have hdep32 : dep < 4294967296 := by have := h.le; omega
    have htr : trunc bits_LoopTag_Level dep = dep := by
      simp only [trunc, show bits_LoopTag_Level = 32 by decide]
      exact Nat.mod_eq_of_lt (by omega)
    have hb : At cx.content (p + 6 + (hdrOf S V).length) (printGTs body) :=
      h.right.right.right.left.cast (by simp only [LOOPW, List.length_cons, List.length_nil]; omega)
    have hVat : At cx.content (p + voOf S) V := At.hdr_value h.right.left
    simp only [tagsGT, rcostGT, List.cons_append, List.nil_append, htr]
    refine render_cons_done cx _ more endO o p (printGT (.loop S V body)) _ st fuel E
      (p + 6 + (hdrOf S V).length + (printGTs body).length + 7)
      (by simp only [printGT, List.length_append, LOOPW, LOOPEND, List.length_cons, List.length_nil]; omega) ?_
    have hbodyR : ∀ (x : Doc) (key : List Nat) (s1 : RState) (k : Nat), ItemsOk s1.items E →
        s1.items[dep]? = some ⟨some x, key⟩ → minGTs cx (⟨V, x, key⟩ :: scOf E) body ≤ k →
        ∃ st', render cx (k + rcostGTs body)
          (tagsGTs cfg cx.content (⟨p + voOf S, V, dep⟩ :: dOf E) (dep + 1) (p + 6 + (hdrOf S V).length) body)
          (p + (6 + (hdrOf S V).length)) (p + 6 + (hdrOf S V).length + (printGTs body).length) s1 = .ok st' ∧
          st'.out = s1.out ++ expGTs cx (⟨V, x, key⟩ :: scOf E) body ∧ ItemsOk st'.items E ∧ dep < st'.items.length := by
      intro x key s1 k hI h1 hk
      have hE' : ItemsOk s1.items (⟨⟨p + voOf S, V, dep⟩, x, key⟩ :: E) := by
        intro e he
        rcases List.mem_cons.mp he with h | h
        · subst h; exact h1
        · exact hI e h
      have hD' : ChainD cx.content (dOf (⟨⟨p + voOf S, V, dep⟩, x, key⟩ :: E)) := by
        intro d hd
        simp only [dOf, List.map_cons, List.mem_cons] at hd
        rcases hd with h | h
        · subst h
          exact ⟨hVat, fun y hy => ⟨(hh.v y hy).2.2, hh.v34 y hy⟩⟩
        · exact hD d (by simpa [dOf] using h)
      obtain ⟨st', r1, r2, r3⟩ := render_gts_finish cx cfg body (⟨⟨p + voOf S, V, dep⟩, x, key⟩ :: E) (dep + 1) _ hb s1
        (k + rcostGTs body) (by show minGTs cx (⟨V, x, key⟩ :: scOf E) body + _ ≤ _; omega)
        fun k' hk' => renderW_gts cx cfg hg hrn body (⟨⟨p + voOf S, V, dep⟩, x, key⟩ :: E) (dep + 1) [] _ _ _ s1 k' hb
          (Nat.le_refl _) hbody (by simpa [vsOf] using hpb) hcase hD' hE' (by omega)
          (by
            intro e he
            rcases List.mem_cons.mp he with h | h
            · subst h; simp
            · exact Nat.lt_succ_of_lt (hlv e h))
          hk'
      refine ⟨st', ?_, by simpa [scOf] using r2, fun e he => r3.1 e (List.mem_cons_of_mem _ he), ?_⟩
      · rw [show p + (6 + (hdrOf S V).length) = p + 6 + (hdrOf S V).length by omega]
        simpa [dOf] using r1
      · have := r3.1 _ (List.mem_cons_self ..)
        simp only at this
        rcases Nat.lt_or_ge dep st'.items.length with h | h
        · exact h
        · rw [List.getElem?_eq_none h] at this; cases this
    obtain ⟨st', h1, h2, h3⟩ := renderLoop_env cx hg E o p S V ho (h.left.append h.right.left) hSp dep hlv _ _
      (fun x key => expGTs cx (⟨V, x, key⟩ :: scOf E) body)
      (fun x key => minGTs cx (⟨V, x, key⟩ :: scOf E) body) (rcostGTs body) hbodyR st hit fuel (by omega)
    exact ⟨st', h1, h2, .of_ok h3 id⟩
  | .iif e ts fs, E, dep, more, endO, o, p, st, fuel, h, ho, hok, hpath, _, hD, hit, _, _, hf => by
    simp only [GT.ok] at hok
    obtain ⟨_, _, _, _, hone, hsz⟩ := hok
    simp only [GT.pathW] at hpath
    obtain ⟨⟨hvo, he16⟩, hpt, hpf⟩ := hpath
    simp only [minGT] at hf
    simp only [printGT] at h
    have hrt := renderIif_env cx cfg hg hrn E hD o p e ts fs ho h he16 hvo hpt hpf hone hsz st hit fuel hf
    simp only [tagsGT, rcostGT, List.cons_append, List.nil_append, expGT]
    exact render_cons_done cx _ more endO o p (printGT (.iif e ts fs)) _ st fuel E _ rfl
      ⟨_, hrt, by simp only [emit, List.append_assoc], .same hit⟩
  | .svar pa ar, E, dep, more, endO, o, p, st, fuel, h, ho, hok, hpath, _, hD, hit, _, _, hf => by
    simp only [GT.ok] at hok
    obtain ⟨_, _, _, _, hargs, _, _⟩ := hok
    simp only [GT.pathW] at hpath
    obtain ⟨hp, hnv, hpa⟩ := hpath
    simp only [minGT] at hf
    simp only [printGT] at h
    have hfind : findV (dOf E) pa = none := findV_none pa _ fun d hd => by
      obtain ⟨e, he, rfl⟩ := List.mem_map.mp hd
      exact hnv e.d.V (List.mem_map_of_mem he)
    have hrt := renderSvar_env cx cfg hg hrn E hD o p pa ar ho h hp hfind
      (fun a ha => ⟨(hargs a ha).2, hpa a ha⟩) st hit fuel hf
    simp only [tagsGT, rcostGT, List.cons_append, List.nil_append, expGT]
    exact render_cons_done cx _ more endO o p (printGT (.svar pa ar)) _ st fuel E _ rfl
      ⟨_, hrt, by simp only [emit, List.append_assoc], .same hit⟩
theorem renderW_gts (cx : RCtx R) (cfg : ScanCfg R) (hg : cx.guardIndexRead = true) (hrn : cfg.readNum = cx.readNum) :
    ∀ (bs : GTs) (E : List EnvE) (dep : Nat) (more : List (Tag R)) (endO o p : Nat) (st : RState) (fuel : Nat),
      At cx.content p (printGTs bs) → o ≤ p → bs.ok → bs.pathW cfg.readNum cx.content.length (vsOf E) → bs.caseV cfg.readNum →
      ChainD cx.content (dOf E) → ItemsOk st.items E → dep ≤ p → (∀ e ∈ E, e.d.lv < dep) →
      minGTs cx (scOf E) bs ≤ fuel →
      ∃ (o2 : Nat) (st2 : RState),
        Rendered cx E bs.noLoop o p st (printGTs bs) (expGTs cx (scOf E) bs) o2 st2 ∧
        render cx (fuel + rcostGTs bs) (tagsGTs cfg cx.content (dOf E) dep p bs ++ more) o endO st =
          render cx fuel more o2 endO st2
  | .nil, E, dep, more, endO, o, p, st, fuel, _, ho, _, _, _, _, hit, _, _, _ =>
    ⟨o, st, Rendered.nil ho hit, by simp [tagsGTs, rcostGTs]⟩
  | .cons b r, E, dep, more, endO, o, p, st, fuel, h, ho, hok, hpath, hcase, hD, hit, hdp, hlv, hf => by
    simp only [GTs.ok] at hok
    simp only [GTs.pathW] at hpath
    simp only [GTs.caseV] at hcase
    simp only [minGTs] at hf
    simp only [printGTs] at h
    obtain ⟨o1, st1, g, g5⟩ := renderW_gt cx cfg hg hrn b E dep
      (tagsGTs cfg cx.content (dOf E) dep (p + (printGT b).length) r ++ more) endO o p st
      (fuel + rcostGTs r) h.left ho hok.1 hpath.1 hcase.1 hD hit hdp hlv (by omega)
    obtain ⟨o2, st2, h2, h5⟩ := renderW_gts cx cfg hg hrn r E dep more endO o1 _ st1 fuel h.right g.le
      hok.2 hpath.2 hcase.2 hD g.items.ok (by omega) hlv (by omega)
    refine ⟨o2, st2, Rendered.trans (fun h => h) g h2, ?_⟩
    simp only [tagsGTs, rcostGTs, List.append_assoc]
    rw [show fuel + (rcostGT b + rcostGTs r) = fuel + rcostGTs r + rcostGT b by omega, g5, h5]
theorem renderW_gtail (cx : RCtx R) (cfg : ScanCfg R) (hg : cx.guardIndexRead = true) (hrn : cfg.readNum = cx.readNum) :
    ∀ (t : GTail) (E : List EnvE) (dep q : Nat) (st : RState) (fuel : Nat),
      At cx.content q (printGTail t) → t.ok → t.pathW cfg.readNum cx.content.length (vsOf E) → t.caseV cfg.readNum →
      ChainD cx.content (dOf E) → ItemsOk st.items E → dep ≤ q → (∀ e ∈ E, e.d.lv < dep) →
      minGTail cx (scOf E) t ≤ fuel →
      ∃ st', ifCases cx fuel (casesG cfg cx.content (dOf E) dep q t) st = .ok st' ∧
        st'.out = st.out ++ expGTail cx (scOf E) t ∧ ItemsKept E t.noLoop st.items st'.items
  | .fin, E, dep, q, st, fuel, _, _, _, _, _, hit, _, _, hf => by
    simp only [minGTail] at hf
    obtain ⟨f, rfl⟩ : ∃ f, fuel = f + 1 := ⟨fuel - 1, by omega⟩
    exact ⟨st, by simp only [casesG, ifCases], by simp [expGTail], ItemsKept.same hit⟩
  | .els body, E, dep, q, st, fuel, h, hok, hpath, hcase, hD, hit, hdp, hlv, hf => by
    simp only [GTail.ok] at hok
    simp only [GTail.pathW] at hpath
    simp only [GTail.caseV] at hcase
    simp only [minGTail] at hf
    simp only [printGTail] at h
    obtain ⟨f, rfl⟩ : ∃ f, fuel = f + 1 := ⟨fuel - 1, by omega⟩
    simp only [casesG, ifCases, List.isEmpty_nil, if_true, pure, Except.pure, bind, Except.bind, expGTail]
    have hb : At cx.content (q + 8) (printGTs body) := h.left.right
    exact render_gts_finish cx cfg body E dep _ hb st f (by omega) fun k hk =>
      renderW_gts cx cfg hg hrn body E dep [] _ _ _ st k hb (Nat.le_refl _) hok hpath hcase hD hit (by omega) hlv hk
  | .elif e body tail, E, dep, q, st, fuel, h, hok, hpath, hcase, hD, hit, hdp, hlv, hf => by
    simp only [GTail.ok] at hok
    obtain ⟨_, hbody, htail⟩ := hok
    simp only [GTail.pathW] at hpath
    obtain ⟨⟨hvo, he16⟩, hpb, hpt⟩ := hpath
    simp only [GTail.caseV] at hcase
    obtain ⟨hex, hcb, hct⟩ := hcase
    simp only [minGTail] at hf
    simp only [printGTail] at h
    obtain ⟨f, rfl⟩ : ∃ f, fuel = f + 1 := ⟨fuel - 1, by omega⟩
    have hq : At cx.content (q + 13) (34 :: (e ++ [34])) :=
      (show At cx.content q ([60, 101, 108, 115, 101, 105, 102, 32, 99, 97, 115, 101, 61] ++ ((34 :: (e ++ [34])) ++ [32, 47, 62]))
        by simpa [ELIF, ELIFEND] using h.left.left).right.left
    have hb : At cx.content (q + 18 + e.length) (printGTs body) := h.left.right.cast (by rw [len_elif]; omega)
    have ht : At cx.content (q + 18 + e.length + (printGTs body).length) (printGTail tail) :=
      h.right.cast (by rw [List.length_append, len_elif]; omega)
    obtain ⟨⟨v, hv, hvt'⟩, hne⟩ := case_val_env cx cfg hg hrn st e _ _ hq rfl E hD hit he16 hvo
    have hie := hne hex
    have hvt : (truth v == some true) = hitOfS cx (scOf E) e := by rw [hvt']; rfl
    simp only [casesG]
    rw [ifCases_cons cx f _ _ _ _ _ _ v hie hv, hvt]
    cases hhit : hitOfS cx (scOf E) e with
    | true =>
      simp only [if_true, expGTail, hhit]
      obtain ⟨st', r1, r2, r3⟩ := render_gts_finish cx cfg body E dep _ hb st f (by omega) fun k hk =>
        renderW_gts cx cfg hg hrn body E dep [] _ _ _ st k hb (Nat.le_refl _) hbody hpb hcb hD hit (by omega) hlv hk
      exact ⟨st', r1, r2, r3.imp And.left⟩
    | false =>
      simp only [Bool.false_eq_true, if_false, expGTail, hhit]
      obtain ⟨st', r1, r2, r3⟩ := renderW_gtail cx cfg hg hrn tail E dep _ st f ht htail hpt hct hD hit (by omega) hlv (by omega)
      exact ⟨st', r1, r2, r3.imp And.right⟩
end

omit [RealLike R] in
mutual
theorem GT.pathW_of_pathV (rn : List Nat → Option (Num R)) (n : Nat) (hn : n < 4294967296) :
    ∀ (Vs : List (List Nat)) (b : GT), b.pathV rn Vs → b.pathW rn n Vs
  | _, .segs _, h => fun s hs => Seg.pathW_of_pathV (h s hs)
  | Vs, .ifc _ body tail, h =>
    ⟨⟨h.1.1, Or.inr h.1.2⟩, GTs.pathW_of_pathV rn n hn Vs body h.2.1, GTail.pathW_of_pathV rn n hn Vs tail h.2.2⟩
  | Vs, .loop _ V body, h => ⟨hn, h.1, GTs.pathW_of_pathV rn n hn (V :: Vs) body h.2⟩
  | _, .iif _ _ _, h => h
  | _, .svar _ _, h => h
theorem GTs.pathW_of_pathV (rn : List Nat → Option (Num R)) (n : Nat) (hn : n < 4294967296) :
    ∀ (Vs : List (List Nat)) (bs : GTs), bs.pathV rn Vs → bs.pathW rn n Vs
  | _, .nil, _ => trivial
  | Vs, .cons b r, h => ⟨GT.pathW_of_pathV rn n hn Vs b h.1, GTs.pathW_of_pathV rn n hn Vs r h.2⟩
theorem GTail.pathW_of_pathV (rn : List Nat → Option (Num R)) (n : Nat) (hn : n < 4294967296) :
    ∀ (Vs : List (List Nat)) (t : GTail), t.pathV rn Vs → t.pathW rn n Vs
  | _, .fin, _ => trivial
  | Vs, .els body, h => GTs.pathW_of_pathV rn n hn Vs body h
  | Vs, .elif _ body tail, h =>
    ⟨⟨h.1.1, Or.inr h.1.2⟩, GTs.pathW_of_pathV rn n hn Vs body h.2.1, GTail.pathW_of_pathV rn n hn Vs tail h.2.2⟩
end

omit [RealLike R] in
mutual
theorem minGT_le (cx : RCtx R) : ∀ (sc : List Binding) (b : GT), minGT cx sc b ≤ rneedGT cx sc b
  | _, .segs _ => Nat.le_refl 1
  | sc, .ifc _ body tail => by
    have := minGTs_le cx sc body; have := minGTail_le cx sc tail
    simp only [minGT, rneedGT]; omega
  | sc, .loop S V body => by
    have := iterNeed_le (fun x key => minGTs cx (⟨V, x, key⟩ :: sc) body)
      (fun x key => rneedGTs cx (⟨V, x, key⟩ :: sc) body) (rcostGTs body)
      (fun x key => minGTs_le cx (⟨V, x, key⟩ :: sc) body) (entsO (collS cx sc S))
    simp only [minGT, rneedGT]; omega
  | _, .iif _ _ _ => Nat.le_refl _
  | _, .svar _ _ => Nat.le_refl _
theorem minGTs_le (cx : RCtx R) : ∀ (sc : List Binding) (bs : GTs), minGTs cx sc bs ≤ rneedGTs cx sc bs
  | _, .nil => Nat.le_refl 1
  | sc, .cons b r => by
    have := minGT_le cx sc b; have := minGTs_le cx sc r
    simp only [minGTs, rneedGTs]; omega
theorem minGTail_le (cx : RCtx R) : ∀ (sc : List Binding) (t : GTail), minGTail cx sc t ≤ rneedGTail cx sc t
  | _, .fin => Nat.le_refl 1
  | sc, .els body => by have := minGTs_le cx sc body; simp only [minGTail, rneedGTail]; omega
  | sc, .elif _ body tail => by
    have := minGTs_le cx sc body; have := minGTail_le cx sc tail
    simp only [minGTail, rneedGTail]; omega
end

theorem render_gt (cx : RCtx R) (cfg : ScanCfg R) (hg : cx.guardIndexRead = true) (hrn : cfg.readNum = cx.readNum)
    (hn32 : cx.content.length < 4294967296) :
    ∀ (b : GT) (E : List EnvE) (dep : Nat) (more : List (Tag R)) (endO : Nat) (post B txt : List Nat) (st : RState)
      (fuel : Nat),
      cx.content = B ++ (txt ++ (printGT b ++ post)) → b.ok → b.pathV cfg.readNum (vsOf E) → b.caseV cfg.readNum →
      ChainD cx.content (dOf E) → ItemsOk st.items E → dep ≤ (B ++ txt).length → (∀ e ∈ E, e.d.lv < dep) →
      rneedGT cx (scOf E) b ≤ fuel →
      ∃ (B2 txt2 : List Nat) (st2 : RState), cx.content = B2 ++ (txt2 ++ post) ∧
        (B2 ++ txt2).length = (B ++ txt).length + (printGT b).length ∧
        st2.out ++ txt2 = st.out ++ (txt ++ expGT cx (scOf E) b) ∧ ItemsOk st2.items E ∧
        render cx (fuel + rcostGT b) (tagsGT cfg cx.content (dOf E) dep (B ++ txt).length b ++ more) B.length endO st =
          render cx fuel more B2.length endO st2 :=
  fun b E dep more endO post B txt st fuel hc hok hpath hcase hD hit hdp hlv hf =>
    let ⟨_, st2, g, g5⟩ := renderW_gt cx cfg hg hrn b E dep more endO B.length (B ++ txt).length st fuel
      (At.of_eq (by rw [hc, List.append_assoc])) (by simp) hok
      (GT.pathW_of_pathV _ _ hn32 _ b hpath) hcase hD hit hdp hlv (Nat.le_trans (minGT_le cx _ b) hf)
    let ⟨B2, txt2, h1, h2, h3, h4⟩ := g.lists hc
    ⟨B2, txt2, st2, h1, h2, h3, g.items.ok, h4 ▸ g5⟩

theorem render_gtail (cx : RCtx R) (cfg : ScanCfg R) (hg : cx.guardIndexRead = true) (hrn : cfg.readNum = cx.readNum)
    (hn32 : cx.content.length < 4294967296) :
    ∀ (t : GTail) (E : List EnvE) (dep : Nat) (Pre post : List Nat) (st : RState) (fuel : Nat),
      cx.content = Pre ++ (printGTail t ++ post) → t.ok → t.pathV cfg.readNum (vsOf E) → t.caseV cfg.readNum →
      ChainD cx.content (dOf E) → ItemsOk st.items E → dep ≤ Pre.length → (∀ e ∈ E, e.d.lv < dep) →
      rneedGTail cx (scOf E) t ≤ fuel →
      ∃ st', ifCases cx fuel (casesG cfg cx.content (dOf E) dep Pre.length t) st = .ok st' ∧
        st'.out = st.out ++ expGTail cx (scOf E) t ∧ ItemsOk st'.items E :=
  fun t E dep Pre _ st fuel hc hok hpath hcase hD hit hdp hlv hf =>
    let ⟨st', h1, h2, h3⟩ := renderW_gtail cx cfg hg hrn t E dep Pre.length st fuel (At.of_eq hc) hok
      (GTail.pathW_of_pathV _ _ hn32 _ t hpath) hcase hD hit hdp hlv (Nat.le_trans (minGTail_le cx _ t) hf)
    ⟨st', h1, h2, h3.ok⟩

theorem renderTop_gtree (cx : RCtx R) (cfg : ScanCfg R) (hg : cx.guardIndexRead = true)
    (hrn : cfg.readNum = cx.readNum) (bs : GTs) (hc : cx.content = printGTs bs)
    (hok : bs.ok) (hpath : bs.pathW cfg.readNum cx.content.length []) (hcase : bs.caseV cfg.readNum) (fuel : Nat)
    (hf : minGTs cx [] bs ≤ fuel) :
    renderTop cx (tagsGTs cfg cx.content [] 0 0 bs) (fuel + rcostGTs bs) = .ok (expGTs cx [] bs) := by
  have hf' : minGTs cx (scOf []) bs ≤ fuel := hf
  have hq : At cx.content 0 (printGTs bs) := At.of_eq (A := []) (B := []) (by rw [hc, List.nil_append, List.append_nil])
  obtain ⟨st', r1, r2, _⟩ := render_gts_finish cx cfg bs [] 0 0 hq {} (fuel + rcostGTs bs) (by omega) fun k hk =>
    renderW_gts cx cfg hg hrn bs [] 0 [] _ 0 0 {} k hq (Nat.le_refl _) hok hpath hcase (fun d hd => nomatch hd)
      (fun e he => nomatch he) (Nat.zero_le _) (fun e he => nomatch he) hk
  rw [Nat.zero_add, ← hc] at r1
  have r1' : render cx (fuel + rcostGTs bs) (tagsGTs cfg cx.content [] 0 0 bs) 0 cx.content.length {} = .ok st' := r1
  simp only [renderTop, r1', bind, Except.bind, r2]
  rfl

theorem loopObj_gen (sx : SpecCtx R) (sc : List Binding) (V : List Nat) (bodyT : List Tpl)
    (Eo : Doc → List Nat → List Nat) (Nf : Doc → List Nat → Nat) :
    ∀ (ms : List (List Nat × Doc)) (fuel : Nat),
      (∀ kx ∈ ms, ∀ key f, Nf kx.2 key ≤ f → expandList sx f (⟨V, kx.2, key⟩ :: sc) bodyT = Eo kx.2 key) →
      ms.length + sumEnts Nf ms + 1 ≤ fuel →
      loopObj sx fuel sc V bodyT ms = outEnts Eo ms := by
  intro ms
  induction ms with
  | nil => intro fuel _ _; cases fuel <;> simp [loopObj, outEnts]
  | cons kx ms ih =>
    obtain ⟨k, x⟩ := kx
    intro fuel hbody hf
    obtain ⟨g, rfl⟩ : ∃ g, fuel = g + 1 := ⟨fuel - 1, by omega⟩
    simp only [sumEnts, List.length_cons] at hf
    simp only [loopObj, outEnts]
    rw [ih g (fun y hy => hbody y (List.mem_cons_of_mem _ hy)) (by omega),
      hbody (k, x) (List.mem_cons_self ..) k g (by show Nf x k ≤ g; omega)]

theorem loopArr_gen (sx : SpecCtx R) (sc : List Binding) (V : List Nat) (bodyT : List Tpl)
    (Eo : Doc → List Nat → List Nat) (Nf : Doc → List Nat → Nat) (xs : List Doc) (fuel : Nat)
    (hbody : ∀ x ∈ xs, ∀ key f, Nf x key ≤ f → expandList sx f (⟨V, x, key⟩ :: sc) bodyT = Eo x key)
    (hf : xs.length + sumEnts Nf (xs.map (fun x => ([], x))) + 1 ≤ fuel) :
    loopArr sx fuel sc V bodyT xs = outEnts Eo (xs.map (fun x => ([], x))) := by
  rw [loopArr_eq_loopObj]
  refine loopObj_gen sx sc V bodyT Eo Nf _ fuel (fun kx hkx => ?_) (by rw [List.length_map]; exact hf)
  obtain ⟨x, hx, rfl⟩ := List.mem_map.1 hkx
  exact hbody x hx

mutual
/-- reference fuel a tree needs under the bindings `sc` -/
def eneedGT (cx : RCtx R) : List Binding → GT → Nat
  | _, .segs l => l.length + 1
  | sc, .ifc _ body tail => eneedGTs cx sc body + eneedGTail cx sc tail + 3
  | sc, .loop S V body =>
    (entsO (collS cx sc S)).length +
      sumEnts (fun x key => eneedGTs cx (⟨V, x, key⟩ :: sc) body) (entsO (collS cx sc S)) + 3
  | _, .iif _ ts fs => (match ts with | some l => l.length | none => 0) + (match fs with | some l => l.length | none => 0) + 3
  | sc, .svar pa _ => svarNeed cx sc pa + 2
def eneedGTs (cx : RCtx R) : List Binding → GTs → Nat
  | _, .nil => 1
  | sc, .cons b r => eneedGT cx sc b + (GT.toTpls b).length + eneedGTs cx sc r
def eneedGTail (cx : RCtx R) : List Binding → GTail → Nat
  | _, .fin => 0
  | sc, .els body => eneedGTs cx sc body + 1
  | sc, .elif _ body tail => eneedGTs cx sc body + eneedGTail cx sc tail + 1
end

mutual
theorem expand_gt (cx : RCtx R) (hU : ∀ s, Reach cx.root (.str s) → ∀ x ∈ s, x < 2 ^ 32) :
    ∀ (b : GT) (sc : List Binding) (fuel : Nat), b.ok → (∀ bd ∈ sc, Reach cx.root bd.item) → eneedGT cx sc b ≤ fuel →
    expandList (specOf cx) fuel sc b.toTpls = expGT cx sc b
  | .segs l, sc, fuel, hok, hsc, hf => by
    simp only [eneedGT] at hf
    simp only [GT.toTpls, expGT]
    exact expandList_body cx sc l fuel hf
  | .ifc e body tail, sc, fuel, hok, hsc, hf => by
    simp only [GT.ok] at hok
    simp only [eneedGT] at hf
    obtain ⟨f, rfl⟩ : ∃ f, fuel = f + 3 := ⟨fuel - 3, by omega⟩
    simp only [GT.toTpls, expandList, expandTpl, expandBranches, List.append_nil, expGT, hitOfS]
    rw [expand_gts cx hU body sc f hok.2.1 hsc (by omega), expand_gtail cx hU tail sc f hok.2.2 hsc (by omega)]
    by_cases hh : isTrue (evalText (specOf cx) sc e 34) = some true <;> simp [hh]
  | .loop S V body, sc, fuel, hok, hsc, hf => by
    simp only [GT.ok] at hok
    simp only [eneedGT] at hf
    obtain ⟨f, rfl⟩ : ∃ f, fuel = f + 2 := ⟨fuel - 2, by omega⟩
    simp only [GT.toTpls, expandList, expandTpl, List.append_nil, expGT,
      show (specOf cx).root = cx.root from rfl]
    have hcoll : (if S.isEmpty = true then some cx.root else (resolve cx.root sc S).1) = collS cx sc S := rfl
    rw [hcoll]
    have hb : ∀ x, Reach cx.root x → ∀ key g, eneedGTs cx (⟨V, x, key⟩ :: sc) body ≤ g →
        expandList (specOf cx) g (⟨V, x, key⟩ :: sc) (gtsTpl body) = expGTs cx (⟨V, x, key⟩ :: sc) body :=
      fun x hx key g hg => expand_gts cx hU body (⟨V, x, key⟩ :: sc) g hok.2
        (by
          intro bd hbd
          rcases List.mem_cons.mp hbd with h | h
          · subst h; exact hx
          · exact hsc bd h) hg
    have hreach : ∀ d, collS cx sc S = some d → Reach cx.root d := by
      intro d hd
      simp only [collS] at hd
      by_cases hS : S.isEmpty = true
      · simp only [hS, if_true, Option.some.injEq] at hd; subst hd; exact Reach.root
      · simp only [hS, Bool.false_eq_true, if_false] at hd; exact resolve_reach cx.root sc hsc S d hd
    cases hres : collS cx sc S with
    | none => simp [entsO, outEnts]
    | some d =>
      rw [hres] at hf
      have hrd := hreach d hres
      cases d with
      | arr xs =>
        simp only [entsO, entsOf] at hf ⊢
        exact loopArr_gen (specOf cx) sc V (gtsTpl body) (fun x key => expGTs cx (⟨V, x, key⟩ :: sc) body)
          (fun x key => eneedGTs cx (⟨V, x, key⟩ :: sc) body) xs f
          (fun x hx => hb x (Reach.item xs x hrd hx)) (by simp only [List.length_map] at hf; omega)
      | obj ms =>
        simp only [entsO, entsOf] at hf ⊢
        exact loopObj_gen (specOf cx) sc V (gtsTpl body) (fun x key => expGTs cx (⟨V, x, key⟩ :: sc) body)
          (fun x key => eneedGTs cx (⟨V, x, key⟩ :: sc) body) ms f
          (fun kx hkx => hb kx.2 (Reach.mem ms kx.1 kx.2 hrd hkx)) (by omega)
      | _ => simp [entsO, entsOf, outEnts]
  | .iif e ts fs, sc, fuel, hok, hsc, hf => by
    simp only [eneedGT] at hf
    obtain ⟨f, rfl⟩ : ∃ f, fuel = f + 2 := ⟨fuel - 2, by omega⟩
    simp only [GT.toTpls, expandList, expandTpl, List.append_nil, expGT, expIif]
    cases isTrue (evalText (specOf cx) sc e 34) with
    | none => rfl
    | some b =>
      cases b with
      | true =>
        cases ts with
        | none => rfl
        | some l => simp only [Option.map_some, expVal]; exact expandList_body cx sc l f (by simp at hf; omega)
      | false =>
        cases fs with
        | none => rfl
        | some l => simp only [Option.map_some, expVal]; exact expandList_body cx sc l f (by simp at hf; omega)
  | .svar pa ar, sc, fuel, hok, hsc, hf => by
    simp only [GT.ok] at hok
    obtain ⟨_, _, _, _, _, _, hlen⟩ := hok
    simp only [eneedGT] at hf
    obtain ⟨f, rfl⟩ : ∃ f, fuel = f + 1 := ⟨fuel - 1, by omega⟩
    simp only [GT.toTpls, expandList, expandList_nil, List.append_nil, expGT]
    exact expandTpl_svar cx sc pa ar hlen
      (fun s hs => hU s (resolve_reach cx.root sc hsc pa _ hs)) f (by omega)
theorem expand_gts (cx : RCtx R) (hU : ∀ s, Reach cx.root (.str s) → ∀ x ∈ s, x < 2 ^ 32) :
    ∀ (bs : GTs) (sc : List Binding) (fuel : Nat), bs.ok → (∀ bd ∈ sc, Reach cx.root bd.item) → eneedGTs cx sc bs ≤ fuel →
    expandList (specOf cx) fuel sc (gtsTpl bs) = expGTs cx sc bs
  | .nil, sc, fuel, _, _, _ => by simp [gtsTpl, expGTs, expandList_nil]
  | .cons b r, sc, fuel, hok, hsc, hf => by
    simp only [GTs.ok] at hok
    simp only [eneedGTs] at hf
    simp only [gtsTpl, expGTs]
    rw [expandList_append, expand_gt cx hU b sc fuel hok.1 hsc (by omega), expand_gts cx hU r sc _ hok.2 hsc (by omega)]
theorem expand_gtail (cx : RCtx R) (hU : ∀ s, Reach cx.root (.str s) → ∀ x ∈ s, x < 2 ^ 32) :
    ∀ (t : GTail) (sc : List Binding) (fuel : Nat), t.ok → (∀ bd ∈ sc, Reach cx.root bd.item) → eneedGTail cx sc t ≤ fuel →
    expandBranches (specOf cx) fuel sc (tailBrG t) = expGTail cx sc t
  | .fin, sc, fuel, _, _, _ => by simp [tailBrG, expGTail, expandBranches_nil]
  | .els body, sc, fuel, hok, hsc, hf => by
    simp only [GTail.ok] at hok
    simp only [eneedGTail] at hf
    obtain ⟨f, rfl⟩ : ∃ f, fuel = f + 1 := ⟨fuel - 1, by omega⟩
    simp only [tailBrG, expandBranches, if_true, expGTail]
    exact expand_gts cx hU body sc f hok hsc (by omega)
  | .elif e body tail, sc, fuel, hok, hsc, hf => by
    simp only [GTail.ok] at hok
    simp only [eneedGTail] at hf
    obtain ⟨f, rfl⟩ : ∃ f, fuel = f + 1 := ⟨fuel - 1, by omega⟩
    simp only [tailBrG, expandBranches, expGTail, hitOfS]
    rw [expand_gts cx hU body sc f hok.2.1 hsc (by omega), expand_gtail cx hU tail sc f hok.2.2 hsc (by omega)]
    by_cases hh : isTrue (evalText (specOf cx) sc e 34) = some true <;> simp [hh]
end

end
end Qentem.Tmpl
