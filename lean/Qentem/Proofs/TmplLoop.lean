import Qentem.Proofs.TmplSegs
import Qentem.Proofs.TmplRenderSafe
/-!
# C02 — what a loop runs over, and segments under bindings

`getValue` of a loop variable (`getValue_loopvar`); what the document says a segment prints under bindings (`expSegB`)
and the reference interpreter on segments (`expandTpl_segB`, `expandList_body_app`); the entries a loop runs over
(`entsOf`, `itemOf_ents`) and what they print (`outEnts`).
-/
namespace Qentem.Tmpl
open Qentem.Expr (Fault rd ScanCfg VarRef Item Num Env RealLike)
open Qentem.Generated.Tmpl

variable {R : Type}

section
variable [RealLike R]

omit [RealLike R] in
theorem getValue_loopvar (cx : RCtx R) (hg : cx.guardIndexRead = true) (st : RState)
    (a : Nat) (name : List Nat) (keys : List (List Nat)) (h : At cx.content a (name ++ brk keys))
    (hne : name ≠ []) (hn : noB name) (hk : ∀ k ∈ keys, noB k) (lv : Nat) (it : LoopItem)
    (hit : st.items[lv]? = some it) :
    getValue cx st ⟨a, (name ++ brk keys).length, name.length, lv⟩ = .ok (follow it.value keys) := by
  have hnl : 0 < name.length := List.length_pos_iff.mpr hne
  have hia : itemAt st lv = .ok it := by simp [itemAt, hit]
  cases keys with
  | nil =>
    simp only [brk, List.append_nil] at h ⊢
    obtain ⟨x, hlast, hne93⟩ := name_last cx a name h hne hn
    simp [getValue, hlast, hne93, hia, bind, Except.bind, pure, Except.pure, follow,
      show name.length ≠ 0 by omega]
  | cons k ks =>
    obtain ⟨hlast, hp⟩ := path_keys cx hg a name k ks h hk
    simp only [getValue, hlast, bind, Except.bind, pure, Except.pure,
      show (name ++ brk (k :: ks)).length ≠ 0 by rw [List.length_append]; omega, ne_eq, not_false_eq_true, if_true,
      show ((93 : Nat) == W1.variableIndexSuffix) = true by decide, Bool.not_true, Bool.false_eq_true, if_false,
      show ¬ name.length = 0 by omega, hia, hp]

/-- what the document says a body segment prints under the bindings `sc` -/
def expSegB (cx : RCtx R) (sc : List Binding) : Seg → List Nat
  | .text s => s
  | .var p =>
    match (resolve cx.root sc p).1.bind (copyValue cx true) with
    | some t => t
    | none =>
      match (resolve cx.root sc p).2 with
      | some bd =>
        if bd.key.isEmpty then Qentem.Escape.escapeCfg cx.autoEscape (printSeg (.var p))
        else Qentem.Escape.escapeCfg cx.autoEscape bd.key
      | none => Qentem.Escape.escapeCfg cx.autoEscape (printSeg (.var p))
  | .raw p =>
    match (resolve cx.root sc p).1.bind (copyValue cx false) with
    | some t => t
    | none => printSeg (.raw p)
  | .math e =>
    match (evalText (specOf cx) sc e).bind (numText (specOf cx)) with
    | some t => t
    | none => printSeg (.math e)

def expSegsB (cx : RCtx R) (sc : List Binding) : List Seg → List Nat
  | [] => []
  | s :: r => expSegB cx sc s ++ expSegsB cx sc r

theorem expSegsB_nil (cx : RCtx R) : ∀ l : List Seg, expSegsB cx [] l = expSegs cx l
  | [] => rfl
  | s :: r => by
    have h1 : expSegB cx [] s = expSeg cx s := by
      cases s with
      | var p =>
        simp only [expSegB, expSeg, resolve_nil_snd]
        cases (resolve cx.root [] p).1.bind (copyValue cx true) <;> rfl
      | _ => rfl
    simp only [expSegsB, expSegs, expSegsB_nil cx r, h1]

/-- the (key, item) pairs a loop runs over: array items have no key -/
def entsOf : Doc → List (List Nat × Doc)
  | .arr xs => xs.map (fun x => ([], x))
  | .obj ms => ms
  | _ => []

/-- the reference interpreter on an array is its object loop on the keyless entries -/
theorem loopArr_eq_loopObj (sx : SpecCtx R) (sc : List Binding) (V : List Nat) (body : List Tpl) :
    ∀ (xs : List Doc) (f : Nat), loopArr sx f sc V body xs = loopObj sx f sc V body (xs.map (fun x => ([], x)))
  | [], f => by cases f <;> simp [loopArr, loopObj]
  | _ :: _, 0 => by simp [loopArr, loopObj]
  | x :: xs, f + 1 => by simp only [loopArr, List.map_cons, loopObj, loopArr_eq_loopObj sx sc V body xs f]

theorem entsOf_length (d : Doc) : (entsOf d).length = d.size := by
  cases d <;> simp [entsOf, Doc.size]

/-- what the items print: undefined ones nothing, the others `E item key` -/
def outEnts (E : Doc → List Nat → List Nat) : List (List Nat × Doc) → List Nat
  | [] => []
  | (k, v) :: r => (if v.isUndefined then [] else E v k) ++ outEnts E r

theorem itemOf_ents (set : Doc) (idx : Nat) (it : LoopItem) (h : idx < (entsOf set).length) :
    (itemOf set idx it).value = (if (entsOf set)[idx].2.isUndefined then none else some (entsOf set)[idx].2) ∧
    ((entsOf set)[idx].2.isUndefined = false → (itemOf set idx it).key = (entsOf set)[idx].1) := by
  cases set with
  | arr xs =>
    simp only [entsOf, List.length_map] at h
    simp only [itemOf, Doc.isObject, Bool.false_eq_true, if_false, Doc.getIdx, List.getElem?_eq_getElem h, entsOf,
      List.getElem_map]
    refine ⟨?_, fun _ => trivial⟩
    by_cases hu : xs[idx].isUndefined = true <;> simp
  | obj ms =>
    simp only [entsOf] at h
    simp only [itemOf, Doc.isObject, if_true, List.getElem?_eq_getElem h, entsOf]
    by_cases hu : ms[idx].2.isUndefined = true
    · simp [hu]
    · simp [hu]
  | _ => simp [entsOf] at h

/-- the pairs a loop over the collection `coll` runs over -/
def entsO (coll : Option Doc) : List (List Nat × Doc) :=
  match coll with
  | some d => entsOf d
  | none => []

theorem expandTpl_segB (cx : RCtx R) (sc : List Binding) (s : Seg) (f : Nat) (hf : 1 ≤ f) :
    expandTpl (specOf cx) f sc s.toTpl = expSegB cx sc s := by
  obtain ⟨g, rfl⟩ : ∃ g, f = g + 1 := ⟨f - 1, by omega⟩
  cases s with
  | text s => simp [Seg.toTpl, expandTpl, expSegB]
  | var p =>
    simp only [Seg.toTpl, expandTpl, expSegB, show (specOf cx).root = cx.root from rfl]
    rw [show printable (specOf cx) true = copyValue cx true from funext (printable_eq cx true)]
    cases hv : (resolve cx.root sc p).1.bind (copyValue cx true) with
    | some t => simp
    | none =>
      simp only [escapeS, show (specOf cx).autoEscape = cx.autoEscape from rfl]
      cases hb : (resolve cx.root sc p).2 with
      | none => simp only [← printTpl_toTpl, Seg.toTpl]
      | some bd => simp only [← printTpl_toTpl, Seg.toTpl]
  | raw p =>
    simp only [Seg.toTpl, expandTpl, expSegB, show (specOf cx).root = cx.root from rfl]
    rw [show printable (specOf cx) false = copyValue cx false from funext (printable_eq cx false)]
    cases hv : (resolve cx.root sc p).1.bind (copyValue cx false) with
    | some t => simp
    | none => simp only [← printTpl_toTpl, Seg.toTpl]
  | math e =>
    simp only [Seg.toTpl, expandTpl, expSegB]
    cases hv : (evalText (specOf cx) sc e).bind (numText (specOf cx)) with
    | some t => rfl
    | none => simp only [← printTpl_toTpl, Seg.toTpl]

theorem expandList_body_app (cx : RCtx R) (sc : List Binding) : ∀ (l : List Seg) (rest : List Tpl) (fuel : Nat),
    l.length + 1 ≤ fuel →
    expandList (specOf cx) fuel sc (segsTpl l ++ rest) =
      expSegsB cx sc l ++ expandList (specOf cx) (fuel - l.length) sc rest := by
  intro l
  induction l with
  | nil => intro rest fuel _; simp [segsTpl, expSegsB]
  | cons sg l ih =>
    intro rest fuel hf
    cases fuel with
    | zero => omega
    | succ f =>
      simp only [segsTpl, List.cons_append, expandList, expSegsB, List.length_cons]
      rw [expandTpl_segB cx sc sg f (by simp at hf; omega), ih rest f (by simp at hf; omega)]
      rw [show f + 1 - (l.length + 1) = f - l.length by omega]
      simp [List.append_assoc]

theorem expandList_body (cx : RCtx R) (sc : List Binding) (segs : List Seg) (fuel : Nat) (hf : segs.length + 1 ≤ fuel) :
    expandList (specOf cx) fuel sc (segsTpl segs) = expSegsB cx sc segs := by
  have h := expandList_body_app cx sc segs [] fuel hf
  rwa [List.append_nil, expandList_nil, List.append_nil] at h

end

end Qentem.Tmpl
