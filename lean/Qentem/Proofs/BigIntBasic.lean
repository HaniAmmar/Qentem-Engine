import Qentem.Model.BigInt
import Mathlib.Tactic.Ring
import Mathlib.Tactic.Linarith
/-! What every BigInt proof rests on: checked accessors, the value of a word list, the representation invariant and how
it follows from bounds on the value, the words as the digits of the value, `trim` and the clearing loops. -/
namespace Qentem.BigInt

theorem rd_ok {ws : List Nat} {i : Nat} (h : i < ws.length) : rd ws i = .ok ws[i] := by
  simp [rd, h]

theorem wr_ok {ws : List Nat} {i : Nat} (v : Nat) (h : i < ws.length) : wr ws i v = .ok (ws.set i v) := by
  simp [wr, h]

/-- all words below 2^W -/
def Bounded (W : Nat) (ws : List Nat) : Prop := ∀ w ∈ ws, w < 2 ^ W

theorem Bounded.getElem {W : Nat} {ws : List Nat} (hb : Bounded W ws) {i : Nat} (h : i < ws.length) :
    ws[i] < 2 ^ W := hb _ (List.getElem_mem h)

theorem Bounded.set {W : Nat} {ws : List Nat} (hb : Bounded W ws) (i : Nat) {v : Nat} (hv : v < 2 ^ W) :
    Bounded W (ws.set i v) := by
  intro w hw
  rcases List.mem_or_eq_of_mem_set hw with h | h
  · exact hb w h
  · exact h ▸ hv

theorem valW_nil (W : Nat) : valW W [] = 0 := rfl

theorem valW_cons (W w : Nat) (ws : List Nat) : valW W (w :: ws) = w + 2 ^ W * valW W ws := rfl

theorem pow_mul_succ (W i : Nat) : 2 ^ (W * (i + 1)) = 2 ^ W * 2 ^ (W * i) := by
  rw [Nat.mul_add, Nat.mul_one, Nat.pow_add, Nat.mul_comm]

theorem two_pow_two_mul (h : Nat) : 2 ^ (2 * h) = 2 ^ h * 2 ^ h := by
  rw [Nat.two_mul, Nat.pow_add]

theorem lor_eq_add_of_lt {i b : Nat} (hb : b < 2 ^ i) (a : Nat) : b ||| a * 2 ^ i = a * 2 ^ i + b := by
  rw [Nat.mul_comm a, Nat.two_pow_add_eq_or_of_lt hb a, Nat.or_comm]

theorem valW_lt {W : Nat} : ∀ {ws : List Nat}, Bounded W ws → valW W ws < 2 ^ (W * ws.length)
  | [], _ => by simp [valW]
  | w :: ws, hb => by
    have h1 : w < 2 ^ W := hb w (by simp)
    have h2 : valW W ws < 2 ^ (W * ws.length) := valW_lt (fun x hx => hb x (by simp [hx]))
    simp only [valW, List.length_cons, pow_mul_succ]
    have h3 : valW W ws + 1 ≤ 2 ^ (W * ws.length) := h2
    calc w + 2 ^ W * valW W ws < 2 ^ W + 2 ^ W * valW W ws := by omega
      _ = 2 ^ W * (valW W ws + 1) := by ring
      _ ≤ 2 ^ W * 2 ^ (W * ws.length) := Nat.mul_le_mul_left _ h3

theorem valW_append (W : Nat) : ∀ (a b : List Nat), valW W (a ++ b) = valW W a + 2 ^ (W * a.length) * valW W b
  | [], b => by simp [valW]
  | x :: a, b => by
    simp only [List.cons_append, valW, List.length_cons, valW_append W a b, pow_mul_succ]
    ring

theorem valW_replicate_zero (W n : Nat) : valW W (List.replicate n 0) = 0 := by
  induction n with
  | zero => rfl
  | succ n ih => simp [List.replicate_succ, valW, ih]

theorem valW_split (W : Nat) (ws : List Nat) (i : Nat) (h : i ≤ ws.length) :
    valW W ws = valW W (ws.take i) + 2 ^ (W * i) * valW W (ws.drop i) := by
  have := valW_append W (ws.take i) (ws.drop i)
  rw [List.take_append_drop] at this
  rw [this, List.length_take, Nat.min_eq_left h]

theorem valW_take_lt {W : Nat} {ws : List Nat} (hb : Bounded W ws) (i : Nat) (hi : i ≤ ws.length) :
    valW W (ws.take i) < 2 ^ (W * i) := by
  have := valW_lt (W := W) (ws := ws.take i) fun w hw => hb w (List.mem_of_mem_take hw)
  rwa [List.length_take, Nat.min_eq_left hi] at this

theorem valW_take_eq_mod {W : Nat} {ws : List Nat} (hb : Bounded W ws) (i : Nat) (hi : i ≤ ws.length) :
    valW W (ws.take i) = valW W ws % 2 ^ (W * i) := by
  rw [valW_split W ws i hi, Nat.add_mul_mod_self_left, Nat.mod_eq_of_lt (valW_take_lt hb i hi)]

theorem valW_drop_cons (W : Nat) (ws : List Nat) (i : Nat) (h : i < ws.length) :
    valW W (ws.drop i) = ws[i] + 2 ^ W * valW W (ws.drop (i + 1)) := by
  rw [List.drop_eq_getElem_cons h]; rfl

theorem valW_eq_at (W : Nat) (ws : List Nat) (i : Nat) (h : i < ws.length) :
    valW W ws = valW W (ws.take i) + 2 ^ (W * i) * (ws[i] + 2 ^ W * valW W (ws.drop (i + 1))) := by
  rw [valW_split W ws i (Nat.le_of_lt h), valW_drop_cons W ws i h]

theorem valW_set_eq (W : Nat) (ws : List Nat) (i v : Nat) (h : i < ws.length) :
    valW W (ws.set i v) = valW W (ws.take i) + 2 ^ (W * i) * (v + 2 ^ W * valW W (ws.drop (i + 1))) := by
  rw [List.set_eq_take_append_cons_drop, if_pos h, valW_append, List.length_take, Nat.min_eq_left (Nat.le_of_lt h)]
  rfl

theorem valW_set (W : Nat) (ws : List Nat) (i v : Nat) (h : i < ws.length) :
    valW W (ws.set i v) + ws[i] * 2 ^ (W * i) = valW W ws + v * 2 ^ (W * i) := by
  rw [valW_set_eq W ws i v h, valW_eq_at W ws i h]; ring

theorem valW_take_succ (W : Nat) (ws : List Nat) (i : Nat) (h : i < ws.length) :
    valW W (ws.take (i + 1)) = valW W (ws.take i) + 2 ^ (W * i) * ws[i] := by
  rw [List.take_succ_eq_append_getElem h, valW_append, List.length_take, Nat.min_eq_left (Nat.le_of_lt h)]
  simp [valW]

/-- words from `i` upward are all zero -/
def ZeroFrom (ws : List Nat) (i : Nat) : Prop := ∀ j, i ≤ j → ws.getD j 0 = 0

theorem valW_eq_zero_of_zeroFrom0 (W : Nat) : ∀ (ws : List Nat), ZeroFrom ws 0 → valW W ws = 0
  | [], _ => rfl
  | w :: ws, h => by
    have h0 : w = 0 := by simpa using h 0 (Nat.le_refl _)
    have ht : ZeroFrom ws 0 := fun j _ => by simpa using h (j + 1) (Nat.zero_le _)
    simp [valW, h0, valW_eq_zero_of_zeroFrom0 W ws ht]

theorem zeroFrom_drop {ws : List Nat} {i : Nat} (h : ZeroFrom ws i) : ZeroFrom (ws.drop i) 0 := by
  intro j _
  have := h (i + j) (Nat.le_add_right _ _)
  simpa [List.getD_eq_getElem?_getD, List.getElem?_drop] using this

theorem valW_of_zeroFrom (W : Nat) (ws : List Nat) (i : Nat) (hi : i ≤ ws.length) (h : ZeroFrom ws i) :
    valW W ws = valW W (ws.take i) := by
  rw [valW_split W ws i hi, valW_eq_zero_of_zeroFrom0 W _ (zeroFrom_drop h)]; simp

theorem valW_lt_of_zeroFrom {W : Nat} {ws : List Nat} (hb : Bounded W ws) (i : Nat) (hi : i ≤ ws.length)
    (h : ZeroFrom ws i) : valW W ws < 2 ^ (W * i) := by
  rw [valW_of_zeroFrom W ws i hi h]
  exact valW_take_lt hb i hi

theorem le_valW_of_getElem (W : Nat) (ws : List Nat) (i : Nat) (h : i < ws.length) :
    ws[i] * 2 ^ (W * i) ≤ valW W ws := by
  rw [valW_eq_at W ws i h]
  have : ws[i] * 2 ^ (W * i) ≤ 2 ^ (W * i) * (ws[i] + 2 ^ W * valW W (List.drop (i + 1) ws)) := by
    rw [Nat.mul_add, Nat.mul_comm]; exact Nat.le_add_right _ _
  omega

/-- The representation invariant without the "index_ is the top word" clause. -/
structure WInv (W : Nat) (s : Big) : Prop where
  wpos : 0 < W
  bound : Bounded W s.words
  idx_lt : s.idx < s.words.length
  above : ZeroFrom s.words (s.idx + 1)

/-- The representation invariant of `BigInt`: n = words.length ≥ 1 words below 2^W, the words above
`index_` are zero, `index_` is the highest non-zero word (0 when the value is zero). -/
structure Inv (W : Nat) (s : Big) : Prop extends WInv W s where
  top : s.idx ≠ 0 → s.words.getD s.idx 0 ≠ 0

theorem WInv.length_pos {W : Nat} {s : Big} (h : WInv W s) : 0 < s.words.length :=
  Nat.lt_of_le_of_lt (Nat.zero_le _) h.idx_lt

theorem WInv.val_lt {W : Nat} {s : Big} (h : WInv W s) : s.val W < 2 ^ (W * (s.idx + 1)) :=
  valW_lt_of_zeroFrom h.bound _ h.idx_lt h.above

theorem WInv.val_lt_total {W : Nat} {s : Big} (h : WInv W s) : s.val W < 2 ^ (W * s.words.length) :=
  valW_lt h.bound

theorem WInv.val_eq_take {W : Nat} {s : Big} (h : WInv W s) : s.val W = valW W (s.words.take (s.idx + 1)) :=
  valW_of_zeroFrom W s.words (s.idx + 1) h.idx_lt h.above

/-- the value is the words below `index_` plus the top word at its weight -/
theorem WInv.val_eq_top {W : Nat} {s : Big} (h : WInv W s) :
    s.val W = valW W (s.words.take s.idx) + s.words[s.idx]'h.idx_lt * 2 ^ (W * s.idx) := by
  rw [h.val_eq_take, valW_take_succ W s.words s.idx h.idx_lt, Nat.mul_comm]

theorem Inv.le_val {W : Nat} {s : Big} (h : Inv W s) (h0 : s.idx ≠ 0) : 2 ^ (W * s.idx) ≤ s.val W := by
  have ht := h.top h0
  have hl := h.idx_lt
  rw [List.getD_eq_getElem?_getD, List.getElem?_eq_getElem hl] at ht
  simp only [Option.getD_some] at ht
  have := le_valW_of_getElem W s.words s.idx hl
  calc 2 ^ (W * s.idx) = 1 * 2 ^ (W * s.idx) := by simp
    _ ≤ s.words[s.idx] * 2 ^ (W * s.idx) := Nat.mul_le_mul_right _ (by omega)
    _ ≤ _ := this

theorem top_of_le_val {W : Nat} {s : Big} (h : WInv W s) (hv : s.idx ≠ 0 → 2 ^ (W * s.idx) ≤ s.val W) : Inv W s := by
  refine ⟨h, fun h0 hz => ?_⟩
  have hl := h.idx_lt
  have : ZeroFrom s.words s.idx := by
    intro j hj
    rcases Nat.eq_or_lt_of_le hj with e | l
    · exact e ▸ hz
    · exact h.above j l
  have := valW_lt_of_zeroFrom h.bound s.idx (Nat.le_of_lt hl) this
  have := hv h0
  unfold Big.val at *
  omega

theorem inv_zero {W n : Nat} (hW : 0 < W) (hn : 0 < n) : Inv W (zero n) := by
  refine ⟨⟨hW, ?_, by simpa [zero] using hn, ?_⟩, by simp [zero]⟩
  · intro w hw; simp [zero] at hw; rw [hw.2]; exact Nat.pow_pos (by decide)
  · intro j _; simp [zero, List.getD_eq_getElem?_getD, List.getElem?_replicate]; split <;> rfl

theorem val_zero (W n : Nat) : (zero n).val W = 0 := valW_replicate_zero W n

theorem length_zero (n : Nat) : (zero n).words.length = n := List.length_replicate

theorem getD_set_ne {ws : List Nat} {i j v : Nat} (h : i ≠ j) : (ws.set i v).getD j 0 = ws.getD j 0 := by
  simp [List.getD_eq_getElem?_getD, List.getElem?_set_ne h]

theorem getD_set_eq {ws : List Nat} {i v : Nat} (h : i < ws.length) : (ws.set i v).getD i 0 = v := by
  simp [List.getD_eq_getElem?_getD, List.getElem?_set_self h]

theorem getD_eq_getElem {ws : List Nat} {i : Nat} (h : i < ws.length) : ws.getD i 0 = ws[i] := by
  simp [List.getD_eq_getElem?_getD, List.getElem?_eq_getElem h]

theorem bounded_of_getD {W : Nat} {ws : List Nat} (h : ∀ k, k < ws.length → ws.getD k 0 < 2 ^ W) : Bounded W ws := by
  intro w hw
  obtain ⟨k, hk, rfl⟩ := List.getElem_of_mem hw
  have := h k hk
  rwa [getD_eq_getElem hk] at this

theorem Bounded.getD {W : Nat} {ws : List Nat} (hb : Bounded W ws) (k : Nat) : ws.getD k 0 < 2 ^ W := by
  by_cases hk : k < ws.length
  · rw [getD_eq_getElem hk]; exact hb.getElem hk
  · simp [List.getD_eq_getElem?_getD, List.getElem?_eq_none (by omega : ws.length ≤ k)]

theorem valW_congr_getD (W : Nat) : ∀ (a b : List Nat), (∀ k, a.getD k 0 = b.getD k 0) → valW W a = valW W b
  | [], b, h => by
    rw [valW_eq_zero_of_zeroFrom0 W b (fun k _ => by rw [← h k]; simp)]; rfl
  | x :: a, [], h => by
    rw [valW_eq_zero_of_zeroFrom0 W (x :: a) (fun k _ => by rw [h k]; simp)]; rfl
  | x :: a, y :: b, h => by
    have h0 : x = y := by simpa using h 0
    have := valW_congr_getD W a b (fun k => by simpa using h (k + 1))
    simp [valW, h0, this]

theorem valW_take_congr (W i : Nat) (a b : List Nat) (h : ∀ k, k < i → a.getD k 0 = b.getD k 0) :
    valW W (a.take i) = valW W (b.take i) :=
  valW_congr_getD W _ _ fun k => by
    simp only [List.getD_eq_getElem?_getD, List.getElem?_take]
    split
    · simpa only [List.getD_eq_getElem?_getD] using h k ‹_›
    · rfl

theorem valW_take_set (W : Nat) (ws : List Nat) (j i v : Nat) (hj : j ≤ i) :
    valW W ((ws.set i v).take j) = valW W (ws.take j) :=
  valW_take_congr W j _ _ fun k hk => getD_set_ne (by omega)

/-! ### The invariant from bounds on the value -/

theorem zeroFrom_of_val_lt {W : Nat} {ws : List Nat} (k : Nat) (hv : valW W ws < 2 ^ (W * k)) : ZeroFrom ws k := by
  intro i hi
  by_cases hl : i < ws.length
  · rw [getD_eq_getElem hl]
    by_contra hne
    have h1 := le_valW_of_getElem W ws i hl
    have h2 : 2 ^ (W * k) ≤ 2 ^ (W * i) := Nat.pow_le_pow_right (by decide) (Nat.mul_le_mul_left _ hi)
    have h3 : 1 * 2 ^ (W * i) ≤ ws[i] * 2 ^ (W * i) := Nat.mul_le_mul_right _ (by omega)
    omega
  · simp [List.getD_eq_getElem?_getD, List.getElem?_eq_none (by omega : ws.length ≤ i)]

theorem inv_of_val {W : Nat} {s : Big} (hW : 0 < W) (hb : Bounded W s.words) (hl : s.idx < s.words.length)
    (hlt : s.val W < 2 ^ (W * (s.idx + 1))) (hle : s.idx ≠ 0 → 2 ^ (W * s.idx) ≤ s.val W) : Inv W s :=
  top_of_le_val ⟨hW, hb, hl, zeroFrom_of_val_lt _ hlt⟩ hle

theorem WInv.inv_pred {W : Nat} {ws : List Nat} {idx : Nat} (hw : WInv W ⟨ws, idx⟩) (hz : ws.getD idx 0 = 0)
    (hv : idx - 1 ≠ 0 → 2 ^ (W * (idx - 1)) ≤ valW W ws) : Inv W ⟨ws, idx - 1⟩ :=
  top_of_le_val ⟨hw.wpos, hw.bound, Nat.lt_of_le_of_lt (Nat.sub_le _ _) hw.idx_lt, fun k hk => by
    by_cases hke : k = idx
    · rw [hke]; exact hz
    · exact hw.above k (by have : idx - 1 + 1 ≤ k := hk; show idx + 1 ≤ k; omega)⟩ hv

/-- a quotient by less than a word of a value with top word `i + 1` still reaches word `i` -/
theorem pow_le_quot {W i v m q : Nat} (hm : m ≤ 2 ^ W) (hv : 2 ^ (W * (i + 1)) ≤ v) (hq : v < m * (q + 1)) :
    2 ^ (W * i) ≤ q := by
  by_contra hc
  have h1 := Nat.mul_le_mul hm (show q + 1 ≤ 2 ^ (W * i) by omega)
  rw [← pow_mul_succ] at h1
  omega

/-- The ending of `Divide` and `ShiftRight`: the value became a quotient by at most a word (`val < m·(val' + 1)`, `m ≤ 2^W`)
and the top word became zero, so `index_ - 1` is right. -/
theorem Inv.pred_of_quot {W m : Nat} {s : Big} {ws' : List Nat} (h : Inv W s) (hw : WInv W ⟨ws', s.idx⟩)
    (hz : ws'.getD s.idx 0 = 0) (hm : m ≤ 2 ^ W) (hq : s.val W < m * (valW W ws' + 1)) : Inv W ⟨ws', s.idx - 1⟩ :=
  hw.inv_pred hz fun hne => by
    have hle := h.le_val (show s.idx ≠ 0 by omega)
    rw [show s.idx = s.idx - 1 + 1 by omega] at hle
    exact pow_le_quot hm hle hq

/-- a value that reaches word `a` and fits `b` words has `a < b` -/
theorem lt_of_pow_le_of_lt {W a b v : Nat} (hle : 2 ^ (W * a) ≤ v) (hlt : v < 2 ^ (W * b)) : a < b :=
  Nat.lt_of_mul_lt_mul_left ((Nat.pow_lt_pow_iff_right (by decide : 1 < 2)).1 (Nat.lt_of_le_of_lt hle hlt))

/-! ### The words of a bounded storage are the base-`2^W` digits of its value

A result that is described word by word becomes a value through `valW_eq_of_digits`; what an operation does to the
value it does to the digits by the `digit_*` lemmas below. -/

/-- the k-th base-2^W digit -/
def digit (W x k : Nat) : Nat := x / 2 ^ (W * k) % 2 ^ W

theorem digit_zero (W x : Nat) : digit W x 0 = x % 2 ^ W := by simp [digit]

theorem div_pow_succ (W x k : Nat) : x / 2 ^ (W * k) / 2 ^ W = x / 2 ^ (W * (k + 1)) := by
  rw [Nat.div_div_eq_div_mul, pow_mul_succ, Nat.mul_comm]

theorem digit_succ (W x k : Nat) : digit W x (k + 1) = digit W (x / 2 ^ W) k := by
  unfold digit
  rw [pow_mul_succ, Nat.div_div_eq_div_mul]

theorem digit_eq_zero_of_lt {W x k : Nat} (h : x < 2 ^ (W * k)) : digit W x k = 0 := by
  unfold digit; rw [Nat.div_eq_of_lt h]; simp

theorem digit_lt (W x k : Nat) : digit W x k < 2 ^ W := Nat.mod_lt _ (Nat.pow_pos (by decide))

theorem getD_eq_digit {W : Nat} : ∀ {ws : List Nat}, Bounded W ws → ∀ k, ws.getD k 0 = digit W (valW W ws) k
  | [], _, k => by simp [valW, digit]
  | w :: ws, hb, 0 => by
    rw [digit_zero, valW_cons, Nat.add_mul_mod_self_left, Nat.mod_eq_of_lt (hb w (by simp))]; rfl
  | w :: ws, hb, k + 1 => by
    have hw : w < 2 ^ W := hb w (by simp)
    rw [digit_succ, valW_cons, Nat.add_mul_div_left _ _ (Nat.pow_pos (by decide)), Nat.div_eq_of_lt hw, Nat.zero_add]
    exact getD_eq_digit (fun x hx => hb x (by simp [hx])) k

theorem Inv.getD_eq_digit {W : Nat} {s : Big} (h : Inv W s) (k : Nat) : s.words.getD k 0 = digit W (s.val W) k :=
  BigInt.getD_eq_digit h.bound k

theorem valW_eq_of_digits {W : Nat} : ∀ {ws : List Nat} {a : Nat}, a < 2 ^ (W * ws.length) →
    (∀ k, k < ws.length → ws.getD k 0 = digit W a k) → valW W ws = a
  | [], a, ha, _ => by
    simp at ha
    simp [valW, ha]
  | w :: ws, a, ha, h => by
    have h0 : w = a % 2 ^ W := by simpa [digit_zero] using h 0 (by simp)
    have ih := valW_eq_of_digits (ws := ws) (a := a / 2 ^ W)
      (Nat.div_lt_of_lt_mul (by rwa [List.length_cons, pow_mul_succ] at ha))
      (fun k hk => by simpa [digit_succ] using h (k + 1) (by simpa using hk))
    rw [valW_cons, ih, h0, Nat.mod_add_div]

theorem bounded_of_digits {W a : Nat} {ws : List Nat} (h : ∀ k, k < ws.length → ws.getD k 0 = digit W a k) :
    Bounded W ws :=
  bounded_of_getD fun k hk => by rw [h k hk]; exact digit_lt W a k

theorem digit_div_pow (W a m k : Nat) : digit W (a / 2 ^ (W * m)) k = digit W a (k + m) := by
  unfold digit
  rw [Nat.div_div_eq_div_mul, ← Nat.pow_add, ← Nat.mul_add, Nat.add_comm m k]

theorem digit_mul_pow (W a m k : Nat) : digit W (a * 2 ^ (W * m)) k = if k < m then 0 else digit W a (k - m) := by
  unfold digit
  split
  · rename_i hk
    obtain ⟨d, rfl⟩ : ∃ d, m = k + 1 + d := ⟨m - (k + 1), by omega⟩
    rw [show W * (k + 1 + d) = W * k + (W + W * d) by rw [Nat.mul_add, Nat.mul_add, Nat.mul_one]; omega,
      Nat.pow_add, ← Nat.mul_assoc, Nat.mul_comm a, Nat.mul_assoc, Nat.mul_div_cancel_left _ (Nat.pow_pos (by decide)),
      Nat.pow_add, ← Nat.mul_assoc, Nat.mul_comm a, Nat.mul_assoc, Nat.mul_mod_right]
  · rename_i hk
    obtain ⟨d, rfl⟩ : ∃ d, k = m + d := ⟨k - m, by omega⟩
    rw [Nat.add_sub_cancel_left, Nat.mul_add, Nat.pow_add, Nat.mul_comm a, Nat.mul_div_mul_left _ _ (Nat.pow_pos (by decide))]

theorem digit_or (W a b k : Nat) : digit W (a ||| b) k = digit W a k ||| digit W b k := by
  unfold digit
  rw [← Nat.shiftRight_eq_div_pow, Nat.shiftRight_or_distrib, Nat.or_mod_two_pow, Nat.shiftRight_eq_div_pow,
    Nat.shiftRight_eq_div_pow]

theorem digit_and (W a b k : Nat) : digit W (a &&& b) k = digit W a k &&& digit W b k := by
  unfold digit
  rw [← Nat.shiftRight_eq_div_pow, Nat.shiftRight_and_distrib, Nat.and_mod_two_pow, Nat.shiftRight_eq_div_pow,
    Nat.shiftRight_eq_div_pow]

theorem digit_shl_zero (W off a : Nat) : digit W (a * 2 ^ off) 0 = (digit W a 0 * 2 ^ off) % 2 ^ W := by
  rw [digit_zero, digit_zero, Nat.mod_mul_mod]

theorem digit_shl_succ {W off : Nat} (hoff : off ≤ W) (a k : Nat) :
    digit W (a * 2 ^ off) (k + 1) = (digit W a (k + 1) * 2 ^ off) % 2 ^ W + digit W a k / 2 ^ (W - off) := by
  have hW : 2 ^ W = 2 ^ (W - off) * 2 ^ off := by rw [← Nat.pow_add, Nat.sub_add_cancel hoff]
  have hO : 0 < 2 ^ off := Nat.pow_pos (by decide)
  unfold digit
  rw [← div_pow_succ W a k, pow_mul_succ, Nat.mul_comm (2 ^ W), hW, ← Nat.mul_assoc, Nat.mul_div_mul_right _ _ hO,
    ← Nat.div_div_eq_div_mul]
  generalize a / 2 ^ (W * k) = y
  generalize 2 ^ (W - off) = Q at *
  generalize 2 ^ off = O at *
  rw [Nat.mul_mod_mul_right, Nat.mod_mul_right_mod, Nat.mul_comm Q O, Nat.mod_mul_left_div_self, Nat.mod_mul,
    Nat.div_div_eq_div_mul, Nat.add_comm, Nat.mul_comm O Q, Nat.mul_comm O]

theorem digit_shr {W off : Nat} (hoff : off ≤ W) (a k : Nat) :
    digit W (a / 2 ^ off) k = digit W a (k + 1) % 2 ^ off * 2 ^ (W - off) + digit W a k / 2 ^ off := by
  have hW : 2 ^ W = 2 ^ (W - off) * 2 ^ off := by rw [← Nat.pow_add, Nat.sub_add_cancel hoff]
  unfold digit
  rw [← div_pow_succ W a k, Nat.div_div_eq_div_mul, Nat.mul_comm (2 ^ off), ← Nat.div_div_eq_div_mul]
  generalize a / 2 ^ (W * k) = y
  rw [hW]
  generalize 2 ^ (W - off) = Q
  generalize 2 ^ off = O
  rw [Nat.mod_mul_left_mod, Nat.mod_mul_left_div_self, Nat.mod_mul, Nat.div_div_eq_div_mul, Nat.add_comm,
    Nat.mul_comm O Q, Nat.mul_comm Q]

/-! ### The loops the operations share

`trim` turns the weak invariant into the full one; the model's clearing loops (`zeroHigh`, `zeroAbove`, `clearFrom`)
are all `zeroDownTo`, specified once, and `zeroUpTo` is its ascending counterpart. -/

theorem trim_spec (ws : List Nat) : ∀ (i : Nat), i < ws.length →
    ∃ j, trim ws i = .ok j ∧ j ≤ i ∧ (∀ k, j < k → k ≤ i → ws.getD k 0 = 0) ∧ (j ≠ 0 → ws.getD j 0 ≠ 0)
  | 0, _ => ⟨0, rfl, Nat.le_refl _, fun k h1 h2 => by omega, fun h => absurd rfl h⟩
  | i + 1, hi => by
    unfold trim
    rw [rd_ok hi]
    simp only [bind, Except.bind]
    by_cases hz : ws[i + 1] = 0
    · obtain ⟨j, hrun, hle, hzero, htop⟩ := trim_spec ws i (by omega)
      simp only [hz, beq_self_eq_true, if_true]
      refine ⟨j, hrun, by omega, ?_, htop⟩
      intro k h1 h2
      by_cases hk : k = i + 1
      · subst hk; rw [getD_eq_getElem hi]; exact hz
      · exact hzero k h1 (by omega)
    · have : (ws[i + 1] == 0) = false := by simp [hz]
      simp only [this]
      refine ⟨i + 1, rfl, Nat.le_refl _, fun k h1 h2 => by omega, fun _ => ?_⟩
      rw [getD_eq_getElem hi]; exact hz

theorem trim_inv {W : Nat} (s : Big) (h : WInv W s) :
    ∃ j, trim s.words s.idx = .ok j ∧ Inv W ⟨s.words, j⟩ := by
  obtain ⟨j, hrun, hle, hzero, htop⟩ := trim_spec s.words s.idx h.idx_lt
  refine ⟨j, hrun, ⟨h.wpos, h.bound, Nat.lt_of_le_of_lt hle h.idx_lt, ?_⟩, htop⟩
  intro k hk
  by_cases hk2 : k ≤ s.idx
  · exact hzero k hk hk2
  · exact h.above k (by omega)

theorem zeroDownTo_spec (lo : Nat) : ∀ (i : Nat) (ws : List Nat), i < ws.length →
    ∃ ws', zeroDownTo lo ws i = .ok ws' ∧ ws'.length = ws.length ∧
      (∀ k, lo < k → k ≤ i → ws'.getD k 0 = 0) ∧ (∀ k, (k ≤ lo ∨ i < k) → ws'.getD k 0 = ws.getD k 0)
  | 0, ws, _ => ⟨ws, rfl, rfl, fun k h1 h2 => by omega, fun _ _ => rfl⟩
  | i + 1, ws, hi => by
    unfold zeroDownTo
    by_cases hgt : i + 1 > lo
    · rw [if_pos hgt, wr_ok _ hi]
      simp only [bind, Except.bind]
      obtain ⟨ws', hrun, hl, hz, hfr⟩ := zeroDownTo_spec lo i (ws.set (i + 1) 0) (by rw [List.length_set]; omega)
      refine ⟨ws', hrun, by simpa using hl, ?_, ?_⟩
      · intro k h1 h2
        by_cases hk : k = i + 1
        · subst hk; rw [hfr (i + 1) (Or.inr (by omega)), getD_set_eq hi]
        · exact hz k h1 (by omega)
      · intro k hk
        rw [hfr k (by omega)]; exact getD_set_ne (by omega)
    · rw [if_neg hgt]
      exact ⟨ws, rfl, rfl, fun k h1 h2 => by omega, fun _ _ => rfl⟩

theorem zeroHigh_eq : ∀ (i : Nat) (ws : List Nat), zeroHigh ws i = zeroDownTo 0 ws i
  | 0, _ => rfl
  | i + 1, ws => by
    unfold zeroHigh zeroDownTo
    rw [if_pos (Nat.succ_pos i)]
    cases wr ws (i + 1) 0 with
    | error e => rfl
    | ok ws1 => exact zeroHigh_eq i ws1

theorem zeroAbove_eq (index : Nat) (hidx : 0 < index) : ∀ (i : Nat) (ws : List Nat),
    zeroAbove index ws i = zeroDownTo (index - 1) ws i
  | 0, _ => rfl
  | i + 1, ws => by
    unfold zeroAbove zeroDownTo
    by_cases hge : i + 1 ≥ index
    · rw [if_pos hge, if_pos (by omega)]
      cases wr ws (i + 1) 0 with
      | error e => rfl
      | ok ws1 => exact zeroAbove_eq index hidx i ws1
    · rw [if_neg hge, if_neg (by omega)]

theorem zeroUpTo_spec (last : Nat) : ∀ (fuel : Nat) (ws : List Nat) (index : Nat), last < ws.length →
    last + 1 - index < fuel →
    ∃ ws', zeroUpTo last fuel ws index = .ok ws' ∧ ws'.length = ws.length ∧
      (∀ k, index ≤ k → k ≤ last → ws'.getD k 0 = 0) ∧ (∀ k, (k < index ∨ last < k) → ws'.getD k 0 = ws.getD k 0)
  | 0, _, _, _, hf => by omega
  | fuel + 1, ws, index, hlen, hf => by
    unfold zeroUpTo
    by_cases hle : index ≤ last
    · rw [if_pos hle, wr_ok _ (by omega : index < ws.length)]
      simp only [bind, Except.bind]
      obtain ⟨ws', hrun, hl, hz, hfr⟩ := zeroUpTo_spec last fuel (ws.set index 0) (index + 1) (by simpa using hlen) (by omega)
      refine ⟨ws', hrun, by simpa using hl, ?_, ?_⟩
      · intro k h1 h2
        by_cases hk : k = index
        · subst hk; rw [hfr k (Or.inl (by omega)), getD_set_eq (by omega)]
        · exact hz k (by omega) h2
      · intro k hk
        rw [hfr k (by omega)]; exact getD_set_ne (by omega)
    · rw [if_neg hle]
      exact ⟨ws, rfl, rfl, fun k h1 h2 => by omega, fun _ _ => rfl⟩

theorem clearFrom_eq : ∀ (i : Nat) (ws : List Nat), clearFrom ws i = zeroDownTo 0 ws i >>= fun ws' => wr ws' 0 0
  | 0, _ => rfl
  | i + 1, ws => by
    unfold clearFrom zeroDownTo
    rw [if_pos (Nat.succ_pos i)]
    cases wr ws (i + 1) 0 with
    | error e => rfl
    | ok ws1 => exact clearFrom_eq i ws1

theorem clearFrom_spec (i : Nat) (ws : List Nat) (hi : i < ws.length) :
    ∃ ws', clearFrom ws i = .ok ws' ∧ ws'.length = ws.length ∧
      (∀ k, k ≤ i → ws'.getD k 0 = 0) ∧ (∀ k, i < k → ws'.getD k 0 = ws.getD k 0) := by
  obtain ⟨ws1, hrun, hl, hz, hfr⟩ := zeroDownTo_spec 0 i ws hi
  have h0 : 0 < ws1.length := by omega
  refine ⟨ws1.set 0 0, by rw [clearFrom_eq, hrun]; exact wr_ok 0 h0, by rw [List.length_set, hl], fun k hk => ?_,
    fun k hk => by rw [getD_set_ne (by omega), hfr k (Or.inr hk)]⟩
  by_cases hk0 : k = 0
  · rw [hk0, getD_set_eq h0]
  · rw [getD_set_ne (Ne.symm hk0)]; exact hz k (by omega) hk

theorem clear_spec {W : Nat} (s : Big) (h : Inv W s) :
    ∃ s', clear s = .ok s' ∧ Inv W s' ∧ s'.words.length = s.words.length ∧ s'.val W = 0 := by
  obtain ⟨ws', hrun, hl, hz, hfr⟩ := clearFrom_spec s.idx s.words h.idx_lt
  unfold clear
  rw [hrun]
  have hall : ∀ k, ws'.getD k 0 = 0 := fun k => by
    by_cases hk : k ≤ s.idx
    · exact hz k hk
    · rw [hfr k (by omega)]; exact h.above k (by omega)
  exact ⟨_, rfl, ⟨⟨h.wpos, bounded_of_getD fun k _ => by rw [hall k]; exact Nat.pow_pos (by decide),
    by have := h.idx_lt; simp only; omega, fun k _ => hall k⟩, fun hne => absurd rfl hne⟩, hl,
    valW_eq_zero_of_zeroFrom0 W ws' fun k _ => hall k⟩

end Qentem.BigInt
