import Qentem.Proofs.NumToStrRef
import Qentem.Proofs.NumToStrReadBack
import Qentem.Proofs.StrToNumC11
import Mathlib.Tactic.IntervalCases
import Mathlib.Tactic.Linarith
import Mathlib.Tactic.Positivity
import Mathlib.Tactic.FieldSimp
import Mathlib.Tactic.NormNum
import Mathlib.Tactic.Ring
import Mathlib.Algebra.Order.Field.Power
import Mathlib.Data.Rat.Cast.Order
import Mathlib.Data.Nat.Log
/-! C11, the reference (`FmtSpec`) in ℚ — what is needed to show that **17 (9) correctly rounded significant digits
identify a binary64 (binary32) value** (concluded in `NumToStrMargin`): the reference texts read back, round-half-even,
`nearestBits` by its closed rounding interval, and the `%.{p}g` text as a `P`-digit integer with a decimal exponent,
within `½·10^(1-P)` of the value, relatively. -/
namespace Qentem.Proofs.Ident
open Qentem.Proofs.NumToStr

theorem readBits_of_readDecimal (mb eb : Nat) {t : List Nat} {neg : Bool} {m d : Nat}
    (h : FmtSpec.readDecimal t = some (neg, m, d)) :
    FmtSpec.readBits mb eb t = some (FmtSpec.nearestBits mb eb neg m d) := by
  have h1 : t ≠ FmtSpec.inf := by
    rintro rfl; rw [show FmtSpec.readDecimal FmtSpec.inf = none by decide] at h; cases h
  have h2 : t ≠ FmtSpec.cMinus :: FmtSpec.inf := by
    rintro rfl; rw [show FmtSpec.readDecimal (FmtSpec.cMinus :: FmtSpec.inf) = none by decide] at h; cases h
  unfold FmtSpec.readBits
  rw [if_neg h1, if_neg h2, h]

theorem digitsValue_app (l1 l2 : List Nat) :
    FmtSpec.digitsValue (l1 ++ l2) = FmtSpec.digitsValue l1 * 10 ^ l2.length + FmtSpec.digitsValue l2 :=
  StrToNum.decVal_append l1 l2

theorem digitsValue_Dk : ∀ (k x : Nat), FmtSpec.digitsValue (Dk k x) = x % 10 ^ k := by
  intro k
  induction k with
  | zero => intro x; simp [Dk, FmtSpec.digitsValue, Nat.mod_one]
  | succ k ih =>
    intro x
    rw [Dk, digitsValue_app, ih]
    have : FmtSpec.digitsValue [48 + x % 10] = x % 10 := by simp [FmtSpec.digitsValue]
    rw [this, Nat.pow_succ, Nat.mul_comm (10 ^ k) 10, Nat.mod_mul]
    simp
    ring

theorem allDigits_Dk : ∀ (k x : Nat), ∀ c ∈ Dk k x, FmtSpec.isDigit c = true := by
  intro k
  induction k with
  | zero => intro x c hc; simp [Dk] at hc
  | succ k ih =>
    intro x c hc
    rw [Dk, List.mem_append] at hc
    rcases hc with hc | hc
    · exact ih _ c hc
    · simp at hc; subst hc
      have := Nat.mod_lt x (show 0 < 10 by decide)
      simp [FmtSpec.isDigit]; omega

theorem Dk_split (a : Nat) : ∀ (b x : Nat), Dk (a + b) x = Dk a (x / 10 ^ b) ++ Dk b x := by
  intro b
  induction b with
  | zero => intro x; simp [Dk]
  | succ b ih =>
    intro x
    rw [← Nat.add_assoc, Dk, ih, Dk, List.append_assoc, Nat.div_div_eq_div_mul, Nat.pow_succ, Nat.mul_comm]

theorem Dk_mod : ∀ (k x : Nat), Dk k (x % 10 ^ k) = Dk k x := by
  intro k
  induction k with
  | zero => intro x; rfl
  | succ k ih =>
    intro x
    rw [Dk, Dk]
    have h1 : x % 10 ^ (k + 1) % 10 = x % 10 := Nat.mod_mod_of_dvd _ (by rw [Nat.pow_succ]; exact Nat.dvd_mul_left _ _)
    have h2 : x % 10 ^ (k + 1) / 10 = (x / 10) % 10 ^ k := by
      rw [Nat.pow_succ, Nat.mul_comm, Nat.mod_mul_right_div_self]
    rw [h1, h2, ih]

theorem Dk_succ_ne_nil (k c' : Nat) : Dk (k + 1) c' ≠ [] := by
  intro h; have := congrArg List.length h; simp [Dk_length] at this

theorem digitsValue_zeros (z : Nat) : FmtSpec.digitsValue (List.replicate z 48) = 0 := by
  induction z with
  | zero => rfl
  | succ z ih => rw [List.replicate_succ', digitsValue_app, ih]; simp [FmtSpec.digitsValue]

theorem trailing_zeros : ∀ c : Nat, 0 < c → ∃ c' t, c = c' * 10 ^ t ∧ c' % 10 ≠ 0 := by
  intro c
  induction c using Nat.strong_induction_on with
  | _ c ih =>
    intro hc
    by_cases h : c % 10 = 0
    · obtain ⟨c', t, h1, h2⟩ := ih (c / 10) (by omega) (by omega)
      refine ⟨c', t + 1, ?_, h2⟩
      rw [Nat.pow_succ, ← Nat.mul_assoc, ← h1]; omega
    · exact ⟨c, 0, by simp, h⟩

theorem rhe_cases (n d : Nat) :
    FmtSpec.roundHalfEven n d = n / d ∨ FmtSpec.roundHalfEven n d = n / d + 1 := by
  unfold FmtSpec.roundHalfEven; simp only; split <;> simp

theorem rhe_eq_of_bounds (n d k : Nat) (hd : 0 < d) (h1 : 2 * (k * d) ≤ 2 * n + d) (h2 : 2 * n ≤ 2 * (k * d) + d)
    (h1e : 2 * (k * d) = 2 * n + d → k % 2 = 0) (h2e : 2 * n = 2 * (k * d) + d → k % 2 = 0) :
    FmtSpec.roundHalfEven n d = k := by
  unfold FmtSpec.roundHalfEven
  simp only
  by_cases hc : k * d ≤ n
  · have hdiv : n / d = k := Nat.div_eq_of_lt_le hc (by rw [Nat.add_mul, Nat.one_mul]; omega)
    have hdm := Nat.div_add_mod n d
    rw [hdiv, Nat.mul_comm] at hdm
    rw [hdiv, if_neg (by omega)]
  · obtain ⟨j, rfl⟩ : ∃ j, k = j + 1 := ⟨k - 1, by rcases k with _ | k <;> simp at hc ⊢⟩
    rw [Nat.add_mul, Nat.one_mul] at hc h1 h2 h1e h2e
    have hdiv : n / d = j := Nat.div_eq_of_lt_le (by omega) (by rw [Nat.add_mul, Nat.one_mul]; omega)
    have hdm := Nat.div_add_mod n d
    rw [hdiv, Nat.mul_comm] at hdm
    rw [hdiv, if_pos (by omega)]

theorem rne_close (n d : Nat) (hd : 0 < d) : |((Round.rne n d : Nat) : ℚ) - (n : ℚ) / d| ≤ 1 / 2 := by
  obtain ⟨h1, h2⟩ := Round.rne_bounds n d hd
  generalize Round.rne n d = k at *
  have hdq : (0 : ℚ) < d := by exact_mod_cast hd
  have h1q : 2 * ((d : ℚ) * k) ≤ 2 * n + d := by exact_mod_cast h1
  have h2q : 2 * (n : ℚ) ≤ 2 * (d * k) + d := by exact_mod_cast h2
  rw [(div_mul_cancel₀ (n : ℚ) hdq.ne').symm] at h1q h2q
  generalize (n : ℚ) / d = x at *
  have ha : (2 * x) * d ≤ (2 * k + 1) * d := by linarith
  have hb : (2 * k) * d ≤ (2 * x + 1) * d := by linarith
  have ha' := le_of_mul_le_mul_right ha hdq
  have hb' := le_of_mul_le_mul_right hb hdq
  rw [abs_le]
  constructor <;> linarith

theorem rhe_close (n d : Nat) (hd : 0 < d) :
    |((FmtSpec.roundHalfEven n d : Nat) : ℚ) - (n : ℚ) / d| ≤ 1 / 2 := by
  rw [Round.roundHalfEven_eq_rne]; exact rne_close n d hd

theorem rhe_of_le (n d k : Nat) (hd : 0 < d) (hlo : (k : ℚ) - 1 / 2 ≤ (n : ℚ) / d) (hhi : (n : ℚ) / d ≤ (k : ℚ) + 1 / 2)
    (hlo' : (n : ℚ) / d = (k : ℚ) - 1 / 2 → k % 2 = 0) (hhi' : (n : ℚ) / d = (k : ℚ) + 1 / 2 → k % 2 = 0) :
    FmtSpec.roundHalfEven n d = k := by
  have hdq : (0 : ℚ) < d := by exact_mod_cast hd
  rw [le_div_iff₀ hdq] at hlo
  rw [div_le_iff₀ hdq] at hhi
  rw [div_eq_iff hdq.ne'] at hlo' hhi'
  refine rhe_eq_of_bounds n d k hd ?_ ?_ (fun h => hlo' ?_) (fun h => hhi' ?_)
  · rw [← Nat.cast_le (α := ℚ)]; push_cast; linarith only [hlo]
  · rw [← Nat.cast_le (α := ℚ)]; push_cast; linarith only [hhi]
  · have := congrArg (Nat.cast (R := ℚ)) h; push_cast at this; linarith only [this]
  · have := congrArg (Nat.cast (R := ℚ)) h; push_cast at this; linarith only [this]

theorem natCast_le_of_lt_add_one {r k : Nat} (h : (r : ℚ) < k + 1) : r ≤ k := by
  have : r < k + 1 := by exact_mod_cast h
  omega

theorem two_zpow_pred (q : Int) : (2 : ℚ) ^ q = 2 * 2 ^ (q - 1) := by
  rw [← zpow_one_add₀ (by norm_num : (2 : ℚ) ≠ 0), add_sub_cancel]

theorem zpow_mul_zpow_eq {x : ℚ} (hx : x ≠ 0) {a b c : Int} (h : a + b = c) : x ^ a * x ^ b = x ^ c := by
  rw [← zpow_add₀ hx, h]


/-- `n/d` divided by `b^k`, `k` of either sign, as a quotient of two naturals: the shape in which the reference
reader, the reference formatter and the parser scale a fraction before they compare or round it -/
theorem scale_cases.{u} {α : Sort u} (f : Nat → Nat → α) (n d b : Nat) (hb : 0 < b) (k : Int) :
    ∃ N D : Nat, (0 < n → 0 < N) ∧ (0 < d → 0 < D) ∧ (N : ℚ) / D = (n : ℚ) / d / (b : ℚ) ^ k ∧
      (if 0 ≤ k then f n (d * b ^ k.toNat) else f (n * b ^ (-k).toNat) d) = f N D := by
  by_cases hk : 0 ≤ k
  · obtain ⟨m, rfl⟩ := Int.eq_ofNat_of_zero_le hk
    refine ⟨n, d * b ^ m, id, fun h => Nat.mul_pos h (Nat.pow_pos hb), ?_, by rw [if_pos hk, Int.toNat_natCast]⟩
    rw [zpow_natCast, div_div]; push_cast; rfl
  · obtain ⟨m, rfl⟩ : ∃ m : Nat, k = -(m : Int) := ⟨(-k).toNat, by omega⟩
    refine ⟨n * b ^ m, d, fun h => Nat.mul_pos h (Nat.pow_pos hb), id, ?_,
      by rw [if_neg hk, neg_neg, Int.toNat_natCast]⟩
    rw [zpow_neg, zpow_natCast, div_inv_eq_mul]; push_cast; ring

theorem pow2_le_iff (rn rd : Nat) (hrd : 0 < rd) (k : Int) :
    (if 0 ≤ k then decide (rd * 2 ^ k.toNat ≤ rn) else decide (rd ≤ rn * 2 ^ (-k).toNat)) = true ↔
      (2 : ℚ) ^ k ≤ (rn : ℚ) / rd := by
  obtain ⟨N, D, -, hD, hv, hf⟩ := scale_cases (fun a b => decide (b ≤ a)) rn rd 2 (by decide) k
  have hDq : (0 : ℚ) < D := by exact_mod_cast hD hrd
  rw [hf, decide_eq_true_eq, ← Nat.cast_le (α := ℚ), ← one_le_div hDq, hv, Nat.cast_ofNat, le_div_iff₀ (by positivity),
    one_mul]

theorem log2_bounds_rat (n : Nat) (hn : n ≠ 0) : (2 : ℚ) ^ (Nat.log2 n : Int) ≤ n ∧ (n : ℚ) < 2 ^ ((Nat.log2 n : Int) + 1) := by
  constructor
  · rw [zpow_natCast]; exact_mod_cast Nat.log2_self_le hn
  · have : n < 2 ^ (Nat.log2 n + 1) := (Nat.log2_lt hn).mp (Nat.lt_succ_self _)
    have h2 : ((Nat.log2 n : Int) + 1) = ((Nat.log2 n + 1 : Nat) : Int) := by push_cast; ring
    rw [h2, zpow_natCast]; exact_mod_cast this

/-- `Round.floorLog2Frac` is the exponent `nearestBits` computes (`Round.nearestBits_exponent`); here it is the logarithm -/
theorem floorLog2Frac_spec (rn rd : Nat) (hrn : 0 < rn) (hrd : 0 < rd) :
    (2 : ℚ) ^ (Round.floorLog2Frac rn rd) ≤ (rn : ℚ) / rd ∧ (rn : ℚ) / rd < 2 ^ (Round.floorLog2Frac rn rd + 1) := by
  have hrdq : (0 : ℚ) < rd := by exact_mod_cast hrd
  obtain ⟨a1, a2⟩ := log2_bounds_rat rn (by omega)
  obtain ⟨b1, b2⟩ := log2_bounds_rat rd (by omega)
  have hup : (rn : ℚ) / rd < 2 ^ ((Nat.log2 rn : Int) - (Nat.log2 rd : Int) + 1) := by
    rw [div_lt_iff₀ hrdq]
    calc (rn : ℚ) < 2 ^ ((Nat.log2 rn : Int) + 1) := a2
      _ = 2 ^ ((Nat.log2 rn : Int) - (Nat.log2 rd : Int) + 1) * 2 ^ (Nat.log2 rd : Int) :=
          (zpow_mul_zpow_eq (by norm_num) (by ring)).symm
      _ ≤ 2 ^ ((Nat.log2 rn : Int) - (Nat.log2 rd : Int) + 1) * rd := by
          apply mul_le_mul_of_nonneg_left b1; positivity
  have hlo : (2 : ℚ) ^ ((Nat.log2 rn : Int) - (Nat.log2 rd : Int) - 1) ≤ (rn : ℚ) / rd := by
    rw [le_div_iff₀ hrdq]
    calc (2 : ℚ) ^ ((Nat.log2 rn : Int) - (Nat.log2 rd : Int) - 1) * rd
        ≤ 2 ^ ((Nat.log2 rn : Int) - (Nat.log2 rd : Int) - 1) * 2 ^ ((Nat.log2 rd : Int) + 1) := by
          apply mul_le_mul_of_nonneg_left (le_of_lt b2); positivity
      _ = 2 ^ (Nat.log2 rn : Int) := zpow_mul_zpow_eq (by norm_num) (by ring)
      _ ≤ rn := a1
  rw [← Round.nearestBits_exponent rn rd]
  have hiff := pow2_le_iff rn rd hrd ((Nat.log2 rn : Int) - (Nat.log2 rd : Int))
  by_cases hge : (if 0 ≤ (Nat.log2 rn : Int) - (Nat.log2 rd : Int) then
      decide (rd * 2 ^ ((Nat.log2 rn : Int) - (Nat.log2 rd : Int)).toNat ≤ rn)
      else decide (rd ≤ rn * 2 ^ (-((Nat.log2 rn : Int) - (Nat.log2 rd : Int))).toNat)) = true
  · rw [if_pos hge]
    exact ⟨hiff.mp hge, hup⟩
  · rw [if_neg hge]
    refine ⟨hlo, ?_⟩
    rw [show (Nat.log2 rn : Int) - (Nat.log2 rd : Int) - 1 + 1 = (Nat.log2 rn : Int) - (Nat.log2 rd : Int) by ring]
    exact lt_of_not_ge (fun h => hge (hiff.mpr h))


theorem nearestBits_unfold (mb eb : Nat) (neg : Bool) (rn rd : Nat) (hrn : rn ≠ 0) (bias e' : Int) (m : Nat)
    (hbias : bias = 2 ^ (eb - 1) - 1)
    (he' : e' = if Round.floorLog2Frac rn rd < 1 - bias then 1 - bias else Round.floorLog2Frac rn rd)
    (hm : m = if 0 ≤ e' - mb then FmtSpec.roundHalfEven rn (rd * 2 ^ (e' - mb).toNat)
      else FmtSpec.roundHalfEven (rn * 2 ^ (-(e' - mb)).toNat) rd) :
    FmtSpec.nearestBits mb eb neg rn rd =
      (if neg then 2 ^ (mb + eb) else 0) +
        (if (2 ^ eb - 1) * 2 ^ mb ≤ (e' + bias - 1).toNat * 2 ^ mb + m then (2 ^ eb - 1) * 2 ^ mb
          else (e' + bias - 1).toNat * 2 ^ mb + m) := by
  subst hbias he' hm
  rw [← Round.nearestBits_exponent rn rd]
  unfold FmtSpec.nearestBits
  simp only [hrn, if_false]

/-- the significand `nearestBits` computes at last-place exponent `q` -/
theorem roundedSig_of_le (rn rd : Nat) (hrd : 0 < rd) (q : Int) (k : Nat)
    (hlo : (k : ℚ) - 1 / 2 ≤ (rn : ℚ) / rd / 2 ^ q) (hhi : (rn : ℚ) / rd / 2 ^ q ≤ (k : ℚ) + 1 / 2)
    (hlo' : (rn : ℚ) / rd / 2 ^ q = (k : ℚ) - 1 / 2 → k % 2 = 0)
    (hhi' : (rn : ℚ) / rd / 2 ^ q = (k : ℚ) + 1 / 2 → k % 2 = 0) :
    (if 0 ≤ q then FmtSpec.roundHalfEven rn (rd * 2 ^ q.toNat) else FmtSpec.roundHalfEven (rn * 2 ^ (-q).toNat) rd) = k := by
  obtain ⟨N, D, -, hD, hv, hf⟩ := scale_cases FmtSpec.roundHalfEven rn rd 2 (by decide) q
  rw [Nat.cast_ofNat] at hv
  rw [← hv] at hlo hhi hlo' hhi'
  rw [hf]
  exact rhe_of_le N D k (hD hrd) hlo hhi hlo' hhi'

/-- the binade `nearestBits` works in, for a rational within half an ulp `u = 2^(e1 - bias - mb)` of `M·u`: that of
the pattern, or the one below when the rational is under the power of two at the bottom of a binade -/
theorem binade_cases (mb : Nat) (bias e : Int) (r : ℚ) (e1 M : Nat) (he1 : 1 ≤ e1)
    (hM : M < 2 ^ (mb + 1)) (hnorm : 1 < e1 → 2 ^ mb ≤ M)
    (hlo : (2 : ℚ) ^ e ≤ r) (hhi : r < 2 ^ (e + 1))
    (H1l : ((M : ℚ) - 1 / 2) * 2 ^ ((e1 : Int) - bias - mb) ≤ r)
    (H1u : r ≤ ((M : ℚ) + 1 / 2) * 2 ^ ((e1 : Int) - bias - mb)) :
    (if e < 1 - bias then 1 - bias else e) = (e1 : Int) - bias ∨
      ((if e < 1 - bias then 1 - bias else e) = (e1 : Int) - bias - 1 ∧ 1 < e1 ∧ r < 2 ^ ((e1 : Int) - bias) ∧
        M = 2 ^ mb) := by
  have h2 : (1 : ℚ) < 2 := by norm_num
  have hu : (0 : ℚ) < 2 ^ ((e1 : Int) - bias - mb) := by positivity
  have hb2 : (2 : ℚ) ^ ((e1 : Int) - bias) = 2 ^ mb * 2 ^ ((e1 : Int) - bias - mb) := by
    rw [← zpow_natCast]; exact (zpow_mul_zpow_eq (by norm_num) (by ring)).symm
  have hb1 : 2 * (2 : ℚ) ^ ((e1 : Int) - bias - 1) = 2 ^ mb * 2 ^ ((e1 : Int) - bias - mb) := by
    rw [← two_zpow_pred, hb2]
  have hb3 : (2 : ℚ) ^ ((e1 : Int) - bias + 1) = 2 * 2 ^ mb * 2 ^ ((e1 : Int) - bias - mb) := by
    rw [two_zpow_pred, add_sub_cancel_right, hb2, mul_assoc]
  generalize (2 : ℚ) ^ ((e1 : Int) - bias - mb) = u at *
  have hMq : (M : ℚ) * u + u ≤ 2 * 2 ^ mb * u := by
    have : (M : ℚ) + 1 ≤ 2 * 2 ^ mb := by rw [Nat.pow_succ, Nat.mul_comm] at hM; exact_mod_cast hM
    have := mul_le_mul_of_nonneg_right this hu.le
    linarith only [this]
  have he_le : e ≤ (e1 : Int) - bias := by
    have : (2 : ℚ) ^ e < 2 ^ ((e1 : Int) - bias + 1) := by rw [hb3]; linarith only [hlo, H1u, hMq, hu]
    have := (zpow_lt_zpow_iff_right₀ h2).mp this
    omega
  by_cases h1 : 1 < e1
  · have hMn : (2 : ℚ) ^ mb * u ≤ M * u := mul_le_mul_of_nonneg_right (by exact_mod_cast hnorm h1) hu.le
    have h1u : u ≤ 2 ^ mb * u := le_mul_of_one_le_left hu.le (one_le_pow₀ h2.le)
    have : (e1 : Int) - bias - 1 < e + 1 := by
      apply (zpow_lt_zpow_iff_right₀ h2).mp
      linarith only [hb1, hMn, h1u, H1l, hhi]
    rw [if_neg (by omega)]
    by_cases hee : e = (e1 : Int) - bias
    · left; exact hee
    · right
      have heq : e + 1 = (e1 : Int) - bias := by omega
      rw [heq] at hhi
      refine ⟨by omega, h1, hhi, ?_⟩
      by_contra hne
      have hgt : (2 : ℚ) ^ mb + 1 ≤ M := by
        have : 2 ^ mb + 1 ≤ M := by have := hnorm h1; omega
        exact_mod_cast this
      have := mul_le_mul_of_nonneg_right hgt hu.le
      rw [hb2] at hhi
      linarith only [this, hhi, H1l, hu]
  · left
    split <;> omega

/-- **`nearestBits` characterised by the closed rounding interval, ties to even**: the rational `rn/rd` lies within
half an ulp `u = 2^(e1 − bias − mb)` of `M·u` (biased exponent field `e1 ≥ 1` read as in IEEE 754, integer
significand `M`), a midpoint being allowed only when `M` is even; below a power of two at the bottom of a binade
above the lowest the lower midpoint is a quarter ulp away (always allowed: the neighbour below is odd). -/
theorem nearestBits_eq_closed (mb eb : Nat) (neg : Bool) (rn rd : Nat) (hrn : 0 < rn) (hrd : 0 < rd)
    (e1 M : Nat) (bias : Int) (hbias : bias = 2 ^ (eb - 1) - 1) (he1 : 1 ≤ e1) (he1' : e1 + 2 ≤ 2 ^ eb)
    (hM : M < 2 ^ (mb + 1)) (hnorm : 1 < e1 → 2 ^ mb ≤ M)
    (H1l : ((M : ℚ) - 1 / 2) * 2 ^ ((e1 : Int) - bias - mb) ≤ (rn : ℚ) / rd)
    (H1le : ((M : ℚ) - 1 / 2) * 2 ^ ((e1 : Int) - bias - mb) = (rn : ℚ) / rd → M % 2 = 0)
    (H1u : (rn : ℚ) / rd ≤ ((M : ℚ) + 1 / 2) * 2 ^ ((e1 : Int) - bias - mb))
    (H1ue : (rn : ℚ) / rd = ((M : ℚ) + 1 / 2) * 2 ^ ((e1 : Int) - bias - mb) → M % 2 = 0)
    (H2 : M = 2 ^ mb → 1 < e1 → ((M : ℚ) - 1 / 4) * 2 ^ ((e1 : Int) - bias - mb) ≤ (rn : ℚ) / rd) :
    FmtSpec.nearestBits mb eb neg rn rd = (if neg then 2 ^ (mb + eb) else 0) + ((e1 - 1) * 2 ^ mb + M) := by
  obtain ⟨hlo, hhi⟩ := floorLog2Frac_spec rn rd hrn hrd
  have hfieldlt : ¬ (2 ^ eb - 1) * 2 ^ mb ≤ (e1 - 1) * 2 ^ mb + M := by
    have h3 : (e1 - 1 + 2) * 2 ^ mb ≤ (2 ^ eb - 1) * 2 ^ mb := Nat.mul_le_mul_right _ (by omega)
    rw [Nat.add_mul] at h3
    rw [Nat.pow_succ] at hM
    omega
  have hrn0 : rn ≠ 0 := by omega
  have hu : (0 : ℚ) < 2 ^ ((e1 : Int) - bias - mb) := by positivity
  generalize hr : (rn : ℚ) / rd = r at *
  rcases binade_cases mb bias (Round.floorLog2Frac rn rd) r e1 M he1 hM hnorm hlo hhi H1l H1u with hk | ⟨hk, h1, hrlt, hM2⟩
  · have hm := roundedSig_of_le rn rd hrd ((e1 : Int) - bias - mb) M
      (by rw [hr, le_div_iff₀ hu]; exact H1l) (by rw [hr, div_le_iff₀ hu]; exact H1u)
      (by rw [hr, div_eq_iff hu.ne']; exact fun h => H1le h.symm) (by rw [hr, div_eq_iff hu.ne']; exact H1ue)
    rw [nearestBits_unfold mb eb neg rn rd hrn0 bias _ M hbias hk.symm hm.symm,
      show ((e1 : Int) - bias + bias - 1).toNat = e1 - 1 by omega, if_neg hfieldlt]
  · -- one binade down the ulp is `u/2`, and `r/(u/2)` lies in `[2^(mb+1) - 1/2, 2^(mb+1))`
    have H2' := H2 hM2 h1
    have hu2 : (2 : ℚ) ^ ((e1 : Int) - bias - mb) = 2 * 2 ^ ((e1 : Int) - bias - 1 - mb) := by
      rw [two_zpow_pred]; congr 2; ring
    have hE : (2 : ℚ) ^ ((e1 : Int) - bias) = 2 ^ mb * 2 ^ ((e1 : Int) - bias - mb) := by
      rw [← zpow_natCast]; exact (zpow_mul_zpow_eq (by norm_num) (by ring)).symm
    rw [hE, hu2] at hrlt
    rw [show (M : ℚ) = 2 ^ mb by exact_mod_cast hM2, hu2] at H2'
    have hv : (0 : ℚ) < 2 ^ ((e1 : Int) - bias - 1 - mb) := by positivity
    have hm := roundedSig_of_le rn rd hrd ((e1 : Int) - bias - 1 - mb) (2 ^ (mb + 1))
      (by rw [hr, le_div_iff₀ hv]; push_cast; rw [pow_succ]; linarith only [H2'])
      (by rw [hr, div_le_iff₀ hv]; push_cast; rw [pow_succ]; linarith only [hrlt, hv])
      (fun _ => by rw [Nat.pow_succ]; omega)
      (by rw [hr, div_eq_iff hv.ne']; push_cast; rw [pow_succ]; intro h; linarith only [h, hrlt, hv])
    have hfe : (e1 - 2) * 2 ^ mb + 2 ^ (mb + 1) = (e1 - 1) * 2 ^ mb + M := by
      rw [hM2, Nat.pow_succ, show e1 - 1 = (e1 - 2) + 1 by omega]; ring
    rw [nearestBits_unfold mb eb neg rn rd hrn0 bias _ (2 ^ (mb + 1)) hbias hk.symm hm.symm,
      show ((e1 : Int) - bias - 1 + bias - 1).toNat = e1 - 2 by omega, hfe, if_neg hfieldlt]


/-- `10 ^ 1199`: `FmtSpec.floorLog10` looks for the exponent of a fraction below one with fuel 1200 (`firstScale … 1200 1`),
so the reference is the `%g` of the value only down to `10^-1199`; the finite values of binary64 and binary32 lie above
(`range64`, `range32`). -/
theorem exists_decExp (num den : Nat) (hden : 0 < den) (hsmall : den ≤ num * 10 ^ 1199) :
    ∃ x : Int, DecExp num den x ∧ -1200 < x := by
  by_cases hge : den ≤ num
  · -- the exponent is the number of digits of the integer part, less one
    have hn1 : 1 ≤ num / den := Nat.div_pos hge hden
    have hLpos : 0 < (D (num / den)).length := List.length_pos_iff.mpr (D_ne_nil _)
    have hlow : 10 ^ ((D (num / den)).length - 1) ≤ num / den := by
      by_cases h1 : (D (num / den)).length = 1
      · rw [h1]; exact hn1
      · exact pow_le_of_len (by omega) (by omega)
    have hhigh : num / den < 10 ^ (D (num / den)).length := (D_length_le_iff hLpos).mp (Nat.le_refl _)
    refine ⟨(((D (num / den)).length - 1 : Nat) : Int), DecExp.mk' (n := (D (num / den)).length - 1) (k := 0)
      (n' := (D (num / den)).length) (k' := 0) (by omega) (by omega) ?_ ?_, by omega⟩
    · rw [Nat.pow_zero, Nat.mul_one]
      exact Nat.le_trans (Nat.mul_le_mul_left _ hlow) (Nat.mul_div_le _ _)
    · rw [Nat.pow_zero, Nat.mul_one, Nat.mul_comm]
      exact (Nat.div_lt_iff_lt_mul hden).mp hhigh
  · -- below one: minus the least number of places that bring the fraction up to one
    have hex : ∃ k, 1 ≤ k ∧ den ≤ num * 10 ^ k := ⟨1199, by decide, hsmall⟩
    have hK := Nat.find_spec hex
    have hKle : Nat.find hex ≤ 1199 := Nat.find_min' hex ⟨by decide, hsmall⟩
    have hmin : ∀ k, 1 ≤ k → k < Nat.find hex → ¬ den ≤ num * 10 ^ k := fun k hk1 hk2 hc =>
      Nat.find_min hex hk2 ⟨hk1, hc⟩
    generalize Nat.find hex = K at *
    refine ⟨-(K : Int), DecExp.mk' (n := 0) (k := K) (n' := 0) (k' := K - 1) (by omega) (by omega)
      (by rw [Nat.pow_zero, Nat.mul_one]; exact hK.2) ?_, by omega⟩
    rw [Nat.pow_zero, Nat.mul_one]
    by_cases hK1 : K = 1
    · subst hK1; rw [Nat.sub_self, Nat.pow_zero, Nat.mul_one]; exact Nat.lt_of_not_le hge
    · exact Nat.lt_of_not_le (hmin (K - 1) (by omega) (by omega))

theorem decExp_bounds {num den : Nat} {x : Int} (h : DecExp num den x) (hden : 0 < den) :
    (10 : ℚ) ^ x ≤ (num : ℚ) / den ∧ (num : ℚ) / den < 10 ^ (x + 1) := by
  have hdq : (0 : ℚ) < den := by exact_mod_cast hden
  have hlo := (h (-x).toNat x.toNat).1 (by omega)
  have hhi := (h (-(x + 1)).toNat (x + 1).toNat).2 (by omega)
  have e1 : (10 : ℚ) ^ x = 10 ^ x.toNat / 10 ^ (-x).toNat := by
    rw [← zpow_natCast, ← zpow_natCast, ← zpow_sub₀ (by norm_num)]; congr 1; omega
  have e2 : (10 : ℚ) ^ (x + 1) = 10 ^ (x + 1).toNat / 10 ^ (-(x + 1)).toNat := by
    rw [← zpow_natCast, ← zpow_natCast, ← zpow_sub₀ (by norm_num)]; congr 1; omega
  rw [e1, e2, div_le_div_iff₀ (by positivity) hdq, div_lt_div_iff₀ hdq (by positivity)]
  exact ⟨by exact_mod_cast hlo, by exact_mod_cast hhi⟩

theorem scaleRound_close (num den : Nat) (hden : 0 < den) (k : Int) :
    |((FmtSpec.scaleRound num den k : Nat) : ℚ) - (num : ℚ) / den * 10 ^ k| ≤ 1 / 2 := by
  -- `scaleRound` multiplies where `scale_cases` divides: apply it to `den/num` with the arguments of the rounding
  -- swapped, and invert
  obtain ⟨N, D, hN, -, hv, hf⟩ := scale_cases (fun a b => FmtSpec.roundHalfEven b a) den num 10 (by decide) k
  have hc := rhe_close D N (hN hden)
  rw [← inv_div, hv, Nat.cast_ofNat, inv_div, div_div_eq_mul_div, mul_div_assoc, mul_comm] at hc
  unfold FmtSpec.scaleRound
  rw [hf]; exact hc


/-- `stripFraction (fixedText r q)`: the integer part alone when the fraction vanishes; otherwise the integer part, a
point, and the fraction without its trailing zeros, `c'` in `k + 1` digits -/
theorem strip_fixedText_cases (r q : Nat) :
    (r % 10 ^ q = 0 ∧ FmtSpec.stripFraction (fixedText r q) = D (r / 10 ^ q)) ∨
    (∃ k c', c' % 10 ≠ 0 ∧ 0 < c' ∧ c' < 10 ^ (k + 1) ∧ k + 1 ≤ q ∧ r % 10 ^ q = c' * 10 ^ (q - (k + 1)) ∧
      FmtSpec.stripFraction (fixedText r q) = D (r / 10 ^ q) ++ 46 :: Dk (k + 1) c') := by
  by_cases hc : r % 10 ^ q = 0
  · left
    refine ⟨hc, ?_⟩
    unfold fixedText
    rw [hc, Dk_zero, stripFraction_int]
  · right
    have hq0 : q ≠ 0 := by
      intro h; subst h; simp [Nat.mod_one] at hc
    have hcpos : 0 < r % 10 ^ q := by omega
    have hclt : r % 10 ^ q < 10 ^ q := Nat.mod_lt _ (Nat.pow_pos (by decide))
    obtain ⟨c', t, hct, hc10⟩ := trailing_zeros _ hcpos
    have hc'pos : 0 < c' := by
      by_contra h0
      have : c' = 0 := by omega
      subst this; simp at hc10
    have htq : t < q := by
      by_contra hge
      have h1 : 10 ^ q ≤ 10 ^ t := Nat.pow_le_pow_right (by decide) (by omega)
      have h2 : 10 ^ t ≤ c' * 10 ^ t := Nat.le_mul_of_pos_left _ hc'pos
      omega
    obtain ⟨k, hk⟩ : ∃ k, q - t = k + 1 := ⟨q - t - 1, by omega⟩
    have hDk : Dk q (r % 10 ^ q) = Dk (k + 1) c' ++ List.replicate t 48 := by
      have := Dk_mul_pow (k + 1) t c'
      rw [show k + 1 + t = q by omega, ← hct] at this
      exact this
    have hc'lt : c' < 10 ^ (k + 1) := by
      by_contra hge
      have h1 : 10 ^ (k + 1) * 10 ^ t ≤ c' * 10 ^ t := Nat.mul_le_mul_right _ (by omega)
      rw [← Nat.pow_add, show k + 1 + t = q by omega] at h1
      omega
    refine ⟨k, c', hc10, hc'pos, hc'lt, by omega, by rw [hct]; congr 2; omega, ?_⟩
    unfold fixedText
    rw [if_neg hq0, hDk, stripFraction_exact _ _ _ _ hc10]

theorem strip_fixedText_shape (r q : Nat) :
    ∃ fp : List Nat, (∀ c ∈ fp, FmtSpec.isDigit c = true) ∧
      FmtSpec.stripFraction (fixedText r q) = D (r / 10 ^ q) ++ (if fp = [] then [] else 46 :: fp) ∧
      ((FmtSpec.digitsValue (D (r / 10 ^ q) ++ fp) : Nat) : ℚ) / 10 ^ fp.length = (r : ℚ) / 10 ^ q := by
  have hdm : ((10 ^ q * (r / 10 ^ q) + r % 10 ^ q : Nat) : ℚ) = r := by rw [Nat.div_add_mod]
  rcases strip_fixedText_cases r q with ⟨hc, hs⟩ | ⟨k, c', hc10, hc0, hclt, hkq, hmod, hs⟩
  · refine ⟨[], fun _ h => (nomatch h), by rw [hs, if_pos rfl, List.append_nil], ?_⟩
    rw [List.append_nil, digitsValue_D, List.length_nil, pow_zero, div_one, eq_div_iff (by positivity), ← hdm, hc]
    push_cast; ring
  · refine ⟨Dk (k + 1) c', allDigits_Dk _ _, by rw [hs, if_neg (Dk_succ_ne_nil _ _)], ?_⟩
    rw [digitsValue_app, digitsValue_D, digitsValue_Dk, Nat.mod_eq_of_lt hclt, Dk_length,
      div_eq_div_iff (by positivity) (by positivity), ← hdm, hmod]
    push_cast
    rw [show (10 : ℚ) ^ q = 10 ^ (k + 1) * 10 ^ (q - (k + 1)) by rw [← pow_add]; congr 1; omega]
    ring

/-- the `%e` significand (digits padded to `P`, point after the first) is the `%f` text of the same integer with
`P - 1` decimals -/
theorem sci_eq_fixedText (d P : Nat) (hP : 0 < P) (hd : d < 10 ^ P) :
    dotAfterFirst (FmtSpec.padLeft P (D d)) = fixedText d (P - 1) := by
  rw [padLeft_D hP hd]
  obtain ⟨k, rfl⟩ : ∃ k, P = k + 1 := ⟨P - 1, by omega⟩
  rw [Nat.add_sub_cancel, Nat.add_comm k 1, Dk_split 1 k d]
  have hy : d / 10 ^ k < 10 := by
    rw [Nat.div_lt_iff_lt_mul (Nat.pow_pos (by decide)), Nat.mul_comm, ← Nat.pow_succ]; exact hd
  have h1 : Dk 1 (d / 10 ^ k) = [48 + d / 10 ^ k] := by simp [Dk, Nat.mod_eq_of_lt hy]
  unfold fixedText
  rw [h1, D_lt10 hy, Dk_mod]
  by_cases hk : k = 0
  · subst hk; simp [Dk, dotAfterFirst]
  · have : Dk k d ≠ [] := by
      intro h; have := congrArg List.length h; simp [Dk_length] at this; exact hk this
    simp [dotAfterFirst, this, hk]

theorem gBody_fixedText {P K : Nat} (hP : 0 < P) (hK : K < 10 ^ P) (x : Int) :
    gBody P K x = if (-4 : Int) ≤ x ∧ x < (P : Int) then FmtSpec.stripFraction (fixedText K ((P : Int) - 1 - x).toNat)
      else FmtSpec.stripFraction (fixedText K (P - 1)) ++ FmtSpec.expText x := by
  unfold gBody; rw [sci_eq_fixedText K P hP hK]


theorem read_fixed (neg : Bool) (r q : Nat) :
    ∃ m d : Nat, 0 < d ∧
      FmtSpec.readDecimal (FmtSpec.signed neg (FmtSpec.stripFraction (fixedText r q))) = some (neg, m, d) ∧
      (m : ℚ) / d = (r : ℚ) / 10 ^ q := by
  obtain ⟨fp, hfp, hshape, hval⟩ := strip_fixedText_shape r q
  refine ⟨FmtSpec.digitsValue (D (r / 10 ^ q) ++ fp), 10 ^ fp.length, Nat.pow_pos (by decide), ?_, ?_⟩
  · rw [hshape, readDecimal_signed _ _ (digits_head_not_minus (allDigits_D _) (D_ne_nil _) _),
      readCore_plain neg _ fp (D_ne_nil _) (allDigits_D _) hfp]
  · push_cast; exact hval

theorem expText_digits (n : Nat) :
    (∀ c ∈ FmtSpec.padLeft 2 (D n), FmtSpec.isDigit c = true) ∧ FmtSpec.padLeft 2 (D n) ≠ [] ∧
      FmtSpec.digitsValue (FmtSpec.padLeft 2 (D n)) = n := by
  unfold FmtSpec.padLeft
  refine ⟨fun c hc => ?_, by simp [D_ne_nil], ?_⟩
  · rcases List.mem_append.mp hc with hc | hc
    · rw [(List.mem_replicate.mp hc).2]; decide
    · exact allDigits_D _ c hc
  · rw [digitsValue_app, show FmtSpec.cZero = 48 from rfl, digitsValue_zeros, digitsValue_D]; simp

theorem read_sci (neg : Bool) (r q : Nat) (X : Int) :
    ∃ m d : Nat, 0 < d ∧
      FmtSpec.readDecimal (FmtSpec.signed neg (FmtSpec.stripFraction (fixedText r q) ++ FmtSpec.expText X)) =
        some (neg, m, d) ∧
      (m : ℚ) / d = (r : ℚ) / 10 ^ q * 10 ^ X := by
  obtain ⟨fp, hfp, hshape, hval⟩ := strip_fixedText_shape r q
  have hexp : FmtSpec.expText X = 101 :: (if decide (X < 0) then 45 else 43) :: FmtSpec.padLeft 2 (D X.natAbs) := by
    unfold FmtSpec.expText
    by_cases hx : X < 0 <;> simp [hx, FmtSpec.cE, FmtSpec.cMinus, FmtSpec.cPlus, D]
  obtain ⟨hrd, hr0, hrv⟩ := expText_digits X.natAbs
  rw [hshape, hexp, readDecimal_signed _ _ (by rw [List.append_assoc]; exact digits_head_not_minus (allDigits_D _) (D_ne_nil _) _),
    readCore_exp neg _ fp _ (decide (X < 0)) (D_ne_nil _) (allDigits_D _) hfp hr0 hrd, hrv]
  have h10 : (0 : ℚ) < 10 ^ fp.length := by positivity
  by_cases hx : X < 0
  · refine ⟨FmtSpec.digitsValue (D (r / 10 ^ q) ++ fp), 10 ^ fp.length * 10 ^ X.natAbs,
      Nat.mul_pos (Nat.pow_pos (by decide)) (Nat.pow_pos (by decide)), by simp [hx], ?_⟩
    have hX : X = -((X.natAbs : Nat) : Int) := by omega
    rw [← hval]
    conv_rhs => rw [hX, zpow_neg, zpow_natCast]
    push_cast
    rw [div_mul_eq_div_div]
    field_simp
  · refine ⟨FmtSpec.digitsValue (D (r / 10 ^ q) ++ fp) * 10 ^ X.natAbs, 10 ^ fp.length, Nat.pow_pos (by decide),
      by simp [hx], ?_⟩
    have hX : X = ((X.natAbs : Nat) : Int) := by omega
    rw [← hval]
    conv_rhs => rw [hX, zpow_natCast]
    push_cast
    field_simp


theorem scaled_close {v S K T : ℚ} (hS : 0 < S) (hT : 0 < T) (hc : |K - v * S| ≤ 1 / 2) (hlo : T ≤ v * S) :
    |K / S - v| ≤ v / T / 2 := by
  have e : K / S - v = (K - v * S) / S := by field_simp
  have h1 : 1 / 2 ≤ v / T / 2 * S := by
    rw [div_div, div_mul_eq_mul_div, le_div_iff₀ (by positivity)]; linarith
  rw [e, abs_div, abs_of_pos hS, div_le_iff₀ hS]
  exact le_trans hc h1

/-- **the `P` digits of `%g`**: the value scaled to `P` digits at its decimal exponent `x` and rounded gives a `P`-digit
integer `K` and an exponent `x'` (`x`, or `x + 1` when the rounding carried into a new leading digit) such that
`K·10^(x'-(P-1))` is `num/den` correctly rounded to `P` significant digits, so within `½·10^(1-P)` of it, relatively -/
theorem gText_spec (num den P : Nat) (x : Int) (hP : 0 < P) (hden : 0 < den) (hx : DecExp num den x) :
    ∃ (K : Nat) (x' : Int), gText P (FmtSpec.scaleRound num den ((P : Int) - 1 - x)) x = gBody P K x' ∧
      10 ^ (P - 1) ≤ K ∧ K < 10 ^ P ∧
      |(K : ℚ) * 10 ^ (x' - ((P - 1 : Nat) : Int)) - (num : ℚ) / den| ≤ (num : ℚ) / den / 10 ^ (P - 1) / 2 := by
  obtain ⟨hlo, hhi⟩ := decExp_bounds hx hden
  have hclose := scaleRound_close num den hden ((P : Int) - 1 - x)
  generalize FmtSpec.scaleRound num den ((P : Int) - 1 - x) = K0 at *
  generalize (num : ℚ) / den = v at *
  have hs_lo : (10 : ℚ) ^ (P - 1) ≤ v * 10 ^ ((P : Int) - 1 - x) := by
    calc (10 : ℚ) ^ (P - 1) = 10 ^ x * 10 ^ ((P : Int) - 1 - x) := by
          rw [← zpow_natCast]; exact (zpow_mul_zpow_eq (by norm_num) (by omega)).symm
      _ ≤ v * 10 ^ ((P : Int) - 1 - x) := mul_le_mul_of_nonneg_right hlo (by positivity)
  have hs_hi : v * 10 ^ ((P : Int) - 1 - x) < 10 ^ P := by
    calc v * 10 ^ ((P : Int) - 1 - x) < 10 ^ (x + 1) * 10 ^ ((P : Int) - 1 - x) :=
          mul_lt_mul_of_pos_right hhi (by positivity)
      _ = 10 ^ P := by rw [← zpow_natCast]; exact zpow_mul_zpow_eq (by norm_num) (by omega)
  have hW := scaled_close (by positivity) (by positivity) hclose hs_lo
  rw [abs_le] at hclose
  have hK0lo : 10 ^ (P - 1) ≤ K0 := natCast_le_of_lt_add_one (by push_cast; linarith only [hs_lo, hclose.1])
  have hK0hi : K0 ≤ 10 ^ P := natCast_le_of_lt_add_one (by push_cast; linarith only [hs_hi, hclose.2])
  by_cases hc : K0 = 10 ^ P
  · -- the rounding produced a new leading digit
    refine ⟨10 ^ (P - 1), x + 1, by rw [hc, gText_carry], Nat.le_refl _, Nat.pow_lt_pow_right (by decide) (by omega), ?_⟩
    have e : ((10 ^ (P - 1) : Nat) : ℚ) * 10 ^ (x + 1 - ((P - 1 : Nat) : Int)) =
        (K0 : ℚ) / 10 ^ ((P : Int) - 1 - x) := by
      rw [hc, eq_div_iff (by positivity), Nat.cast_pow, Nat.cast_pow, Nat.cast_ofNat, ← zpow_natCast (10 : ℚ) (P - 1),
        ← zpow_natCast (10 : ℚ) P, zpow_mul_zpow_eq (by norm_num) rfl]
      exact zpow_mul_zpow_eq (by norm_num) (by omega)
    rw [e]; exact hW
  · refine ⟨K0, x, gText_of_lt (by omega) x, hK0lo, by omega, ?_⟩
    have e : (K0 : ℚ) * 10 ^ (x - ((P - 1 : Nat) : Int)) = (K0 : ℚ) / 10 ^ ((P : Int) - 1 - x) := by
      rw [div_eq_mul_inv, ← zpow_neg, show -((P : Int) - 1 - x) = x - ((P - 1 : Nat) : Int) by omega]
    rw [e]; exact hW

/-- **`%.{p}g` as "`P`-digit integer `K`, decimal exponent `x`"**: plain when `-4 ≤ x < P`, scientific otherwise; `K`
and `x` as in `gText_spec` -/
theorem generalBody_form (num den p P : Nat) (hP : P = if p = 0 then 1 else p) (hnum : 0 < num) (hden : 0 < den)
    (hsmall : den ≤ num * 10 ^ 1199) :
    ∃ (K : Nat) (x : Int), 10 ^ (P - 1) ≤ K ∧ K < 10 ^ P ∧
      |(K : ℚ) * 10 ^ (x - ((P - 1 : Nat) : Int)) - (num : ℚ) / den| ≤ (num : ℚ) / den / 10 ^ (P - 1) / 2 ∧
      FmtSpec.generalBody num den p = gBody P K x := by
  have hPpos : 0 < P := by rw [hP]; split <;> omega
  obtain ⟨x0, hx0, hlow⟩ := exists_decExp num den hden hsmall
  obtain ⟨K, x, hg, hK1, hK2, hclose⟩ := gText_spec num den P x0 hPpos hden hx0
  exact ⟨K, x, hK1, hK2, hclose, by rw [generalBody_gText hden hnum hx0 hlow, ← hP, hg]⟩

theorem generalBody_value (num den p P : Nat) (hP : P = if p = 0 then 1 else p) (neg : Bool) (hnum : 0 < num)
    (hden : 0 < den) (hsmall : den ≤ num * 10 ^ 1199) :
    ∃ m d : Nat, 0 < d ∧
      FmtSpec.readDecimal (FmtSpec.signed neg (FmtSpec.generalBody num den p)) = some (neg, m, d) ∧
      |(m : ℚ) / d - (num : ℚ) / den| ≤ (num : ℚ) / den / 10 ^ (P - 1) / 2 := by
  have hPpos : 0 < P := by rw [hP]; split <;> omega
  obtain ⟨K, x, -, hK2, hclose, hform⟩ := generalBody_form num den p P hP hnum hden hsmall
  rw [hform, gBody_fixedText hPpos hK2]
  by_cases hrange : (-4 : Int) ≤ x ∧ x < (P : Int)
  · rw [if_pos hrange]
    obtain ⟨m, d, hd, hread, hval⟩ := read_fixed neg K ((P : Int) - 1 - x).toNat
    refine ⟨m, d, hd, hread, ?_⟩
    have e : (K : ℚ) / 10 ^ ((P : Int) - 1 - x).toNat = K * 10 ^ (x - ((P - 1 : Nat) : Int)) := by
      rw [div_eq_mul_inv, ← zpow_natCast, ← zpow_neg]; congr 2; omega
    rw [hval, e]; exact hclose
  · rw [if_neg hrange]
    obtain ⟨m, d, hd, hread, hval⟩ := read_sci neg K (P - 1) x
    refine ⟨m, d, hd, hread, ?_⟩
    have e : (K : ℚ) / 10 ^ (P - 1) * 10 ^ x = K * 10 ^ (x - ((P - 1 : Nat) : Int)) := by
      rw [zpow_sub₀ (by norm_num), zpow_natCast]; ring
    rw [hval, e]; exact hclose

end Qentem.Proofs.Ident
