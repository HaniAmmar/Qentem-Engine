import Qentem.Proofs.HashTableBulkOps
/-!
One step of the layout model refines one step of the slot specification; lifted to operation
sequences by induction.
-/
namespace Qentem.HashTable
variable {V : Type}

theorem refines_unit {H : List Nat → Nat} {r : Option (HT V)} {sp : Spec V}
    (h : ∃ s', r = some s' ∧ Inv H s' ∧ abs s' = sp) :
    ∃ s' o, r.map (·, (Out.unit : Out V)) = some (s', o) ∧ Inv H s' ∧ (abs s', o) = (sp, Out.unit) := by
  obtain ⟨s', rfl, hI', rfl⟩ := h
  exact ⟨s', .unit, rfl, hI', rfl⟩

theorem step_refines [Inhabited V] {H : List Nat → Nat} (ord : Nat → Nat) (hH : ∀ k, H k ≠ 0) {s : HT V}
    (hI : Inv H s) (op : Op V) :
    ∃ s' o, step H ord s op = some (s', o) ∧ Inv H s' ∧ (abs s', o) = Spec.step ord (abs s) op := by
  cases op with
  | insert k v => exact refines_unit (insert_spec hI hH k v)
  | get k =>
    obtain ⟨s', i, it, hrun, hI', habs, hit, _, _, hv⟩ := getOrCreate_spec hI hH k
    exact ⟨s', .value it.val, by simp [step, hrun, hit], hI', by simp [Spec.step, habs, hv]⟩
  | assign k v => exact refines_unit (assign_spec hI hH k v)
  | lookup k =>
    exact ⟨s, .found (Spec.lookup (abs s) k), by simp [step, lookup_spec hI hH k], hI, rfl⟩
  | lookupIdx i => exact ⟨s, .entry (lookupIdx s i), rfl, hI, by rw [lookupIdx_spec]; rfl⟩
  | remove k => exact refines_unit (remove_spec hI hH k)
  | removeIdx i => exact refines_unit (removeIdx_spec hI hH i)
  | rename a b =>
    obtain ⟨s', r, hrun, hI', habs⟩ := rename_spec hI hH a b
    exact ⟨s', .flag r, by simp [step, hrun], hI', by rw [Spec.step, ← habs]⟩
  | reserve n => exact ⟨reserve s n, .unit, rfl, (reserve_spec hI n).1, by rw [(reserve_spec hI n).2]; rfl⟩
  | resize n => exact refines_unit (resizeTo_spec hI n)
  | expect n => exact refines_unit (expect_spec hI n)
  | compress => exact refines_unit (compress_spec hI)
  | clear => exact ⟨clear s, .unit, rfl, (clear_spec hI).1, by rw [(clear_spec hI).2]; rfl⟩
  | reset => exact ⟨reset s, .unit, rfl, (reset_spec hI).1, by rw [(reset_spec hI).2]; rfl⟩
  | sort a => exact refines_unit (sort_spec ord hI a)
  | copy => exact refines_unit (copy_spec hI)
  | move => exact ⟨s, .unit, rfl, hI, rfl⟩
  | merge ins rem =>
    obtain ⟨src, hb, hS, habsS⟩ := buildOperand_spec hH ins rem
    obtain ⟨s', hrun, hI', habs⟩ := merge_spec hH hI hS
    exact ⟨s', .unit, by simp [step, hb, hrun], hI', by rw [habs, habsS]; rfl⟩
  | selfMerge => exact ⟨s, .unit, rfl, hI, rfl⟩

theorem run_refines [Inhabited V] {H : List Nat → Nat} (ord : Nat → Nat) (hH : ∀ k, H k ≠ 0) :
    ∀ (ops : List (Op V)) {s : HT V}, Inv H s →
    ∃ s' os, run H ord s ops = some (s', os) ∧ Inv H s' ∧ (abs s', os) = Spec.run ord (abs s) ops
  | [], s, hI => ⟨s, [], rfl, hI, rfl⟩
  | op :: ops, s, hI => by
    obtain ⟨s1, o, hstep, hI1, habs1⟩ := step_refines ord hH hI op
    obtain ⟨s2, os, hrun, hI2, habs2⟩ := run_refines ord hH ops hI1
    refine ⟨s2, o :: os, by simp [run, hstep, hrun], hI2, ?_⟩
    have h1 : (Spec.step ord (abs s) op).1 = abs s1 := by rw [← habs1]
    have h2 : (Spec.step ord (abs s) op).2 = o := by rw [← habs1]
    simp only [Spec.run, h1, h2, ← habs2]

theorem entries_run [Inhabited V] {H : List Nat → Nat} (ord : Nat → Nat) (hH : ∀ k, H k ≠ 0) :
    ∀ (ops : List (Op V)) {s : HT V}, Inv H s → (∀ op ∈ ops, op.KeyLevel) →
    ∃ s' os, run H ord s ops = some (s', os) ∧ Inv H s' ∧
      entries (absSlots s') = ops.foldl alStep (entries (absSlots s))
  | [], s, hI, _ => ⟨s, [], rfl, hI, rfl⟩
  | op :: ops, s, hI, hops => by
    obtain ⟨s1, o, hstep, hI1, habs1⟩ := step_refines ord hH hI op
    obtain ⟨s2, os, hrun, hI2, hent⟩ := entries_run ord hH ops hI1 (fun op' h => hops op' (by simp [h]))
    refine ⟨s2, o :: os, by simp [run, hstep, hrun], hI2, ?_⟩
    rw [hent, List.foldl_cons]
    congr 1
    have h1 : absSlots s1 = (Spec.step ord (abs s) op).1.slots := by rw [← habs1]; rfl
    rw [h1]
    exact entries_step ord (sp := abs s) hI.keysNodup op (hops op (by simp))

end Qentem.HashTable
