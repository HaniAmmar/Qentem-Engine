import Qentem.Model.Value
/-! Lemmas about the storage primitives of a document.  The item storage of an object (`slotFind`, `slotUpd`,
`slotRemove`, `slotSetVal`, `liveSlots`); the model's list recursions as `List` functions (`setAtIdx` = `modify`,
`copyItems` = `map`, `dropUndef` = `filter`); what `expand()`, copy and compress do to the live entries of an object. -/
namespace Qentem.Value
open Doc

/-! ### what a search for a key sees

Every key-directed primitive walks the slots the same way: it skips a removed item, stops at the item with
the key, and passes an item with another key.  The equations say what each primitive does in the three
cases; `slots_ind` is induction over the slots in those terms. -/

theorem slots_ind (k : Key) {motive : List Slot → Prop} (nil : motive [])
    (tomb : ∀ r, motive r → motive (none :: r))
    (hit : ∀ v r, motive (some (k, v) :: r))
    (miss : ∀ k' v r, k' ≠ k → motive r → motive (some (k', v) :: r)) : ∀ s, motive s
  | [] => nil
  | none :: r => tomb r (slots_ind k nil tomb hit miss r)
  | some (k', v) :: r =>
    if h : k' = k then h ▸ hit v r else miss k' v r h (slots_ind k nil tomb hit miss r)

section eqs
variable (k : Key) {k' : Key} (v : Doc) (r : List Slot) (f : Doc → Doc) (x : Doc)
@[simp] theorem slotFind_hit : slotFind k (some (k, v) :: r) = some v := by simp [slotFind]
@[simp] theorem slotFind_miss (h : k' ≠ k) : slotFind k (some (k', v) :: r) = slotFind k r := by simp [slotFind, h]
@[simp] theorem slotFind_tomb : slotFind k (none :: r) = slotFind k r := rfl
@[simp] theorem slotUpd_hit : slotUpd k f (some (k, v) :: r) = some (k, f v) :: r := by simp [slotUpd]
@[simp] theorem slotUpd_miss (h : k' ≠ k) : slotUpd k f (some (k', v) :: r) = some (k', v) :: slotUpd k f r := by simp [slotUpd, h]
@[simp] theorem slotUpd_tomb : slotUpd k f (none :: r) = none :: slotUpd k f r := rfl
@[simp] theorem slotRemove_hit : slotRemove k (some (k, v) :: r) = none :: r := by simp [slotRemove]
@[simp] theorem slotRemove_miss (h : k' ≠ k) : slotRemove k (some (k', v) :: r) = some (k', v) :: slotRemove k r := by simp [slotRemove, h]
@[simp] theorem slotRemove_tomb : slotRemove k (none :: r) = none :: slotRemove k r := rfl
@[simp] theorem slotSetVal_hit : slotSetVal k x (some (k, v) :: r) = some (k, x) :: r := by simp [slotSetVal]
@[simp] theorem slotSetVal_miss (h : k' ≠ k) : slotSetVal k x (some (k', v) :: r) = some (k', v) :: slotSetVal k x r := by simp [slotSetVal, h]
@[simp] theorem slotSetVal_tomb : slotSetVal k x (none :: r) = none :: slotSetVal k x r := rfl
end eqs

/-- The value a subscript hands to its caller: the member's value, `undef` for a new member. -/
def foundOrUndef (o : Option Doc) : Doc :=
  match o with
  | some v => v
  | none => undef

theorem slotFind_slotUpd_same (k : Key) (f : Doc → Doc) (s : List Slot) :
    slotFind k (slotUpd k f s) = some (f (foundOrUndef (slotFind k s))) := by
  induction s using slots_ind k with
  | nil => simp [slotUpd, slotFind, foundOrUndef]
  | tomb r ih => simpa using ih
  | hit v r => simp [foundOrUndef]
  | miss k' v r h ih => simpa [h] using ih

theorem slotFind_slotUpd_other (k k' : Key) (f : Doc → Doc) (s : List Slot) (h : k' ≠ k) :
    slotFind k' (slotUpd k f s) = slotFind k' s := by
  induction s using slots_ind k with
  | nil => simp [slotUpd, slotFind, Ne.symm h]
  | tomb r ih => simpa using ih
  | hit v r => simp [slotFind, Ne.symm h]
  | miss k2 v r hk ih => rw [slotUpd_miss k v r f hk]; simp only [slotFind, ih]

theorem slotFind_liveSlots (k : Key) (s : List Slot) : slotFind k (liveSlots s) = slotFind k s := by
  induction s with
  | nil => rfl
  | cons a t ih =>
    cases a with
    | none => exact ih
    | some e => exact congrArg (fun r => if e.1 = k then some e.2 else r) ih

/-- All live items in slot order (the value may be `undef`: a member that was never assigned). -/
def liveEntries : List Slot → List (Key × Doc)
  | [] => []
  | none :: r => liveEntries r
  | some e :: r => e :: liveEntries r

def keysOf (s : List Slot) : List Key := (liveEntries s).map (·.1)

/-- no removed items. -/
def noTombstones : List Slot → Bool
  | [] => true
  | none :: _ => false
  | some _ :: r => noTombstones r

theorem liveEntries_liveSlots (s : List Slot) : liveEntries (liveSlots s) = liveEntries s := by
  induction s with
  | nil => rfl
  | cons a t ih =>
    cases a with
    | none => exact ih
    | some e => exact congrArg (e :: ·) ih

theorem noTombstones_liveSlots (s : List Slot) : noTombstones (liveSlots s) = true := by
  induction s with
  | nil => rfl
  | cons a t ih =>
    cases a with
    | none => exact ih
    | some e => exact ih

theorem liveSlots_of_noTombstones (s : List Slot) (h : noTombstones s = true) : liveSlots s = s := by
  induction s with
  | nil => rfl
  | cons a t ih =>
    cases a with
    | none => cases h
    | some e => exact congrArg (some e :: ·) (ih h)

theorem liveCount_eq (s : List Slot) : liveCount s = (liveEntries s).length := by
  induction s with
  | nil => rfl
  | cons a t ih =>
    cases a with
    | none => exact ih
    | some e => exact congrArg Nat.succ ih

theorem slotFind_none_iff (k : Key) (s : List Slot) : slotFind k s = none ↔ k ∉ keysOf s := by
  induction s using slots_ind k with
  | nil => exact ⟨fun _ => List.not_mem_nil, fun _ => rfl⟩
  | tomb r ih => exact ih
  | hit v r => exact ⟨by simp, fun hn => absurd List.mem_cons_self hn⟩
  | miss k' v r hk ih =>
    rw [slotFind_miss k v r hk, ih]
    exact ⟨fun hn hm => (List.mem_cons.mp hm).elim (fun e => hk e.symm) hn, fun hn hm => hn (List.mem_cons_of_mem _ hm)⟩

theorem liveEntries_slotUpd_absent (k : Key) (f : Doc → Doc) (s : List Slot) (h : slotFind k s = none) :
    liveEntries (slotUpd k f s) = liveEntries s ++ [(k, f undef)] := by
  induction s using slots_ind k with
  | nil => rfl
  | tomb r ih => exact ih h
  | hit v r => simp at h
  | miss k' v r hk ih => rw [slotUpd_miss k v r f hk]; exact congrArg ((k', v) :: ·) (ih (by simpa [hk] using h))

theorem keysOf_slotUpd_present (k : Key) (f : Doc → Doc) (s : List Slot) (h : slotFind k s ≠ none) :
    keysOf (slotUpd k f s) = keysOf s := by
  induction s using slots_ind k with
  | nil => exact absurd rfl h
  | tomb r ih => exact ih h
  | hit v r => rw [slotUpd_hit]; rfl
  | miss k' v r hk ih => rw [slotUpd_miss k v r f hk]; exact congrArg (k' :: ·) (ih (by simpa [hk] using h))

theorem keysOf_slotUpd_fresh (k : Key) (f : Doc → Doc) (s : List Slot) (h : slotFind k s = none) :
    keysOf (slotUpd k f s) = keysOf s ++ [k] := by
  simp [keysOf, liveEntries_slotUpd_absent k f s h]

theorem keysOf_liveSlots (s : List Slot) : keysOf (liveSlots s) = keysOf s := by
  simp [keysOf, liveEntries_liveSlots]

theorem length_slotUpd (k : Key) (f : Doc → Doc) (s : List Slot) :
    (slotUpd k f s).length = if (slotFind k s).isNone then s.length + 1 else s.length := by
  induction s using slots_ind k with
  | nil => rfl
  | tomb r ih => rw [slotUpd_tomb, slotFind_tomb, List.length_cons, ih]; split <;> rfl
  | hit v r => simp
  | miss k' v r hk ih => rw [slotUpd_miss k v r f hk, slotFind_miss k v r hk, List.length_cons, ih]; split <;> rfl

theorem length_slotRemove (k : Key) (s : List Slot) : (slotRemove k s).length = s.length := by
  induction s using slots_ind k with
  | nil => rfl
  | tomb r ih => exact congrArg Nat.succ ih
  | hit v r => simp
  | miss k' v r hk ih => simpa [hk] using ih

/-- removal drops exactly the first (the only, see `keysNodup`) live item with that key; the others keep
their order. -/
theorem liveEntries_slotRemove (k : Key) (s : List Slot) :
    liveEntries (slotRemove k s) = (liveEntries s).eraseP (fun e => e.1 = k) := by
  induction s using slots_ind k with
  | nil => rfl
  | tomb r ih => simpa [liveEntries] using ih
  | hit v r => simp [liveEntries]
  | miss k' v r hk ih => simp [liveEntries, hk, ih]

theorem slotFind_slotRemove_other (k k' : Key) (s : List Slot) (h : k' ≠ k) :
    slotFind k' (slotRemove k s) = slotFind k' s := by
  induction s using slots_ind k with
  | nil => rfl
  | tomb r ih => simpa using ih
  | hit v r => simp [slotFind, Ne.symm h]
  | miss k2 v r hk ih => rw [slotRemove_miss k v r hk]; simp only [slotFind, ih]

/-- the live keys of an object are pairwise distinct. -/
def keysNodup (s : List Slot) : Prop := (keysOf s).Nodup

theorem slotFind_slotRemove_same (k : Key) (s : List Slot) (h : keysNodup s) :
    slotFind k (slotRemove k s) = none := by
  induction s using slots_ind k with
  | nil => rfl
  | tomb r ih => exact ih h
  | hit v r => rw [slotRemove_hit]; exact (slotFind_none_iff _ _).2 (List.nodup_cons.mp h).1
  | miss k' v r hk ih => rw [slotRemove_miss k v r hk, slotFind_miss k v _ hk]; exact ih (List.nodup_cons.mp h).2

theorem keysNodup_liveSlots (s : List Slot) (h : keysNodup s) : keysNodup (liveSlots s) := by
  simpa [keysNodup, keysOf, liveEntries_liveSlots] using h

theorem keysNodup_slotUpd (k : Key) (f : Doc → Doc) (s : List Slot) (h : keysNodup s) :
    keysNodup (slotUpd k f s) := by
  by_cases hf : slotFind k s = none
  · have hk := (slotFind_none_iff k s).1 hf
    simp only [keysNodup, keysOf, liveEntries_slotUpd_absent k f s hf, List.map_append, List.map_cons, List.map_nil]
    rw [List.nodup_append]
    refine ⟨h, by simp, ?_⟩
    intro a ha b hb
    simp at hb
    subst hb
    intro hab; subst hab; exact hk ha
  · simpa [keysNodup, keysOf_slotUpd_present k f s hf] using h

theorem keysNodup_slotRemove (k : Key) (s : List Slot) (h : keysNodup s) : keysNodup (slotRemove k s) := by
  simp only [keysNodup, keysOf, liveEntries_slotRemove]
  exact (List.Sublist.map _ (List.eraseP_sublist)).nodup h

theorem deref_nonptr (env : Env) (d : Doc) (h : ∀ r, d ≠ ptr r) : deref env d = d := by
  unfold deref
  cases d <;> simp_all [derefF]

theorem asObj_of_not_obj (d : Doc) (h : d.isObj = false) : asObj d = (0, []) := by
  cases d <;> first | rfl | cases h

theorem asArr_of_not_arr (d : Doc) (h : d.isArr = false) : asArr d = [] := by
  cases d <;> first | rfl | cases h

/-! ### `expand()` keeps what the table holds -/

theorem slotFind_objExpand (k : Key) (c : Nat) (s : List Slot) : slotFind k (objExpand c s).2 = slotFind k s := by
  unfold objExpand
  split
  · exact slotFind_liveSlots k s
  · rfl

theorem liveEntries_objExpand (c : Nat) (s : List Slot) : liveEntries (objExpand c s).2 = liveEntries s := by
  unfold objExpand
  split
  · exact liveEntries_liveSlots s
  · rfl

/-! ### the model's recursions over lists (`setAtIdx`, `getAt`, `mapDocs`, `copyItems`, `dropUndef`) -/

theorem setAtIdx_eq_modify (i : Nat) (f : Doc → Doc) (l : List Doc) : setAtIdx i f l = l.modify i f := by
  induction l generalizing i with
  | nil => rw [List.modify_nil, setAtIdx]
  | cons a t ih =>
    cases i with
    | zero => rw [List.modify_zero_cons, setAtIdx]
    | succ i => rw [List.modify_succ_cons, setAtIdx, ih i]

theorem setAtIdx_length (i : Nat) (f : Doc → Doc) (l : List Doc) : (setAtIdx i f l).length = l.length := by
  rw [setAtIdx_eq_modify, List.length_modify]

theorem setAtIdx_get_same (i : Nat) (f : Doc → Doc) (l : List Doc) :
    (setAtIdx i f l)[i]? = (l[i]?).map f := by
  rw [setAtIdx_eq_modify, List.getElem?_modify_eq]
  rfl

theorem setAtIdx_get_other (i j : Nat) (f : Doc → Doc) (l : List Doc) (h : j ≠ i) :
    (setAtIdx i f l)[j]? = l[j]? := by
  rw [setAtIdx_eq_modify, List.getElem?_modify_ne _ _ (Ne.symm h)]

theorem getAt_cons_some {d x : Doc} {sel : Sel} {rest : List Sel} (h : getAt d (sel :: rest) = some x) :
    ∃ c, childAt d sel = some c ∧ getAt c rest = some x := by
  simp only [getAt] at h
  cases hc : childAt d sel with
  | none => simp [hc] at h
  | some c => exact ⟨c, rfl, by simpa only [hc] using h⟩

theorem mapDocs_eq_map (f : Doc → Doc) (l : List Doc) : mapDocs f l = l.map f := by
  induction l with
  | nil => rfl
  | cons a t ih => exact congrArg (f a :: ·) ih

theorem copyItems_eq_map (l : List Doc) : copyItems l = l.map copyDoc := by
  induction l with
  | nil => rfl
  | cons a t ih => exact congrArg (copyDoc a :: ·) ih

theorem dropUndef_eq_filter (l : List Doc) : dropUndef l = l.filter (fun d => !d.isUndef) := by
  induction l with
  | nil => rfl
  | cons a t ih =>
    cases a with
    | undef => exact ih
    | _ => exact congrArg (_ :: ·) ih

/-! ### copy and compress on the item storage -/

theorem liveEntries_copySlots (s : List Slot) :
    liveEntries (copySlots s) = (liveEntries s).map (fun e => (e.1, copyDoc e.2)) := by
  induction s with
  | nil => rfl
  | cons a t ih =>
    cases a with
    | none => exact ih
    | some e => exact congrArg ((e.1, copyDoc e.2) :: ·) ih

theorem noTombstones_copySlots (s : List Slot) : noTombstones (copySlots s) = true := by
  induction s with
  | nil => rfl
  | cons a t ih =>
    cases a with
    | none => exact ih
    | some e => exact ih

theorem liveEntries_compressSlots (s : List Slot) :
    liveEntries (compressSlots s) = (liveEntries s).map (fun e => (e.1, compress e.2)) := by
  induction s with
  | nil => rfl
  | cons a t ih =>
    cases a with
    | none => exact ih
    | some e => exact congrArg ((e.1, compress e.2) :: ·) ih

theorem noTombstones_compressSlots (s : List Slot) : noTombstones (compressSlots s) = true := by
  induction s with
  | nil => rfl
  | cons a t ih =>
    cases a with
    | none => exact ih
    | some e => exact ih

theorem compress_undef : compress undef = undef := by simp [compress]

theorem compressItems_eq (l : List Doc) : compressItems l = (dropUndef l).map compress := by
  induction l with
  | nil => rfl
  | cons a t ih =>
    cases a with
    | undef => exact ih
    | _ => exact congrArg (_ :: ·) ih

/-! ### slots without removed items, values that are not `undef` -/

theorem length_liveSlots (s : List Slot) : (liveSlots s).length = liveCount s := by
  induction s with
  | nil => rfl
  | cons a t ih =>
    cases a with
    | none => exact ih
    | some e => exact congrArg Nat.succ ih

theorem slot_get_of_noTombstones (s : List Slot) (h : noTombstones s = true) (i : Nat) :
    s[i]? = ((liveEntries s)[i]?).map some := by
  induction s generalizing i with
  | nil => simp [liveEntries]
  | cons a t ih =>
    cases a with
    | none => simp [noTombstones] at h
    | some e =>
      cases i with
      | zero => simp [liveEntries]
      | succ i => simpa [liveEntries] using ih (by simpa [noTombstones] using h) i

theorem isUndef_copyDoc (v : Doc) : (copyDoc v).isUndef = v.isUndef := by
  cases v <;> rfl

theorem nonUndef_some (v c : Doc) (h : nonUndef v = some c) : c = v ∧ v.isUndef = false := by
  unfold nonUndef at h
  split at h
  · cases h
  · rename_i hv; cases h; exact ⟨rfl, by simpa using hv⟩

end Qentem.Value
