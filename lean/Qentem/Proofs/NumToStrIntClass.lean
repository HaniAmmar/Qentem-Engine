import Qentem.Proofs.NumToStrReduce
import Qentem.Proofs.NumToStrRef
/-! Helper lemmas for C10: integer-valued numbers (in particular every double of magnitude ≥ 2^52 and every float
of magnitude ≥ 2^23).  The digit run is the integer itself, and the formatters only reverse its digits and (Fixed) append
the point and the zeros; the two zeros print as the integer `0` does.  The class on the fields of a double (`IntValued64`) and
of a float (`F32.IntValued32`). -/
namespace Qentem.Proofs.NumToStr
open Qentem.NumToStr Qentem.Generated.NumToStr Qentem

/-- an integer-valued normal double: exponent field `e ≥ 1023`, mantissa `2^52 + f = 2^j · o` with `o` odd
and no fractional bits left (`52 - j ≤ e - 1023`) -/
structure IntValued64 (e f j : Nat) : Prop where
  he1 : 1023 ≤ e
  he2 : e < 2047
  hf : f < 2 ^ 52
  hj : j ≤ 52
  hdiv : (2 ^ 52 + f) % 2 ^ j = 0
  hodd : ((2 ^ 52 + f) / 2 ^ j) % 2 = 1
  hint : 52 - j ≤ e - 1023

/-- its value -/
def intValue64 (e f : Nat) : Nat :=
  if 1075 ≤ e then (2 ^ 52 + f) * 2 ^ (e - 1075) else (2 ^ 52 + f) / 2 ^ (1075 - e)

theorem intValue64_small {e f : Nat} (he1 : 1023 ≤ e) (hbig : ¬ 52 < e - 1023) :
    intValue64 e f = (2 ^ 52 + f) / 2 ^ (52 - (e - 1023)) := by
  unfold intValue64
  by_cases h75 : 1075 ≤ e
  · have h : e = 1075 := by omega
    rw [if_pos h75, h]; simp
  · have h2 : 1075 - e = 52 - (e - 1023) := by omega
    rw [if_neg h75, h2]

theorem intValue64_pos {e f j : Nat} (h : IntValued64 e f j) : 0 < intValue64 e f := by
  obtain ⟨he1, he2, hf, hj, hdiv, hodd, hint⟩ := h
  unfold intValue64
  split
  · exact Nat.mul_pos (Nat.add_pos_left (Nat.two_pow_pos 52) f) (Nat.two_pow_pos _)
  · apply Nat.div_pos _ (Nat.two_pow_pos _)
    calc 2 ^ (1075 - e) ≤ 2 ^ 52 := Nat.pow_le_pow_right (by decide) (by omega)
      _ ≤ 2 ^ 52 + f := Nat.le_add_right _ _

/-! ### the digit run of an integer-valued number -/

/-- the value of a number with exponent field `e ≥ B` and no fraction bits -/
def intVal (M B f e : Nat) : Nat := mant M f e * 2 ^ (e - B) / 2 ^ M

theorem intVal_eq {M B f e : Nat} (hpos : B ≤ e) : intVal M B f e = valNum M B f e / valDen M B e := by
  unfold intVal valNum valDen; rw [if_pos hpos, if_pos hpos]

/-- the no-fraction block of `digitRun`: values `≥ 1` without fraction bits, or (Default) with a digit estimate
above the precision — then the estimated surplus of integer digits is dropped -/
theorem runFl_noFraction {M B f e p fmt : Nat} (hfmt : fmt ≤ 2) (hpos : B ≤ e) (he0 : e ≠ 0)
    (h : fracBits M B f e = 0 ∨ (fmt = 0 ∧ p < (e - B) * 30103 / 100000 + 1)) :
    runFl M B f e p fmt = 0 ∧ runDrop M B f e p fmt =
      (if fmt = 0 ∧ p < (e - B) * 30103 / 100000 + 1 then (e - B) * 30103 / 100000 + 1 - (p + 1) else 0) := by
  have hfix : fmt ≠ 0 → (decide (fmt = fmtSemiFixed) || decide (fmt = fmtFixed)) = true := by
    intro h0
    have : fmt = 1 ∨ fmt = 2 := by omega
    rcases this with rfl | rfl <;> decide
  simp only [fracBits, hpos, if_true] at h
  simp only [runFl, runDrop, hpos, if_true, decide_true, Bool.true_and, estDigits_normal he0]
  by_cases hx : fmt = 0 ∧ p < (e - B) * 30103 / 100000 + 1
  · obtain ⟨rfl, hx⟩ := hx
    have hfix0 : (decide ((0:Nat) = fmtSemiFixed) || decide ((0:Nat) = fmtFixed)) = false := by decide
    simp only [hfix0, hx, decide_true, Bool.not_false, Bool.and_true, Bool.or_true, if_true, and_self]
  · have h0 : M - findFirstBit (mant M f e) ≤ e - B := by have := h.resolve_right hx; omega
    have hextra : (decide (p < (e - B) * 30103 / 100000 + 1) &&
        !(decide (fmt = fmtSemiFixed) || decide (fmt = fmtFixed))) = false := by
      by_cases hf0 : fmt = 0
      · rw [decide_eq_false (fun hp => hx ⟨hf0, hp⟩)]; rfl
      · rw [hfix hf0]; exact Bool.and_false _
    simp only [h0, decide_true, Bool.true_or, if_true, hextra, Bool.false_eq_true, if_false, hx, and_self]

theorem runSpec_int {M B f e p fmt : Nat} (hM : M < 63) (hf : f < 2 ^ M) (hpos : B ≤ e) (he0 : e ≠ 0)
    (h0 : fracBits M B f e = 0) (hx : fmt = 1 ∨ fmt = 2 ∨ (fmt = 0 ∧ (e - B) * 30103 / 100000 + 1 ≤ p)) :
    runSpec M B f e p fmt = (intVal M B f e, (e - B) * 30103 / 100000 + 1, 0, true, false) := by
  obtain ⟨hfl, hd⟩ := runFl_noFraction (M := M) (f := f) (p := p) (fmt := fmt) (by omega) hpos he0 (Or.inl h0)
  rw [if_neg (by omega)] at hd
  rw [runSpec, hfl, hd, Nat.pow_zero, Nat.mul_one, Nat.mul_one,
    valDen_dvd hM hf (Or.inl he0) hpos h0, if_pos hpos, estDigits_normal he0, ← intVal_eq hpos, decide_eq_true hpos]
  simp

theorem FinVal.int_eq {M B f e num den : Nat} (hv : FinVal M B f e num den) (hM : M < 63) (hpos : B ≤ e) (he0 : e ≠ 0)
    (h0 : fracBits M B f e = 0) : num = intVal M B f e * den ∧ 0 < intVal M B f e := by
  obtain ⟨k, hk, hvn, hvd⟩ := hv.hval
  have hdvd := valDen_dvd hM hv.hf hv.hnz hpos h0
  have hq : intVal M B f e = num / den := by
    rw [intVal_eq hpos, hvn, hvd, Nat.mul_div_mul_left _ _ hk]
  have hmod : num % den = 0 := by
    rw [hvn, hvd, Nat.mul_mod_mul_left] at hdvd
    rcases Nat.mul_eq_zero.mp hdvd with h | h
    · omega
    · exact h
  rw [hq]
  exact ⟨(Nat.div_mul_cancel (Nat.dvd_of_mod_eq_zero hmod)).symm, Nat.div_pos (hv.ge_one hpos he0) hv.hden⟩

/-! ### the formatters on a digit run without fraction -/

theorem reverseFrom_append (s t : List Nat) : reverseFrom (s ++ t) s.length = s ++ t.reverse := by
  simp [reverseFrom]

theorem finishNumber_drop (s t : List Nat) (k : Nat) (hk : k ≤ t.length) :
    finishNumber s.length (s ++ t) (s.length + k) = .ok (s ++ (t.drop k).reverse) := by
  unfold finishNumber
  simp only [csub, Nat.le_add_right, if_true, Nat.add_sub_cancel_left, pure_bind, reverseFrom_append]
  unfold stepBack
  have h1 : k ≤ (s ++ t.reverse).length := by simp; omega
  have h2 : s.length ≤ (s ++ t.reverse).length - k := by simp; omega
  rw [if_pos h1, if_pos h2]
  have h3 : (s ++ t.reverse).length - k = s.length + (t.length - k) := by simp; omega
  rw [h3, List.take_append, List.take_of_length_le (by omega), Nat.add_sub_cancel_left, List.take_reverse]
  have : t.reverse.length - (t.length - k) = k := by simp; omega
  simp [pure, Except.pure]
  omega

/-- `formatStringNumberFixed` on a digit run without fraction: the digits, then (Fixed) `.` and `precision` zeros -/
theorem formatFixed_integer (fixedT : Bool) (s t : List Nat) (p : Nat) (hp : p ≤ 1048576) :
    formatFixed fixedT s.length (s ++ t) p 0 false =
      .ok (s ++ t.reverse ++ (if fixedT ∧ p ≠ 0 then 46 :: List.replicate p 48 else [])) := by
  have h8 : csub 8 (s ++ t).length s.length = .ok t.length := by simp [csub, pure, Except.pure]
  have hz := zerosLarge_eq hp
  have hfin := finishNumber_drop s t 0 (Nat.zero_le _)
  rw [Nat.add_zero, List.drop_zero] at hfin
  unfold formatFixed
  rw [h8]
  simp only [ok_bind, pure_bind, ne_eq, not_true_eq_false, if_false, hfin]
  cases fixedT
  · simp [pure, Except.pure]
  · simp only [if_true, fixedPad, true_and]
    by_cases hp0 : p = 0
    · simp [hp0, pure, Except.pure]
    · simp [hp0, hz, ok_bind, Ch.dot, pure, Except.pure]

/-- `formatStringNumberDefault` on a digit run without fraction that is not longer than the precision: the digits -/
theorem formatDefault_integer (s t : List Nat) (p cd : Nat) (hlen : t.length ≤ p) :
    formatDefault s.length (s ++ t) p cd 0 true false = .ok (s ++ t.reverse) := by
  have h3 : csub 3 (s ++ t).length s.length = .ok t.length := by simp [csub, pure, Except.pure]
  have hnl : ¬ (p < t.length) := by omega
  have hfin := finishNumber_drop s t 0 (Nat.zero_le _)
  rw [Nat.add_zero, List.drop_zero] at hfin
  unfold formatDefault
  rw [h3]
  simp only [ok_bind, pure_bind, defaultRound, hnl, if_false, defaultFraction, ne_eq, not_true_eq_false, hfin]
  rfl

/-! ### the zero class -/

theorem refBody_zero (f : Nat) {den : Nat} (hd : 0 < den) (p : Nat) :
    refBody f 0 den p = 48 :: (if f = fmtFixed ∧ ¬ p = 0 then 46 :: List.replicate p 48 else []) := by
  have hfb : ∀ q, FmtSpec.fixedBody 0 den q = D 0 ++ (if q = 0 then [] else 46 :: List.replicate q 48) := by
    intro q
    have := fixedBody_int 0 hd q
    rwa [Nat.zero_mul] at this
  unfold refBody
  by_cases hf : f = fmtFixed
  · rw [if_pos hf, hfb]
    by_cases hp : p = 0 <;> simp [hf, hp, show D 0 = [48] from rfl]
  · rw [if_neg hf, if_neg (show ¬ (f = fmtFixed ∧ ¬ p = 0) from fun h => hf h.1)]
    by_cases hs : f = fmtSemiFixed
    · rw [if_pos hs, hfb, stripFraction_int]; rfl
    · rw [if_neg hs]
      unfold FmtSpec.generalBody
      have hx : (-4 : Int) ≤ 0 ∧ (0 : Int) < ((if p = 0 then 1 else p : Nat) : Int) :=
        ⟨by decide, by split <;> omega⟩
      simp only [if_true, hx, and_self, hfb, stripFraction_int]
      rfl

/-- both zeros: `0`, `-0`, and in the Fixed format the point and `p` zeros -/
theorem zero {c : Cfg} {M X : Nat} (hc : Masks c M X) (hX : X ≠ 0) (pre : List Nat) (bits p f : Nat) (hp : p ≤ 1048576)
    (he : (bits / 2 ^ M) % 2 ^ X = 0) (hf : bits % 2 ^ M = 0) :
    realToString c pre bits p f = .ok (pre ++ FmtSpec.formatVal (FmtSpec.decode M X bits) p (fmtOf f)) := by
  obtain ⟨h1, h2, h3⟩ := fields hc bits
  have hX1 : 1 < 2 ^ X := Nat.one_lt_two_pow (by omega)
  have hb : bits &&& c.exponentMask = 0 := by rw [h1, he, Nat.zero_mul]
  have hm : ¬ (0 = c.exponentMask) := by
    rw [hc.emask]; exact (Nat.mul_ne_zero (by omega) (Nat.two_pow_pos M).ne').symm
  obtain ⟨den, hden, hdec⟩ : ∃ den, 0 < den ∧
      FmtSpec.decode M X bits = .fin (decide (bits / 2 ^ (M + X) % 2 = 1)) 0 den := by
    unfold FmtSpec.decode
    simp only [he, hf, if_true, show ¬ (0 = 2 ^ X - 1) by omega, if_false, Nat.zero_mul]
    split
    · exact ⟨1, by decide, rfl⟩
    · exact ⟨_, Nat.two_pow_pos _, rfl⟩
  have hz := zerosLarge_eq hp
  unfold realToString
  simp only [hb, h2, h3, hf, ne_eq, hm, not_false_eq_true, not_true_eq_false, if_true,
    or_self, if_false, hdec, formatVal_fin, refBody_zero f hden, ← sign_append]
  by_cases hfx : f = fmtFixed
  · subst hfx
    rw [if_neg (show ¬ (fmtFixed = fmtDefault ∧ p = 0) from fun h => absurd h.1 (by decide))]
    by_cases hp0 : p = 0
    · simp only [hp0, not_true_eq_false, and_false, if_false]; rfl
    · simp [hp0, hz, Ch.zero, Ch.dot, bind, Except.bind, pure, Except.pure]
  · simp only [hfx, false_and, if_false]; rfl

/-! ### the class -/

theorem R_pos {n : Nat} (hn : 0 < n) : R n = (D n).reverse := if_neg (by omega)

/-- **integer-valued numbers with at most `P` digits, Default**: the plain numeral -/
theorem layout_int_default {M B f e P : Nat} (hM : M < 63) (hf : f < 2 ^ M) (hpos : B ≤ e) (he0 : e ≠ 0)
    (h0 : fracBits M B f e = 0)
    (hx : (e - B) * 30103 / 100000 + 1 ≤ P) (hn : 0 < intVal M B f e) (hl : (D (intVal M B f e)).length ≤ P)
    (s : List Nat) :
    layout 0 s.length (s ++ R (runSpec M B f e P 0).1) P (runSpec M B f e P 0) = .ok (s ++ D (intVal M B f e)) := by
  rw [runSpec_int hM hf hpos he0 h0 (Or.inr (Or.inr ⟨rfl, hx⟩)), R_pos hn, layout_default,
    formatDefault_integer s _ P _ (by simpa using hl), List.reverse_reverse]

/-! ### doubles -/

theorem intValue64_eq {e f j : Nat} (h : IntValued64 e f j) : intValue64 e f = intVal 52 1023 f e := by
  obtain ⟨he1, he2, hf, hj, hdiv, hodd, hint⟩ := h
  unfold intValue64 intVal mant
  rw [if_neg (show ¬ e = 0 by omega)]
  generalize 2 ^ 52 + f = m
  by_cases h75 : 1075 ≤ e
  · rw [if_pos h75, show e - 1023 = (e - 1075) + 52 by omega, Nat.pow_add, ← Nat.mul_assoc,
      Nat.mul_div_cancel _ (Nat.two_pow_pos 52)]
  · have h52 : 1075 - e + (e - 1023) = 52 := by omega
    rw [if_neg h75, ← h52, Nat.pow_add, Nat.mul_div_mul_right _ _ (Nat.two_pow_pos _)]

theorem IntValued64.fields {e f j : Nat} (h : IntValued64 e f j) :
    1023 ≤ e ∧ e ≠ 0 ∧ e ≠ 2 ^ 11 - 1 ∧ fracBits 52 1023 f e = 0 := by
  obtain ⟨he1, he2, hf, hj, hdiv, hodd, hint⟩ := h
  have hm : mant 52 f e = 2 ^ 52 + f := if_neg (by omega)
  refine ⟨he1, by omega, by omega, ?_⟩
  simp only [fracBits, hm, he1, if_true, findFirstBit_spec hdiv hodd (by omega)]
  omega

theorem ctz_of_fracBits_zero {M B f e : Nat} (hM : M < 63) (hf : f < 2 ^ M) (hpos : B ≤ e) (he0 : e ≠ 0)
    (h0 : fracBits M B f e = 0) :
    ∃ j, j ≤ M ∧ (2 ^ M + f) % 2 ^ j = 0 ∧ ((2 ^ M + f) / 2 ^ j) % 2 = 1 ∧ M - j ≤ e - B := by
  have hm : mant M f e = 2 ^ M + f := if_neg he0
  have hmm := findFirstBit_mant hM (mant_pos (M := M) (Or.inl he0)) (mant_lt (e := e) hf)
  simp only [fracBits, hpos, if_true] at h0
  rw [hm] at hmm h0
  exact ⟨_, hmm.1, hmm.2.1, hmm.2.2, by omega⟩

theorem fracBits_of_big {M B f e : Nat} (he : B + M ≤ e) : fracBits M B f e = 0 := by
  simp only [fracBits, show B ≤ e by omega, if_true]; omega

theorem intValued_of_big {e f : Nat} (he1 : 1075 ≤ e) (he2 : e < 2047) (hf : f < 2 ^ 52) : ∃ j, IntValued64 e f j := by
  obtain ⟨j, h1, h2, h3, h4⟩ := ctz_of_fracBits_zero (M := 52) (B := 1023) (e := e) (by decide) hf (by omega) (by omega)
    (fracBits_of_big (by omega))
  exact ⟨j, by omega, he2, hf, h1, h2, h3, h4⟩

end Qentem.Proofs.NumToStr

namespace Qentem.Proofs.NumToStr.F32

/-! ### floats -/

/-- an integer-valued normal float: exponent field `e ≥ 127`, mantissa `2^23 + f = 2^j · o` with `o` odd
and no fractional bits left (`23 - j ≤ e - 127`) -/
structure IntValued32 (e f j : Nat) : Prop where
  he1 : 127 ≤ e
  he2 : e < 255
  hf : f < 2 ^ 23
  hj : j ≤ 23
  hdiv : (2 ^ 23 + f) % 2 ^ j = 0
  hodd : ((2 ^ 23 + f) / 2 ^ j) % 2 = 1
  hint : 23 - j ≤ e - 127

theorem IntValued32.fields {e f j : Nat} (h : IntValued32 e f j) :
    127 ≤ e ∧ e ≠ 0 ∧ e ≠ 2 ^ 8 - 1 ∧ fracBits 23 127 f e = 0 := by
  obtain ⟨he1, he2, hf, hj, hdiv, hodd, hint⟩ := h
  have hm : mant 23 f e = 2 ^ 23 + f := if_neg (by omega)
  refine ⟨he1, by omega, by omega, ?_⟩
  simp only [fracBits, hm, he1, if_true, findFirstBit_spec hdiv hodd (by omega)]
  omega

theorem intValued_of_big {e f : Nat} (he1 : 150 ≤ e) (he2 : e < 255) (hf : f < 2 ^ 23) : ∃ j, IntValued32 e f j := by
  obtain ⟨j, h1, h2, h3, h4⟩ := ctz_of_fracBits_zero (M := 23) (B := 127) (e := e) (by decide) hf (by omega) (by omega)
    (fracBits_of_big (by omega))
  exact ⟨j, by omega, he2, hf, h1, h2, h3, h4⟩

end Qentem.Proofs.NumToStr.F32
