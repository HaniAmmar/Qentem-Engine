import Qentem.Model.Value
import Qentem.Model.ValueOps
import Qentem.Proofs.ValueDoc
/-! Reading back through a path what a chain of subscripts wrote (`getAt ∘ updPath`), and what a
write through `GetValue` pointers leaves (`getAt ∘ modAt`). -/
namespace Qentem.Value
open Doc

theorem nonUndef_of_defined (v : Doc) (h : v.isUndef = false) : nonUndef v = some v := by
  simp [nonUndef, h]

theorem updKey_read (k : Key) (F : Doc → Doc) (d : Doc) : ∃ o, childKey (updKey k F d) k = nonUndef (F o) :=
  ⟨foundOrUndef (slotFind k (objExpand (asObj d).1 (asObj d).2).2), by simp [updKey, childKey, slotFind_slotUpd_same]⟩

theorem updIdx_read (i : Nat) (F : Doc → Doc) (d : Doc) : ∃ o, childIdx (updIdx i F d) i = nonUndef (F o) := by
  have happ : ∀ (l : List Doc) (n : Nat) (y : Doc), (l ++ List.replicate n undef ++ [y])[l.length + n]? = some y := by
    intro l n y
    rw [List.getElem?_append_right (by simp)]
    simp
  have hnil : ∀ y : Doc, (List.replicate i undef ++ [y])[i]? = some y := by
    intro y
    simp
  unfold updIdx
  split
  · rename_i items
    by_cases h : i < items.length
    · exact ⟨items[i], by simp [h, childIdx, setAtIdx_get_same]⟩
    · obtain ⟨n, rfl⟩ : ∃ n, i = items.length + n := ⟨i - items.length, by omega⟩
      exact ⟨undef, by simp only [h, if_false, childIdx, Nat.add_sub_cancel_left, happ]⟩
  · rename_i c s
    split
    · rename_i k v hs
      have hi : i < s.length := (List.getElem?_eq_some_iff.1 hs).1
      exact ⟨v, by simp only [childIdx]; simp [hi]⟩
    · exact ⟨undef, by simp only [childIdx, hnil]⟩
  · exact ⟨undef, by simp only [childIdx, hnil]⟩

theorem updIdx_defined (i : Nat) (F : Doc → Doc) (d : Doc) : (updIdx i F d).isUndef = false := by
  unfold updIdx
  split
  · split <;> rfl
  · split <;> rfl
  · rfl

theorem updPath_defined (p : List Sel) (y : Doc) (hy : y.isUndef = false) (d : Doc) :
    (updPath p (fun _ => y) d).isUndef = false := by
  cases p with
  | nil => exact hy
  | cons sel rest =>
    cases sel with
    | key k => rfl
    | idx i => exact updIdx_defined i _ d

theorem getAt_updPath (p : List Sel) (y : Doc) (hy : y.isUndef = false) :
    ∀ d, getAt (updPath p (fun _ => y) d) p = some y := by
  induction p with
  | nil => intro d; rfl
  | cons sel rest ih =>
    intro d
    cases sel with
    | key k =>
      obtain ⟨o, ho⟩ := updKey_read k (updPath rest (fun _ => y)) d
      simp only [updPath, getAt, childAt, ho, nonUndef_of_defined _ (updPath_defined rest y hy o)]
      exact ih o
    | idx i =>
      obtain ⟨o, ho⟩ := updIdx_read i (updPath rest (fun _ => y)) d
      simp only [updPath, getAt, childAt, ho, nonUndef_of_defined _ (updPath_defined rest y hy o)]
      exact ih o

theorem slotFind_slotSetVal (k : Key) (y v : Doc) (s : List Slot) (h : slotFind k s = some v) :
    slotFind k (slotSetVal k y s) = some y := by
  induction s using slots_ind k with
  | nil => cases h
  | tomb r ih => exact ih h
  | hit v2 r => simp
  | miss k' v2 r hk ih => simpa [hk] using ih (by simpa [hk] using h)

theorem childAt_setChild (d : Doc) (sel : Sel) (c y : Doc) (hc : childAt d sel = some c) :
    childAt (setChild d sel y) sel = nonUndef y ∧ (setChild d sel y).isUndef = false := by
  cases sel with
  | key k =>
    rw [childAt] at hc
    unfold childKey at hc
    split at hc
    · split at hc
      · rename_i v hf
        exact ⟨by simp only [setChild, childAt, childKey, slotFind_slotSetVal k y v _ hf], rfl⟩
      · cases hc
    · split at hc
      · rename_i ki hk
        split at hc
        · rename_i v hg
          exact ⟨by simp [setChild, childAt, childKey, hk, setAtIdx_get_same, hg], by simp only [setChild, hk, isUndef]⟩
        · cases hc
      · cases hc
    · cases hc
  | idx i =>
    rw [childAt] at hc
    unfold childIdx at hc
    split at hc
    · rename_i cap s
      split at hc
      · rename_i k v hs
        have hi : i < s.length := (List.getElem?_eq_some_iff.1 hs).1
        exact ⟨by simp only [setChild, hs, childAt, childIdx]; simp [hi], by simp only [setChild, hs, isUndef]⟩
      · cases hc
    · split at hc
      · rename_i v hg
        exact ⟨by simp [setChild, childAt, childIdx, setAtIdx_get_same, hg], rfl⟩
      · cases hc
    · cases hc

theorem modAt_defined (f : Doc → Doc) (sel : Sel) (rest : List Sel) (d x : Doc)
    (h : getAt d (sel :: rest) = some x) : (modAt d (sel :: rest) f).isUndef = false := by
  obtain ⟨c, hc, _⟩ := getAt_cons_some h
  simp only [modAt, hc]; exact (childAt_setChild d sel c _ hc).2

theorem getAt_modAt_undef (p : List Sel) (hp : p ≠ []) :
    ∀ (d x : Doc), getAt d p = some x → getAt (modAt d p (fun _ => undef)) p = none := by
  induction p with
  | nil => exact absurd rfl hp
  | cons sel rest ih =>
    intro d x h
    obtain ⟨c, hc, h⟩ := getAt_cons_some h
    simp only [modAt, hc, getAt, (childAt_setChild d sel c _ hc).1]
    cases rest with
    | nil => simp [modAt, nonUndef, isUndef]
    | cons sel2 rest2 =>
      rw [nonUndef_of_defined _ (modAt_defined _ sel2 rest2 c x h)]
      exact ih (by simp) c x h

theorem getAt_modAt (p : List Sel) (y : Doc) (hy : y.isUndef = false) :
    ∀ (d x : Doc), getAt d p = some x → getAt (modAt d p (fun _ => y)) p = some y := by
  induction p with
  | nil => intro d x _; rfl
  | cons sel rest ih =>
    intro d x h
    obtain ⟨c, hc, h⟩ := getAt_cons_some h
    have hm : (modAt c rest (fun _ => y)).isUndef = false := by
      cases rest with
      | nil => exact hy
      | cons sel2 rest2 => exact modAt_defined _ sel2 rest2 c x h
    simp only [modAt, hc, getAt, (childAt_setChild d sel c _ hc).1, nonUndef_of_defined _ hm]
    exact ih c x h

end Qentem.Value
