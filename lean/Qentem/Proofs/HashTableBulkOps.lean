import Qentem.Proofs.HashTableKeyOps
/-!
Refinement of the operations on the whole table.  None of them edits a chain in place: the allocation family (Clear,
Reset, Reserve, Resize, Expect, Compress, copy, move) reallocates and lets `generateHash` rebuild; `Sort` only swaps items
(so the slots are permuted, and the sort commutes with the slot abstraction), zeroes the heads and rebuilds; `operator+=`
(both overloads have the same effect on the destination) is a fold of the one-key store over the source's live items.
Which permutation `Sort` yields (ordered keys) is the business of C15; here only what the map needs.
-/
namespace Qentem.HashTable
variable {V : Type}

theorem inv_fresh (H : List Nat → Nat) {c : Nat} (hc : c = 0 ∨ ∃ k, c = 2 ^ k) :
    Inv H (⟨c, Array.replicate c 0, #[]⟩ : HT V) :=
  inv_of_stat hc Array.size_replicate (Nat.zero_le c) ⟨nofun, List.Pairwise.nil, nofun⟩
    ⟨fun _ => [], fun b hb => (Array.getElem?_replicate.trans (if_pos hb) : (Array.replicate c 0)[b]? = some 0),
      fun _ _ => List.nodup_nil, nofun, fun j it h => by simp at h⟩

theorem inv_empty (H : List Nat → Nat) : Inv H (HT.empty : HT V) := inv_fresh H (Or.inl rfl)

theorem abs_empty : abs (HT.empty : HT V) = Spec.empty := rfl

theorem items_empty_of_cap_zero {H : List Nat → Nat} {s : HT V} (hI : Inv H s) (h : s.cap = 0) : s.items = #[] := by
  have := hI.size_le
  exact Array.eq_empty_of_size_eq_zero (by omega)

theorem abs_of_cap_zero {H : List Nat → Nat} {s : HT V} (hI : Inv H s) (h : s.cap = 0) : abs s = Spec.empty := by
  simp [abs, absSlots, items_empty_of_cap_zero hI h, h, Spec.empty]

theorem reset_spec {H : List Nat → Nat} {s : HT V} (hI : Inv H s) : Inv H (reset s) ∧ abs (reset s) = Spec.empty := by
  unfold reset
  by_cases h : s.cap = 0
  · simp only [h, ne_eq, not_true_eq_false, if_false]
    exact ⟨hI, abs_of_cap_zero hI h⟩
  · simp only [h, ne_eq, not_false_eq_true, if_true]
    exact ⟨inv_empty H, rfl⟩

theorem clear_spec {H : List Nat → Nat} {s : HT V} (hI : Inv H s) :
    Inv H (clear s) ∧ abs (clear s) = Spec.clear (abs s) := by
  unfold clear
  by_cases h : s.size = 0
  · simp only [h, ne_eq, not_true_eq_false, if_false]
    refine ⟨hI, ?_⟩
    have : s.items = #[] := Array.eq_empty_of_size_eq_zero h
    simp [abs, absSlots, Spec.clear, this]
  · simp only [h, ne_eq, not_false_eq_true, if_true]
    exact ⟨inv_fresh H hI.cap_pow, by simp [abs, absSlots, Spec.clear]⟩

theorem reserve_spec {H : List Nat → Nat} {s : HT V} (hI : Inv H s) (n : Nat) :
    Inv H (reserve s n) ∧ abs (reserve s n) = Spec.reserve (abs s) n := by
  have hr := reset_spec hI
  have hitems : (reset s).items = #[] := by
    unfold reset
    by_cases h : s.cap = 0
    · simp only [h, ne_eq, not_true_eq_false, if_false]; exact items_empty_of_cap_zero hI h
    · simp only [h, ne_eq, not_false_eq_true, if_true]; rfl
  unfold reserve
  by_cases hn : n = 0
  · simp only [hn, ne_eq, not_true_eq_false, if_false]
    exact ⟨hr.1, by rw [hr.2]; simp [Spec.reserve]⟩
  · simp only [hn, ne_eq, not_false_eq_true, if_true, allocate, hitems]
    exact ⟨inv_fresh H (Or.inr (allocCap_pow n)), by simp [abs, absSlots, Spec.reserve, hn]⟩

theorem resizeTo_spec {H : List Nat → Nat} {s : HT V} (hI : Inv H s) (n : Nat) :
    ∃ s', resizeTo s n = some s' ∧ Inv H s' ∧ abs s' = Spec.resizeTo (abs s) n := by
  unfold resizeTo
  by_cases hn : n = 0
  · simp only [hn, if_true]
    exact ⟨_, rfl, (reset_spec hI).1, by rw [(reset_spec hI).2]; simp [Spec.resizeTo]⟩
  · simp only [hn, if_false]
    set s2 : HT V := if s.size > n then { s with items := s.items.extract 0 n } else s with hs2
    have hstats : stats s2 = (stats s).take n := by
      by_cases hgt : s.size > n
      · simp only [hs2, hgt, if_true, stats, Array.toList_extract]
        rw [List.extract_eq_take_drop]
        simp
      · simp only [hs2, hgt, if_false]
        rw [List.take_of_length_le]
        simp only [stats, List.length_map, Array.length_toList]
        simp only [HT.size] at hgt; omega
    have hst2 : StatOK H (stats s2) := by rw [hstats]; exact hI.statOK.sublist (List.take_sublist _ _)
    have hlen : s2.items.size ≤ n := by
      have : (stats s2).length ≤ n := by rw [hstats]; simp; omega
      simpa [stats] using this
    obtain ⟨s', hrun, hI', habs⟩ := resize_spec hst2 n (fit_of_le hlen)
    refine ⟨s', hrun, hI', ?_⟩
    rw [habs]
    simp only [Spec.resizeTo, hn, if_false, abs, absSlots_eq, hstats, List.map_take]

theorem expect_spec {H : List Nat → Nat} {s : HT V} (hI : Inv H s) (count : Nat) :
    ∃ s', expect s count = some s' ∧ Inv H s' ∧ abs s' = Spec.expect (abs s) count := by
  unfold Spec.expect expect
  rw [show (abs s).slots.length = s.size from absSlots_length s]
  exact (resize_if hI _ _ fun _ => fit_of_le (Nat.le_add_left _ _)).imp fun _ h => ⟨h.1, h.2.1, h.2.2.1⟩

theorem actualSize_eq (s : HT V) : actualSize s = (s.items.filter live).size := Array.countP_eq_size_filter ..

theorem liveCount_abs (s : HT V) : Spec.liveCount (abs s) = actualSize s := by
  simp only [Spec.liveCount, abs, absSlots_eq, compact_map_slotOf, List.length_map, actualSize_eq]
  have := congrArg List.length (stats_filter_live s.items)
  simp only [List.length_map, Array.length_toList] at this
  rw [this]; rfl

theorem compress_spec {H : List Nat → Nat} {s : HT V} (hI : Inv H s) :
    ∃ s', compress s = some s' ∧ Inv H s' ∧ abs s' = Spec.compress (abs s) := by
  unfold Spec.compress compress
  rw [liveCount_abs, show (abs s).slots.length = s.size from absSlots_length s]
  by_cases h0 : actualSize s = 0
  · simp only [h0, ne_eq, not_true_eq_false, if_false]; exact ⟨_, rfl, reset_spec hI⟩
  · simp only [h0, ne_eq, not_false_eq_true, if_true]
    exact (resize_if hI _ _ fun _ => actualSize_eq s ▸ allocCap_ge _).imp fun _ h => ⟨h.1, h.2.1, h.2.2.1⟩

theorem copy_spec {H : List Nat → Nat} {s : HT V} (hI : Inv H s) :
    ∃ s', copy s = some s' ∧ Inv H s' ∧ abs s' = Spec.copy (abs s) := by
  unfold Spec.copy copy
  rw [show (abs s).slots.length = s.size from absSlots_length s]
  by_cases h0 : s.size = 0
  · simp only [h0, ne_eq, not_true_eq_false, if_false]; exact ⟨_, rfl, inv_empty H, rfl⟩
  · simp only [h0, ne_eq, not_false_eq_true, if_true]; exact resize_spec hI.statOK _ (fit_of_le (Nat.le_refl _))

/-- Move construction / move assignment: the destination is the old source, the source is empty. -/
theorem move_spec {H : List Nat → Nat} {s : HT V} (hI : Inv H s) :
    Inv H (moveFrom s).1 ∧ abs (moveFrom s).1 = abs s ∧ Inv H (moveFrom s).2 ∧ abs (moveFrom s).2 = Spec.empty :=
  ⟨hI, rfl, inv_empty H, rfl⟩

section
open Spec (putOpt)

def slotOfItem (it : Item V) : Option (List Nat × V) := if it.hash = 0 then none else some (it.key, it.val)

theorem absSlots_eq_map (s : HT V) : absSlots s = s.items.toList.map slotOfItem := rfl

theorem foldl_putOpt_compact (l : Slots V) (sl : Slots V) :
    (Spec.compact l).foldl putOpt sl = l.foldl putOpt sl := by
  induction l generalizing sl with
  | nil => rfl
  | cons o t ih =>
    cases o with
    | none => exact ih sl
    | some kv => exact ih _

/-- One live source item: `find`, then the store of `put_spec`, then the rest of the loop. -/
theorem mergeItems_cons {it : Item V} (rest : List (Item V)) (s : HT V) (h : it.hash ≠ 0) :
    mergeItems (it :: rest) s = (match find s it.key it.hash with
        | none => none
        | some (_, some i) => some (setVal s i it.val)
        | some (l, none) => insertAt s l it.key it.hash it.val).bind (mergeItems rest) := by
  rw [mergeItems, if_pos h]
  cases find s it.key it.hash with
  | none => rfl
  | some r =>
    obtain ⟨l, o⟩ := r
    cases o with
    | some i => rfl
    | none =>
      show (match insertAt s l it.key it.hash it.val with | none => none | some s' => mergeItems rest s') =
        (insertAt s l it.key it.hash it.val).bind (mergeItems rest)
      cases insertAt s l it.key it.hash it.val <;> rfl

theorem mergeItems_spec {H : List Nat → Nat} (hH : ∀ k, H k ≠ 0) : ∀ (l : List (Item V)) {s : HT V},
    Inv H s → (∀ it ∈ l, it.hash ≠ 0 → it.hash = H it.key) → s.items.size + l.length ≤ s.cap →
    ∃ s', mergeItems l s = some s' ∧ Inv H s' ∧ s'.cap = s.cap ∧
      absSlots s' = (l.map slotOfItem).foldl putOpt (absSlots s)
  | [], s, hI, _, _ => ⟨s, rfl, hI, rfl, rfl⟩
  | it :: rest, s, hI, hsrc, hroom => by
    simp only [List.length_cons] at hroom
    have hrest : ∀ x ∈ rest, x.hash ≠ 0 → x.hash = H x.key := fun x hx => hsrc x (List.mem_cons_of_mem _ hx)
    by_cases hd : it.hash = 0
    · obtain ⟨s', hrun, hI', hcap, habs⟩ := mergeItems_spec hH rest hI hrest (by omega)
      refine ⟨s', by simp [mergeItems, hd, hrun], hI', hcap, ?_⟩
      simp [habs, slotOfItem, hd, putOpt]
    · obtain ⟨s1, hput, hI1, hcap1, hsize1, habs1⟩ := put_spec hI hH (by omega) it.key it.val
      obtain ⟨s', hrun, hI', hcap, habs⟩ := mergeItems_spec hH rest hI1 hrest (by omega)
      refine ⟨s', ?_, hI', hcap.trans hcap1, ?_⟩
      · rw [mergeItems_cons rest s hd, hsrc it List.mem_cons_self hd]
        exact (congrArg (fun o => o.bind (mergeItems rest)) hput).trans hrun
      · rw [habs, habs1]
        simp only [List.map_cons, List.foldl_cons, slotOfItem, hd, if_false, putOpt]

theorem merge_spec {H : List Nat → Nat} (hH : ∀ k, H k ≠ 0) {s src : HT V} (hI : Inv H s) (hS : Inv H src) :
    ∃ s', merge s src = some s' ∧ Inv H s' ∧ abs s' = Spec.merge (abs s) (abs src) := by
  have hsrc : ∀ it ∈ src.items.toList, it.hash ≠ 0 → it.hash = H it.key := by
    intro it hit
    obtain ⟨j, hj⟩ := Array.mem_iff_getElem?.mp (Array.mem_toList_iff.mp hit)
    exact hS.hash_ok j it hj
  -- the optional growth of the destination, on both sides
  have hgrow : ∃ s1, (if s.size + src.size > s.cap then resize s (s.size + src.size) else some s) = some s1 ∧
      Inv H s1 ∧ s1.items.size + src.items.toList.length ≤ s1.cap ∧
      abs s1 = if s.size + src.size > s.cap then Spec.realloc (abs s) (s.size + src.size) else abs s := by
    obtain ⟨s1, hrun1, hI1, habs1, hyes, hno⟩ :=
      resize_if hI (s.size + src.size > s.cap) (s.size + src.size) fun _ => fit_of_le (Nat.le_add_right _ _)
    refine ⟨s1, hrun1, hI1, ?_, habs1⟩
    have := allocCap_ge (s.size + src.size)
    by_cases hgrow : s.size + src.size > s.cap
    · have := hyes hgrow
      simp only [HT.size, Array.length_toList] at *; omega
    · rw [hno hgrow]
      simp only [HT.size, Array.length_toList] at *; omega
  obtain ⟨s1, hrun1, hI1, hroom, habs1⟩ := hgrow
  obtain ⟨s', hrun, hI', hcap, habs⟩ := mergeItems_spec hH src.items.toList hI1 hsrc hroom
  refine ⟨s', by unfold merge; simp only [hrun1]; exact hrun, hI', ?_⟩
  unfold Spec.merge
  simp only
  rw [show (abs s).slots.length = s.size from absSlots_length s,
    show (abs src).slots.length = src.size from absSlots_length src, foldl_putOpt_compact,
    show (if s.size + src.size > (abs s).cap then Spec.realloc (abs s) (s.size + src.size) else abs s) = abs s1
      from habs1.symm]
  simp only [abs, hcap, habs]
  rfl

theorem buildOperand_spec [Inhabited V] {H : List Nat → Nat} (hH : ∀ k, H k ≠ 0)
    (ins : List (List Nat × V)) (rem : List (List Nat)) :
    ∃ src, buildOperand H ins rem = some src ∧ Inv H src ∧ abs src = Spec.buildOperand ins rem := by
  have hfold : ∀ {α : Type} (f : HT V → α → Option (HT V)) (g : Spec V → α → Spec V),
      (∀ {s : HT V} (a : α), Inv H s → ∃ s', f s a = some s' ∧ Inv H s' ∧ abs s' = g (abs s) a) →
      ∀ (l : List α) {s : HT V}, Inv H s →
      ∃ s', l.foldlM f s = some s' ∧ Inv H s' ∧ abs s' = l.foldl g (abs s) := by
    intro α f g hstep l
    induction l with
    | nil => intro s hI; exact ⟨s, rfl, hI, rfl⟩
    | cons a t ih =>
      intro s hI
      obtain ⟨s1, h1, hI1, ha1⟩ := hstep a hI
      obtain ⟨s', h', hI', ha'⟩ := ih hI1
      exact ⟨s', by simp [List.foldlM, h1, h'], hI', by rw [ha', ha1]; rfl⟩
  obtain ⟨s1, h1, hI1, ha1⟩ := hfold (fun s kv => insert H s kv.1 kv.2) (fun sp kv => Spec.insert sp kv.1 kv.2)
    (fun kv hI => insert_spec hI hH kv.1 kv.2) ins (inv_empty H)
  obtain ⟨s2, h2, hI2, ha2⟩ := hfold (fun s k => remove H s k) Spec.remove (fun k hI => remove_spec hI hH k) rem hI1
  exact ⟨s2, by simp [buildOperand, h1, h2], hI2, by rw [ha2, ha1]; rfl⟩

end

theorem slotOfItem_eq (it : Item V) : slotOfItem it = slotOf (stat it) := rfl

theorem sort_spec {H : List Nat → Nat} (ord : Nat → Nat) {s : HT V} (hI : Inv H s) (ascend : Bool) :
    ∃ s', sort ord s ascend = some s' ∧ Inv H s' ∧ abs s' = Spec.sort ord (abs s) ascend := by
  have hcmp : ∀ x ∈ s.items, ∀ p ∈ s.items,
      itemCmp ord ascend x p = Spec.slotCmp ord ascend (slotOfItem x) (slotOfItem p) := by
    have hkey : ∀ x ∈ s.items, Spec.slotKey (slotOfItem x) = x.key := by
      intro x hx
      obtain ⟨j, hj⟩ := Array.mem_iff_getElem?.mp hx
      by_cases hd : x.hash = 0
      · simp [slotOfItem, hd, Spec.slotKey, hI.dead_key j x hj hd]
      · simp [slotOfItem, hd, Spec.slotKey]
    intro x hx p hp
    simp only [itemCmp, Spec.slotCmp, hkey x hx, hkey p hp]
  obtain ⟨hmap, hperm⟩ := sortSeg_map_perm (itemCmp ord ascend) (Spec.slotCmp ord ascend) slotOfItem
    (s.size + 1) s.items 0 s.size hcmp
  set sorted := sortSeg (itemCmp ord ascend) (s.size + 1) s.items 0 s.size with hsorted
  have hsz : sorted.size = s.items.size := hperm.size_eq
  have hspec : Spec.sort ord (abs s) ascend = ⟨s.cap, sorted.toList.map slotOfItem⟩ := by
    simp only [Spec.sort, abs, absSlots_length]
    congr 1
    rw [← Array.toList_map, hmap]
    congr 2
    apply Array.ext'
    simp [absSlots_eq_map]
  have hst : StatOK H (sorted.toList.map stat) :=
    hI.statOK.perm ((hperm.toList).map stat)
  unfold sort
  rw [← hsorted]
  by_cases hcap : s.cap = 0
  · have hem : s.items = #[] := items_empty_of_cap_zero hI hcap
    have hsem : sorted = #[] := Array.eq_empty_of_size_eq_zero (by rw [hsz, hem]; rfl)
    refine ⟨⟨s.cap, Array.replicate s.cap 0, sorted⟩, ?_, ?_, ?_⟩
    · simp [generateHash, HT.size, hsem, genLoop]
    · rw [hsem]; exact inv_fresh H hI.cap_pow
    · rw [hspec]; rfl
  · obtain ⟨s', hrun, hcap', hheads, hstats, hch⟩ :=
      generateHash_spec (t := ⟨s.cap, Array.replicate s.cap 0, sorted⟩) (hI.cap_pow_of_ne hcap) rfl
    have hstats : stats s' = sorted.toList.map stat := hstats
    refine ⟨s', hrun, inv_of_stat (Or.inr (hcap' ▸ hI.cap_pow_of_ne hcap)) hheads ?_ (hstats ▸ hst) hch, ?_⟩
    · rw [← stats_length, hstats, List.length_map, Array.length_toList, hcap', hsz]; exact hI.size_le
    · rw [hspec]
      simp only [abs, hcap', absSlots_eq, hstats, List.map_map]
      rfl

end Qentem.HashTable
