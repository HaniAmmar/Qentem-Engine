import Qentem.Model.Expr
/-!
# C04 — 64-bit wrapping arithmetic against integer arithmetic

A 64-bit pattern is its signed reading plus 0 or 2^64 (`toInt_split`), and the signed reading of a
wrapped value is any integer in the signed range congruent to it (`toInt_wrap_of`).  The wrapped sum,
difference and product of two patterns (`toInt_add`, `toInt_sub`, `toInt_mul`) and `PowerOf` follow.
-/
namespace Qentem.Expr

theorem W64_eq : W64 = 2 * H64 := rfl

theorem wrap_lt (n : Nat) : wrap n < W64 := Nat.mod_lt _ (by decide)

theorem wrap_of_lt {n : Nat} (h : n < W64) : wrap n = n := Nat.mod_eq_of_lt h

theorem toInt_of_lt {x : Nat} (h : x < H64) : toInt x = x := if_pos h

theorem toInt_of_ge {x : Nat} (h : ¬ x < H64) : toInt x = x - (W64 : Int) := if_neg h

theorem toInt_split (x : Nat) : ∃ e : Int, (e = 0 ∨ e = 1) ∧ (x : Int) = toInt x + (W64 : Int) * e := by
  by_cases h : x < H64
  · exact ⟨0, Or.inl rfl, by rw [toInt_of_lt h]; omega⟩
  · exact ⟨1, Or.inr rfl, by rw [toInt_of_ge h]; omega⟩

theorem toInt_range (x : Nat) (hx : x < W64) : -(H64 : Int) ≤ toInt x ∧ toInt x < (H64 : Int) := by
  have := W64_eq
  by_cases h : x < H64
  · rw [toInt_of_lt h]; omega
  · rw [toInt_of_ge h]; omega

/-- `idiv` does not trap on a divisor pattern other than 0 and -1 -/
theorem sremChk_ok (a : Int) {d : Nat} (hd : d < W64) (h0 : d ≠ 0) (h1 : d ≠ W64 - 1) :
    sremChk a (toInt d) = .ok (Int.tmod a (toInt d)) := by
  have hW := W64_eq
  have : toInt d ≠ 0 ∧ toInt d ≠ -1 := by
    by_cases h : d < H64
    · rw [toInt_of_lt h]; omega
    · rw [toInt_of_ge h]; omega
  rw [sremChk, if_neg this.1, if_neg (fun h => this.2 h.2)]

theorem toInt_wrap_of (z : Nat) (v : Int) (k : Int) (hz : (z : Int) = v + (W64 : Int) * k)
    (hlo : -(H64 : Int) ≤ v) (hhi : v < (H64 : Int)) : toInt (wrap z) = v := by
  have hW := W64_eq
  have hw : ((wrap z : Nat) : Int) = v % (W64 : Int) := by
    rw [wrap, Int.natCast_emod, hz, Int.add_mul_emod_self_left]
  by_cases hv : 0 ≤ v
  · rw [Int.emod_eq_of_lt hv (by omega)] at hw
    rw [toInt_of_lt (by omega)]; exact hw
  · rw [← Int.add_emod_right, Int.emod_eq_of_lt (by omega) (by omega)] at hw
    rw [toInt_of_ge (by omega)]; omega

theorem toInt_add (x y : Nat)
    (hlo : -(H64 : Int) ≤ toInt x + toInt y) (hhi : toInt x + toInt y < (H64 : Int)) :
    toInt (wrap (x + y)) = toInt x + toInt y := by
  obtain ⟨e, _, hxe⟩ := toInt_split x
  obtain ⟨f, _, hyf⟩ := toInt_split y
  refine toInt_wrap_of (x + y) _ (e + f) ?_ hlo hhi
  rw [Int.mul_add]; omega

/-- `x - y` as the machine computes it on patterns: `x + 2^64 - y`, wrapped -/
theorem toInt_sub (x y : Nat) (hy : y < W64)
    (hlo : -(H64 : Int) ≤ toInt x - toInt y) (hhi : toInt x - toInt y < (H64 : Int)) :
    toInt (wrap (x + W64 - wrap y)) = toInt x - toInt y := by
  obtain ⟨e, _, hxe⟩ := toInt_split x
  obtain ⟨f, _, hyf⟩ := toInt_split y
  rw [wrap_of_lt hy]
  refine toInt_wrap_of _ _ (e - f + 1) ?_ hlo hhi
  rw [Int.mul_add, Int.mul_sub, Int.mul_one]; omega

theorem toInt_mul (x y : Nat)
    (hlo : -(H64 : Int) ≤ toInt x * toInt y) (hhi : toInt x * toInt y < (H64 : Int)) :
    toInt (wrap (x * y)) = toInt x * toInt y := by
  obtain ⟨e, _, hxe⟩ := toInt_split x
  obtain ⟨f, _, hyf⟩ := toInt_split y
  apply toInt_wrap_of (x * y) _ (toInt x * f + e * toInt y + (W64 : Int) * e * f) _ hlo hhi
  rw [Int.natCast_mul, hxe, hyf]
  generalize (W64 : Int) = W
  generalize toInt x = a
  generalize toInt y = b
  grind

theorem negBits_of_neg {x : Nat} (hx : x < W64) (h : toInt x < 0) : negBits x = (toInt x).natAbs := by
  have hW := W64_eq
  have hge : ¬ x < H64 := fun hlt => by rw [toInt_of_lt hlt] at h; omega
  rw [negBits, wrap_of_lt hx, wrap_of_lt (show W64 - x < W64 by omega), toInt_of_ge hge]; omega

theorem toInt_negBits (p : Nat) (h0 : 0 < p) (hp : p < H64) : negBits p < W64 ∧ toInt (negBits p) = -(p : Int) := by
  have hW := W64_eq
  rw [negBits, wrap_of_lt (show p < W64 by omega), wrap_of_lt (show W64 - p < W64 by omega)]
  exact ⟨by omega, by rw [toInt_of_ge (by omega)]; omega⟩

/-- `PowerOf` is the power modulo 2^64: `l ^ r = (l ^ (r / 2))² · l ^ (r % 2)` -/
theorem powerOfF_eq : ∀ (f l r : Nat), l < W64 → 1 ≤ r → r < 2 ^ f → powerOfF f l r = l ^ r % W64 := by
  intro f
  induction f with
  | zero => intro l r _ h1 h2; rw [Nat.pow_zero] at h2; omega
  | succ f ih =>
    intro l r hl h1 h2
    rw [Nat.pow_succ] at h2
    rw [powerOfF]
    by_cases hr : r > 1
    · have ih := ih l (r / 2) hl (by omega) (by omega)
      rw [if_pos hr]
      by_cases he : r % 2 = 0
      · rw [if_pos he, ih, wrap, ← Nat.mul_mod, ← Nat.pow_add, show r / 2 + r / 2 = r by omega]
      · rw [if_neg he, show (r - 1) / 2 = r / 2 by omega, ih, wrap, wrap, ← Nat.mul_mod,
          Nat.mod_mul_mod, ← Nat.pow_add, ← Nat.pow_succ, show (r / 2 + r / 2).succ = r by omega]
    · rw [if_neg hr, show r = 1 by omega, Nat.pow_one, Nat.mod_eq_of_lt hl]

theorem powerOf_eq (l r : Nat) (hl : l < W64) (h1 : 1 ≤ r) (hr : r < W64) (hfit : l ^ r < W64) :
    powerOf l r = l ^ r := by
  unfold powerOf
  rw [powerOfF_eq 65 l r hl h1 (by simp only [W64] at hr; omega), Nat.mod_eq_of_lt hfit]

theorem neg_pow_int (m : Int) : ∀ n : Nat, (-m) ^ n = if n % 2 = 1 then -(m ^ n) else m ^ n := by
  intro n
  induction n with
  | zero => simp
  | succ n ih =>
    rw [Int.pow_succ, ih, Int.pow_succ]
    by_cases h : n % 2 = 1
    · have h' : ¬ (n + 1) % 2 = 1 := by omega
      simp only [h, h', if_true, if_false]
      rw [Int.neg_mul_neg]
    · have h' : (n + 1) % 2 = 1 := by omega
      simp only [h, h', if_true, if_false]
      rw [Int.mul_neg]

theorem pow_natAbs (a : Int) (n : Nat) :
    a ^ n = if a < 0 ∧ n % 2 = 1 then -(a.natAbs : Int) ^ n else (a.natAbs : Int) ^ n := by
  by_cases ha : a < 0
  · obtain ⟨m, rfl⟩ : ∃ m : Nat, a = -(m : Int) := ⟨a.natAbs, by omega⟩
    rw [Int.natAbs_neg, Int.natAbs_natCast, neg_pow_int]
    by_cases hn : n % 2 = 1
    · rw [if_pos hn, if_pos ⟨ha, hn⟩]
    · rw [if_neg hn, if_neg (fun h => hn h.2)]
  · obtain ⟨m, rfl⟩ : ∃ m : Nat, a = (m : Int) := ⟨a.natAbs, by omega⟩
    rw [if_neg (fun h => ha h.1), Int.natAbs_natCast]

end Qentem.Expr
