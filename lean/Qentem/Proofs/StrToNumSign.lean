import Qentem.Proofs.StrToNumBasic
/-! C09 helper lemmas: every `Real` result carries the sign of the text in bit 63, and every `Integer` result is a
negative two's-complement pattern, for all inputs. Both this and
"a loop that returns early returns `NotANumber`" are stated as predicates on the result (`SignOk`, `NanOr`), so that
each stage is handled by splitting its own definition once.

The first part is what the sign rests on and what the arithmetic files import this one for: every bit pattern the two
scaling pipelines assemble is below `2^63` (`packBits_lt`, `posFinish_lt`, `negFinish_lt`, `bmul_lt` …, `powerOf*Ten_lt`), so
OR-ing the sign bit in is adding it (`or_sign_add/_div/_mod`). -/
namespace Qentem.StrToNum
open Qentem.Generated.StrToNum

theorem packBits_lt (n x : Nat) (hx : x < 2048) :
    (n &&& 0xFFFFFFFFFFFFF) ||| ((x * 2 ^ 52) % 2 ^ 64) < 2 ^ 63 := by
  apply Nat.or_lt_two_pow
  · exact Nat.lt_of_le_of_lt Nat.and_le_right (by decide)
  · have : x * 2 ^ 52 < 2 ^ 63 := by omega
    exact Nat.lt_of_le_of_lt (Nat.mod_le _ _) this

theorem ite_pack_lt (exp n : Nat) :
    (if exp ≥ 0x7FF then 0x7FF0000000000000 else (n &&& 0xFFFFFFFFFFFFF) ||| ((exp * 2 ^ 52) % 2 ^ 64)) < 2 ^ 63 := by
  split
  · decide
  · exact packBits_lt _ _ (by omega)

theorem posFinish_lt (b s : Nat) : posFinish b s < 2 ^ 63 := by
  unfold posFinish
  exact ite_pack_lt _ _

theorem log2_lt_256 (b : Nat) (h : b < bigW) : Nat.log2 b < 256 := by
  by_cases h0 : b = 0
  · subst h0; simp
  · exact (Nat.log2_lt h0).2 h

theorem add32_le (a b : Nat) : add32 a b ≤ a + b := Nat.mod_le _ _

theorem b2n_le (b : Bool) : b2n b ≤ 1 := by cases b <;> simp [b2n]

theorem negFinish_lt (b s : Nat) (hb : b < bigW) : negFinish b s < 2 ^ 63 := by
  have hl := log2_lt_256 b hb
  have hbias : bias = 1023 := rfl
  unfold negFinish
  simp only
  apply packBits_lt
  split
  · have h1 := add32_le (add32 bias (Nat.log2 b - s)) (b2n (decide (roundBit (bshr b (sub32 (Nat.log2 b) 53) % 2 ^ 64) > 0x1FFFFFFFFFFFFF)))
    have h2 := add32_le bias (Nat.log2 b - s)
    have h3 := b2n_le (decide (roundBit (bshr b (sub32 (Nat.log2 b) 53) % 2 ^ 64) > 0x1FFFFFFFFFFFFF))
    simp only at h1 ⊢
    omega
  · split
    · have h1 := add32_le (bias - (s - Nat.log2 b)) (b2n (decide (roundBit (bshr b (sub32 (Nat.log2 b) 53) % 2 ^ 64) > 0x1FFFFFFFFFFFFF)))
      have h3 := b2n_le (decide (roundBit (bshr b (sub32 (Nat.log2 b) 53) % 2 ^ 64) > 0x1FFFFFFFFFFFFF))
      simp only at h1 ⊢
      omega
    · have h3 := b2n_le (decide (roundBit (bshr b (sub32 (Nat.log2 b) 53) % 2 ^ 64 / 2 ^ add32 (s - Nat.log2 b - bias) 1) > 0xFFFFFFFFFFFFF))
      simp only at h3 ⊢
      omega

theorem bigW_pos : 0 < bigW := Nat.pow_pos (by decide)
theorem bmul_lt (b m : Nat) : bmul b m < bigW := Nat.mod_lt _ bigW_pos
theorem bshl_lt (b k : Nat) : bshl b k < bigW := Nat.mod_lt _ bigW_pos
theorem bshr_le (b k : Nat) : bshr b k ≤ b := Nat.div_le_self _ _

theorem negLoop_lt (r s : Nat) : ∀ (n b sh : Nat), b < bigW → (negLoop r s n b sh).1 < bigW
  | 0, b, sh, h => h
  | n + 1, b, sh, _ => by
    rw [negLoop]
    exact negLoop_lt r s n _ _ (Nat.lt_of_le_of_lt (bshr_le _ _) (bmul_lt _ _))

theorem negScale_lt (num x b s : Nat) (h : negScale num x = some (b, s)) : b < bigW := by
  unfold negScale at h
  split at h
  · rename_i r27 s27 _ _
    simp only at h
    have hl := negLoop_lt r27 s27 (x / maxPowerOfFive) (bshl num 64) (add32 x 64) (bshl_lt _ _)
    split at h
    · split at h
      · simp only [Option.some.injEq, Prod.mk.injEq] at h
        rw [← h.1]; exact Nat.lt_of_le_of_lt (bshr_le _ _) (bmul_lt _ _)
      · cases h
    · simp only [Option.some.injEq] at h
      rw [h] at hl; exact hl
  · cases h

theorem powerOfNegativeTen_lt (num x v : Nat) (h : powerOfNegativeTen num x = some v) : v < 2 ^ 63 := by
  unfold powerOfNegativeTen at h
  cases hs : negScale num x with
  | none => simp [hs] at h
  | some bs =>
    obtain ⟨b, s⟩ := bs
    simp [hs] at h
    rw [← h]; exact negFinish_lt b s (negScale_lt num x b s hs)

theorem powerOfPositiveTen_lt (num x v : Nat) (h : powerOfPositiveTen num x = some v) : v < 2 ^ 63 := by
  unfold powerOfPositiveTen at h
  cases hs : posScale num x with
  | none => simp [hs] at h
  | some bs =>
    simp [hs] at h
    rw [← h]; exact posFinish_lt _ _

theorem or_sign_add (p : Nat) (neg : Bool) (hp : p < 2 ^ 63) :
    (p ||| (if neg then 0x8000000000000000 else 0)) = (if neg then 2 ^ 63 else 0) + p := by
  cases neg with
  | false => simp
  | true =>
    simp only [if_true]
    have := Nat.two_pow_add_eq_or_of_lt (i := 63) (b := p) hp 1
    rw [Nat.or_comm]
    simp at this; omega

theorem or_sign_div (v : Nat) (neg : Bool) (hv : v < 2 ^ 63) :
    (v ||| (if neg then 0x8000000000000000 else 0)) / 2 ^ 63 = b2n neg := by
  rw [or_sign_add v neg hv]; cases neg <;> simp only [b2n, if_true, if_false, Bool.false_eq_true] <;> omega

theorem or_sign_mod (v : Nat) (neg : Bool) (hv : v < 2 ^ 63) :
    (v ||| (if neg then 0x8000000000000000 else 0)) % 2 ^ 63 = v := by
  rw [or_sign_add v neg hv]; cases neg <;> simp only [if_true, if_false, Bool.false_eq_true] <;> omega

/-- a loop or stage that returns early does so with `NotANumber` -/
def NanOr {α : Type} (x : Option (Res ⊕ α)) : Prop := ∀ r, x = some (.inl r) → r.kind = .notANumber

theorem NanOr.none {α : Type} : NanOr (none : Option (Res ⊕ α)) := fun _ h => nomatch h
theorem NanOr.inr {α : Type} (a : α) : NanOr (some (.inr a) : Option (Res ⊕ α)) := fun _ h => nomatch h
theorem NanOr.nan {α : Type} (b o : Nat) : NanOr (some (.inl ⟨.notANumber, b, o⟩) : Option (Res ⊕ α)) :=
  fun _ h => by cases h; rfl

theorem tailLoop_nan (c : List Nat) (e num : Nat) : ∀ (k off : Nat) (hasDot : Bool) (dotOff : Nat),
    NanOr (tailLoop c e num k off hasDot dotOff)
  | 0, _, _, _ => NanOr.inr _
  | k + 1, off, hasDot, dotOff => by
    rw [tailLoop]
    cases rd c e off with
    | none => exact NanOr.none
    | some d =>
      simp only
      by_cases hdig : isDigit d = true
      · rw [if_pos hdig]; exact tailLoop_nan c e num k _ _ _
      · rw [if_neg hdig]
        by_cases h46 : d = 46
        · rw [if_pos h46]
          cases hasDot with
          | false => exact tailLoop_nan c e num k _ _ _
          | true => exact NanOr.nan _ _
        · rw [if_neg h46]
          by_cases hE : d = 101 ∨ d = 69
          · rw [if_pos hE]
            cases parseExponent c e (off + 1) with
            | none => exact NanOr.none
            | some p =>
              obtain ⟨ok, x, n, o⟩ := p
              cases ok with
              | true => exact NanOr.inr _
              | false => exact NanOr.nan _ _
          · rw [if_neg hE]; exact NanOr.inr _

theorem iter2_nan (c : List Nat) (e maxEnd num off digit dotOff : Nat) :
    NanOr (iter2 c e maxEnd num off digit dotOff) := by
  by_cases hoe : off < e
  · rw [iter2_inside c e maxEnd num off digit dotOff hoe]
    split
    · exact NanOr.none
    · split
      · exact NanOr.nan _ _
      · exact NanOr.inr _
  · rw [iter2_atEnd c e maxEnd num off digit dotOff hoe]; exact NanOr.inr _

theorem afterDot_nan (c : List Nat) (e W num P : Nat) : NanOr (afterDot c e W num P) := by
  rw [afterDot]
  by_cases h2 : P + 1 < W
  · rw [if_pos h2]
    cases rd c e (P + 1) with
    | none => exact NanOr.none
    | some d2 =>
      simp only
      cases isNonZeroDigit d2 with
      | true => rw [if_pos rfl]; exact iter2_nan _ _ _ _ _ _ _
      | false =>
        rw [if_neg (by decide)]
        by_cases h3 : d2 = 48 ∧ P + 1 + 1 < W
        · rw [if_pos h3]
          cases rd c e (P + 1 + 1) with
          | none => exact NanOr.none
          | some d3 =>
            simp only
            cases isDigit d3 with
            | true => rw [if_pos rfl]; exact iter2_nan _ _ _ _ _ _ _
            | false => rw [if_neg (by decide)]; exact NanOr.inr _
        · rw [if_neg h3]; exact NanOr.inr _
  · rw [if_neg h2]; exact NanOr.inr _

theorem iter1_nan (c : List Nat) (e maxEnd num off digit : Nat) (hasDot : Bool) (dotOff : Nat) (isReal : Bool) :
    NanOr (iter1 c e maxEnd num off digit hasDot dotOff isReal) := by
  cases hasDot with
  | true => rw [iter1_hasDot]; exact iter2_nan _ _ _ _ _ _ _
  | false =>
    by_cases h : off < e
    · rw [iter1_noDot c e maxEnd num off digit dotOff isReal h]
      split
      · exact NanOr.none
      · split
        · exact afterDot_nan _ _ _ _ _
        · exact NanOr.inr _
    · rw [iter1_atEnd c e maxEnd num off digit dotOff isReal h]; exact NanOr.inr _

/-- a `Real` result has bit 63 set exactly when `neg`; an `Integer` result has it set -/
def SignOk (neg : Bool) (x : Option Res) : Prop :=
  ∀ r, x = some r → (r.kind = .real → r.bits / 2 ^ 63 = b2n neg) ∧ (r.kind = .integer → r.bits / 2 ^ 63 = 1)

theorem SignOk.none (neg : Bool) : SignOk neg none := fun _ h => nomatch h
theorem SignOk.ofKind (neg : Bool) (r : Res) (hk : r.kind ≠ .real ∧ r.kind ≠ .integer) : SignOk neg (some r) :=
  fun _ h => by cases h; exact ⟨fun hr => absurd hr hk.1, fun hr => absurd hr hk.2⟩
theorem SignOk.other (neg : Bool) {k : Kind} (b o : Nat) (hk : k ≠ .real ∧ k ≠ .integer) : SignOk neg (some ⟨k, b, o⟩) :=
  SignOk.ofKind neg _ hk
theorem SignOk.real (neg : Bool) {b : Nat} (o : Nat) (hb : b / 2 ^ 63 = b2n neg) : SignOk neg (some ⟨.real, b, o⟩) :=
  fun _ h => by cases h; exact ⟨fun _ => hb, fun hr => nomatch hr⟩

theorem realResult_sign (neg : Bool) (num ep10 x : Nat) (ne : Bool) (off : Nat) :
    SignOk neg (realResult neg num ep10 x ne off) := by
  rw [realResult]
  by_cases h0 : num ≠ 0
  · rw [if_pos h0]
    by_cases hr : (ne = true ∧ x > ep10 ∧ sub32 x ep10 > 324) ∨ ((!ne) = true ∧ add32 x ep10 > 309)
    · rw [if_pos hr]; exact SignOk.other neg _ _ (by decide)
    · rw [if_neg hr]
      cases hv : (if ne = true then powerOfNegativeTen num x else powerOfPositiveTen num x) with
      | none => exact SignOk.none neg
      | some v =>
        refine SignOk.real neg _ (or_sign_div v neg ?_)
        cases ne with
        | true => exact powerOfNegativeTen_lt _ _ _ hv
        | false => exact powerOfPositiveTen_lt _ _ _ hv
  · rw [if_neg h0, Decidable.not_not.1 h0]
    exact SignOk.real neg _ (or_sign_div 0 neg (by decide))

theorem finishReal_sign (c : List Nat) (e : Nat) (neg : Bool) (num off tmp start : Nat) (fo hasDot : Bool)
    (dotOff : Nat) : SignOk neg (finishReal c e neg num off tmp start fo hasDot dotOff) := by
  rw [finishReal]
  split
  · exact SignOk.none neg
  · rename_i r hr
    exact SignOk.ofKind neg r (by rw [tailLoop_nan c e num _ _ _ _ r hr]; decide)
  · split
    · exact SignOk.other neg _ _ (by decide)
    · exact realResult_sign _ _ _ _ _ _

theorem afterScan_sign (c : List Nat) (e : Nat) (neg : Bool) (start : Nat) (fo : Bool) (s : Scan) :
    SignOk neg (afterScan c e neg start fo s) := by
  rw [afterScan]
  cases twentieth c e s.num s.off s.isReal with
  | none => exact SignOk.none neg
  | some r =>
    obtain ⟨num, off, tmp, isReal⟩ := r
    simp only
    by_cases hn : (!isReal) = true ∧ (!neg) = true
    · rw [if_pos hn]; exact SignOk.other neg _ _ (by decide)
    · rw [if_neg hn]
      by_cases hz : (!isReal) = true ∧ num = 0
      · rw [if_pos hz]
        -- `-0`: the minus sign is there, otherwise the Natural return above was taken
        cases neg with
        | true => exact SignOk.real true _ (by decide)
        | false => exact absurd ⟨hz.1, rfl⟩ hn
      · rw [if_neg hz]
        by_cases hi : (!isReal) = true ∧ num ≤ 0x8000000000000000
        · -- the only `Integer` return: `0 < num ≤ 2^63`, so `2^64 - num` lies in `[2^63, 2^64)`
          rw [if_pos hi]
          intro r hr; cases hr
          refine ⟨nofun, fun _ => ?_⟩
          have hn0 : num ≠ 0 := fun h0 => hz ⟨hi.1, h0⟩
          have := hi.2
          show (2 ^ 64 - num) % 2 ^ 64 / 2 ^ 63 = 1
          omega
        · rw [if_neg hi]; exact finishReal_sign _ _ _ _ _ _ _ _ _ _

theorem thenScan_sign (c : List Nat) (e : Nat) (neg : Bool) (start : Nat) (fo : Bool) (W num off dg : Nat)
    (hasDot : Bool) (dotOff : Nat) (isReal : Bool) :
    SignOk neg (thenScan (iter1 c e W num off dg hasDot dotOff isReal) (afterScan c e neg start fo)) := by
  unfold thenScan
  split
  · exact SignOk.none neg
  · rename_i r hr
    exact SignOk.ofKind neg r (by rw [iter1_nan _ _ _ _ _ _ _ _ _ r hr]; decide)
  · exact afterScan_sign _ _ _ _ _ _

theorem leadStep_kind (c : List Nat) (e off d : Nat) (r : Res) (h : leadStep c e off d = some (.inl r)) :
    r.kind ≠ .real ∧ r.kind ≠ .integer := by
  rw [leadStep] at h
  split at h
  · split at h
    · cases h
    · split at h
      · split at h
        · cases h
        · cases h; exact ⟨nofun, nofun⟩
      · split at h
        · cases h; exact ⟨nofun, nofun⟩
        · cases h
  · cases h

theorem afterLead_sign (c : List Nat) (e : Nat) (neg : Bool) (off off1 dg : Nat) :
    SignOk neg (afterLead c e neg off off1 dg) := by
  rw [afterLead]
  split
  · split
    · exact SignOk.none neg
    · split
      · exact SignOk.other neg _ _ (by decide)
      · exact thenScan_sign _ _ _ _ _ _ _ _ _ _ _ _
  · exact thenScan_sign _ _ _ _ _ _ _ _ _ _ _ _

theorem afterSign_sign (c : List Nat) (e : Nat) (neg : Bool) (off : Nat) : SignOk neg (afterSign c e neg off) := by
  cases h0 : rd c e off with
  | none =>
    rw [afterSign_noRead c e neg off h0]
    split
    · exact SignOk.none neg
    · exact SignOk.other neg _ _ (by decide)
  | some d =>
    cases h1 : isNonZeroDigit d with
    | true => rw [afterSign_nonzero c e neg off d h0 h1]; exact thenScan_sign _ _ _ _ _ _ _ _ _ _ _ _
    | false =>
      by_cases hd : d = 48 ∨ d = 46
      · rw [afterSign_lead c e neg off d h0 h1 hd]
        split
        · exact SignOk.none neg
        · rename_i r hr
          exact SignOk.ofKind neg r (leadStep_kind c e off d r hr)
        · exact afterLead_sign _ _ _ _ _ _
      · rw [afterSign_other c e neg off d h0 h1 hd]; exact SignOk.other neg _ _ (by decide)

theorem strToNum_signOk (c : List Nat) (o e : Nat) : SignOk (decide (rd c e o = some 45)) (strToNum c o e) := by
  rw [strToNum]
  split
  · split
    · exact SignOk.none _
    · rename_i d hd
      rw [hd]
      split
      · rename_i h45
        rw [h45]; exact afterSign_sign c e true _
      · rename_i h45
        rw [show decide (some d = some 45) = false by simpa using h45]
        split
        · exact afterSign_sign c e false _
        · exact afterSign_sign c e false _
  · exact SignOk.other _ _ _ (by decide)

theorem strToNum_sign (c : List Nat) (o e : Nat) (r : Res) (h : strToNum c o e = some r) (hk : r.kind = .real) :
    r.bits / 2 ^ 63 = b2n (decide (rd c e o = some 45)) := (strToNum_signOk c o e r h).1 hk

theorem strToNum_integer (c : List Nat) (o e : Nat) (r : Res) (h : strToNum c o e = some r) (hi : r.kind = .integer) :
    2 ^ 63 ≤ r.bits ∧ r.bits < 2 ^ 64 := by
  have := (strToNum_signOk c o e r h).2 hi
  omega

end Qentem.StrToNum
