import Qentem.Model.HashTree
import Mathlib.Data.List.Basic
/-!
Path lemmas of the nested-table value model: reading back what was written, and paths that a write
cannot affect.
-/
namespace Qentem.HashTree

theorem lookupKid_cons (e : List Nat × Node) (t : Kids) (k : List Nat) :
    lookupKid (e :: t) k = if e.1 = k then some e.2 else lookupKid t k := by
  unfold lookupKid
  rw [List.find?_cons]
  by_cases h : e.1 = k
  · simp [h]
  · have : (e.1 == k) = false := by simpa using h
    simp [h, this]

theorem lookupKid_setKid_self {kids : Kids} {k : List Nat} {c : Node} (n : Node)
    (h : lookupKid kids k = some c) : lookupKid (setKid kids k n) k = some n := by
  induction kids with
  | nil => simp [lookupKid] at h
  | cons e t ih =>
    rw [lookupKid_cons] at h
    simp only [setKid, List.map_cons]
    by_cases he : e.1 = k
    · simp [he, lookupKid_cons]
    · rw [if_neg he] at h
      rw [if_neg he, lookupKid_cons, if_neg he]
      exact ih h

theorem lookupKid_setKid_ne {kids : Kids} {k k' : List Nat} (n : Node) (hne : k' ≠ k) :
    lookupKid (setKid kids k n) k' = lookupKid kids k' := by
  induction kids with
  | nil => rfl
  | cons e t ih =>
    simp only [setKid, List.map_cons]
    by_cases he : e.1 = k
    · have : ¬ k = k' := fun h => hne h.symm
      have h2 : ¬ e.1 = k' := fun h => hne (h.symm.trans he)
      rw [if_pos he, lookupKid_cons, lookupKid_cons]
      simp only [this, h2, if_false]
      exact ih
    · rw [if_neg he, lookupKid_cons, lookupKid_cons]
      by_cases h2 : e.1 = k'
      · simp [h2]
      · simp only [h2, if_false]; exact ih

theorem lookupKid_append_absent {kids : Kids} {k : List Nat} (n : Node) (h : lookupKid kids k = none) :
    lookupKid (kids ++ [(k, n)]) k = some n := by
  induction kids with
  | nil => rw [List.nil_append, lookupKid_cons, if_pos rfl]
  | cons e t ih =>
    rw [lookupKid_cons] at h
    rw [List.cons_append, lookupKid_cons]
    split at h
    · cases h
    · rw [if_neg ‹_›]; exact ih h

theorem lookupKid_putKid_self (kids : Kids) (k : List Nat) (n : Node) : lookupKid (putKid kids k n) k = some n := by
  unfold putKid
  cases hl : lookupKid kids k with
  | some c => exact lookupKid_setKid_self n hl
  | none => exact lookupKid_append_absent n hl

theorem getAt_setAt_above : ∀ (d t : List (List Nat)) (root x : Node),
    getAt (setAt root (d ++ t) x) d = (getAt root d).map (fun m => setAt m t x)
  | [], _, _, _ => rfl
  | k :: d, t, root, x => by
    simp only [List.cons_append, setAt, getAt]
    cases hl : lookupKid root.kids k with
    | none => simp only [hl, Option.map_none]
    | some c => simp only [lookupKid_setKid_self _ hl]; exact getAt_setAt_above d t c x

theorem getAt_setAt_self (p : List (List Nat)) (root : Node) {n : Node} (x : Node) (h : getAt root p = some n) :
    getAt (setAt root p x) p = some x := by
  have := getAt_setAt_above p [] root x
  rwa [List.append_nil, h] at this

theorem getAt_setAt_incomparable : ∀ (p q : List (List Nat)) (root : Node) (x : Node),
    ¬ p <+: q → ¬ q <+: p → getAt (setAt root p x) q = getAt root q
  | [], q, _, _, h, _ => absurd (List.nil_prefix) h
  | _ :: _, [], _, _, _, h => absurd (List.nil_prefix) h
  | k :: p, k' :: q, root, x, h1, h2 => by
    cases hl : lookupKid root.kids k with
    | none => simp only [setAt, hl]
    | some c =>
      simp only [setAt, hl, getAt]
      by_cases hk : k' = k
      · subst hk
        rw [lookupKid_setKid_self _ hl, hl]
        refine getAt_setAt_incomparable p q c x ?_ ?_
        · intro hp; exact h1 (by simpa using hp)
        · intro hq; exact h2 (by simpa using hq)
      · rw [lookupKid_setKid_ne _ hk]

theorem setKidsAt_eq {root : Node} {p : List (List Nat)} {n : Node} (ks : Kids) (h : getAt root p = some n) :
    setKidsAt root p ks = setAt root p ⟨n.tag, ks⟩ := by
  simp [setKidsAt, h]

theorem getAt_setKidsAt_self {root : Node} {p : List (List Nat)} {n : Node} (ks : Kids) (h : getAt root p = some n) :
    getAt (setKidsAt root p ks) p = some ⟨n.tag, ks⟩ := by
  rw [setKidsAt_eq ks h]; exact getAt_setAt_self p root _ h

/-- A write below the root keeps the path to it readable. -/
theorem getAt_setAt_exists : ∀ (p : List (List Nat)) (root : Node) {n : Node} (x : Node),
    getAt root p = some n → ∃ m, getAt (setAt root p x) p = some m :=
  fun p root _ x h => ⟨x, getAt_setAt_self p root x h⟩

end Qentem.HashTree
