import Qentem.Model.HashLedger
import Qentem.Proofs.LedgerExec
import Qentem.Proofs.HashTableBasics
/-!
The allocation ledger of the hash containers (C16): after every operation the blocks live in the heap are exactly the
blocks the table owns (`owned`) and the caller's frame.  The events of an operation are a triple (`Tri`) from what the
table owned before to what it owns afterwards (`OpOK`).  Temporaries live in the frame; a slot that is rewritten or
appended exchanges blocks with it (`Exec.setSlot`, `Exec.pushSlot`).  `runOps_ok` composes the triples over an object's lifetime.
-/
namespace Qentem.HashLedger
open Qentem.Ledger Qentem.HashTable

def optIds (b : Option Blk) : List Nat := b.toList.map (·.id)

def slotIds : Option Slot → List Nat
  | none => []
  | some s => s.kb.id :: optIds s.vb

def slotsIds (sl : List (Option Slot)) : List Nat := sl.flatMap slotIds

def owned (t : Tab) : List Nat := optIds t.blk ++ slotsIds t.slots

@[simp] theorem slotsIds_nil : slotsIds [] = [] := rfl
@[simp] theorem slotsIds_cons (o : Option Slot) (t : List (Option Slot)) : slotsIds (o :: t) = slotIds o ++ slotsIds t := by
  simp [slotsIds]
@[simp] theorem slotsIds_append (a b : List (Option Slot)) : slotsIds (a ++ b) = slotsIds a ++ slotsIds b := by
  simp [slotsIds]

theorem slotsIds_compact (sl : List (Option Slot)) : slotsIds (compact sl) = slotsIds sl := by
  induction sl with
  | nil => rfl
  | cons o t ih =>
    cases o with
    | none => exact ih
    | some s => exact congrArg (slotIds (some s) ++ ·) ih

theorem optFree_eq (b : Option Blk) : optFree b = (optIds b).map Ev.free := by
  cases b <;> simp [optFree, optIds, freeB]

theorem clearSlot_eq (s : Slot) : clearSlot s = (slotIds (some s)).map Ev.free := by
  simp [clearSlot, slotIds, optFree_eq, freeB]

/-! ### Steps that keep the shape "what the table owns ++ frame"

The ids in front (`T`) stay where they are; blocks are allocated into the frame and released from it. -/
section Frame
variable {evs : List Ev} {T X L1 : List Nat} {n n1 : Nat}

theorem Exec.alloc_frame {sz : Nat} (h : Exec evs (T ++ n :: X) (n + 1) L1 n1) :
    Exec (.alloc n sz :: evs) (T ++ X) n L1 n1 :=
  Exec.step_alloc (h.permL List.perm_middle.symm)

/-- The optional value block of an entry: allocated when `c` (`Cfg.hasValue`). -/
theorem Exec.allocOpt_frame (c : Bool) (sz : Nat)
    (h : Exec evs (T ++ (optIds (if c then some ⟨n, sz⟩ else none) ++ X)) (if c then n + 1 else n) L1 n1) :
    Exec ((if c then some (⟨n, sz⟩ : Blk) else none).toList.map allocB ++ evs) (T ++ X) n L1 n1 := by
  cases c
  · exact h
  · exact Exec.alloc_frame h

theorem Exec.frees_frame (F : List Nat) (h : Exec evs (T ++ X) n L1 n1) :
    Exec (F.map Ev.free ++ evs) (T ++ (F ++ X)) n L1 n1 :=
  Exec.step_frees F (List.perm_append_comm_assoc _ _ _) h

theorem Exec.free_frame {x : Nat} (h : Exec evs (T ++ X) n L1 n1) :
    Exec (.free x :: evs) (T ++ x :: X) n L1 n1 :=
  Exec.frees_frame [x] h

theorem Exec.optFree_frame (b : Option Blk) (h : Exec evs (T ++ X) n L1 n1) :
    Exec (optFree b ++ evs) (T ++ (optIds b ++ X)) n L1 n1 :=
  optFree_eq b ▸ Exec.frees_frame (optIds b) h

/-- `Memory::Dispose` over a range releases exactly what those slots own (value block first). -/
theorem Exec.dispose_frame : ∀ (sl : List (Option Slot)) {X : List Nat}, Exec evs (T ++ X) n L1 n1 →
    Exec (disposeAll sl ++ evs) (T ++ (slotsIds sl ++ X)) n L1 n1
  | [], _, h => h
  | none :: t, _, h => Exec.dispose_frame t h
  | some s :: t, X, h => by
    simp only [disposeAll, List.flatMap_cons, dtorSlot, List.append_assoc, List.cons_append, List.nil_append,
      slotsIds_cons, slotIds]
    exact Exec.permL (List.Perm.append_left T List.perm_middle.symm)
      (Exec.optFree_frame s.vb (Exec.free_frame (Exec.dispose_frame t h)))

end Frame

theorem findSlot_getElem? : ∀ {sl : List (Option Slot)} {k : List Nat} {i : Nat} {s : Slot},
    findSlot sl k = some (i, s) → sl[i]? = some (some s)
  | [], _, _, _, h => by cases h
  | none :: t, k, i, s, h => by
    obtain ⟨⟨i', s'⟩, h', he⟩ := Option.map_eq_some_iff.mp h
    cases he
    exact findSlot_getElem? (sl := t) h'
  | some s0 :: t, k, i, s, h => by
    rw [findSlot] at h
    split at h
    · cases h; rfl
    · obtain ⟨⟨i', s'⟩, h', he⟩ := Option.map_eq_some_iff.mp h
      cases he
      exact findSlot_getElem? (sl := t) h'

/-- Permutation goals between what tables own and frames: unfold `owned`, `optIds`, `slotIds`, then compare element
counts. -/
macro "perm_owned" : tactic =>
  `(tactic| (rw [List.perm_iff_count]; intro a; simp [List.count_append, List.count_cons, owned, optIds, slotIds]; omega))

/-- A table without capacity owns nothing. -/
def WF (t : Tab) : Prop := t.cap = 0 → t.blk = none ∧ t.slots = []

structure OpOK (t : Tab) (next : Nat) (r : Res) : Prop where
  wf : WF r.2.1
  run : Tri r.1 (owned t) next (owned r.2.1) r.2.2

theorem OpOK.nop {t : Tab} {next : Nat} (h : WF t) : OpOK t next ([], t, next) :=
  ⟨h, Tri.nil _ _⟩

theorem OpOK.seq {t : Tab} {next : Nat} {r r' : Res} (h1 : OpOK t next r) (h2 : OpOK r.2.1 r.2.2 r') :
    OpOK t next (r.1 ++ r'.1, r'.2.1, r'.2.2) :=
  ⟨h2.wf, h1.run.append h2.run⟩

theorem allocCap_ne_zero (n : Nat) : allocCap n ≠ 0 := by
  obtain ⟨k, hk⟩ := allocCap_pow n
  rw [hk]; exact Nat.ne_of_gt (Nat.two_pow_pos k)

theorem WF_empty : WF Tab.empty := fun _ => ⟨rfl, rfl⟩

theorem WF_of_cap {t : Tab} (h : t.cap ≠ 0) : WF t := fun h0 => absurd h0 h

theorem WF_set {t : Tab} (hwf : WF t) (i : Nat) (o : Option Slot) : WF { t with slots := t.slots.set i o } := by
  intro h0
  obtain ⟨h1, h2⟩ := hwf h0
  exact ⟨h1, by simp only [h2, List.set_nil]⟩

theorem owned_set {t : Tab} {i : Nat} {o : Option Slot} (h : t.slots[i]? = some o) (o' : Option Slot) :
    (owned { t with slots := t.slots.set i o' } ++ slotIds o).Perm (owned t ++ slotIds o') := by
  obtain ⟨pre, post, hsl, rfl⟩ := getElem?_split h
  simp only [owned, hsl, set_at_length, slotsIds_append, slotsIds_cons]
  rw [List.perm_iff_count]; intro a
  simp only [List.count_append]; omega

theorem Exec.setSlot {t : Tab} {i : Nat} {o o' : Option Slot} (h : t.slots[i]? = some o)
    {evs : List Ev} {Y X L1 : List Nat} {n n1 : Nat} (hp : (slotIds o ++ Y).Perm (slotIds o' ++ X))
    (hk : Exec evs (owned { t with slots := t.slots.set i o' } ++ X) n L1 n1) :
    Exec evs (owned t ++ Y) n L1 n1 := by
  refine hk.permL ?_
  have h1 := owned_set h o'
  rw [List.perm_iff_count] at h1 hp ⊢
  intro a
  have := h1 a; have := hp a
  simp only [List.count_append] at *; omega

/-- `Exec.setSlot` for a slot that has just been written. -/
theorem Exec.setSlot' {t : Tab} {i : Nat} (o : Option Slot) {o' : Option Slot} (hi : i < t.slots.length)
    {evs : List Ev} {Y X L1 : List Nat} {n n1 : Nat} (hp : (slotIds o ++ Y).Perm (slotIds o' ++ X))
    (hk : Exec evs (owned { t with slots := t.slots.set i o' } ++ X) n L1 n1) :
    Exec evs (owned { t with slots := t.slots.set i o } ++ Y) n L1 n1 :=
  Exec.setSlot (t := { t with slots := t.slots.set i o }) (i := i) (by simp [hi]) hp
    (by simpa only [List.set_set] using hk)

theorem Exec.pushSlot {t : Tab} {o : Option Slot} {evs : List Ev} {Y X L1 : List Nat} {n n1 : Nat}
    (hp : Y.Perm (slotIds o ++ X)) (hk : Exec evs (owned { t with slots := t.slots ++ [o] } ++ X) n L1 n1) :
    Exec evs (owned t ++ Y) n L1 n1 := by
  refine hk.permL ((hp.append_left _).trans (List.Perm.of_eq ?_))
  simp [owned, List.append_assoc]

/-- The table block is last in the order of release. -/
theorem owned_perm (t : Tab) (X : List Nat) : (owned t ++ X).Perm (slotsIds t.slots ++ (optIds t.blk ++ X)) := by
  rw [owned, List.append_assoc]; exact List.perm_append_comm_assoc _ _ _

theorem realloc_ok (cfg : Cfg) (t : Tab) (n next : Nat) : OpOK t next (realloc cfg t n next) := by
  refine ⟨fun h => absurd h (allocCap_ne_zero n), fun X evs L1 n1 hk => ?_⟩
  refine Exec.alloc_frame (Exec.permL (owned_perm t _) (Exec.optFree_frame t.blk (hk.permL ?_)))
  simp only [realloc, owned, optIds, Option.toList, List.map_cons, List.map_nil, slotsIds_compact]
  exact List.perm_middle

theorem realloc_if_ok (cfg : Cfg) (t : Tab) (n next : Nat) (c : Prop) [Decidable c] (hwf : WF t) :
    OpOK t next (if c then realloc cfg t n next else ([], t, next)) := by
  split
  · exact realloc_ok cfg t n next
  · exact OpOK.nop hwf

theorem growIfFull_ok (cfg : Cfg) (t : Tab) (next : Nat) (hwf : WF t) : OpOK t next (growIfFull cfg t next) :=
  realloc_if_ok cfg t _ next _ hwf

/-- After `growIfFull` there is capacity (so appending a slot keeps `WF`). -/
theorem growIfFull_cap (cfg : Cfg) (t : Tab) (next : Nat) (hwf : WF t) : (growIfFull cfg t next).2.1.cap ≠ 0 := by
  unfold growIfFull
  split
  · exact allocCap_ne_zero _
  · rename_i h
    intro h0
    simp only at h0
    have := (hwf h0).2
    rw [this, h0] at h
    exact h rfl

theorem insert_ok (cfg : Cfg) (t : Tab) (next : Nat) (k : List Nat) (vid : Nat) (hwf : WF t) :
    OpOK t next (insert cfg t next k vid) := by
  have hg := growIfFull_ok cfg t (if cfg.hasValue then next + 2 else next + 1) hwf
  have hcap := growIfFull_cap cfg t (if cfg.hasValue then next + 2 else next + 1) hwf
  unfold insert
  simp only
  cases hf : findSlot (growIfFull cfg t (if cfg.hasValue then next + 2 else next + 1)).2.1.slots k with
  | none =>
    refine ⟨WF_of_cap hcap, fun X evs L1 n1 hk => ?_⟩
    simp only [List.append_assoc, List.cons_append]
    exact Exec.alloc_frame (Exec.allocOpt_frame cfg.hasValue _ (hg.run _ _ _ _ (Exec.pushSlot List.perm_middle hk)))
  | some r =>
    obtain ⟨i, old⟩ := r
    refine ⟨WF_of_cap hcap, fun X evs L1 n1 hk => ?_⟩
    simp only [List.append_assoc, List.cons_append, List.nil_append]
    refine Exec.alloc_frame (Exec.allocOpt_frame cfg.hasValue _ (hg.run _ _ _ _ ?_))
    -- the entry adopts the new value; its old value and the key temporary are released
    exact Exec.setSlot (findSlot_getElem? hf) (X := optIds old.vb ++ next :: X) (by perm_owned)
      (Exec.optFree_frame _ (Exec.free_frame hk))

theorem get_ok (cfg : Cfg) (t : Tab) (next : Nat) (k : List Nat) (hwf : WF t) : OpOK t next (get cfg t next k) := by
  have hg := growIfFull_ok cfg t next hwf
  unfold get
  simp only
  cases hf : findSlot (growIfFull cfg t next).2.1.slots k with
  | some r => exact hg
  | none =>
    refine ⟨WF_of_cap (growIfFull_cap cfg t next hwf), fun X evs L1 n1 hk => ?_⟩
    simp only [List.append_assoc, List.cons_append, List.nil_append]
    exact hg.run X _ L1 n1 (Exec.alloc_frame (Exec.pushSlot (List.Perm.refl _) hk))

theorem assign_ok (cfg : Cfg) (t : Tab) (next : Nat) (k : List Nat) (vid : Nat) (hwf : WF t) :
    OpOK t next (assign cfg t next k vid) := by
  have hg := growIfFull_ok cfg t (next + 1) hwf
  have hcap := growIfFull_cap cfg t (next + 1) hwf
  unfold assign
  simp only
  cases hf : findSlot (growIfFull cfg t (next + 1)).2.1.slots k with
  | none =>
    refine ⟨WF_of_cap hcap, fun X evs L1 n1 hk => ?_⟩
    simp only [List.append_assoc, List.cons_append, List.nil_append]
    exact Exec.alloc_frame (hg.run _ _ _ _ (Exec.alloc_frame (Exec.pushSlot (List.Perm.refl _) hk)))
  | some r =>
    obtain ⟨i, old⟩ := r
    refine ⟨WF_of_cap hcap, fun X evs L1 n1 hk => ?_⟩
    simp only [List.append_assoc, List.cons_append]
    refine Exec.alloc_frame (hg.run _ _ _ _ ?_)
    exact Exec.setSlot (findSlot_getElem? hf) (X := optIds old.vb ++ X) (by perm_owned) (Exec.optFree_frame _ hk)

/-- `item->Clear()` on a live slot (`Remove`, `RemoveIndex`). -/
theorem clearSlot_ok {t : Tab} {i : Nat} {s : Slot} (next : Nat) (hwf : WF t) (h : t.slots[i]? = some (some s)) :
    OpOK t next (clearSlot s, { t with slots := t.slots.set i none }, next) := by
  refine ⟨WF_set hwf i none, fun X evs L1 n1 hk => ?_⟩
  rw [clearSlot_eq]
  exact Exec.setSlot (t := t) (o' := none) h (List.Perm.refl _) (Exec.frees_frame _ hk)

theorem remove_ok (t : Tab) (next : Nat) (k : List Nat) (hwf : WF t) : OpOK t next (remove t next k) := by
  unfold remove
  cases hf : findSlot t.slots k with
  | none => exact OpOK.nop hwf
  | some r => exact clearSlot_ok next hwf (findSlot_getElem? hf)

theorem removeIdx_ok (t : Tab) (next : Nat) (i : Nat) (hwf : WF t) : OpOK t next (removeIdx t next i) := by
  unfold removeIdx
  cases hf : t.slots[i]? with
  | none => exact OpOK.nop hwf
  | some o =>
    cases o with
    | none => exact OpOK.nop hwf
    | some s => exact clearSlot_ok next hwf hf

theorem rename_fail (t : Tab) (next : Nat) (a b : List Nat) (hwf : WF t) :
    OpOK t next ([allocB ⟨next, a.length + 1⟩, allocB ⟨next + 1, b.length + 1⟩,
      freeB ⟨next + 1, b.length + 1⟩, freeB ⟨next, a.length + 1⟩], t, next + 2) :=
  ⟨hwf, fun _ _ _ _ hk => Exec.alloc_frame (Exec.alloc_frame (Exec.free_frame (Exec.free_frame hk)))⟩

theorem rename_ok (t : Tab) (next : Nat) (a b : List Nat) (hwf : WF t) : OpOK t next (rename t next a b) := by
  unfold rename
  simp only
  cases hfa : findSlot t.slots a with
  | none => exact rename_fail t next a b hwf
  | some r =>
    obtain ⟨i, s⟩ := r
    cases hfb : findSlot t.slots b with
    | some r' => exact rename_fail t next a b hwf
    | none =>
      refine ⟨WF_set hwf i _, fun X evs L1 n1 hk => ?_⟩
      -- the entry adopts the new key block; its old one and the `from` temporary are released
      exact Exec.alloc_frame (Exec.alloc_frame (Exec.setSlot (findSlot_getElem? hfa) (X := s.kb.id :: next :: X)
        (by perm_owned) (Exec.free_frame (Exec.free_frame hk))))

theorem destroy_ok (t : Tab) (n : Nat) : Tri (destroy t) (owned t) n [] n := fun X rest L1 n1 hk => by
  rw [destroy, List.append_assoc]
  exact Exec.permL (owned_perm t X) (Exec.dispose_frame (T := []) t.slots (Exec.optFree_frame (T := []) t.blk hk))

theorem reset_ok (t : Tab) (next : Nat) (hwf : WF t) : OpOK t next (reset t next) := by
  unfold reset
  split
  · exact ⟨WF_empty, destroy_ok t next⟩
  · exact OpOK.nop hwf

theorem reset_owned (t : Tab) (next : Nat) (hwf : WF t) :
    (reset t next).2.1.slots = [] ∧ (reset t next).2.1.blk = none ∧ (reset t next).2.2 = next := by
  unfold reset
  split
  · exact ⟨rfl, rfl, rfl⟩
  · rename_i h
    simp only [ne_eq, not_not] at h
    exact ⟨(hwf h).2, (hwf h).1, rfl⟩

theorem reserve_ok (cfg : Cfg) (t : Tab) (next : Nat) (n : Nat) (hwf : WF t) : OpOK t next (reserve cfg t next n) := by
  have hr := reset_ok t next hwf
  obtain ⟨h1, h2, h3⟩ := reset_owned t next hwf
  unfold reserve
  simp only
  split
  · refine ⟨WF_of_cap (allocCap_ne_zero n), fun X evs L1 n1 hk => ?_⟩
    simp only [List.append_assoc, List.cons_append, List.nil_append]
    refine hr.run X _ L1 n1 ?_
    rw [h3]
    refine Exec.alloc_frame (hk.permL ?_)
    simp only [owned, h1, h2, optIds, Option.toList, List.map_cons, List.map_nil, slotsIds_nil]
    exact List.perm_middle
  · exact hr

theorem clear_ok (t : Tab) (next : Nat) (hwf : WF t) : OpOK t next (clear t next) := by
  unfold clear
  split
  · refine ⟨fun h0 => ⟨(hwf h0).1, rfl⟩, fun X evs L1 n1 hk => ?_⟩
    rw [owned, List.append_assoc]
    refine Exec.dispose_frame _ (hk.permL ?_)
    simp [owned]
  · exact OpOK.nop hwf

theorem resizeTo_ok (cfg : Cfg) (t : Tab) (next : Nat) (n : Nat) (hwf : WF t) : OpOK t next (resizeTo cfg t next n) := by
  unfold resizeTo
  split
  · exact reset_ok t next hwf
  · have hr := realloc_ok cfg { t with slots := t.slots.take n } n next
    refine ⟨hr.wf, fun X evs L1 n1 hk => ?_⟩
    simp only [List.append_assoc]
    -- the slots from `n` on are disposed of, the others are what `realloc` starts from
    refine Exec.permL (List.Perm.of_eq ?_) (Exec.dispose_frame (t.slots.drop n) (hr.run X evs L1 n1 hk))
    simp only [owned, List.append_assoc]
    rw [← List.append_assoc (slotsIds _), ← slotsIds_append, List.take_append_drop]

theorem expect_ok (cfg : Cfg) (t : Tab) (next : Nat) (c : Nat) (hwf : WF t) : OpOK t next (expect cfg t next c) :=
  realloc_if_ok cfg t _ next _ hwf

theorem compress_ok (cfg : Cfg) (t : Tab) (next : Nat) (hwf : WF t) : OpOK t next (compress cfg t next) := by
  unfold compress
  simp only
  split
  · exact realloc_if_ok cfg t _ next _ hwf
  · exact reset_ok t next hwf

theorem sort_ok (cfg : Cfg) (t : Tab) (next : Nat) (asc : Bool) (hwf : WF t) : OpOK t next (sort cfg t next asc) := by
  have hperm : (sort cfg t next asc).2.1.slots.Perm t.slots := by
    have := sortSeg_perm (slotCmp cfg.ord asc) (t.slots.length + 1) t.slots.toArray 0 t.slots.length
    simpa [sort] using this.toList
  refine ⟨fun h0 => ⟨(hwf h0).1, ?_⟩, fun X evs L1 n1 hk => hk.permL ?_⟩
  · exact ((hwf h0).2 ▸ hperm).eq_nil
  · exact (List.Perm.append_left _ (hperm.flatMap_right slotIds).symm).append_right X

theorem copySlots_ok (cfg : Cfg) : ∀ (sl : List (Option Slot)) (next : Nat) (T X : List Nat) (evs : List Ev)
    (L1 : List Nat) (n1 : Nat),
    Exec evs (T ++ (slotsIds (copySlots cfg sl next).2.1 ++ X)) (copySlots cfg sl next).2.2 L1 n1 →
    Exec ((copySlots cfg sl next).1 ++ evs) (T ++ X) next L1 n1
  | [], _, _, _, _, _, _, hk => hk
  | none :: rest, next, T, X, evs, L1, n1, hk => copySlots_ok cfg rest next T X evs L1 n1 hk
  | some s :: rest, next, T, X, evs, L1, n1, hk => by
    simp only [copySlots, List.append_assoc, List.cons_append] at hk ⊢
    refine Exec.alloc_frame (Exec.allocOpt_frame cfg.hasValue _ (copySlots_ok cfg rest _ T _ evs L1 n1 (hk.permL ?_)))
    refine List.Perm.append_left T ?_
    simp only [slotsIds_cons]
    perm_owned

theorem copy_ok (cfg : Cfg) (t : Tab) (next : Nat) : OpOK t next (copy cfg t next) := by
  unfold copy
  split
  · refine ⟨WF_of_cap (allocCap_ne_zero _), fun X evs L1 n1 hk => ?_⟩
    simp only [List.append_assoc, List.cons_append]
    refine Exec.alloc_frame (copySlots_ok cfg t.slots (next + 1) _ _ _ L1 n1 ?_)
    refine Exec.permL (owned_perm t _) (Exec.dispose_frame (T := []) _ (Exec.optFree_frame _ (hk.permL ?_)))
    exact List.perm_middle
  · rename_i h
    simp only [ne_eq, not_not] at h
    refine ⟨WF_empty, fun X evs L1 n1 hk => ?_⟩
    refine Exec.permL (owned_perm t X) ?_
    rw [List.eq_nil_of_length_eq_zero h]
    exact Exec.optFree_frame (T := []) _ hk

/-- The loop of the copying `operator+=`: fresh blocks for what it adds, releases of the values it
overwrites; the source (in the frame) is not touched. -/
theorem mergeCopyLoop_ok (cfg : Cfg) : ∀ (src : List (Option Slot)) (t : Tab) (next : Nat),
    WF t → (src ≠ [] → t.cap ≠ 0) → OpOK t next (mergeCopyLoop cfg src t next)
  | [], t, next, hwf, _ => OpOK.nop hwf
  | none :: rest, t, next, hwf, hc => mergeCopyLoop_ok cfg rest t next hwf (fun _ => hc (by simp))
  | some s :: rest, t, next, hwf, hc => by
    have hcap : t.cap ≠ 0 := hc (by simp)
    have ih := fun t' n' (h : t'.cap = t.cap) => mergeCopyLoop_ok cfg rest t' n' (WF_of_cap (h ▸ hcap)) (fun _ => h ▸ hcap)
    rw [mergeCopyLoop]
    cases hf : findSlot t.slots s.key with
    | none =>
      simp only
      refine ⟨(ih _ _ (by rfl)).wf, fun X evs L1 n1 hk => ?_⟩
      simp only [List.append_assoc, List.cons_append]
      exact Exec.alloc_frame (Exec.allocOpt_frame cfg.hasValue _
        (Exec.pushSlot List.perm_middle ((ih _ _ (by rfl)).run X evs L1 n1 hk)))
    | some r =>
      obtain ⟨i, d⟩ := r
      have hi := (List.getElem?_eq_some_iff.mp (findSlot_getElem? hf)).1
      cases hv : cfg.hasValue
      · exact mergeCopyLoop_ok cfg rest t next hwf (fun _ => hcap)
      · simp only [if_true]
        refine ⟨(ih _ _ (by rfl)).wf, fun X evs L1 n1 hk => ?_⟩
        simp only [List.append_assoc, List.cons_append]
        -- the old value goes, then the copy of the source's value is made and adopted
        exact Exec.setSlot (findSlot_getElem? hf) (o' := some { d with vb := none }) (by exact List.Perm.refl _)
          (Exec.optFree_frame _ (Exec.alloc_frame
            (Exec.setSlot' _ hi (by exact List.Perm.refl _) ((ih _ _ (by rfl)).run X evs L1 n1 hk))))

/-- The loop of the moving `operator+=`: every block of the source's slots is adopted or released. -/
theorem mergeMoveLoop_ok (cfg : Cfg) : ∀ (src : List (Option Slot)) (t : Tab),
    WF t → (src ≠ [] → t.cap ≠ 0) →
    WF (mergeMoveLoop cfg src t).2 ∧ ∀ (X : List Nat) (evs : List Ev) (L1 : List Nat) (n n1 : Nat),
      Exec evs (owned (mergeMoveLoop cfg src t).2 ++ X) n L1 n1 →
      Exec ((mergeMoveLoop cfg src t).1 ++ evs) (owned t ++ (slotsIds src ++ X)) n L1 n1
  | [], t, hwf, _ => ⟨hwf, fun _ _ _ _ _ hk => hk⟩
  | none :: rest, t, hwf, hc => mergeMoveLoop_ok cfg rest t hwf (fun _ => hc (by simp))
  | some s :: rest, t, hwf, hc => by
    have hcap : t.cap ≠ 0 := hc (by simp)
    have ih := fun t' (h : t'.cap = t.cap) => mergeMoveLoop_ok cfg rest t' (WF_of_cap (h ▸ hcap)) (fun _ => h ▸ hcap)
    rw [mergeMoveLoop]
    cases hf : findSlot t.slots s.key with
    | none =>
      simp only
      refine ⟨(ih _ (by rfl)).1, fun X evs L1 n n1 hk => ?_⟩
      exact Exec.pushSlot (List.Perm.of_eq (by simp)) ((ih _ (by rfl)).2 X evs L1 n n1 hk)
    | some r =>
      obtain ⟨i, d⟩ := r
      simp only
      refine ⟨(ih _ (by rfl)).1, fun X evs L1 n n1 hk => ?_⟩
      simp only [List.append_assoc, List.cons_append]
      -- the entry adopts the source's value; its own value and the source's key are released
      exact Exec.setSlot (findSlot_getElem? hf) (X := optIds d.vb ++ s.kb.id :: (slotsIds rest ++ X))
        (by simp only [slotsIds_cons]; perm_owned) (Exec.optFree_frame _ (Exec.free_frame ((ih _ (by rfl)).2 X evs L1 n n1 hk)))

theorem fold_ok {α : Type} (f : Tab → Nat → α → Res) (hf : ∀ t n a, WF t → OpOK t n (f t n a)) (t0 : Tab) (n0 : Nat) :
    ∀ (l : List α) (r : Res), OpOK t0 n0 r →
    OpOK t0 n0 (l.foldl (fun (r : Res) a =>
      let x := f r.2.1 r.2.2 a
      (r.1 ++ x.1, x.2.1, x.2.2)) r)
  | [], r, h => h
  | a :: rest, r, h => by
    simp only [List.foldl_cons]
    exact fold_ok f hf t0 n0 rest _ (h.seq (hf r.2.1 r.2.2 a h.wf))

theorem buildOperand_ok (cfg : Cfg) (ins : List (List Nat × Nat)) (rem : List (List Nat)) (next : Nat) :
    OpOK Tab.empty next (buildOperand cfg ins rem next) := by
  unfold buildOperand
  exact fold_ok (fun t n k => remove t n k) (fun t n k => remove_ok t n k) _ _ rem _
    (fold_ok (fun t n kv => insert cfg t n kv.1 kv.2) (fun t n kv => insert_ok cfg t n kv.1 kv.2) _ _ ins _
      (OpOK.nop WF_empty))

theorem merge_ok (cfg : Cfg) (t : Tab) (next : Nat) (mv : Bool) (ins : List (List Nat × Nat))
    (rem : List (List Nat)) (hwf : WF t) : OpOK t next (merge cfg t next mv ins rem) := by
  have hb := buildOperand_ok cfg ins rem next
  unfold merge
  simp only
  generalize buildOperand cfg ins rem next = b at hb
  -- the optional growth of the destination
  generalize hgdef : (if t.slots.length + b.2.1.slots.length > t.cap
      then realloc cfg t (t.slots.length + b.2.1.slots.length) b.2.2 else (([], t, b.2.2) : Res)) = g
  have hg : OpOK t b.2.2 g := hgdef ▸ realloc_if_ok cfg t _ _ _ hwf
  have hgcap : b.2.1.slots ≠ [] → g.2.1.cap ≠ 0 := by
    intro hne
    rw [← hgdef]; split
    · exact allocCap_ne_zero _
    · have : b.2.1.slots.length ≠ 0 := fun h0 => hne (List.eq_nil_of_length_eq_zero h0)
      simp only
      omega
  -- the operand is built beside the destination, which then grows beside the operand
  have hstart : ∀ (X : List Nat) (evs : List Ev) (L1 : List Nat) (n1 : Nat),
      Exec evs (owned g.2.1 ++ (owned b.2.1 ++ X)) g.2.2 L1 n1 → Exec (b.1 ++ (g.1 ++ evs)) (owned t ++ X) next L1 n1 :=
    fun X evs L1 n1 hk => hb.run (owned t ++ X) _ L1 n1 ((hg.run _ _ L1 n1 hk).permL (List.perm_append_comm_assoc _ _ _))
  cases mv
  · -- copying merge, then the source is destroyed
    have hm := mergeCopyLoop_ok cfg b.2.1.slots g.2.1 g.2.2 hg.wf hgcap
    refine ⟨hm.wf, fun X evs L1 n1 hk => ?_⟩
    simp only [Bool.false_eq_true, if_false, List.append_assoc]
    refine hstart X _ L1 n1 (hm.run _ _ L1 n1 (Exec.permL (List.Perm.append_left _ (owned_perm b.2.1 X)) ?_))
    exact Exec.dispose_frame _ (Exec.optFree_frame _ hk)
  · -- moving merge: the source's slots are consumed, its block is released
    have hm := mergeMoveLoop_ok cfg b.2.1.slots g.2.1 hg.wf hgcap
    refine ⟨hm.1, fun X evs L1 n1 hk => ?_⟩
    simp only [if_true, List.append_assoc]
    refine hstart X _ L1 n1 (Exec.permL (List.Perm.append_left _ (owned_perm b.2.1 X)) ?_)
    exact hm.2 _ _ L1 _ n1 (Exec.optFree_frame _ hk)

theorem step_ok (cfg : Cfg) (t : Tab) (next : Nat) (op : LOp) (hwf : WF t) : OpOK t next (step cfg t next op) := by
  cases op with
  | insert k v => exact insert_ok cfg t next k v hwf
  | get k => exact get_ok cfg t next k hwf
  | assign k v => exact assign_ok cfg t next k v hwf
  | lookup k => exact OpOK.nop hwf
  | lookupIdx i => exact OpOK.nop hwf
  | remove k => exact remove_ok t next k hwf
  | removeIdx i => exact removeIdx_ok t next i hwf
  | rename a b => exact rename_ok t next a b hwf
  | reserve n => exact reserve_ok cfg t next n hwf
  | resize n => exact resizeTo_ok cfg t next n hwf
  | expect n => exact expect_ok cfg t next n hwf
  | compress => exact compress_ok cfg t next hwf
  | clear => exact clear_ok t next hwf
  | reset => exact reset_ok t next hwf
  | sort a => exact sort_ok cfg t next a hwf
  | copy => exact copy_ok cfg t next
  | move => exact OpOK.nop hwf
  | merge mv ins rem => exact merge_ok cfg t next mv ins rem hwf
  | selfMerge => exact OpOK.nop hwf

theorem runOps_ok (cfg : Cfg) : ∀ (ops : List LOp) (t : Tab) (next : Nat), WF t → OpOK t next (runOps cfg ops t next)
  | [], t, next, hwf => OpOK.nop hwf
  | op :: ops, t, next, hwf => by
    have h1 := step_ok cfg t next op hwf
    have h2 := runOps_ok cfg ops (step cfg t next op).2.1 (step cfg t next op).2.2 h1.wf
    exact h1.seq h2

end Qentem.HashLedger
