import Mathlib.Tactic.Ring
import Mathlib.Tactic.Linarith
import Mathlib.Tactic.Positivity
import Qentem.Proofs.StrToNumReal
/-! C09 helper lemmas: the real tail (`finishReal`) once the mantissa has been scanned. The exponent
`(e|E) [+-] digits` as the tail loop reads it, the tail state for each way the mantissa can go on behind the scan
(dropped digits, a late dot), and the exponent bookkeeping of `adjustExponent` in two steps: the digits the tail
ignored before the dot raise the exponent (`intExp`), the fraction digits the scan took lower it (`fracExp`). -/
namespace Qentem.StrToNum

/-- one step of the exponent digit loop: it saturates at `10^8` -/
def expStep (x d : Nat) : Nat := if x < 100000000 then x * 10 + (d - 48) else x

/-- the exponent the digit loop returns for the digits `ks` -/
def expSat (ks : List Nat) : Nat := ks.foldl expStep 0

theorem expStep_fold_ge (ks : List Nat) : ∀ x, 100000000 ≤ x → ks.foldl expStep x = x := by
  induction ks with
  | nil => intro x _; rfl
  | cons d t ih =>
    intro x hx
    rw [List.foldl_cons]
    have : expStep x d = x := by unfold expStep; rw [if_neg (by omega)]
    rw [this]; exact ih x hx

theorem expStep_fold (ks : List Nat) : ∀ x,
    (x * 10 ^ ks.length + decVal ks < 100000000 → ks.foldl expStep x = x * 10 ^ ks.length + decVal ks) ∧
    (100000000 ≤ x * 10 ^ ks.length + decVal ks → 100000000 ≤ ks.foldl expStep x) := by
  induction ks with
  | nil => intro x; simp [decVal]
  | cons d t ih =>
    intro x
    rw [List.foldl_cons, decVal_cons, List.length_cons, Nat.pow_succ]
    have hval : x * (10 ^ t.length * 10) + ((d - 48) * 10 ^ t.length + decVal t) =
        (x * 10 + (d - 48)) * 10 ^ t.length + decVal t := by ring
    rw [hval]
    by_cases hx : x < 100000000
    · have : expStep x d = x * 10 + (d - 48) := by unfold expStep; rw [if_pos hx]
      rw [this]; exact ih _
    · have hst : expStep x d = x := by unfold expStep; rw [if_neg hx]
      rw [hst, expStep_fold_ge t x (by omega)]
      have hp : 1 ≤ 10 ^ t.length := Nat.pow_pos (by decide)
      have h1 : x ≤ (x * 10 + (d - 48)) * 10 ^ t.length := by
        calc x ≤ (x * 10 + (d - 48)) * 1 := by omega
          _ ≤ (x * 10 + (d - 48)) * 10 ^ t.length := Nat.mul_le_mul_left _ hp
      constructor
      · intro h; omega
      · intro _; omega

theorem expSat_small (ks : List Nat) (h : decVal ks < 100000000) : expSat ks = decVal ks := by
  have := (expStep_fold ks 0).1 (by simpa using h)
  simpa [expSat] using this

theorem expSat_big (ks : List Nat) (h : 100000000 ≤ decVal ks) : 100000000 ≤ expSat ks := by
  have := (expStep_fold ks 0).2 (by simpa using h)
  simpa [expSat] using this

theorem expDigits_run_sat (c : List Nat) (e : Nat) : ∀ (ks : List Nat) (k off x : Nat),
    AllDigits ks → unitsAt c e off ks → ks.length ≤ k →
    expDigits c e k off x = expDigits c e (k - ks.length) (off + ks.length) (ks.foldl expStep x)
  | [], k, off, x, _, _, _ => by simp
  | d :: ks, 0, _, _, _, _, hk => by simp at hk
  | d :: ks, k + 1, off, x, hd, hu, hk => by
    have hdig : isDigit d = true := hd d (by simp)
    simp only [List.length_cons] at hk
    have hstep : (if x < 100000000 then (x * 10 + (d - 48)) % 2 ^ 32 else x) = expStep x d := by
      unfold expStep
      split
      · simp [isDigit] at hdig
        exact Nat.mod_eq_of_lt (by omega)
      · rfl
    rw [expDigits, hu.1]
    simp only [hdig, if_true, hstep]
    rw [expDigits_run_sat c e ks k (off + 1) _ (fun y hy => hd y (by simp [hy])) hu.2 (by omega)]
    simp only [List.length_cons, List.foldl_cons]
    rw [show k + 1 - (ks.length + 1) = k - ks.length by omega,
      show off + 1 + ks.length = off + (ks.length + 1) by omega]

theorem expDigits_all_sat (c : List Nat) (e : Nat) (ks : List Nat) (off : Nat) (hd : AllDigits ks)
    (hu : unitsAt c e off ks) (hend : endsAt c e (off + ks.length) isDigit) :
    expDigits c e (e - off) off 0 = some (expSat ks, off + ks.length) := by
  have hle : off + ks.length ≤ e := endsAt_le hend
  rw [expDigits_run_sat c e ks (e - off) off 0 hd hu (by omega)]
  rcases hend with h | ⟨x, hx, hc⟩
  · have : e - off - ks.length = 0 := by omega
    rw [this]; rfl
  · rw [expDigits_read _ _ hx (by have := rd_lt hx; omega)]; simp [hc, expSat]

theorem parseExponent_gen (c : List Nat) (e q : Nat) (es ks : List Nat) (hes : es = [] ∨ es = [43] ∨ es = [45])
    (hks : AllDigits ks) (hk0 : ks ≠ []) (hu : unitsAt c e q (es ++ ks))
    (hend : endsAt c e (q + es.length + ks.length) isDigit) :
    parseExponent c e q = some (true, expSat ks, decide (es = [45]), q + es.length + ks.length) := by
  obtain ⟨k1, kt, rfl⟩ : ∃ k1 kt, ks = k1 :: kt := by
    cases ks with
    | nil => exact absurd rfl hk0
    | cons a b => exact ⟨a, b, rfl⟩
  have hk1ns : ¬ (k1 = 43 ∨ k1 = 45) := by
    have := hks k1 (List.mem_cons_self ..); simp [isDigit] at this; omega
  have hu' := (unitsAt_append c e es (k1 :: kt) q).1 hu
  -- the digits from `p`, behind the sign if there is one
  have digits : ∀ (p : Nat) (neg : Bool), unitsAt c e p (k1 :: kt) → endsAt c e (p + (k1 :: kt).length) isDigit →
      (match expDigits c e (e - p) p 0 with
        | none => none
        | some (x, off2) => some (off2 != p, x, neg, off2)) =
      some (true, expSat (k1 :: kt), neg, p + (k1 :: kt).length) := fun p neg hup hendp => by
    rw [expDigits_all_sat c e (k1 :: kt) p hks hup hendp]
    have : (p + (k1 :: kt).length != p) = true := by simp
    simp only [this]
  unfold parseExponent
  rcases hes with rfl | hs
  · rw [List.length_nil, Nat.add_zero] at hu' hend
    rw [if_pos (rd_lt hu'.2.1), hu'.2.1]
    simp only [hk1ns, if_false, List.length_nil, Nat.add_zero]
    exact digits q _ hu'.2 hend
  · obtain ⟨sg, rfl, hsg⟩ : ∃ sg, es = [sg] ∧ (sg = 43 ∨ sg = 45) := by
      rcases hs with rfl | rfl
      · exact ⟨43, rfl, Or.inl rfl⟩
      · exact ⟨45, rfl, Or.inr rfl⟩
    rw [List.length_singleton] at hu' hend
    rw [if_pos (rd_lt hu'.1.1), hu'.1.1]
    simp only [hsg, if_true, List.length_singleton]
    rw [if_pos (rd_lt hu'.2.1), hu'.2.1]
    simp only [hk1ns, if_false]
    refine (digits (q + 1) (sg == 45) hu'.2 hend).trans ?_
    rcases hsg with rfl | rfl <;> rfl

theorem tail_skip_end (c : List Nat) (e num off : Nat) (hasDot : Bool) (dotOff Q : Nat) (hd : digitsOn c e off Q)
    (hoQ : off ≤ Q) (hend : endsAt c e Q contReal) :
    tailLoop c e num (e - off) off hasDot dotOff = some (.inr ⟨Q, hasDot, dotOff, 0, 0, false⟩) := by
  rw [tailLoop_skip c e num Q off hasDot dotOff hd hoQ (endsAt_le hend), tailLoop_stop c e num Q hasDot dotOff hend]

theorem tail_skip_exp (c : List Nat) (e num off : Nat) (hasDot : Bool) (dotOff Q m : Nat) (es ks : List Nat)
    (hd : digitsOn c e off Q) (hoQ : off ≤ Q) (hm : rd c e Q = some m) (hmE : m = 101 ∨ m = 69)
    (hes : es = [] ∨ es = [43] ∨ es = [45]) (hks : AllDigits ks) (hk0 : ks ≠ [])
    (hu : unitsAt c e (Q + 1) (es ++ ks)) (hend : endsAt c e (Q + 1 + es.length + ks.length) isDigit) :
    tailLoop c e num (e - off) off hasDot dotOff =
      some (.inr ⟨Q + 1 + es.length + ks.length, hasDot, dotOff, Q, expSat ks, decide (es = [45])⟩) := by
  have hlt := rd_lt hm
  obtain ⟨hmd, hm46, _⟩ := marker_sep hmE
  have hpe := parseExponent_gen c e (Q + 1) es ks hes hks hk0 hu hend
  rw [tailLoop_skip c e num Q off hasDot dotOff hd hoQ (Nat.le_of_lt hlt),
    tailLoop_read num _ hasDot dotOff hm (Nat.sub_pos_of_lt hlt)]
  simp only [hmd, Bool.false_eq_true, if_false, hm46, hmE, if_true, hpe]

theorem tail_lateDot (c : List Nat) (e num off d0 P : Nat) (hd : digitsOn c e off P) (hoP : off ≤ P)
    (hdot : rd c e P = some 46) :
    tailLoop c e num (e - off) off false d0 = tailLoop c e num (e - (P + 1)) (P + 1) true P := by
  have hPlt := rd_lt hdot
  rw [tailLoop_skip c e num P off false d0 hd hoP (Nat.le_of_lt hPlt), tailLoop_firstDot c e num P d0 hdot]

/-- the exponent part of a numeral text: absent, or `(e|E) [+-]? digits` -/
def ExpPart (EP : List Nat) (es ks : List Nat) : Prop :=
  (EP = [] ∧ es = [] ∧ ks = []) ∨
  (∃ m, (m = 101 ∨ m = 69) ∧ EP = m :: (es ++ ks) ∧ (es = [] ∨ es = [43] ∨ es = [45]) ∧ AllDigits ks ∧ ks ≠ [])

/-- what ends a numeral behind its mantissa and exponent part `EP`: without an exponent any unit that cannot continue the
mantissa, behind an exponent any unit that is no digit -/
def realEnd (EP : List Nat) : Nat → Bool := if EP = [] then contReal else isDigit

theorem realEnd_nil : realEnd [] = contReal := if_pos rfl

theorem realEnd_cons (m : Nat) (t : List Nat) : realEnd (m :: t) = isDigit := if_neg (List.cons_ne_nil _ _)

/-- what ends a numeral: after an exponent any unit that is no digit, otherwise any unit that cannot continue a `0` -/
def numEnd (EP : List Nat) : Nat → Bool := if EP = [] then contZero else isDigit

theorem numEnd_nil : numEnd [] = contZero := if_pos rfl

theorem numEnd_real {c : List Nat} {e p : Nat} {EP : List Nat} (h : endsAt c e p (numEnd EP)) :
    endsAt c e p (realEnd EP) := by
  cases EP with
  | nil => rw [realEnd_nil]; exact endsAt_mono h fun _ => contZero_contReal
  | cons m t => rw [realEnd_cons]; exact h

theorem tail_expPart (c : List Nat) (e num off : Nat) (hasDot : Bool) (dotOff Q : Nat) (EP es ks : List Nat)
    (hd : digitsOn c e off Q) (hoQ : off ≤ Q) (hEP : ExpPart EP es ks) (hEPu : unitsAt c e Q EP)
    (hend : endsAt c e (Q + EP.length) (realEnd EP)) :
    tailLoop c e num (e - off) off hasDot dotOff =
      some (.inr ⟨Q + EP.length, hasDot, dotOff, if EP = [] then 0 else Q, expSat ks, decide (es = [45])⟩) := by
  rcases hEP with ⟨rfl, rfl, rfl⟩ | ⟨m, hmE, rfl, hes, hks, hk0⟩
  · rw [realEnd_nil] at hend
    exact tail_skip_end c e num off hasDot dotOff Q hd hoQ hend
  · have hl : Q + (m :: (es ++ ks)).length = Q + 1 + es.length + ks.length := by
      simp only [List.length_cons, List.length_append]; omega
    rw [realEnd_cons, hl] at hend
    rw [tail_skip_exp c e num off hasDot dotOff Q m es ks hd hoQ hEPu.1 hmE hes hks hk0 hEPu.2 hend, hl,
      if_neg (List.cons_ne_nil _ _)]

/-- net decimal exponent after folding in the `f` scanned fraction digits:
`(x, negative?)` for `10^(±k − f)`; a `-0` exponent counts as negative only on the fraction-only path -/
def netExp (fo : Bool) (k : Nat) (kneg : Bool) (f : Nat) : Nat × Bool :=
  if kneg && (fo || decide (k ≠ 0)) then (k + f, true)
  else if k ≥ f then (k - f, false) else (f - k, true)

/-- decimal exponent `±k` plus `g` ignored integer digits -/
def intExp (k : Nat) (kneg : Bool) (g : Nat) : Nat × Bool :=
  if !kneg then (k + g, false) else if k ≤ g then (g - k, false) else (k - g, true)

/-- a decimal exponent `x` less `f` scanned fraction digits -/
def fracExp (x : Nat × Bool) (f : Nat) : Nat × Bool :=
  if x.2 then (x.1 + f, true) else if x.1 ≥ f then (x.1 - f, false) else (f - x.1, true)

theorem intExp_fst_le (k : Nat) (kneg : Bool) (g : Nat) : (intExp k kneg g).1 ≤ k + g := by
  rw [intExp]; split
  · exact Nat.le_refl _
  · split
    · exact Nat.le_trans (Nat.sub_le _ _) (Nat.le_add_left _ _)
    · exact Nat.le_trans (Nat.sub_le _ _) (Nat.le_add_right _ _)

/-- `e_p10` of `finishReal`: the count of mantissa digits between `start` and `tmp` (less the dot, if the scan passed
one), in the code's 32-bit arithmetic -/
def ep10Of (tmp start : Nat) (fo hasDot : Bool) : Nat := sub32 (sub32 tmp start) (b2n (!fo && hasDot))

/-- `e_n10` of `finishReal`: the count of fraction digits the scan took (on the fraction-only path with the zeros it
skipped), in the code's 32-bit arithmetic -/
def en10Of (fo hasDot : Bool) (ep10 start dotOff off : Nat) : Nat :=
  if fo then add32 ep10 (sub32 (sub32 start dotOff) 1) else if hasDot then sub32 (sub32 off dotOff) 1 else 0

theorem int_count (stop start n : Nat) (hn : start + n = stop) (hs : stop < 2 ^ 32) :
    ep10Of stop start false false = n := by
  rw [ep10Of, show b2n (!false && false) = 0 from rfl, sub32_sub32 _ _ 0 (by omega) hs]; omega

/-- the unit counts `finishReal` computes in 32-bit arithmetic, for a scan from `start` to `off` that met the dot at
`dotOff`: `n` mantissa digits (the dot is one of the units unless the scan began behind it) and `f` fraction digits -/
theorem tail_counts (fo : Bool) (off start dotOff n f : Nat) (hoff : off < 2 ^ 32)
    (hn : start + n + b2n (!fo) = off) (hf : dotOff + 1 + f = off) (hfo : if fo then dotOff < start else start ≤ dotOff) :
    ep10Of off start fo true = n ∧ en10Of fo true n start dotOff off = f := by
  unfold ep10Of en10Of
  cases fo
  · simp only [Bool.not_false, Bool.and_self, b2n, if_true, Bool.false_eq_true, if_false] at hn hfo ⊢
    rw [sub32_sub32 _ _ 1 (by omega) hoff, sub32_sub32 _ _ 1 (by omega) hoff]
    omega
  · simp only [Bool.not_true, Bool.false_and, b2n, Bool.false_eq_true, if_false, if_true] at hn hfo ⊢
    rw [sub32_sub32 _ _ 0 (by omega) hoff, sub32_sub32 _ _ 1 (by omega) (by omega), add32_eq _ _ (by omega)]
    omega

/-- the `extra` of `adjustExponent`: the digits the tail loop ignored before the dot, the exponent marker or the end -/
def tailExtra (off dotOff : Nat) (t : Tail) : Nat :=
  if !t.hasDot then (if t.expOff = 0 then sub32 t.off off else sub32 t.expOff off)
  else if t.dotOff ≠ dotOff then sub32 t.dotOff off else 0

/-- the first half of `adjustExponent`: the exponent read by the tail loop plus the digits it ignored
before the dot, the exponent marker or the end -/
def ignoredExp (fo : Bool) (off dotOff : Nat) (t : Tail) : Nat × Bool :=
  if !fo ∧ off ≠ t.off then
    let extra := tailExtra off dotOff t
    if !t.negExp then (add32 t.exponent extra, false)
    else if t.exponent ≤ extra then (sub32 extra t.exponent, false)
    else (sub32 t.exponent extra, true)
  else (t.exponent, t.negExp)

theorem adjustExponent_eq (fo : Bool) (off dotOff en10 : Nat) (t : Tail) (x : Nat × Bool)
    (hx : ignoredExp fo off dotOff t = x) (hx1 : x.1 + en10 < 2 ^ 32) :
    adjustExponent fo off dotOff en10 t = fracExp x en10 := by
  have : adjustExponent fo off dotOff en10 t =
      (if (ignoredExp fo off dotOff t).2 then (add32 (ignoredExp fo off dotOff t).1 en10, true)
       else if (ignoredExp fo off dotOff t).1 ≥ en10 then (sub32 (ignoredExp fo off dotOff t).1 en10, false)
       else (sub32 en10 (ignoredExp fo off dotOff t).1, true)) := rfl
  rw [this, hx, fracExp]
  split
  · rw [add32_eq _ _ (by omega)]
  · split
    · rename_i h; rw [sub32_eq _ _ h (by omega)]
    · rw [sub32_eq _ _ (by omega) (by omega)]

theorem ignoredExp_int (off dotOff : Nat) (t : Tail) (g : Nat) (hne : off ≠ t.off)
    (hextra : tailExtra off dotOff t = g)
    (hg : t.exponent + g < 2 ^ 32) :
    ignoredExp false off dotOff t = intExp t.exponent t.negExp g := by
  rw [ignoredExp, if_pos ⟨rfl, hne⟩]
  simp only [hextra]
  rw [intExp]
  split
  · rw [add32_eq _ _ (by omega)]
  · split
    · rename_i h; rw [sub32_eq _ _ h (by omega)]
    · rw [sub32_eq _ _ (by omega) (by omega)]

theorem fracExp_intExp_zero (k : Nat) (kneg : Bool) (f : Nat) : fracExp (intExp k kneg 0) f = netExp false k kneg f := by
  cases kneg with
  | false => simp [fracExp, intExp, netExp]
  | true =>
    by_cases hk : k = 0
    · subst hk; simp [fracExp, intExp, netExp]
    · have : ¬ k ≤ 0 := by omega
      simp [fracExp, intExp, netExp, hk, this]

theorem fracExp_fo (k : Nat) (kneg : Bool) (f : Nat) : fracExp (k, kneg) f = netExp true k kneg f := by
  cases kneg <;> simp [fracExp, netExp]

theorem fracExp_zero (x : Nat × Bool) : fracExp x 0 = x := by
  obtain ⟨a, b⟩ := x
  cases b <;> simp [fracExp]

/-- no integer digit was ignored: the fraction-only path, a tail that consumed nothing, a dot seen before the tail
began, or the exponent marker right where the tail began -/
def NoIntIgnored (fo : Bool) (off dotOff : Nat) (t : Tail) : Prop :=
  fo = true ∨ (t.off = off ∧ t.exponent = 0 ∧ t.negExp = false) ∨
    (off ≠ t.off ∧ ((t.hasDot = true ∧ t.dotOff = dotOff) ∨
      (t.hasDot = false ∧ t.expOff = off ∧ off ≠ 0 ∧ off < 2 ^ 32)))

theorem ignoredExp_netExp (fo : Bool) (off dotOff f : Nat) (t : Tail) (h : NoIntIgnored fo off dotOff t)
    (hk : t.exponent < 100000000) :
    (ignoredExp fo off dotOff t).1 < 2 ^ 31 ∧
      fracExp (ignoredExp fo off dotOff t) f = netExp fo t.exponent t.negExp f := by
  have hk31 : t.exponent < 2 ^ 31 := Nat.lt_trans hk (by decide)
  cases fo with
  | true =>
    rw [show ignoredExp true off dotOff t = (t.exponent, t.negExp) by
      rw [ignoredExp, if_neg (fun h => absurd h.1 (by decide))]]
    exact ⟨hk31, fracExp_fo _ _ _⟩
  | false =>
    rcases h with h | h | ⟨hne, h⟩
    · cases h
    · rw [show ignoredExp false off dotOff t = (t.exponent, t.negExp) by rw [ignoredExp, if_neg (fun h' => h'.2 h.1.symm)],
        h.2.1, h.2.2]
      exact ⟨by decide, by simp [fracExp, netExp]⟩
    · rw [ignoredExp_int off dotOff t 0 hne (by
        unfold tailExtra
        rcases h with h | h
        · rw [h.1, h.2]; simp
        · rw [h.1, h.2.1]; simp only [Bool.not_false, if_true, h.2.2.1, if_false]
          rw [sub32_eq _ _ (Nat.le_refl _) h.2.2.2, Nat.sub_self]) (by omega)]
      exact ⟨Nat.lt_of_le_of_lt (intExp_fst_le _ _ 0) hk31, fracExp_intExp_zero _ _ _⟩

theorem finishReal_sat (c : List Nat) (e : Nat) (neg : Bool) (num off tmp start : Nat) (fo hasDot : Bool) (dotOff : Nat)
    (t : Tail) (ht : tailLoop c e num (e - off) off hasDot dotOff = some (.inr t)) (hbig : 100000000 ≤ t.exponent)
    (hnum : num ≠ 0) :
    finishReal c e neg num off tmp start fo hasDot dotOff = some ⟨.notANumber, num, t.off⟩ := by
  rw [finishReal, ht]
  simp only []
  rw [if_pos ⟨hbig, hnum⟩]

theorem finishReal_netExp (c : List Nat) (e : Nat) (neg : Bool) (num off tmp start : Nat) (fo hasDot : Bool) (dotOff : Nat)
    (t : Tail) (ht : tailLoop c e num (e - off) off hasDot dotOff = some (.inr t)) (hk : t.exponent < 100000000)
    (h : NoIntIgnored fo off dotOff t) (ep10 f : Nat) (hep : ep10Of tmp start fo hasDot = ep10)
    (hen : en10Of fo hasDot ep10 start dotOff off = f)
    (hf : f < 2 ^ 31) :
    finishReal c e neg num off tmp start fo hasDot dotOff =
      realResult neg num ep10 (netExp fo t.exponent t.negExp f).1 (netExp fo t.exponent t.negExp f).2 t.off := by
  obtain ⟨h1, h2⟩ := ignoredExp_netExp fo off dotOff f t h hk
  unfold ep10Of at hep
  unfold en10Of at hen
  rw [finishReal, ht]
  simp only [hep, hen]
  rw [if_neg (fun h => absurd h.1 (by omega)), adjustExponent_eq fo off dotOff f t _ rfl (by omega), h2]

theorem finishReal_intExp (c : List Nat) (e : Nat) (neg : Bool) (num off tmp start d0 : Nat) (t : Tail) (g : Nat)
    (ht : tailLoop c e num (e - off) off false d0 = some (.inr t)) (hk : t.exponent < 100000000) (hne : off ≠ t.off)
    (hextra : tailExtra off d0 t = g) (hg : t.exponent + g < 2 ^ 32)
    (ep10 : Nat) (hep : ep10Of tmp start false false = ep10) :
    finishReal c e neg num off tmp start false false d0 =
      realResult neg num ep10 (intExp t.exponent t.negExp g).1 (intExp t.exponent t.negExp g).2 t.off := by
  have hx := ignoredExp_int off d0 t g hne hextra hg
  have hx1 : (intExp t.exponent t.negExp g).1 + 0 < 2 ^ 32 := Nat.lt_of_le_of_lt (intExp_fst_le _ _ g) hg
  unfold ep10Of at hep
  rw [finishReal, ht]
  simp only [hep, Bool.false_eq_true, if_false]
  rw [if_neg (fun h => absurd h.1 (by omega)), adjustExponent_eq false off d0 0 t _ hx hx1, fracExp_zero]

/-! ### The scan stopped before the end of the mantissa

The digits between the scan stop `off` and the mantissa end `Q` are skipped by the tail loop. With a dot already seen (or
on the fraction-only path) they are dropped fraction digits and do not change the exponent; so does `Q = off`, the scan
that took the whole mantissa. -/

theorem finishReal_end_skip (c : List Nat) (e : Nat) (neg : Bool) (num off tmp start : Nat) (fo hasDot : Bool) (dotOff Q : Nat)
    (hd : digitsOn c e off Q) (hoQ : off ≤ Q) (hend : endsAt c e Q contReal)
    (hskip : off = Q ∨ hasDot = true ∨ fo = true) (ep10 f : Nat)
    (hep : ep10Of tmp start fo hasDot = ep10)
    (hen : en10Of fo hasDot ep10 start dotOff off = f)
    (hf : f < 2 ^ 31) :
    finishReal c e neg num off tmp start fo hasDot dotOff =
      realResult neg num ep10 (netExp fo 0 false f).1 (netExp fo 0 false f).2 Q := by
  refine finishReal_netExp c e neg num off tmp start fo hasDot dotOff _
    (tail_skip_end c e num off hasDot dotOff Q hd hoQ hend) (by show 0 < 100000000; decide) ?_ ep10 f hep hen hf
  rcases hskip with hq | h | h
  · exact Or.inr (Or.inl ⟨hq.symm, rfl, rfl⟩)
  · by_cases hq : off = Q
    · exact Or.inr (Or.inl ⟨hq.symm, rfl, rfl⟩)
    · exact Or.inr (Or.inr ⟨hq, Or.inl ⟨h, rfl⟩⟩)
  · exact Or.inl h

theorem finishReal_exp_sat (c : List Nat) (e : Nat) (neg : Bool) (num off tmp start : Nat) (fo hasDot : Bool) (dotOff Q m : Nat)
    (es ks : List Nat) (hd : digitsOn c e off Q) (hoQ : off ≤ Q) (hm : rd c e Q = some m) (hmE : m = 101 ∨ m = 69)
    (hes : es = [] ∨ es = [43] ∨ es = [45]) (hks : AllDigits ks) (hk0 : ks ≠ [])
    (hu : unitsAt c e (Q + 1) (es ++ ks)) (hend : endsAt c e (Q + 1 + es.length + ks.length) isDigit)
    (hnum : num ≠ 0) (hbig : 100000000 ≤ decVal ks) :
    finishReal c e neg num off tmp start fo hasDot dotOff =
      some ⟨.notANumber, num, Q + 1 + es.length + ks.length⟩ := by
  exact finishReal_sat c e neg num off tmp start fo hasDot dotOff _
    (tail_skip_exp c e num off hasDot dotOff Q m es ks hd hoQ hm hmE hes hks hk0 hu hend) (expSat_big ks hbig) hnum

theorem finishReal_zero_tail (c : List Nat) (e : Nat) (neg : Bool) (off tmp start : Nat) (fo hasDot : Bool) (dotOff Q : Nat)
    (EP es ks : List Nat) (hd : digitsOn c e off Q) (hoQ : off ≤ Q) (hEP : ExpPart EP es ks) (hEPu : unitsAt c e Q EP)
    (hend : endsAt c e (Q + EP.length) (realEnd EP)) :
    finishReal c e neg 0 off tmp start fo hasDot dotOff =
      some ⟨.real, if neg then 0x8000000000000000 else 0, Q + EP.length⟩ := by
  rw [finishReal, tail_expPart c e 0 off hasDot dotOff Q EP es ks hd hoQ hEP hEPu hend]
  simp [realResult_zero]

theorem finishReal_exp_skip (c : List Nat) (e : Nat) (neg : Bool) (num off tmp start : Nat) (fo hasDot : Bool) (dotOff Q m : Nat)
    (es ks : List Nat) (hd : digitsOn c e off Q) (hoQ : off ≤ Q) (hm : rd c e Q = some m) (hmE : m = 101 ∨ m = 69)
    (hes : es = [] ∨ es = [43] ∨ es = [45]) (hks : AllDigits ks) (hk0 : ks ≠ [])
    (hu : unitsAt c e (Q + 1) (es ++ ks)) (hend : endsAt c e (Q + 1 + es.length + ks.length) isDigit)
    (hskip : hasDot = true ∨ fo = true ∨ (hasDot = false ∧ off = Q ∧ off ≠ 0 ∧ off < 2 ^ 32))
    (hsmall : decVal ks < 100000000)
    (ep10 f : Nat) (hep : ep10Of tmp start fo hasDot = ep10)
    (hen : en10Of fo hasDot ep10 start dotOff off = f)
    (hf : f < 2 ^ 31) :
    finishReal c e neg num off tmp start fo hasDot dotOff =
      realResult neg num ep10 (netExp fo (decVal ks) (decide (es = [45])) f).1
        (netExp fo (decVal ks) (decide (es = [45])) f).2 (Q + 1 + es.length + ks.length) := by
  have ht := tail_skip_exp c e num off hasDot dotOff Q m es ks hd hoQ hm hmE hes hks hk0 hu hend
  rw [expSat_small ks hsmall] at ht
  refine finishReal_netExp c e neg num off tmp start fo hasDot dotOff _ ht hsmall ?_ ep10 f hep hen hf
  have hne : off ≠ Q + 1 + es.length + ks.length := by omega
  rcases hskip with h | h | h
  · exact Or.inr (Or.inr ⟨hne, Or.inl ⟨h, rfl⟩⟩)
  · exact Or.inl h
  · -- the exponent marker right where an integer scan stopped
    exact Or.inr (Or.inr ⟨hne, Or.inr ⟨h.1, h.2.1.symm, h.2.2⟩⟩)

/-! ### The tail after an integer scan

No dot seen, not the fraction-only path, the scan stopped before the end of the integer part: ignored integer digits, then
an optional late dot with its fraction digits (all dropped), then an optional exponent, behind which the numeral ends (at
`end_offset` or at a unit that cannot continue it). The ignored digits are what `adjustExponent` adds to the decimal
exponent. -/

theorem tail_int (c : List Nat) (e num stop d0 : Nat) (R F DF EP es ks : List Nat) (he : e < 2 ^ 32) (hstop0 : stop ≠ 0)
    (hR : AllDigits R) (hF : AllDigits F) (hur : unitsAt c e stop R)
    (hDF : (DF = [] ∧ F = []) ∨ (DF = 46 :: F ∧ F ≠ [])) (hDFu : unitsAt c e (stop + R.length) DF)
    (hd0 : DF ≠ [] → stop + R.length ≠ d0)
    (hEP : ExpPart EP es ks) (hEPu : unitsAt c e (stop + R.length + DF.length) EP)
    (hend : endsAt c e (stop + R.length + DF.length + EP.length) (realEnd EP)) :
    ∃ t, tailLoop c e num (e - stop) stop false d0 = some (.inr t) ∧ t.off = stop + R.length + DF.length + EP.length ∧
      t.exponent = expSat ks ∧ t.negExp = decide (es = [45]) ∧
      tailExtra stop d0 t = R.length := by
  have hfin := endsAt_le hend
  have hdr := digitsOn_of_unitsAt c e R stop hR hur
  rcases hDF with ⟨rfl, rfl⟩ | ⟨rfl, _⟩
  · rw [List.length_nil, Nat.add_zero] at hEPu hend hfin ⊢
    refine ⟨_, tail_expPart c e num stop false d0 _ EP es ks hdr (Nat.le_add_right _ _) hEP hEPu hend, rfl, rfl, rfl, ?_⟩
    simp only [tailExtra, Bool.not_false, if_true]
    by_cases hE : EP = []
    · rw [if_pos hE, if_pos rfl, sub32_eq _ _ (by omega) (by omega)]
      rw [hE, List.length_nil]; omega
    · rw [if_neg hE, if_neg (by omega), sub32_eq _ _ (Nat.le_add_right _ _) (by omega)]; omega
  · rw [List.length_cons] at hEPu hend hfin ⊢
    have hdr2 := digitsOn_of_unitsAt c e F _ hF hDFu.2
    refine ⟨⟨stop + R.length + (F.length + 1) + EP.length, true, stop + R.length,
      if EP = [] then 0 else stop + R.length + 1 + F.length, expSat ks, decide (es = [45])⟩, ?_, rfl, rfl, rfl, ?_⟩
    · rw [tail_lateDot c e num stop d0 _ hdr (Nat.le_add_right _ _) hDFu.1,
        tail_expPart c e num _ true _ _ EP es ks hdr2 (Nat.le_add_right _ _) hEP
          (by rwa [Nat.add_assoc (stop + R.length) 1, Nat.add_comm 1])
          (by rwa [Nat.add_assoc (stop + R.length) 1, Nat.add_comm 1]),
        Nat.add_assoc (stop + R.length) 1, Nat.add_comm 1]
    · simp only [tailExtra, Bool.not_true, Bool.false_eq_true, if_false]
      rw [if_pos (hd0 (List.cons_ne_nil _ _)), sub32_eq _ _ (Nat.le_add_right _ _) (by omega)]; omega

end Qentem.StrToNum
