import Qentem.Proofs.StrToNumReal
import Qentem.Proofs.StrToNumSign
/-! C09/C05 helper lemmas: no checked read of `strToNum` ever fails when `end_offset ≤ length`
(memory safety for every input), and the offset of every accepted result lies in `(offset, end]`. -/
namespace Qentem.StrToNum

/-- `x` is a value (no read failed on the way) and satisfies `P` -/
def Returns {α : Type} (x : Option α) (P : α → Prop) : Prop := ∃ a, x = some a ∧ P a

theorem Returns.some {α : Type} {P : α → Prop} {a : α} (h : P a) : Returns (some a) P := ⟨a, rfl, h⟩

theorem Returns.mono {α : Type} {P Q : α → Prop} {x : Option α} (h : Returns x P) (hPQ : ∀ a, P a → Q a) :
    Returns x Q := by
  obtain ⟨a, h1, h2⟩ := h
  exact ⟨a, h1, hPQ a h2⟩

variable (c : List Nat) (e : Nat)

theorem rd_ok (hc : e ≤ c.length) {i : Nat} (h : i < e) : ∃ x, rd c e i = some x := by
  unfold rd
  simp only [h, if_true]
  exact ⟨c[i]'(by omega), List.getElem?_eq_getElem (by omega)⟩

/-! The four inner loops stop at most `k` positions further on. -/

theorem within_succ {off k p : Nat} (h : off + 1 ≤ p ∧ p ≤ off + 1 + k) : off ≤ p ∧ p ≤ off + (k + 1) :=
  ⟨by omega, by omega⟩

theorem hexLoop_ok (hc : e ≤ c.length) : ∀ (k off num : Nat), k ≤ e - off →
    Returns (hexLoop c e k off num) (fun r => off ≤ r.2 ∧ r.2 ≤ off + k)
  | 0, off, num, _ => .some ⟨Nat.le_refl _, Nat.le_refl _⟩
  | k + 1, off, num, hk => by
    obtain ⟨x, hx⟩ := rd_ok c e hc (show off < e by omega)
    have ih : ∀ n, Returns (hexLoop c e k (off + 1) n) (fun r => off ≤ r.2 ∧ r.2 ≤ off + (k + 1)) := fun n =>
      (hexLoop_ok hc k (off + 1) n (by omega)).mono fun _ => within_succ
    rw [hexLoop, hx]; simp only
    by_cases h1 : 48 ≤ x ∧ x ≤ 57
    · rw [if_pos h1]; exact ih _
    · rw [if_neg h1]
      by_cases h2 : 65 ≤ x ∧ x ≤ 70
      · rw [if_pos h2]; exact ih _
      · rw [if_neg h2]
        by_cases h3 : 97 ≤ x ∧ x ≤ 102
        · rw [if_pos h3]; exact ih _
        · rw [if_neg h3]; exact .some ⟨Nat.le_refl _, by omega⟩

theorem skipZeros_ok (hc : e ≤ c.length) : ∀ (k off dg : Nat), k ≤ e - off →
    Returns (skipZeros c e k off dg) (fun r => off ≤ r.1 ∧ r.1 ≤ off + k)
  | 0, off, dg, _ => .some ⟨Nat.le_refl _, Nat.le_refl _⟩
  | k + 1, off, dg, hk => by
    obtain ⟨x, hx⟩ := rd_ok c e hc (show off < e by omega)
    rw [skipZeros, hx]; simp only
    split
    · exact (skipZeros_ok hc k (off + 1) x (by omega)).mono fun _ => within_succ
    · exact .some ⟨Nat.le_refl _, by omega⟩

theorem expDigits_ok (hc : e ≤ c.length) : ∀ (k off x : Nat), k ≤ e - off →
    Returns (expDigits c e k off x) (fun r => off ≤ r.2 ∧ r.2 ≤ off + k)
  | 0, off, x, _ => .some ⟨Nat.le_refl _, Nat.le_refl _⟩
  | k + 1, off, x, hk => by
    obtain ⟨d, hd⟩ := rd_ok c e hc (show off < e by omega)
    rw [expDigits, hd]; simp only
    split
    · exact (expDigits_ok hc k (off + 1) _ (by omega)).mono fun _ => within_succ
    · exact .some ⟨Nat.le_refl _, by omega⟩

theorem scanDigits_ok (hc : e ≤ c.length) : ∀ (k off num dg : Nat), k ≤ e - off →
    Returns (scanDigits c e k off num dg) (fun r => off ≤ r.1 ∧ r.1 ≤ off + k ∧
      ((r.1 = off ∧ r.2.2 = dg) ∨ isDigit r.2.2 = true ∨ rd c e r.1 = some r.2.2))
  | 0, off, num, dg, _ => .some ⟨Nat.le_refl _, Nat.le_refl _, Or.inl ⟨rfl, rfl⟩⟩
  | k + 1, off, num, dg, hk => by
    obtain ⟨x, hx⟩ := rd_ok c e hc (show off < e by omega)
    rw [scanDigits, hx]; simp only
    split
    · rename_i hdx
      refine (scanDigits_ok hc k (off + 1) (pushDigit num x) x (by omega)).mono fun r h =>
        ⟨(within_succ ⟨h.1, h.2.1⟩).1, (within_succ ⟨h.1, h.2.1⟩).2, ?_⟩
      rcases h.2.2 with ⟨_, h⟩ | h
      · exact Or.inr (Or.inl (by rw [h]; exact hdx))
      · exact Or.inr h
    · exact .some ⟨Nat.le_refl _, by omega, Or.inr (Or.inr hx)⟩

theorem parseExponent_ok (hc : e ≤ c.length) (off : Nat) (ho : off ≤ e) :
    Returns (parseExponent c e off) (fun r => off ≤ r.2.2.2 ∧ r.2.2.2 ≤ e) := by
  rw [parseExponent]
  by_cases h : off < e
  · obtain ⟨d, hd⟩ := rd_ok c e hc h
    have digits : ∀ o, off ≤ o → o ≤ e → Returns
        (match expDigits c e (e - o) o 0 with
          | none => none
          | some (x, off2) => some (off2 != o, x, (d == 45 : Bool), off2))
        (fun r => off ≤ r.2.2.2 ∧ r.2.2.2 ≤ e) := fun o h1 h2 => by
      obtain ⟨⟨x, o2⟩, h3, h4, h5⟩ := expDigits_ok c e hc (e - o) o 0 (Nat.le_refl _)
      rw [h3]; simp only at h4 h5 ⊢
      exact .some ⟨by show off ≤ o2; omega, by show o2 ≤ e; omega⟩
    rw [if_pos h, hd]; simp only
    by_cases hs : d = 43 ∨ d = 45
    · rw [if_pos hs]
      by_cases h1 : off + 1 < e
      · obtain ⟨d1, hd1⟩ := rd_ok c e hc h1
        rw [if_pos h1, hd1]; simp only
        by_cases hs1 : d1 = 43 ∨ d1 = 45
        · rw [if_pos hs1]; exact .some ⟨Nat.le_succ _, Nat.le_of_lt h1⟩
        · rw [if_neg hs1]; exact digits (off + 1) (Nat.le_succ _) (Nat.le_of_lt h1)
      · rw [if_neg h1]; exact .some ⟨Nat.le_succ _, h⟩
    · rw [if_neg hs]
      have hd45 : (d == 45) = false := by simpa using fun h45 => hs (Or.inr h45)
      have := digits off (Nat.le_refl _) ho
      rwa [hd45] at this
  · rw [if_neg h]; exact .some ⟨Nat.le_refl _, ho⟩

theorem tailLoop_ok (hc : e ≤ c.length) (num : Nat) : ∀ (k off : Nat) (hasDot : Bool) (dotOff : Nat), k ≤ e - off →
    off ≤ e → Returns (tailLoop c e num k off hasDot dotOff) (fun r => ∀ t, r = .inr t → off ≤ t.off ∧ t.off ≤ e)
  | 0, off, hasDot, dotOff, _, ho => .some fun t ht => by cases ht; exact ⟨Nat.le_refl _, ho⟩
  | k + 1, off, hasDot, dotOff, hk, ho => by
    obtain ⟨d, hd⟩ := rd_ok c e hc (show off < e by omega)
    have ih : ∀ hD dO, Returns (tailLoop c e num k (off + 1) hD dO) (fun r => ∀ t, r = .inr t → off ≤ t.off ∧ t.off ≤ e) :=
      fun hD dO => (tailLoop_ok hc num k (off + 1) hD dO (by omega) (by omega)).mono fun r h t ht => by
        have := h t ht; omega
    rw [tailLoop, hd]; simp only
    by_cases hdig : isDigit d = true
    · rw [if_pos hdig]; exact ih _ _
    · rw [if_neg hdig]
      by_cases h46 : d = 46
      · rw [if_pos h46]
        cases hasDot with
        | false => exact ih _ _
        | true => exact .some fun t ht => nomatch ht
      · rw [if_neg h46]
        by_cases hE : d = 101 ∨ d = 69
        · obtain ⟨⟨ok, x, n, o⟩, h1, h2, h3⟩ := parseExponent_ok c e hc (off + 1) (by omega)
          rw [if_pos hE, h1]; simp only at h2 h3 ⊢
          cases ok with
          | true => exact .some fun t ht => by cases ht; exact ⟨by show off ≤ o; omega, h3⟩
          | false => exact .some fun t ht => nomatch ht
        · rw [if_neg hE]; exact .some fun t ht => by cases ht; exact ⟨Nat.le_refl _, ho⟩

/-- a scan result: no read failed, and a scan state lies in `[lo, e]` -/
def ScanOk (lo : Nat) (r : Option (Res ⊕ Scan)) : Prop :=
  Returns r (fun x => ∀ s, x = .inr s → lo ≤ s.off ∧ s.off ≤ e)

theorem ScanOk.inr (lo : Nat) (s : Scan) (a : lo ≤ s.off) (b : s.off ≤ e) : ScanOk e lo (some (.inr s)) :=
  .some fun s' h => by cases h; exact ⟨a, b⟩

theorem ScanOk.inl (lo : Nat) (r : Res) : ScanOk e lo (some (.inl r)) := .some fun _ h => nomatch h

theorem ScanOk.mono {lo lo' : Nat} {r : Option (Res ⊕ Scan)} (h : ScanOk e lo r) (hl : lo' ≤ lo) : ScanOk e lo' r :=
  Returns.mono h fun x hx s hs => by have := hx s hs; omega

theorem iter2_ok (hc : e ≤ c.length) (maxEnd num off dg dotOff : Nat) (hm : maxEnd ≤ e) (ho : off ≤ e) :
    ScanOk e off (iter2 c e maxEnd num off dg dotOff) := by
  by_cases hoe : off < e
  · obtain ⟨r, h1, h2, h3, _⟩ := scanDigits_ok c e hc (maxEnd - off) off num dg (by omega)
    rw [iter2_inside c e maxEnd num off dg dotOff hoe, h1]; simp only
    split
    · exact ScanOk.inl e off _
    · exact ScanOk.inr e off _ h2 (by show r.1 ≤ e; omega)
  · rw [iter2_atEnd c e maxEnd num off dg dotOff hoe]; exact ScanOk.inr e off _ (Nat.le_refl _) ho

theorem afterDot_ok (hc : e ≤ c.length) (maxEnd num P : Nat) (hm : maxEnd ≤ e) (hP : P < e) :
    ScanOk e (P + 1) (afterDot c e maxEnd num P) := by
  have stay : ScanOk e (P + 1) (some (.inr ⟨num, P + 1, true, P, true⟩)) := ScanOk.inr e _ _ (Nat.le_refl _) hP
  rw [afterDot]
  by_cases h2 : P + 1 < maxEnd
  · obtain ⟨d2, hd2⟩ := rd_ok c e hc (show P + 1 < e by omega)
    rw [if_pos h2, hd2]; simp only
    cases isNonZeroDigit d2 with
    | true => rw [if_pos rfl]; exact iter2_ok c e hc maxEnd num (P + 1) d2 P hm hP
    | false =>
      rw [if_neg (by decide)]
      by_cases h3 : d2 = 48 ∧ P + 1 + 1 < maxEnd
      · obtain ⟨d3, hd3⟩ := rd_ok c e hc (show P + 1 + 1 < e by omega)
        rw [if_pos h3, hd3]; simp only
        cases isDigit d3 with
        | true => rw [if_pos rfl]; exact iter2_ok c e hc maxEnd num (P + 1) d3 P hm hP
        | false => rw [if_neg (by decide)]; exact stay
      · rw [if_neg h3]; exact stay
  · rw [if_neg h2]; exact stay

theorem iter1_ok (hc : e ≤ c.length) (maxEnd num off dg : Nat) (hasDot : Bool) (dotOff : Nat) (isReal : Bool)
    (hm : maxEnd ≤ e) (ho : off ≤ e) :
    ScanOk e off (iter1 c e maxEnd num off dg hasDot dotOff isReal) := by
  cases hasDot with
  | true => rw [iter1_hasDot]; exact iter2_ok c e hc maxEnd num off dg dotOff hm ho
  | false =>
    by_cases hoe : off < e
    · obtain ⟨r, h1, h2, h3, h4⟩ := scanDigits_ok c e hc (maxEnd - off) off num dg (by omega)
      rw [iter1_noDot c e maxEnd num off dg dotOff isReal hoe, h1]; simp only
      split
      · rename_i h46
        -- the dot was read at `r.1`, or is the unit `iter1` was entered with at `off < e`
        have hlt : r.1 < e := by
          rcases h4 with ⟨h, _⟩ | h | h
          · omega
          · rw [h46] at h; exact absurd h (by decide)
          · exact rd_lt h
        exact ScanOk.mono e (afterDot_ok c e hc maxEnd r.2.1 r.1 hm hlt) (by omega)
      · exact ScanOk.inr e off _ h2 (by show r.1 ≤ e; omega)
    · rw [iter1_atEnd c e maxEnd num off dg dotOff isReal hoe]
      exact ScanOk.inr e off _ (Nat.le_refl _) ho

theorem twentieth_ok (hc : e ≤ c.length) (num off : Nat) (isReal : Bool) (ho : off ≤ e) :
    Returns (twentieth c e num off isReal) (fun r => off ≤ r.2.1 ∧ r.2.1 ≤ e) := by
  have stay : ∀ ir : Bool, Returns (some (num, off, off, ir)) (fun r => off ≤ r.2.1 ∧ r.2.1 ≤ e) := fun _ =>
    .some ⟨Nat.le_refl _, ho⟩
  cases isReal with
  | true => rw [twentieth_real]; exact stay _
  | false =>
    by_cases hoe : off < e
    · obtain ⟨d, hd⟩ := rd_ok c e hc hoe
      have take : ∀ ir : Bool, Returns (some (num * 10 + (d - 48), off + 1, off + 1, ir)) (fun r => off ≤ r.2.1 ∧ r.2.1 ≤ e) :=
        fun _ => .some ⟨Nat.le_succ _, hoe⟩
      cases hsep : isDotOrE d with
      | true => rw [twentieth_sep c e num off d hd hsep]; exact stay _
      | false =>
        cases hdig : isDigit d with
        | false =>
          rw [twentieth_stop c e num off (Or.inr ⟨d, hd, by rw [contInt, hdig, hsep]; rfl⟩)]; exact stay _
        | true =>
          by_cases hbig : num > 0x1999999999999999 ∨ (num = 0x1999999999999999 ∧ d > 53)
          · rw [twentieth_over c e num off d hd hdig hbig]; exact stay _
          · by_cases h1 : off + 1 < e
            · obtain ⟨u, hu⟩ := rd_ok c e hc h1
              rw [twentieth_take c e num off d u hd hdig hbig hu]; exact take _
            · rw [twentieth_take_last c e num off d hd hdig hbig h1]; exact take _
    · rw [twentieth_atEnd c e num off false hoe]; exact stay _

/-- accepted results of a phase: they exist, and unless `NotANumber` their offset is in `[lo, e]` -/
def ResOk (lo : Nat) (r : Option Res) : Prop :=
  Returns r (fun x => x.kind ≠ .notANumber → lo ≤ x.offset ∧ x.offset ≤ e)

theorem ResOk.mono {lo lo' : Nat} {r : Option Res} (h : ResOk e lo r) (hl : lo' ≤ lo) : ResOk e lo' r :=
  Returns.mono h fun x hx hk => by have := hx hk; omega

theorem ResOk.nan (lo b o : Nat) : ResOk e lo (some ⟨.notANumber, b, o⟩) := .some fun hk => absurd rfl hk

theorem ResOk.at (lo : Nat) (k : Kind) (b o : Nat) (h1 : lo ≤ o) (h2 : o ≤ e) : ResOk e lo (some ⟨k, b, o⟩) :=
  .some fun _ => ⟨h1, h2⟩

theorem realResult_ok (lo : Nat) (neg : Bool) (num ep10 x : Nat) (ne : Bool) (off : Nat) (h : lo ≤ off ∧ off ≤ e) :
    ResOk e lo (realResult neg num ep10 x ne off) := by
  obtain ⟨r, hr1, hr2, _⟩ := realResult_some neg num ep10 x ne off
  exact ⟨r, hr1, fun _ => by rw [hr2]; exact h⟩

theorem finishReal_ok (hc : e ≤ c.length) (neg : Bool) (num off tmp start : Nat) (fo hasDot : Bool) (dotOff : Nat)
    (ho : off ≤ e) : ResOk e off (finishReal c e neg num off tmp start fo hasDot dotOff) := by
  obtain ⟨r, h1, h2⟩ := tailLoop_ok c e hc num (e - off) off hasDot dotOff (Nat.le_refl _) ho
  rw [finishReal, h1]
  cases r with
  | inl r' => exact ⟨r', rfl, fun hk => absurd (tailLoop_nan c e num _ _ _ _ r' h1) hk⟩
  | inr t =>
    simp only
    split
    · exact ResOk.nan e _ _ _
    · exact realResult_ok e off neg num _ _ _ t.off (h2 t rfl)

theorem afterScan_ok (hc : e ≤ c.length) (neg : Bool) (start : Nat) (fo : Bool) (s : Scan) (ho : s.off ≤ e) :
    ResOk e s.off (afterScan c e neg start fo s) := by
  obtain ⟨r, h1, h2, h3⟩ := twentieth_ok c e hc s.num s.off s.isReal ho
  rw [afterScan, h1]; simp only
  by_cases hnat : (!r.2.2.2) = true ∧ (!neg) = true
  · rw [if_pos hnat]; exact ResOk.at e _ _ _ _ h2 h3
  · rw [if_neg hnat]
    by_cases hz : (!r.2.2.2) = true ∧ r.1 = 0
    · rw [if_pos hz]; exact ResOk.at e _ _ _ _ h2 h3
    · rw [if_neg hz]
      by_cases hi : (!r.2.2.2) = true ∧ r.1 ≤ 0x8000000000000000
      · rw [if_pos hi]; exact ResOk.at e _ _ _ _ h2 h3
      · rw [if_neg hi]
        exact ResOk.mono e (finishReal_ok c e hc neg r.1 r.2.1 r.2.2.1 start fo s.hasDot s.dotOff h3) h2

theorem thenScan_ok (hc : e ≤ c.length) (neg : Bool) (start : Nat) (fo : Bool) (lo : Nat) (r : Option (Res ⊕ Scan))
    (h : ScanOk e lo r) (hn : NanOr r) : ResOk e lo (thenScan r (afterScan c e neg start fo)) := by
  obtain ⟨x, h1, h3⟩ := h
  subst h1
  cases x with
  | inl r' => exact ⟨r', rfl, fun hk => absurd (hn r' rfl) hk⟩
  | inr s =>
    have := h3 s rfl
    exact ResOk.mono e (afterScan_ok c e hc neg start fo s this.2) this.1

theorem windowEnd_le (off : Nat) (he : e < 2 ^ 32) (ho : off ≤ e) : windowEnd e off ≤ e := by
  rw [windowEnd_eq e off he ho]; split <;> omega

theorem scan_ok (hc : e ≤ c.length) (he : e < 2 ^ 32) (neg : Bool) (start : Nat) (fo : Bool) (wo num off dg : Nat)
    (hasDot : Bool) (dotOff : Nat) (isReal : Bool) (hwo : wo ≤ e) (ho : off ≤ e) :
    ResOk e off (thenScan (iter1 c e (windowEnd e wo) num off dg hasDot dotOff isReal) (afterScan c e neg start fo)) :=
  thenScan_ok c e hc neg start fo off _ (iter1_ok c e hc _ num off dg hasDot dotOff isReal (windowEnd_le e wo he hwo) ho)
    (iter1_nan _ _ _ _ _ _ _ _ _)

theorem leadStep_ok (hc : e ≤ c.length) (off d : Nat) :
    Returns (leadStep c e off d) (fun x =>
      (∀ r, x = .inl r → r.kind ≠ .notANumber → off + 1 ≤ r.offset ∧ r.offset ≤ e) ∧
      (∀ o dg, x = .inr (o, dg) → (o = off + 1 ∧ off + 1 < e) ∨ (o = off ∧ dg = d ∧ ¬ (d = 48 ∧ off + 1 < e)))) := by
  rw [leadStep]
  by_cases hz : d = 48 ∧ off + 1 < e
  · obtain ⟨d1, hd1⟩ := rd_ok c e hc hz.2
    rw [if_pos hz, hd1]; simp only
    by_cases hx : d1 = 120 ∨ d1 = 88
    · obtain ⟨⟨v, o⟩, h1, h2, h3⟩ := hexLoop_ok c e hc (e - (off + 2)) (off + 2) 0 (Nat.le_refl _)
      rw [if_pos hx, h1]; simp only at h2 h3 ⊢
      exact .some ⟨fun r' hr' _ => by cases hr'; exact ⟨by show off + 1 ≤ o; omega, by show o ≤ e; omega⟩,
        fun o dg h => nomatch h⟩
    · rw [if_neg hx]
      cases isDigit d1 with
      | true => exact .some ⟨fun r' hr' hk => by cases hr'; exact absurd rfl hk, fun o dg h => nomatch h⟩
      | false => exact .some ⟨fun r' hr' => (nomatch hr'), fun o dg h => by cases h; exact Or.inl ⟨rfl, hz.2⟩⟩
  · rw [if_neg hz]
    exact .some ⟨fun r' hr' => (nomatch hr'), fun o dg h => by cases h; exact Or.inr ⟨rfl, rfl, hz⟩⟩

theorem afterLead_ok (hc : e ≤ c.length) (he : e < 2 ^ 32) (neg : Bool) (off off1 dg : Nat) (ho : off1 < e) :
    ResOk e (if dg = 46 then off1 + 1 else off1) (afterLead c e neg off off1 dg) := by
  rw [afterLead]
  by_cases h46 : dg = 46
  · obtain ⟨⟨o2, d2⟩, h1, h2, h3⟩ := skipZeros_ok c e hc (e - (off1 + 1)) (off1 + 1) dg (Nat.le_refl _)
    rw [if_pos h46, if_pos h46, h1]; simp only at h2 h3 ⊢
    by_cases hjust : off1 + 1 = o2 ∧ off1 = off ∧ (!isDigit d2) = true
    · rw [if_pos hjust]; exact ResOk.nan e _ _ _
    · rw [if_neg hjust]
      exact ResOk.mono e (scan_ok c e hc he neg o2 true o2 0 o2 d2 true off1 true (by omega) (by omega)) h2
  · rw [if_neg h46, if_neg h46]
    exact scan_ok c e hc he neg 0 false off1 0 off1 dg false 0 false (by omega) (by omega)

theorem afterSign_ok (hc : e ≤ c.length) (he : e < 2 ^ 32) (neg : Bool) (off : Nat) :
    ResOk e (off + 1) (afterSign c e neg off) := by
  by_cases hoff : off < e
  · obtain ⟨d, hd⟩ := rd_ok c e hc hoff
    cases h1 : isNonZeroDigit d with
    | true =>
      rw [afterSign_nonzero c e neg off d hd h1]
      exact scan_ok c e hc he neg off false off (d - 48) (off + 1) d false 0 false (by omega) (by omega)
    | false =>
      by_cases hz : d = 48 ∨ d = 46
      · obtain ⟨x, hx, hl, hr⟩ := leadStep_ok c e hc off d
        rw [afterSign_lead c e neg off d hd h1 hz, hx]
        cases x with
        | inl r => exact ⟨r, rfl, hl r rfl⟩
        | inr p =>
          obtain ⟨off1, dg⟩ := p
          simp only
          rcases hr off1 dg rfl with ⟨h1, h2⟩ | ⟨h1, h2, h3⟩
          · subst h1
            exact ResOk.mono e (afterLead_ok c e hc he neg off (off + 1) dg h2) (by split <;> omega)
          · subst h1; subst h2
            by_cases h46 : dg = 46
            · have := afterLead_ok c e hc he neg off1 off1 dg hoff
              rwa [if_pos h46] at this
            · -- a `0` that is the last unit
              have h48 : dg = 48 := hz.resolve_right h46
              subst h48
              rw [afterLead, if_neg h46, iter1_zero_last c e off1 he hd (fun h => h3 ⟨rfl, h⟩)]
              exact thenScan_ok c e hc neg 0 false (off1 + 1) _ (ScanOk.inr e _ _ (Nat.le_refl _) hoff) (NanOr.inr _)
      · rw [afterSign_other c e neg off d hd h1 hz]; exact ResOk.nan e _ _ _
  · rw [afterSign_atEnd c e neg off hoff]; exact ResOk.nan e _ _ _

theorem strToNum_ok (hc : e ≤ c.length) (he : e < 2 ^ 32) (o : Nat) :
    ResOk e (o + 1) (strToNum c o e) := by
  rw [strToNum]
  split
  · rename_i ho
    obtain ⟨d, hd⟩ := rd_ok c e hc ho
    rw [hd]; simp only
    split
    · exact ResOk.mono e (afterSign_ok c e hc he true (o + 1)) (by omega)
    · split
      · exact ResOk.mono e (afterSign_ok c e hc he false (o + 1)) (by omega)
      · exact afterSign_ok c e hc he false o
  · exact ResOk.nan e _ _ _

end Qentem.StrToNum
