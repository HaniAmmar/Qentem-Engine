import Qentem.Model.HashTable
import Qentem.Proofs.Ledger
import Mathlib.Data.List.Perm.Subperm
/-!
Running an allocation trace against the ids that are live.  `Exec evs L0 n0 L1 n1`: from any heap whose live ids are
(a permutation of) `L0`, all below the fresh-id counter `n0`, the events run without violation and leave the live ids
`L1`, all below `n1`.  `Tri`, the same in continuation form with a frame, is what the ledger proofs of the hash containers
and of the Value trees compose.
-/
namespace Qentem.HashLedger
open Qentem.Ledger Qentem.HashTable

def hids (h : Heap) : List Nat := h.map Prod.fst

def Exec (evs : List Ev) (L0 : List Nat) (n0 : Nat) (L1 : List Nat) (n1 : Nat) : Prop :=
  ∀ h : Heap, (hids h).Perm L0 → L0.Nodup → (∀ x ∈ L0, x < n0) →
    ∃ h', Ledger.run evs h = some h' ∧ (hids h').Perm L1 ∧ L1.Nodup ∧ (∀ x ∈ L1, x < n1)

theorem isLive_iff_mem_hids (h : Heap) (x : Nat) : isLive h x = true ↔ x ∈ hids h := by
  simp [isLive, hids]

theorem hids_release (h : Heap) (x : Nat) : hids (release h x) = (hids h).filter (fun y => y != x) := by
  simp only [hids, release, List.filter_map]
  rfl

theorem Exec.done {L L1 : List Nat} {n n1 : Nat} (hp : L.Perm L1) (hn : n ≤ n1) : Exec [] L n L1 n1 := by
  intro h hh hnd hb
  refine ⟨h, rfl, hh.trans hp, (hp.nodup_iff).mp hnd, ?_⟩
  intro x hx
  have := hb x (hp.mem_iff.mpr hx)
  omega

theorem Exec.step_alloc {evs : List Ev} {L L1 : List Nat} {n n1 sz : Nat}
    (h : Exec evs (n :: L) (n + 1) L1 n1) : Exec (.alloc n sz :: evs) L n L1 n1 := by
  intro hp hh hnd hb
  have hfresh : n ∉ L := fun hm => by have := hb n hm; omega
  have hnl : isLive hp n = false := by
    cases hl : isLive hp n with
    | false => rfl
    | true => exact absurd (hh.mem_iff.mp ((isLive_iff_mem_hids hp n).mp hl)) hfresh
  simp only [Ledger.run, Ledger.step, hnl, Bool.false_eq_true, if_false]
  refine h ((n, sz) :: hp) ?_ (List.nodup_cons.mpr ⟨hfresh, hnd⟩) ?_
  · simpa [hids] using hh
  · intro x hx
    rcases List.mem_cons.mp hx with rfl | hx
    · omega
    · have := hb x hx; omega

theorem Exec.step_free {evs : List Ev} {L L' L1 : List Nat} {n n1 x : Nat} (hperm : L.Perm (x :: L'))
    (h : Exec evs L' n L1 n1) : Exec (.free x :: evs) L n L1 n1 := by
  intro hp hh hnd hb
  have hnd' : (x :: L').Nodup := (hperm.nodup_iff).mp hnd
  have hx : x ∈ hids hp := (hh.trans hperm).mem_iff.mpr (by simp)
  simp only [Ledger.run, Ledger.step, (isLive_iff_mem_hids hp x).mpr hx, if_true]
  refine h (release hp x) ?_ (List.nodup_cons.mp hnd').2 ?_
  · rw [hids_release]
    have h1 := ((hh.trans hperm).filter (fun y => y != x))
    have h2 : (x :: L').filter (fun y => y != x) = L' := by
      simp only [List.filter_cons, bne_self_eq_false, Bool.false_eq_true, if_false]
      rw [List.filter_eq_self]
      intro a ha
      have : a ≠ x := fun e => (List.nodup_cons.mp hnd').1 (e ▸ ha)
      simpa [bne_iff_ne] using this
    rw [h2] at h1; exact h1
  · intro y hy
    exact hb y (hperm.mem_iff.mpr (by simp [hy]))

theorem Exec.permL {evs : List Ev} {L0 L0' L1 : List Nat} {n0 n1 : Nat} (hp : L0'.Perm L0)
    (h : Exec evs L0 n0 L1 n1) : Exec evs L0' n0 L1 n1 := by
  intro hh hhp hnd hb
  exact h hh (hhp.trans hp) ((hp.nodup_iff).mp hnd) (fun y hy => hb y (hp.mem_iff.mpr hy))

theorem Exec.step_frees {evs : List Ev} {L1 : List Nat} {n n1 : Nat} : ∀ (F : List Nat) {L L' : List Nat},
    L.Perm (F ++ L') → Exec evs L' n L1 n1 → Exec (F.map Ev.free ++ evs) L n L1 n1
  | [], L, L', hperm, h => Exec.permL hperm h
  | x :: F, L, L', hperm, h => by
    simp only [List.map_cons, List.cons_append]
    exact Exec.step_free (L' := F ++ L') hperm (Exec.step_frees F (List.Perm.refl _) h)

theorem Exec.append {a b : List Ev} {L0 L1 L2 : List Nat} {n0 n1 n2 : Nat}
    (ha : Exec a L0 n0 L1 n1) (hb : Exec b L1 n1 L2 n2) : Exec (a ++ b) L0 n0 L2 n2 := by
  intro h hh hnd hbd
  obtain ⟨h1, hr1, hp1, hnd1, hb1⟩ := ha h hh hnd hbd
  obtain ⟨h2, hr2, hp2, hnd2, hb2⟩ := hb h1 hp1 hnd1 hb1
  exact ⟨h2, by rw [run_append, hr1]; exact hr2, hp2, hnd2, hb2⟩

theorem Exec.permR {evs : List Ev} {L0 L1 L1' : List Nat} {n0 n1 n1' : Nat} (hp : L1.Perm L1') (hn : n1 ≤ n1')
    (h : Exec evs L0 n0 L1 n1) : Exec evs L0 n0 L1' n1' := by
  intro hh hhp hnd hb
  obtain ⟨h', hr, hp', hnd', hb'⟩ := h hh hhp hnd hb
  exact ⟨h', hr, hp'.trans hp, (hp.nodup_iff).mp hnd', fun y hy => by
    have := hb' y (hp.mem_iff.mpr hy); omega⟩

/-! ### Triples

`Tri evs pre n post n'`: the events `evs`, started with fresh-id counter `n`, turn the live blocks `pre` into
`post` and leave the counter at `n'`, whatever else (`X`) is live.  It is stated in continuation form over `Exec`,
so that triples compose by application and a frame is found by unification.  The per-operation facts of the hash
containers (`OpOK.run`) and of the Value trees (`ValueLedger.Acc`) are triples. -/

def Tri (evs : List Ev) (pre : List Nat) (n : Nat) (post : List Nat) (n' : Nat) : Prop :=
  ∀ (X : List Nat) (rest : List Ev) (L1 : List Nat) (n1 : Nat),
    Exec rest (post ++ X) n' L1 n1 → Exec (evs ++ rest) (pre ++ X) n L1 n1

theorem Tri.nil (L : List Nat) (n : Nat) : Tri [] L n L n := fun _ _ _ _ hk => hk

theorem Tri.append {a b : List Ev} {L0 L1 L2 : List Nat} {n0 n1 n2 : Nat}
    (ha : Tri a L0 n0 L1 n1) (hb : Tri b L1 n1 L2 n2) : Tri (a ++ b) L0 n0 L2 n2 :=
  fun X rest L n hk => by rw [List.append_assoc]; exact ha X _ L n (hb X rest L n hk)

theorem Tri.alloc (n sz : Nat) : Tri [.alloc n sz] [] n [n] (n + 1) :=
  fun _ _ _ _ hk => Exec.step_alloc hk

theorem Tri.frees (F : List Nat) (n : Nat) : Tri (F.map Ev.free) F n [] n :=
  fun _ _ _ _ hk => Exec.step_frees F (List.Perm.refl _) hk

theorem Tri.permPre {evs : List Ev} {pre pre' post : List Nat} {n n' : Nat} (h : Tri evs pre n post n')
    (hp : pre'.Perm pre) : Tri evs pre' n post n' :=
  fun X rest L1 n1 hk => Exec.permL (hp.append_right X) (h X rest L1 n1 hk)

theorem Tri.permPost {evs : List Ev} {pre post post' : List Nat} {n n' : Nat} (h : Tri evs pre n post n')
    (hp : post.Perm post') : Tri evs pre n post' n' :=
  fun X rest L1 n1 hk => h X rest L1 n1 (Exec.permL (hp.append_right X) hk)

theorem Tri.frame {evs : List Ev} {pre post : List Nat} {n n' : Nat} (F : List Nat) (h : Tri evs pre n post n') :
    Tri evs (pre ++ F) n (post ++ F) n' :=
  fun X rest L1 n1 hk => by
    rw [List.append_assoc] at hk ⊢
    exact h (F ++ X) rest L1 n1 hk

theorem Tri.exec {evs : List Ev} {pre post : List Nat} {n n' : Nat} (h : Tri evs pre n post n') : Exec evs pre n post n' := by
  have := h [] [] post n' (Exec.done (List.Perm.of_eq (List.append_nil post)) (Nat.le_refl n'))
  rwa [List.append_nil, List.append_nil] at this

theorem Tri.prefix {tr : List Ev} {post : List Nat} {n0 n : Nat} (h : Tri tr [] n0 post n) :
    ∃ hp, Ledger.run tr [] = some hp ∧ (hp.map Prod.fst).Perm post ∧ post.Nodup := by
  obtain ⟨hp, h1, h2, h3, _⟩ := h.exec [] (List.Perm.refl _) List.nodup_nil (fun _ hx => nomatch hx)
  exact ⟨hp, h1, h2, h3⟩

theorem Tri.balanced {tr : List Ev} {n0 n : Nat} (h : Tri tr [] n0 [] n) : Balanced tr := by
  obtain ⟨hp, h1, h2, _⟩ := h.prefix
  rw [List.perm_nil, List.map_eq_nil_iff] at h2
  rwa [h2] at h1

theorem getElem?_split {α : Type} {l : List α} {i : Nat} {x : α} (h : l[i]? = some x) :
    ∃ pre post, l = pre ++ x :: post ∧ pre.length = i := by
  obtain ⟨hi, rfl⟩ := List.getElem?_eq_some_iff.mp h
  exact ⟨l.take i, l.drop (i + 1), by rw [← List.drop_eq_getElem_cons hi, List.take_append_drop],
    List.length_take_of_le (Nat.le_of_lt hi)⟩

theorem set_at_length {α : Type} (pre post : List α) (x y : α) : (pre ++ x :: post).set pre.length y = pre ++ y :: post := by
  simp

end Qentem.HashLedger
