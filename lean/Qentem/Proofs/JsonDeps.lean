import Qentem.Model.JsonDeps
import Qentem.Proofs.UnicodeUnEscape
import Qentem.Props.C09
/-! The concrete sub-routines meet the contracts the parser theorems assume. -/
namespace Qentem.Json
open Qentem.Unicode

/-- the un-escaper on `len` units of a buffer is the suffix model on those units -/
theorem unEscapeDep_eq (w : Nat) (c : Array Nat) (start len : Nat) (h : start + len ≤ c.size) :
    unEscapeDep w c start len = .ok ((unEscapeB w ((c.toList.drop start).take len) [] [] 0).2,
      (unEscapeB w ((c.toList.drop start).take len) [] [] 0).1) := by
  unfold unEscapeDep
  rw [unEscapeA_eq_B w (c.toList.drop start) len [] (by simp; omega)]

/-- … and on all that is left of the buffer, as the parser calls it -/
theorem unEscapeDep_rest (w : Nat) (c : Array Nat) (o : Nat) :
    unEscapeDep w c o (c.size - o) = .ok ((unEscapeB w (c.toList.drop o) [] [] 0).2, (unEscapeB w (c.toList.drop o) [] [] 0).1) := by
  unfold unEscapeDep
  rw [unEscapeA_eq_B w (c.toList.drop o) (c.size - o) [] (by simp), List.take_of_length_le (by simp)]

/-- `UnEscape` model: never reads outside the `len` units it is given, returns at most `len`. -/
theorem unEscapeDep_ok (w : Nat) (c : Array Nat) (start len : Nat) (h : start + len ≤ c.size) :
    ∃ r s, unEscapeDep w c start len = .ok (r, s) ∧ r ≤ len := by
  refine ⟨_, _, unEscapeDep_eq w c start len h, ?_⟩
  have := unEscapeB_ret_le w ((c.toList.drop start).take len) [] [] 0
  have := List.length_take_le len (c.toList.drop start)
  omega

/-- `StringToNumber` model: never reads outside `[0, length)`; on success the new offset lies
strictly after the old one and inside the buffer. -/
theorem strToNumDep_ok (c : Array Nat) (offset : Nat) (hsz : c.size < 2 ^ 32) (_h : offset < c.size) :
    ∃ r, strToNumDep c offset c.size = .ok r ∧
      (r.kind ≠ .notANumber → offset < r.newOffset ∧ r.newOffset ≤ c.size) := by
  have hc : c.size ≤ c.toList.length := by simp
  obtain ⟨r, hr⟩ := Qentem.Props.C09.strToNum_no_fault c.toList offset c.size hc hsz
  unfold strToNumDep
  rw [hr]
  refine ⟨_, rfl, ?_⟩
  intro hk
  have hk' : r.kind ≠ .notANumber := by
    intro e; apply hk; simp [kindOf, e]
  exact Qentem.Props.C09.strToNum_offset_bounds c.toList offset c.size r hc hsz hr hk'

theorem strToNumDep_of_run (w : Nat) {c : Array Nat} {o : Nat} {r : Qentem.StrToNum.Res}
    (h : Qentem.StrToNum.strToNum c.toList o c.size = some r) :
    (jsonDeps w).strToNum c o c.size = .ok ⟨kindOf r.kind, r.bits, r.offset⟩ := by
  show strToNumDep c o c.size = _
  rw [strToNumDep, h]

theorem jsonDeps_safe (w : Nat) : DepsSafe (jsonDeps w) :=
  ⟨fun c start len h => unEscapeDep_ok w c start len h, fun c offset hsz h => strToNumDep_ok c offset hsz h⟩

end Qentem.Json
