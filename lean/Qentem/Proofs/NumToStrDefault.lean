import Qentem.Proofs.NumToStrKept
/-! C10, Default format: on every run `formatStringNumberDefault` prints the `%g` text `gText` of the run's
significand and decimal exponent (`formatDefault_gText`) — by cases: a run with an integer part and a fraction
(through `point_layout`), the run of a value below one, a run without fraction. -/
namespace Qentem.Proofs.NumToStr
open Qentem.NumToStr Qentem.Generated.NumToStr Qentem

/-- `formatStringNumberDefault` after the rounding block: the fraction layout, the reversal, the exponent -/
def defaultTail (pos : Bool) (start : Nat) (s : List Nat) (index power nl fl : Nat) (pi : Bool) : M (List Nat) := do
  let b ← defaultFraction start s index power nl fl pi
  let s ← finishNumber start b.1 b.2.1
  if b.2.2 ≠ 0 then do
    let s ← insertAt start s Ch.dot (start + 1)
    insertPowerOfTen s b.2.2 pos
  else pure s

theorem formatDefault_tail (s : List Nat) (b P dg fl : Nat) (pos ru : Bool) :
    formatDefault s.length (s ++ Rl b) P dg fl pos ru = (do
      let a ← defaultRound s.length (s ++ Rl b) (D b).length P dg fl pos ru
      defaultTail pos s.length a.1 a.2.1 a.2.2.1 (D b).length a.2.2.2.2 a.2.2.2.1) := by
  unfold formatDefault defaultTail
  rw [csub_Rl, ok_bind]

/-- the point inside the kept digits (`fl < nl`), `c ≤ fl` digits cut off: the kept value with `fl - c` decimals -/
theorem defaultTail_point (s : List Nat) {t' : List Nat} {nl c fl k T K : Nat} {pi : Bool} (hKept : Kept t' nl k T pi)
    (idx : Nat) (hsk : skipWhile Ch.zero (s ++ t').length (s ++ t') idx = s.length + k)
    (hfl0 : 0 < fl) (hfl : c ≤ fl) (hflL : fl < nl) (hck : c ≤ k)
    (hkept : K = T * 10 ^ (k - c + (if pi then 1 else 0))) :
    defaultTail true s.length (s ++ t') idx 0 nl fl pi = .ok (s ++ FmtSpec.stripFraction (fixedText K (fl - c))) := by
  obtain ⟨r2, hr2, hfin2, _⟩ := point_layout 6 s hKept hfl0 hfl hflL hck hkept
  unfold defaultTail
  rw [defaultFraction_point (by omega) (by omega), hsk, hr2, ok_bind, pure_bind]
  simp only []
  rw [hfin2, ok_bind]
  simp only [ne_eq, not_true_eq_false, if_false, pure, Except.pure]

/-- no fraction left and an exponent `X ≠ 0`: the kept digits with the point after the first, and `e±XX` -/
theorem defaultTail_sci (s : List Nat) (pos : Bool) {t' : List Nat} {nl k T X : Nat} {pi : Bool}
    (hKept : Kept t' nl k T pi) (hX0 : X ≠ 0) (hX : X < 2 ^ 32) :
    defaultTail pos s.length (s ++ t') (s.length + k) X nl 0 pi = .ok (s ++ sciText pos T X) := by
  unfold defaultTail defaultFraction
  simp only [ne_eq, not_true_eq_false, if_false, pure_bind]
  rw [hKept.finish s, ok_bind, if_pos hX0]
  exact sci_exponent s T pos hX

theorem formatDefault_frac_ge1 (s : List Nat) {b P dg fl : Nat} (ru : Bool) (hb : 0 < b) (hP : 0 < P) (hdg : dg ≤ P)
    (hfl0 : 0 < fl) (hflL : fl < (D b).length) (hb10 : (D b).length ≤ P → b % 10 ≠ 0)
    (hsmall : (D b).length < 2 ^ 31) :
    formatDefault s.length (s ++ Rl b) P dg fl true ru =
      .ok (s ++ gText P (sig b (D b).length P ru) (((D b).length : Int) - 1 - fl)) := by
  have hLpos := D_length_pos b
  by_cases hLP : (D b).length ≤ P
  · have hb10' := hb10 hLP
    have hG : gText P (sig b (D b).length P ru) (((D b).length : Int) - 1 - fl) = FmtSpec.stripFraction (fixedText b fl) := by
      have h0 := strip_fixedText_shift b fl 0 hfl0 hb10'
      rw [Nat.pow_zero, Nat.mul_one, Nat.add_zero] at h0
      rw [gText_sig_short ru hLP, h0]
      rw [gBody_pos (by omega),
        show ((P : Int) - 1 - (((D b).length : Int) - 1 - fl)).toNat = fl + (P - (D b).length) by omega,
        strip_fixedText_shift b fl _ hfl0 hb10']
    rw [hG, formatDefault_tail]
    unfold defaultRound
    rw [if_neg (by omega), pure_bind]
    -- nothing was cut, no trailing zero to skip: the run as it is, in the shared layout
    have hsk : skipWhile Ch.zero (s ++ Rl b).length (s ++ Rl b) s.length = s.length + 0 :=
      skipWhile_stop Ch.zero (s ++ Rl b) (s.length + 0) (Rl_head_ne_zero hb10' s (Rl b) 0 (by simp)) (s ++ Rl b).length
    exact defaultTail_point s (c := 0) (K := b) (Kept.unrounded hb hb10') s.length hsk hfl0
      (Nat.zero_le _) hflL (Nat.le_refl _) (by simp)
  · have hLP' : P < (D b).length := by omega
    obtain ⟨r, t', k, T, hr, hr1, hskip, hik, hKept, hkept⟩ := round_skip s (b := b) (i := (D b).length - P - 1) (by omega) ru
    have hkL := hKept.lt
    rw [hr1] at hskip
    -- the text: `e` style when the kept digits (one more after a carry) fill the precision before the point
    have hG : gText P (sig b (D b).length P ru) (((D b).length : Int) - 1 - fl) =
        (if P ≤ (D b).length - fl - (if r.2.2 = true then 0 else 1) then
            sciText true T ((D b).length - fl - (if r.2.2 = true then 0 else 1))
          else FmtSpec.stripFraction (fixedText (keptUp b ((D b).length - P - 1) ru) (P - ((D b).length - fl)))) := by
      have hLn : 1 ≤ (D b).length - fl := by omega
      rw [sig_long hLP',
        show ((D b).length : Int) - 1 - fl = (((D b).length - fl - 1 : Nat) : Int) by omega]
      by_cases hexp : P ≤ (D b).length - fl - (if r.2.2 = true then 0 else 1)
      · rw [if_pos hexp, hKept.gText_sci hik (by omega) hkept (by cases hpv : r.2.2 <;> simp [hpv] at hexp ⊢ <;> omega)]
        congr 1; split <;> omega
      · rw [if_neg hexp, hKept.gText_pos hik (by omega) hkept (by cases hpv : r.2.2 <;> simp [hpv] at hexp ⊢ <;> omega)]
        congr 2; omega
    rw [hG, formatDefault_tail]
    unfold defaultRound
    rw [if_pos hLP', show s.length + ((D b).length - P) - 1 = s.length + ((D b).length - P - 1) by omega, hr, ok_bind]
    have hcs4 : csub 4 (D b).length fl = .ok ((D b).length - fl) := by simp [csub, pure, Except.pure]; omega
    simp only [if_true, hcs4, ok_bind, hdg, Nat.add_zero]
    have hle5 : (if r.2.2 = true then 0 else 1) ≤ (D b).length - fl := by split <;> omega
    have hcs5 : csub 5 ((D b).length - fl) (if r.2.2 = true then 0 else 1) =
        .ok ((D b).length - fl - (if r.2.2 = true then 0 else 1)) := by simp [csub, hle5, pure, Except.pure]
    rw [hcs5, ok_bind]
    rw [hr1]
    by_cases hexp : P ≤ (D b).length - fl - (if r.2.2 = true then 0 else 1)
    · -- exponent style
      rw [if_pos hexp, if_pos hexp, pure_bind]
      simp only []
      rw [hskip]
      exact defaultTail_sci s true hKept (by omega) (by split <;> omega)
    · -- fraction layout
      rw [if_neg hexp, if_neg hexp, pure_bind]
      simp only []
      have hLn : (D b).length - fl ≤ P := by split at hexp <;> omega
      -- `defaultRound` did not skip in this branch; `defaultFraction` skips the zeros above the rounding position
      rw [defaultTail_point s (c := (D b).length - P - 1 + 1) hKept r.2.1 hskip hfl0 (by omega) hflL hik hkept]
      congr 4
      omega

/-- a pure fraction on the kept digits: `fl - nl` leading fractional zeros, one less after a carry -/
theorem defaultTail_lt1 (s : List Nat) {t' : List Nat} {nl k T : Nat} {pi : Bool} (hKept : Kept t' nl k T pi)
    (idx fl : Nat) (hsk : skipWhile Ch.zero (s ++ t').length (s ++ t') idx = s.length + k) (hnl : nl ≤ fl)
    (hfl : fl < 2 ^ 31) :
    defaultTail false s.length (s ++ t') idx 0 nl fl pi =
    .ok (s ++ (if fl - nl + (if pi then 0 else 1) ≤ 4 then lowText T (fl - nl + (if pi then 0 else 1))
               else sciText false T (fl - nl + (if pi then 0 else 1)))) := by
  have htl := hKept.len
  have hk := hKept.lt
  have hdrop := hKept.drop
  have hdiff : (if nl < fl then fl - nl else 0) = fl - nl := by split <;> omega
  unfold defaultTail defaultFraction
  rw [if_pos (by omega), hsk]
  simp only [hnl, if_true, hdiff]
  have hfinish : ∀ zs : List Nat, finishNumber s.length (s ++ t' ++ zs ++ [Ch.dot, Ch.zero]) (s.length + k) =
      .ok (s ++ 48 :: 46 :: (zs.reverse ++ D T)) := by
    intro zs
    rw [show s ++ t' ++ zs ++ [Ch.dot, Ch.zero] = s ++ (t' ++ zs ++ [46, 48]) by simp [Ch.dot, Ch.zero],
      finishNumber_drop s _ k (by simp [htl]; omega), List.append_assoc,
      List.drop_append_of_le_length (by omega), hdrop]
    simp [Rl, List.reverse_append]
  cases pi
  · simp only [Bool.not_false, if_true, Bool.false_eq_true, if_false]
    by_cases h4 : fl - nl < 4
    · rw [if_pos h4, zerosShort_eq (by omega), ok_bind, pure_bind]
      simp only [ne_eq, not_true_eq_false, if_false]
      rw [hfinish, ok_bind, if_pos (by omega)]
      simp [lowText, pure, Except.pure]
    · rw [if_neg h4, pure_bind]
      simp only []
      rw [hKept.finish s, ok_bind, if_pos (by omega), if_neg (show ¬ (fl - nl + 1 ≤ 4) by omega)]
      exact sci_exponent s T false (by omega)
  · simp only [Bool.not_true, Bool.false_eq_true, if_false, if_true, Nat.add_zero]
    by_cases h5 : fl - nl ≠ 0 ∧ fl - nl < 5
    · rw [if_pos h5, zerosShort_eq (by omega), ok_bind, pure_bind]
      simp only [ne_eq, not_true_eq_false, if_false]
      rw [hfinish, ok_bind, if_pos (by omega)]
      simp [lowText, pure, Except.pure]; omega
    · rw [if_neg h5, pure_bind]
      simp only []
      rw [hKept.finish s, ok_bind]
      by_cases h0 : fl - nl = 0
      · rw [h0]
        simp [lowText, pure, Except.pure]
      · rw [if_pos h0, if_neg (show ¬ (fl - nl ≤ 4) by omega)]
        exact sci_exponent s T false (by omega)

theorem formatDefault_lt1 (s : List Nat) {b P dg fl : Nat} (ru : Bool) (hb : 0 < b) (hP : 0 < P)
    (hL : (D b).length ≤ fl) (hb10 : (D b).length ≤ P → b % 10 ≠ 0) (hfl : fl < 2 ^ 31) :
    formatDefault s.length (s ++ Rl b) P dg fl false ru =
      .ok (s ++ gText P (sig b (D b).length P ru) (((D b).length : Int) - 1 - fl)) := by
  have hLpos : 0 < (D b).length := D_length_pos b
  have hx : ((D b).length : Int) - 1 - fl = -((fl - (D b).length + 1 : Nat) : Int) := by omega
  by_cases hLP : (D b).length ≤ P
  · rw [gText_sig_short ru hLP, hx, gBody_neg hb (hb10 hLP) (by omega) (by omega)]
    rw [formatDefault_tail]
    unfold defaultRound
    rw [if_neg (by omega), pure_bind]
    simp only []
    have hget := Rl_head_ne_zero (hb10 hLP) s (Rl b) 0 (by simp)
    have hsk := skipWhile_stop Ch.zero (s ++ Rl b) (s.length + 0) hget (s ++ Rl b).length
    have := defaultTail_lt1 s (Kept.unrounded hb (hb10 hLP)) s.length fl hsk hL hfl
    simp only [Bool.false_eq_true, if_false] at this
    exact this
  · have hLP' : P < (D b).length := by omega
    obtain ⟨r, t', k, T, hr, hr1, hskip, hik, hKept, hkept⟩ := round_skip s (b := b) (i := (D b).length - P - 1) (by omega) ru
    rw [hr1] at hskip
    rw [formatDefault_tail]
    unfold defaultRound
    rw [if_pos hLP', show s.length + ((D b).length - P) - 1 = s.length + ((D b).length - P - 1) by omega, hr, ok_bind]
    simp only [Bool.false_eq_true, if_false, pure_bind]
    rw [hr1, defaultTail_lt1 s hKept r.2.1 fl hskip hL hfl,
      sig_long hLP', hx,
      hKept.gText_neg hik (by omega) hkept (by omega),
      show fl - (D b).length + 1 - (if r.2.2 = true then 1 else 0) = fl - (D b).length + (if r.2.2 = true then 0 else 1) by
        split <;> omega]

theorem formatDefault_int (s : List Nat) {b P dg : Nat} (ru : Bool) (hP : 0 < P)
    (hshort : (D b).length ≤ P → dg ≤ P ∧ ru = false) (hsmall : (D b).length + dg < 2 ^ 32) :
    formatDefault s.length (s ++ Rl b) P dg 0 true ru =
      .ok (s ++ gText P (sig b (D b).length P ru)
        (((D b).length : Int) - 1 + ((if dg ≤ P then 0 else dg - (P + 1) : Nat) : Int))) := by
  have hLpos := D_length_pos b
  by_cases hLP : (D b).length ≤ P
  · obtain ⟨hdg, rfl⟩ := hshort hLP
    rw [formatDefault_integer s (Rl b) P dg (by rw [Rl_length]; exact hLP), gText_sig_short false hLP, if_pos hdg]
    rw [gBody_pos (by omega),
      show ((P : Int) - 1 - (((D b).length : Int) - 1 + ((0 : Nat) : Int))).toNat = P - (D b).length by omega,
      fixedText_int, stripFraction_int]
    simp [Rl]
  · have hL : P < (D b).length := by omega
    obtain ⟨r, t', k, T, hr, hr1, hskip, hik, hKept, hk⟩ := round_skip s (b := b) (i := (D b).length - P - 1) (by omega) ru
    rw [formatDefault_tail]
    unfold defaultRound
    rw [if_pos hL, show s.length + ((D b).length - P) - 1 = s.length + ((D b).length - P - 1) by omega, hr, ok_bind]
    simp only [if_true, csub, Nat.zero_le, Nat.sub_zero, pure_bind]
    have hex : (if dg ≤ P then 0 else dg - (P + 1)) ≤ dg := by split <;> omega
    generalize (if dg ≤ P then 0 else dg - (P + 1)) = ex at *
    -- the text: the significand without its trailing zeros, the exponent one higher after a carry
    have hG : gText P (sig b (D b).length P ru) (((D b).length : Int) - 1 + (ex : Int)) =
        sciText true T ((D b).length + ex - (if r.2.2 = true then 0 else 1)) := by
      rw [sig_long hL,
        show ((D b).length : Int) - 1 + (ex : Int) = (((D b).length + ex - 1 : Nat) : Int) by omega,
        hKept.gText_sci hik (by omega) hk (by omega)]
      congr 1; split <;> omega
    have hle : (if r.2.2 = true then 0 else 1) ≤ (D b).length + ex := by split <;> omega
    have hpd : P ≤ (D b).length + ex - (if r.2.2 = true then 0 else 1) := by split <;> omega
    simp only [hle, if_true, pure_bind, hpd]
    rw [hskip, hr1, hG]
    exact defaultTail_sci s true hKept (by omega) (by split <;> omega)

/-- the exponent is that of the run's leading digit: `fl` fractional digits, and for a run without fraction whose
estimate `dg` exceeds `P`, `dg - (P+1)` integer digits were dropped before -/
theorem formatDefault_gText (s : List Nat) {b P dg fl : Nat} (pos ru : Bool) (hb : 0 < b) (hP : 0 < P)
    (hpos : pos = true ↔ fl < (D b).length) (hdg : 0 < fl → pos = true → dg ≤ P)
    (hshort : (D b).length ≤ P → (pos = true → dg ≤ P) ∧ ru = false ∧ (0 < fl → b % 10 ≠ 0))
    (hsmall : (D b).length + dg < 2 ^ 31) (hfl : fl < 2 ^ 31) :
    formatDefault s.length (s ++ Rl b) P dg fl pos ru =
      .ok (s ++ gText P (sig b (D b).length P ru)
        (((D b).length : Int) - 1 + ((if pos = true ∧ P < dg then dg - (P + 1) else 0 : Nat) : Int) - fl)) := by
  cases pos
  · have hL : (D b).length ≤ fl := by
      by_contra h; exact absurd (hpos.mpr (by omega)) (by decide)
    have hLpos := D_length_pos b
    rw [formatDefault_lt1 s ru hb hP hL (fun h => (hshort h).2.2 (by omega)) hfl]
    simp
  · have hflL : fl < (D b).length := hpos.mp rfl
    by_cases hfl0 : fl = 0
    · subst hfl0
      rw [formatDefault_int s ru hP (fun h => ⟨(hshort h).1 rfl, (hshort h).2.1⟩) (by omega)]
      have : (if true = true ∧ P < dg then dg - (P + 1) else 0) = (if dg ≤ P then 0 else dg - (P + 1)) := by
        by_cases h : dg ≤ P
        · rw [if_neg (fun h' => absurd h'.2 (by omega)), if_pos h]
        · rw [if_pos ⟨rfl, by omega⟩, if_neg h]
      rw [this]; simp
    · have hdgP := hdg (by omega) rfl
      rw [formatDefault_frac_ge1 s ru hb hP hdgP (by omega) hflL (fun h => (hshort h).2.2 (by omega)) (by omega),
        if_neg (by omega)]
      simp

end Qentem.Proofs.NumToStr
