import Qentem.Model.NumToStr
import Qentem.Model.FmtSpec
import Qentem.Proofs.Decimal
import Mathlib.Data.Nat.Digits.Defs
import Mathlib.Tactic.Ring
/-! Helper lemmas for C10: the integer path of `Digit::NumberToString` prints `Nat.toDigits 10`,
and `bigIntToString` appends the reversed decimal digits of its argument. -/
namespace Qentem.Proofs.NumToStr
open Qentem.NumToStr Qentem.Generated.NumToStr Qentem

/-- ASCII decimal digits, most significant first — the reference the integer path is proved against -/
abbrev D (n : Nat) : List Nat := FmtSpec.digitsOf n

theorem D_lt10 {n : Nat} (h : n < 10) : D n = [48 + n] := Decimal.digitsOf_lt10 h

theorem D_step {n : Nat} (h : 10 ≤ n) : D n = D (n / 10) ++ [48 + n % 10] := Decimal.digitsOf_step h

theorem D_step2 {n : Nat} (h : 100 ≤ n) : D n = D (n / 100) ++ [48 + (n / 10) % 10, 48 + n % 10] := by
  rw [D_step (by omega : 10 ≤ n), D_step (by omega : 10 ≤ n / 10), Nat.div_div_eq_div_mul]
  simp

theorem D_two {n : Nat} (h1 : 10 ≤ n) (h2 : n < 100) : D n = [48 + n / 10, 48 + n % 10] := by
  rw [D_step h1, D_lt10 (by omega : n / 10 < 10)]
  simp

theorem tbl1_eq : ∀ m, m < 100 → tbl digitTable1 (2 * m) = .ok (48 + m / 10) ∧ tbl digitTable1 (2 * m + 1) = .ok (48 + m % 10) := by
  decide +kernel

theorem tbl2_eq : ∀ m, m < 10 → tbl digitTable2 m = .ok (48 + m) := by decide +kernel

theorem intFwdLoop_eq (k : Nat) : ∀ n acc, n < 10 * 100 ^ k →
    intFwdLoop (k + 1) n acc = .ok (if n ≠ 0 ∨ acc = [] then D n ++ acc else acc) := by
  induction k with
  | zero =>
    intro n acc h
    have h10 : n < 10 := by simpa using h
    simp only [intFwdLoop, show ¬ (10 ≤ n) by omega, if_false]
    split
    · simp [tbl2_eq n h10, D_lt10 h10, bind, Except.bind, pure, Except.pure]
    · rfl
  | succ k ih =>
    intro n acc h
    rw [intFwdLoop]
    by_cases h10 : 10 ≤ n
    · have hm : n % 100 < 100 := Nat.mod_lt _ (by decide)
      obtain ⟨e0, e1⟩ := tbl1_eq (n % 100) hm
      have hq : n / 100 < 10 * 100 ^ k := by
        rw [Nat.div_lt_iff_lt_mul (by decide)]; rw [Nat.pow_succ] at h; omega
      simp only [h10, if_true, Nat.mul_comm (n % 100) 2, e0, e1, bind, Except.bind]
      rw [ih _ _ hq]
      simp only [show n ≠ 0 by omega, ne_eq, not_false_eq_true, true_or, if_true]
      by_cases hz : n / 100 = 0
      · have : n < 100 := by omega
        simp [hz, D_two h10 this]
        omega
      · have : 100 ≤ n := by omega
        simp [hz, D_step2 this]
        omega
    · have h10' : n < 10 := by omega
      simp only [h10, if_false]
      split
      · simp [tbl2_eq n h10', D_lt10 h10', bind, Except.bind, pure, Except.pure]
      · rfl


/-- `IntToString<true>` is `IntToString<false>` written the other way round: the same loop on the reversed
accumulator -/
theorem intRevLoop_reverse : ∀ fuel n acc,
    intRevLoop fuel n acc = Except.map List.reverse (intFwdLoop fuel n acc.reverse) := by
  intro fuel
  induction fuel with
  | zero => intro n acc; rfl
  | succ k ih =>
    intro n acc
    rw [intRevLoop, intFwdLoop]
    by_cases h10 : 10 ≤ n
    · simp only [h10, if_true]
      cases tbl digitTable1 (n % 100 * 2 + 1) with
      | error e => rfl
      | ok lo =>
        cases tbl digitTable1 (n % 100 * 2) with
        | error e => rfl
        | ok hi =>
          show intRevLoop k (n / 100) (acc ++ [lo, hi]) = Except.map List.reverse (intFwdLoop k (n / 100) (hi :: lo :: acc.reverse))
          rw [ih]; simp
    · simp only [h10, if_false, List.reverse_eq_nil_iff]
      split
      · cases tbl digitTable2 n with
        | error e => rfl
        | ok d => show Except.ok (acc ++ [d]) = Except.map List.reverse (Except.ok (d :: acc.reverse)); simp [Except.map]
      · show Except.ok acc = Except.map List.reverse (Except.ok acc.reverse); simp [Except.map]

theorem intRevLoop_eq (k : Nat) (n : Nat) (acc : List Nat) (h : n < 10 * 100 ^ k) :
    intRevLoop (k + 1) n acc = .ok (if n ≠ 0 ∨ acc = [] then acc ++ (D n).reverse else acc) := by
  rw [intRevLoop_reverse, intFwdLoop_eq k n _ h]
  simp only [Except.map, List.reverse_eq_nil_iff]
  split <;> simp

theorem D_length_le (n e : Nat) (he : 0 < e) (h : n < 10 ^ e) : (D n).length ≤ e := by
  simpa [D, FmtSpec.digitsOf] using Nat.toDigits_length 10 n e he h

theorem D_ne_nil (n : Nat) : D n ≠ [] := by
  unfold D FmtSpec.digitsOf
  rw [Nat.toDigits_eq_if (by decide : 1 < 10)]
  split <;> simp

theorem D_length_pos (n : Nat) : 0 < (D n).length := List.length_pos_iff.mpr (D_ne_nil n)

/-- the four integer widths of the property -/
def IsWidth (bytes : Nat) : Prop := bytes = 1 ∨ bytes = 2 ∨ bytes = 4 ∨ bytes = 8

theorem pow_le_maxDigits {bytes : Nat} (hb : IsWidth bytes) : 2 ^ (8 * bytes) ≤ 10 ^ maxDigitsOf bytes ∧ 0 < maxDigitsOf bytes ∧
    2 ^ (8 * bytes) < 10 * 100 ^ 39 := by
  rcases hb with rfl | rfl | rfl | rfl <;> decide

theorem intFwd_eq {bytes n : Nat} (hb : IsWidth bytes) (h : n < 2 ^ (8 * bytes)) : intFwd bytes n = .ok (D n) := by
  obtain ⟨h1, h2, h3⟩ := pow_le_maxDigits hb
  have hl : (D n).length ≤ maxDigitsOf bytes := D_length_le n _ h2 (by omega)
  simp [intFwd, intFuel, intFwdLoop_eq 39 n [] (by omega), hl, bind, Except.bind, pure, Except.pure]

theorem intRev_eq {bytes n : Nat} (hb : IsWidth bytes) (h : n < 2 ^ (8 * bytes)) : intRev bytes n = .ok (D n).reverse := by
  obtain ⟨h1, h2, h3⟩ := pow_le_maxDigits hb
  have hl : (D n).length ≤ maxDigitsOf bytes := D_length_le n _ h2 (by omega)
  simp [intRev, intFuel, intRevLoop_eq 39 n [] (by omega), hl, bind, Except.bind, pure, Except.pure]

theorem intToString_unsigned {bytes n : Nat} (pre : List Nat) (hb : IsWidth bytes) (h : n < 2 ^ (8 * bytes)) :
    intToString pre bytes false n = .ok (pre ++ D n) := by
  simp [intToString, intFwd_eq hb h, bind, Except.bind, pure, Except.pure]

theorem signed_aux {w : Nat} (hw : 0 < w) (v : Int)
    (hlo : -(2 ^ (w - 1) : Int) ≤ v) (hhi : v < (2 ^ (w - 1) : Int)) :
    (v < 0 → 2 ^ (w - 1) ≤ (v % (2 ^ w : Int)).toNat ∧
        (2 ^ w - (v % (2 ^ w : Int)).toNat) % 2 ^ w = v.natAbs ∧ v.natAbs < 2 ^ w) ∧
    (0 ≤ v → (v % (2 ^ w : Int)).toNat < 2 ^ (w - 1) ∧ (v % (2 ^ w : Int)).toNat = v.natAbs ∧
        v.natAbs < 2 ^ w) := by
  -- with `H = 2^(w-1)`: the pattern of `v` is `v` itself, or `v + 2H` when `v` is negative
  have hN : (2:Nat) ^ w = 2 * 2 ^ (w - 1) := by
    conv_lhs => rw [← Nat.sub_add_cancel hw, Nat.pow_succ']
  have hNi : (2:Int) ^ w = 2 * ((2 ^ (w - 1) : Nat) : Int) := by exact_mod_cast hN
  have hHi : (2:Int) ^ (w - 1) = ((2 ^ (w - 1) : Nat) : Int) := by push_cast; rfl
  rw [hHi] at hlo hhi
  rw [hNi, hN]
  generalize (2:Nat) ^ (w - 1) = H at *
  constructor
  · intro hv
    have hm : v % (2 * (H:Int)) = v + 2 * H := by
      rw [← Int.add_emod_right, Int.emod_eq_of_lt (by omega) (by omega)]
    rw [hm, Nat.mod_eq_of_lt (by omega)]
    omega
  · intro hv
    rw [Int.emod_eq_of_lt hv (by omega)]
    omega

theorem intToString_signed {bytes : Nat} (pre : List Nat) (hb : IsWidth bytes) (v : Int)
    (hlo : -(2 ^ (8 * bytes - 1) : Int) ≤ v) (hhi : v < (2 ^ (8 * bytes - 1) : Int)) :
    intToString pre bytes true ((v % (2 ^ (8 * bytes) : Int)).toNat) =
      .ok (pre ++ (if v < 0 then [45] else []) ++ D v.natAbs) := by
  obtain ⟨hn, hp⟩ := signed_aux (w := 8 * bytes) (by rcases hb with rfl | rfl | rfl | rfl <;> decide) v hlo hhi
  by_cases hv : v < 0
  · obtain ⟨h1, h2, h3⟩ := hn hv
    simp [intToString, h1, h2, intFwd_eq hb h3, hv, bind, Except.bind, pure, Except.pure, Ch.negative]
  · obtain ⟨h1, h2, h3⟩ := hp (by omega)
    rw [h2] at h1
    have : ¬ (2 ^ (8 * bytes - 1) ≤ v.natAbs) := by omega
    simp [intToString, this, h2, intFwd_eq hb h3, hv, bind, Except.bind, pure, Except.pure]

/-! ### `bigIntToString` = reversed decimal digits -/

/-- exactly `k` digits of `r`, most significant first, with leading zeros -/
def Dk : Nat → Nat → List Nat
  | 0, _ => []
  | k + 1, r => Dk k (r / 10) ++ [48 + r % 10]

theorem Dk_zero (k : Nat) : Dk k 0 = List.replicate k 48 := by
  induction k with
  | zero => rfl
  | succ k ih => simp [Dk, ih, List.replicate_succ']

theorem Dk_length (k r : Nat) : (Dk k r).length = k := by
  induction k generalizing r with
  | zero => rfl
  | succ k ih => simp [Dk, ih]

theorem D_mul_pow_add (k : Nat) : ∀ q r, 0 < q → r < 10 ^ k → D (q * 10 ^ k + r) = D q ++ Dk k r := by
  induction k with
  | zero => intro q r hq hr; simp at hr; simp [hr, Dk]
  | succ k ih =>
    intro q r hq hr
    have hge : 10 ≤ q * 10 ^ (k + 1) + r := by
      have : 10 ^ (k + 1) ≤ q * 10 ^ (k + 1) := Nat.le_mul_of_pos_left _ hq
      have : 10 ≤ 10 ^ (k + 1) := by
        calc 10 = 10 ^ 1 := by norm_num
          _ ≤ 10 ^ (k + 1) := Nat.pow_le_pow_right (by norm_num) (by omega)
      omega
    rw [D_step hge]
    have e0 : q * 10 ^ (k + 1) = 10 * (q * 10 ^ k) := by rw [Nat.pow_succ]; ring
    have e1 : (q * 10 ^ (k + 1) + r) / 10 = q * 10 ^ k + r / 10 := by
      rw [e0]; omega
    have e2 : (q * 10 ^ (k + 1) + r) % 10 = r % 10 := by
      rw [e0]; omega
    rw [e1, e2, ih q (r / 10) hq (by rw [Nat.pow_succ] at hr; omega)]
    simp [Dk]

theorem Dk_eq_pad (k : Nat) : ∀ r, r < 10 ^ k → 0 < k → Dk k r = List.replicate (k - (D r).length) 48 ++ D r := by
  induction k with
  | zero => intro r _ hk; omega
  | succ k ih =>
    intro r hr _
    by_cases h10 : r < 10
    · have : r / 10 = 0 := by omega
      simp [Dk, this, Dk_zero, D_lt10 h10]
      omega
    · have hk : 0 < k := by
        rcases k with _ | k
        · simp at hr; omega
        · omega
      have hr' : r / 10 < 10 ^ k := by rw [Nat.pow_succ] at hr; omega
      rw [Dk, ih (r / 10) hr' hk, D_step (by omega : 10 ≤ r)]
      simp

theorem zerosShort_eq {n : Nat} (h : n ≤ 19) : zerosShort n = .ok (List.replicate n 48) :=
  (by decide +kernel : ∀ n, n ≤ 19 → zerosShort n = .ok (List.replicate n 48)) n h

theorem zerosLarge_eq {n : Nat} (h : n ≤ 1048576) : zerosLarge n = .ok (List.replicate n 48) := by
  simp [zerosLarge, h, Ch.zero, pure, Except.pure]

/-- reversed digits: what `bigIntToString` appends for a non-zero value -/
def R (b : Nat) : List Nat := if b = 0 then [] else (D b).reverse

theorem bigLoop_eq (k : Nat) : ∀ b s, b < 2 ^ (64 + 63 * k) →
    ∃ bf sf, bigIntToStringLoop (k + 1) b s = .ok (bf, sf) ∧ bf < 2 ^ 64 ∧ sf ++ R bf = s ++ R b := by
  induction k with
  | zero =>
    intro b s h
    have hnb : ¬ (2 ^ wordBits ≤ b) := by simp only [wordBits]; simpa using h
    refine ⟨b, s, ?_, by simpa using h, rfl⟩
    rw [bigIntToStringLoop, if_neg hnb]; rfl
  | succ k ih =>
    intro b s h
    by_cases hb : b < 2 ^ 64
    · have hnb : ¬ (2 ^ wordBits ≤ b) := by simp only [wordBits]; omega
      refine ⟨b, s, ?_, hb, rfl⟩
      rw [bigIntToStringLoop, if_neg hnb]; rfl
    · have hb' : 2 ^ 64 ≤ b := by omega
      have hP : C8.maxPowerOfTenValue = 10 ^ 19 := by decide
      have hr : b % 10 ^ 19 < 10 ^ 19 := Nat.mod_lt _ (by norm_num)
      have hq0 : 0 < b / 10 ^ 19 := Nat.div_pos (by norm_num at hb' ⊢; omega) (by norm_num)
      have hq : b / 10 ^ 19 < 2 ^ (64 + 63 * k) := by
        rw [Nat.div_lt_iff_lt_mul (by norm_num)]
        have : 2 ^ (64 + 63 * (k + 1)) = 2 ^ (64 + 63 * k) * 2 ^ 63 := by rw [← Nat.pow_add]; ring_nf
        have h63 : (2:Nat) ^ 63 ≤ 10 ^ 19 := by norm_num
        calc b < 2 ^ (64 + 63 * k) * 2 ^ 63 := by omega
          _ ≤ 2 ^ (64 + 63 * k) * 10 ^ 19 := Nat.mul_le_mul_left _ h63
      have hlen : (D (b % 10 ^ 19)).length ≤ 19 := D_length_le _ 19 (by norm_num) hr
      have hrev : intRev 8 (b % 10 ^ 19) = .ok (D (b % 10 ^ 19)).reverse :=
        intRev_eq (Or.inr (Or.inr (Or.inr rfl))) (by norm_num at hr ⊢; omega)
      obtain ⟨bf, sf, e, hbf, hs⟩ := ih (b / 10 ^ 19) (s ++ (D (b % 10 ^ 19)).reverse ++ List.replicate (19 - (D (b % 10 ^ 19)).length) 48) hq
      refine ⟨bf, sf, ?_, hbf, ?_⟩
      · have hwb : 2 ^ wordBits ≤ b := by simp only [wordBits]; exact hb'
        rw [bigIntToStringLoop, if_pos hwb, hP, hrev]
        simp only [bind, Except.bind, csub, show C8.maxPowerOfTen = 19 from rfl,
          List.length_reverse, hlen, if_true, pure, Except.pure, zerosShort_eq (Nat.sub_le 19 _)]
        exact e
      · rw [hs]
        have hbne : b ≠ 0 := by omega
        have hqne : b / 10 ^ 19 ≠ 0 := by omega
        have hdec : D b = D (b / 10 ^ 19) ++ Dk 19 (b % 10 ^ 19) := by
          conv_lhs => rw [← Nat.div_add_mod b (10 ^ 19), Nat.mul_comm]
          exact D_mul_pow_add 19 _ _ hq0 hr
        simp only [R, hbne, hqne, if_false, hdec, Dk_eq_pad 19 _ hr (by norm_num)]
        simp [List.reverse_append, List.append_assoc]

theorem bigIntToString_eq {tb : Nat} (s : List Nat) {b : Nat} (h : b < 2 ^ tb) :
    bigIntToString tb s b = .ok (s ++ R b) := by
  have hk : b < 2 ^ (64 + 63 * (tb / 63 + 1)) :=
    lt_of_lt_of_le h (Nat.pow_le_pow_right (by norm_num) (by omega))
  obtain ⟨bf, sf, e, hbf, hs⟩ := bigLoop_eq (tb / 63 + 1) b s hk
  unfold bigIntToString
  simp only [e, bind, Except.bind]
  by_cases hz : bf = 0
  · simp [hz, R] at hs ⊢
    simp [hs, pure, Except.pure]
  · have : intRev 8 bf = .ok (D bf).reverse := intRev_eq (Or.inr (Or.inr (Or.inr rfl))) (by norm_num at hbf ⊢; omega)
    simp [hz, this, R, pure, Except.pure] at hs ⊢
    exact hs

end Qentem.Proofs.NumToStr
