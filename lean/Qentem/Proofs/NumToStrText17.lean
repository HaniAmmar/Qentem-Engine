import Qentem.Props.C11Parser
import Qentem.Proofs.StrToNumValue
/-! C11, formatter side of the hypotheses of the parser half (`Props.C11P.parse_exact17`, used in
`Props/C11Closed.lean`): every `%.17g` text of a finite double has one of the parser's shapes (`shape17_format`:
`Text17` for plain texts; for exponent texts `Shape17.sci`, which leaves the exclusion premise `¬ negExc …` of `Text17.sci`
to `Props.C11.text17_format`) and keeps the 1/32-ulp margin in the parser's units
(`marginText_format`, via `margin32_of_close`, `marginPair_of_near`).  The shapes are proved for any digit count
`P ≤ 17` and any decimal exponent in the range of binary64 (`shape_of_form`, on the form `generalBody_form` gives a
`%.{p}g` text; `decExp_range` bounds the exponent from the value), so that `%.9g` is the same development (`shape9_format`: the bounds of `Text17` are upper bounds). -/
namespace Qentem.Proofs.Ident
open Qentem.Proofs.NumToStr Qentem.Round Qentem.Props.C11P

theorem marginPair_of_near (A B K : Nat) (hB : 0 < B) (h : |(A : ℚ) / B - K| ≤ 15 / 32) : MarginPair A B := by
  have hBq : (0 : ℚ) < B := by exact_mod_cast hB
  rw [abs_le] at h
  obtain ⟨h1, h2⟩ := h
  obtain ⟨X, hX⟩ : ∃ X, X = K * B := ⟨_, rfl⟩
  have hXq : (X : ℚ) = K * B := by exact_mod_cast hX
  have e1 : (A : ℚ) / B - K = ((A : ℚ) - X) / B := by rw [hXq, sub_div, mul_div_assoc, div_self hBq.ne', mul_one]
  rw [e1] at h1 h2
  rw [le_div_iff₀ hBq] at h1
  rw [div_le_iff₀ hBq] at h2
  have g1 : 32 * X ≤ 32 * A + 15 * B := by
    have : (32 : ℚ) * X ≤ 32 * A + 15 * B := by linarith only [h1]
    exact_mod_cast this
  have g2 : 32 * A ≤ 32 * X + 15 * B := by
    have : (32 : ℚ) * A ≤ 32 * X + 15 * B := by linarith only [h2]
    exact_mod_cast this
  unfold MarginPair
  by_cases hc : X ≤ A
  · left
    have hdiv : A / B = K := Nat.div_eq_of_lt_le (by rw [← hX]; exact hc) (by rw [Nat.succ_mul, ← hX]; omega)
    have hmod : A % B = A - X := by rw [Nat.mod_def, hdiv, Nat.mul_comm, hX]
    rw [hmod]; omega
  · right
    have hK : 1 ≤ K := by
      by_contra h0
      have : K = 0 := by omega
      subst this; simp at hX; omega
    have hXB : (K - 1) * B = X - B := by rw [Nat.sub_mul, Nat.one_mul, hX]
    have hBX : B ≤ X := by rw [hX]; exact Nat.le_mul_of_pos_left _ hK
    have hdiv : A / B = K - 1 := Nat.div_eq_of_lt_le (by rw [hXB]; omega)
      (by rw [show K - 1 + 1 = K by omega, ← hX]; omega)
    have hmod : A % B = A - (X - B) := by rw [Nat.mod_def, hdiv, Nat.mul_comm, hXB]
    rw [hmod]; omega


theorem margin32_of_close (b m d : Nat) (hfin : (b / 2 ^ 52) % 2 ^ 11 ≠ 2 ^ 11 - 1)
    (hnz : (b / 2 ^ 52) % 2 ^ 11 ≠ 0 ∨ b % 2 ^ 52 ≠ 0) (hd : 0 < d)
    (hV : |(m : ℚ) / d - magQ 52 11 b| ≤ 15 / 32 * ulpQ 52 11 b)
    (hVb : sigField 52 11 b = 2 ^ 52 → |(m : ℚ) / d - magQ 52 11 b| ≤ 15 / 64 * ulpQ 52 11 b) :
    Margin32 m d := by
  obtain ⟨he1, -⟩ := expField_bounds 52 (by decide) hfin
  obtain ⟨hM0, hM, hnorm⟩ := sigField_bounds hnz
  unfold magQ ulpQ ulpExp at hV hVb
  rw [show ((2 : Int) ^ (11 - 1) - 1) = 1023 by norm_num] at hV hVb
  generalize expField 52 11 b = e1 at *
  generalize sigField 52 11 b = M at *
  generalize hq0 : (e1 : Int) - 1023 - (52 : Nat) = q0 at *
  generalize hr : (m : ℚ) / d = r at *
  have hp : (0 : ℚ) < 2 ^ q0 := by positivity
  have hp1 : (0 : ℚ) < 2 ^ (q0 - 1) := by positivity
  rw [abs_le] at hV
  have hMP := le_mul_of_one_le_left hp.le (by exact_mod_cast hM0 : (1 : ℚ) ≤ M)
  have hm : 0 < m := by
    have hdq : (0 : ℚ) < d := by exact_mod_cast hd
    have := (div_pos_iff_of_pos_right hdq).mp (by rw [hr]; linarith only [hV.1, hMP, hp])
    exact_mod_cast this
  obtain ⟨hlo, hhi⟩ := floorLog2Frac_spec m d hm hd
  rw [hr] at hlo hhi
  have hkey := binade_cases 52 1023 (floorLog2Frac m d) r e1 M he1 hM hnorm hlo hhi
    (by rw [hq0]; linarith only [hV.1, hp]) (by rw [hq0]; linarith only [hV.2, hp])
  rw [show (if floorLog2Frac m d < 1 - 1023 then 1 - 1023 else floorLog2Frac m d) = binadeExp m d by
    unfold binadeExp; norm_num] at hkey
  have hBpos := roundPair_pos m d hd
  have hratio := roundPair_ratio m d
  rw [margin32_iff]
  rw [hr] at hratio
  rcases hkey with hk | ⟨hk, h1, hrlt, hM2⟩
  · apply marginPair_of_near _ _ M hBpos
    rw [hratio, hk, show (e1 : Int) - 1023 - 52 = q0 by rw [← hq0]; push_cast; ring, abs_le, le_sub_iff_add_le,
      sub_le_iff_le_add, le_div_iff₀ hp, div_le_iff₀ hp]
    constructor
    · linarith only [hV.1]
    · linarith only [hV.2]
  · -- one binade down the ulp is half as large
    apply marginPair_of_near _ _ (2 * M) hBpos
    have hVb' := abs_le.mp (hVb hM2)
    rw [two_zpow_pred q0] at hVb'
    rw [hratio, hk, show (e1 : Int) - 1023 - 1 - 52 = q0 - 1 by rw [← hq0]; push_cast; ring, abs_le,
      le_sub_iff_add_le, sub_le_iff_le_add, le_div_iff₀ hp1, div_le_iff₀ hp1]
    push_cast
    constructor
    · linarith only [hVb'.1]
    · linarith only [hVb'.2]


/-- `Text17`, except that the scientific case has, in place of the exclusion premise `¬ StrToNum.negExc …`, what
`Props.C11.text17_format` discharges it from: a minus exponent is not `0` (so the net exponent is the written one plus
the fraction digits).  The premise for a plus exponent (`ys.length ≤ decVal ks`) has no reader. -/
inductive Shape17 : List Nat → Prop
  | plain (t : List Nat) : Text17 t → Shape17 t
  | sci (neg : Bool) (d1 : Nat) (ys : List Nat) (eneg : Bool) (ks : List Nat) :
      StrToNum.isNonZeroDigit d1 = true → StrToNum.AllDigits ys →
      ys ≠ [48] → 1 + ys.length ≤ 17 → StrToNum.AllDigits ks → ks ≠ [] → ks.length ≤ 8 →
      (if (StrToNum.netExp false (StrToNum.decVal ks) eneg ys.length).2 then
          (StrToNum.netExp false (StrToNum.decVal ks) eneg ys.length).1 ≤ 1 + ys.length + 324
        else (StrToNum.netExp false (StrToNum.decVal ks) eneg ys.length).1 + (1 + ys.length) ≤ 309) →
      (eneg = false → ys.length ≤ StrToNum.decVal ks) → (eneg = true → StrToNum.decVal ks ≠ 0) →
      Shape17 (FmtSpec.signed neg ([d1] ++ (if ys = [] then [] else 46 :: ys) ++ 101 :: (if eneg then 45 else 43) :: ks))

theorem Dk_ne_48 {k c' : Nat} (hc : c' % 10 ≠ 0) : Dk (k + 1) c' ≠ [48] := by
  intro h
  have hl := congrArg List.length h
  simp [Dk_length] at hl
  subst hl
  simp [Dk] at h
  omega


theorem shape_plainP (P : Nat) (hP1 : 1 ≤ P) (hP17 : P ≤ 17) (neg : Bool) (K q : Nat) (h1 : 10 ^ (P - 1) ≤ K)
    (h2 : K < 10 ^ P) (hq : q ≤ P + 3) :
    Text17 (FmtSpec.signed neg (FmtSpec.stripFraction (fixedText K q))) := by
  have hKpos : 0 < K := lt_of_lt_of_le (Nat.pow_pos (by decide)) h1
  by_cases hq16 : q ≤ P - 1
  · -- an integer part is present
    have ha1 : 1 ≤ K / 10 ^ q := by
      rw [Nat.le_div_iff_mul_le (Nat.pow_pos (by decide)), Nat.one_mul]
      exact le_trans (Nat.pow_le_pow_right (by decide) hq16) h1
    have halt : K / 10 ^ q < 10 ^ (P - q) := by
      rw [Nat.div_lt_iff_lt_mul (Nat.pow_pos (by decide)), ← Nat.pow_add, show P - q + q = P by omega]; exact h2
    have hlen : (D (K / 10 ^ q)).length ≤ P - q := (D_length_le_iff (by omega)).mpr halt
    obtain ⟨d1, xs, hD, hd1, hxs⟩ := D_pos_head (K / 10 ^ q) ha1
    rcases strip_fixedText_cases K q with ⟨_, hs⟩ | ⟨k, c', hc10, hc0, hclt, hkq, hmod, hs⟩
    · rw [hs]
      refine Text17.int neg _ (allDigits_D _) (D_ne_nil _) (Or.inr ?_) (by omega)
      rw [hD]; simp [StrToNum.isNonZeroDigit] at hd1 ⊢; omega
    · rw [hs, hD]
      have := Text17.fixed neg d1 xs (Dk (k + 1) c') hd1 hxs (allDigits_Dk _ _) (Dk_succ_ne_nil _ _) (Dk_ne_48 hc10)
        (by
          have : xs.length + 1 = (D (K / 10 ^ q)).length := by rw [hD]; simp
          rw [Dk_length]; omega)
      simpa using this
  · -- a pure fraction
    have hq17 : P ≤ q := by omega
    have hKlt : K < 10 ^ q := lt_of_lt_of_le h2 (Nat.pow_le_pow_right (by decide) hq17)
    have ha0 : K / 10 ^ q = 0 := Nat.div_eq_of_lt hKlt
    have hKmod : K % 10 ^ q = K := Nat.mod_eq_of_lt hKlt
    rcases strip_fixedText_cases K q with ⟨h0, _⟩ | ⟨k, c', hc10, hc0, hclt, hkq, hmod, hs⟩
    · omega
    · rw [hs, ha0, show D 0 = [48] by decide]
      rw [hKmod] at hmod
      have hpad := Dk_eq_pad (k + 1) c' hclt (by omega)
      obtain ⟨d1, ys, hD, hd1, hys⟩ := D_pos_head c' hc0
      have hlenK : (D K).length = (D c').length + (q - (k + 1)) := by rw [hmod, D_mul_pow c' _ hc0]; simp
      have h17 : P - 1 < (D K).length := D_length_gt h1
      have h17' := (D_length_le_iff (b := K) (k := P) (by omega)).mpr h2
      rw [hpad, hD]
      have hDl : (D c').length = 1 + ys.length := by rw [hD]; simp; omega
      have := Text17.small neg (List.replicate (k + 1 - (D c').length) 48) d1 ys
        (by intro z hz; exact (List.mem_replicate.mp hz).2) (by simp; omega) hd1 hys (by omega)
      rw [hD] at this
      simpa using this

/-- the exponent-style `%.{P}g` texts, `P ≤ 17`, decimal exponent in the range of binary64: the parser's scientific
shape, and a `Text17` when `-256 ≤ x`: the excluded numerals have net exponent 273 or more, and the net exponent is
`|x|` plus the number of fraction digits, at most `256 + 16` -/
theorem shape_sciP (P : Nat) (hP1 : 1 ≤ P) (hP17 : P ≤ 17) (neg : Bool) (K : Nat) (x : Int) (h1 : 10 ^ (P - 1) ≤ K)
    (h2 : K < 10 ^ P) (hx : ((P : Int) ≤ x ∧ x ≤ 308) ∨ (-324 ≤ x ∧ x ≤ -5)) :
    Shape17 (FmtSpec.signed neg (FmtSpec.stripFraction (fixedText K (P - 1)) ++ FmtSpec.expText x)) ∧
    (-256 ≤ x → Text17 (FmtSpec.signed neg (FmtSpec.stripFraction (fixedText K (P - 1)) ++ FmtSpec.expText x))) := by
  have ha1 : 1 ≤ K / 10 ^ (P - 1) := by rw [Nat.le_div_iff_mul_le (Nat.pow_pos (by decide))]; omega
  have ha9 : K / 10 ^ (P - 1) < 10 := by
    rw [Nat.div_lt_iff_lt_mul (Nat.pow_pos (by decide)), Nat.mul_comm, ← Nat.pow_succ, show (P - 1).succ = P by omega]
    exact h2
  have hd1 : StrToNum.isNonZeroDigit (48 + K / 10 ^ (P - 1)) = true := by simp [StrToNum.isNonZeroDigit]; omega
  obtain ⟨hks, hks0, hkv⟩ : StrToNum.AllDigits (FmtSpec.padLeft 2 (D x.natAbs)) ∧ FmtSpec.padLeft 2 (D x.natAbs) ≠ [] ∧
      StrToNum.decVal (FmtSpec.padLeft 2 (D x.natAbs)) = x.natAbs := expText_digits x.natAbs
  have hkl : (FmtSpec.padLeft 2 (D x.natAbs)).length ≤ 8 := by
    have : (D x.natAbs).length ≤ 3 := D_length_le _ 3 (by decide) (by omega)
    unfold FmtSpec.padLeft; simp; omega
  -- the significand: one digit, then nothing or a point and at most `P - 1` digits
  obtain ⟨ys, hys, hy48, hylen, hs⟩ : ∃ ys, StrToNum.AllDigits ys ∧ ys ≠ [48] ∧ ys.length ≤ P - 1 ∧
      FmtSpec.stripFraction (fixedText K (P - 1)) =
        [48 + K / 10 ^ (P - 1)] ++ (if ys = [] then [] else 46 :: ys) := by
    rcases strip_fixedText_cases K (P - 1) with ⟨_, hs⟩ | ⟨k, c', hc10, hc0, hclt, hkq, hmod, hs⟩
    · exact ⟨[], fun _ h => (nomatch h), by simp, by simp, by rw [hs, D_lt10 ha9, if_pos rfl, List.append_nil]⟩
    · exact ⟨Dk (k + 1) c', allDigits_Dk _ _, Dk_ne_48 hc10, by rw [Dk_length]; exact hkq,
        by rw [hs, D_lt10 ha9, if_neg (Dk_succ_ne_nil _ _)]⟩
  rw [hs]
  generalize 48 + K / 10 ^ (P - 1) = d1 at *
  generalize hks' : FmtSpec.padLeft 2 (D x.natAbs) = ks at *
  rcases hx with ⟨ha, hb⟩ | ⟨ha, hb⟩
  · have hexp : FmtSpec.expText x = 101 :: (if false then 45 else 43) :: ks := by
      unfold FmtSpec.expText; rw [if_neg (by omega), hks']; rfl
    have hne : StrToNum.netExp false (StrToNum.decVal ks) false ys.length = (x.natAbs - ys.length, false) := by
      rw [hkv]; simp [StrToNum.netExp, show ys.length ≤ x.natAbs by omega]
    have hr : (if (x.natAbs - ys.length, false).2 = true then (x.natAbs - ys.length, false).1 ≤ 1 + ys.length + 324
        else (x.natAbs - ys.length, false).1 + (1 + ys.length) ≤ 309) := by
      show x.natAbs - ys.length + (1 + ys.length) ≤ 309
      omega
    rw [hexp, List.append_assoc]
    exact ⟨Shape17.sci neg d1 ys false ks hd1 hys hy48 (by omega) hks hks0 hkl (by rw [hne]; exact hr)
        (fun _ => by rw [hkv]; omega) (fun h => Bool.noConfusion h),
      fun _ => Text17.sci neg d1 ys false ks hd1 hys hy48 (by omega) hks hks0 hkl (by rw [hne]; exact hr)
        (by rw [hne]; exact fun h => Bool.noConfusion h)⟩
  · have hexp : FmtSpec.expText x = 101 :: (if true then 45 else 43) :: ks := by
      unfold FmtSpec.expText; rw [if_pos (by omega), hks']; rfl
    have hne : StrToNum.netExp false (StrToNum.decVal ks) true ys.length = (x.natAbs + ys.length, true) := by
      rw [hkv]; simp [StrToNum.netExp, show x.natAbs ≠ 0 by omega]
    have hr : (if (x.natAbs + ys.length, true).2 = true then (x.natAbs + ys.length, true).1 ≤ 1 + ys.length + 324
        else (x.natAbs + ys.length, true).1 + (1 + ys.length) ≤ 309) := by
      show x.natAbs + ys.length ≤ 1 + ys.length + 324
      omega
    rw [hexp, List.append_assoc]
    exact ⟨Shape17.sci neg d1 ys true ks hd1 hys hy48 (by omega) hks hks0 hkl (by rw [hne]; exact hr)
        (fun h => Bool.noConfusion h) (fun _ => by rw [hkv]; omega),
      fun hx' => Text17.sci neg d1 ys true ks hd1 hys hy48 (by omega) hks hks0 hkl (by rw [hne]; exact hr)
        (by rw [hne]; exact fun _ hE => by have := hE.2; omega)⟩

theorem shape_of_form (P : Nat) (hP1 : 1 ≤ P) (hP17 : P ≤ 17) (neg : Bool) (K : Nat) (x : Int) (h1 : 10 ^ (P - 1) ≤ K)
    (h2 : K < 10 ^ P) (hx : -324 ≤ x ∧ x ≤ 308) :
    Shape17 (FmtSpec.signed neg (gBody P K x)) ∧ (-256 ≤ x → Text17 (FmtSpec.signed neg (gBody P K x))) := by
  rw [gBody_fixedText (by omega) h2]
  by_cases hrange : (-4 : Int) ≤ x ∧ x < (P : Int)
  · rw [if_pos hrange]
    have := shape_plainP P hP1 hP17 neg K ((P : Int) - 1 - x).toNat h1 h2 (by omega)
    exact ⟨Shape17.plain _ this, fun _ => this⟩
  · rw [if_neg hrange]
    exact shape_sciP P hP1 hP17 neg K x h1 h2 (by omega)

theorem decExp_range {P K : Nat} {x : Int} {v : ℚ} (hP : 1 ≤ P) (h1 : 10 ^ (P - 1) ≤ K) (h2 : K < 10 ^ P)
    (hclose : |(K : ℚ) * 10 ^ (x - ((P - 1 : Nat) : Int)) - v| ≤ v / 10 ^ (P - 1) / 2) (A B : Int)
    (hlo : (10 : ℚ) ^ A ≤ v / 2) (hhi : 2 * v ≤ 10 ^ B) : A ≤ x ∧ x < B := by
  have h10 : (1 : ℚ) < 10 := by norm_num
  have hvpos : 0 < v := by
    have : (0 : ℚ) < 10 ^ A := by positivity
    linarith
  have hT : (1 : ℚ) ≤ 10 ^ (P - 1) := one_le_pow₀ (le_of_lt h10)
  have hrel : v / 10 ^ (P - 1) ≤ v := div_le_self (le_of_lt hvpos) hT
  have hp : (0 : ℚ) < 10 ^ (x - ((P - 1 : Nat) : Int)) := by positivity
  have hK1 : (10 : ℚ) ^ ((P - 1 : Nat) : Int) ≤ K := by rw [zpow_natCast]; exact_mod_cast h1
  have hK2 : (K : ℚ) < 10 ^ (((P - 1 : Nat) : Int) + 1) := by
    rw [← Nat.cast_succ, zpow_natCast, Nat.succ_eq_add_one, Nat.sub_add_cancel hP]; exact_mod_cast h2
  have hW1 : (10 : ℚ) ^ x ≤ K * 10 ^ (x - ((P - 1 : Nat) : Int)) := by
    calc (10 : ℚ) ^ x = 10 ^ ((P - 1 : Nat) : Int) * 10 ^ (x - ((P - 1 : Nat) : Int)) :=
          (zpow_mul_zpow_eq (by norm_num) (by ring)).symm
      _ ≤ _ := mul_le_mul_of_nonneg_right hK1 (le_of_lt hp)
  have hW2 : (K : ℚ) * 10 ^ (x - ((P - 1 : Nat) : Int)) < 10 ^ (x + 1) := by
    calc (K : ℚ) * 10 ^ (x - ((P - 1 : Nat) : Int))
        < 10 ^ (((P - 1 : Nat) : Int) + 1) * 10 ^ (x - ((P - 1 : Nat) : Int)) := mul_lt_mul_of_pos_right hK2 hp
      _ = 10 ^ (x + 1) := zpow_mul_zpow_eq (by norm_num) (by ring)
  rw [abs_le] at hclose
  have ha : (10 : ℚ) ^ A < 10 ^ (x + 1) := by linarith
  have hb : (10 : ℚ) ^ x < 10 ^ B := by linarith
  have := (zpow_lt_zpow_iff_right₀ h10).mp ha
  have := (zpow_lt_zpow_iff_right₀ h10).mp hb
  omega


theorem text17_zero (neg : Bool) : Text17 (FmtSpec.signed neg [48]) :=
  Text17.int neg [48] (by intro c hc; simp at hc; subst hc; decide) (by simp) (Or.inl rfl) (by simp)

/-- **every `%.{p}g` text, `P ≤ 17`, of a finite pattern of a binary format whose non-zero magnitudes lie between
`2·10^A` and `10^B/2` with `-324 ≤ A`, `B ≤ 309` has one of the parser's shapes**, and is a `Text17` when `-256 ≤ A` -/
theorem shape_format (mb eb p P bits : Nat) (bias A B : Int) (hP : P = if p = 0 then 1 else p) (hP17 : P ≤ 17)
    (hbias : bias = 2 ^ (eb - 1) - 1) (heb : 2 ≤ eb) (hrange : 2 ^ (2 ^ (eb - 1) - 1 + mb) ≤ 10 ^ 1199)
    (hb : bits < 2 ^ (mb + eb + 1)) (hfin : (bits / 2 ^ mb) % 2 ^ eb ≠ 2 ^ eb - 1)
    (hA : (10 : ℚ) ^ A ≤ 2 ^ (1 - bias - mb) / 2) (hB : 2 * (2 : ℚ) ^ ((2 : Int) ^ eb - 1 - bias) ≤ 10 ^ B)
    (hA' : -324 ≤ A) (hB' : B ≤ 309) :
    Shape17 (FmtSpec.formatVal (FmtSpec.decode mb eb bits) p .default) ∧
      (-256 ≤ A → Text17 (FmtSpec.formatVal (FmtSpec.decode mb eb bits) p .default)) := by
  by_cases hnz : (bits / 2 ^ mb) % 2 ^ eb ≠ 0 ∨ bits % 2 ^ mb ≠ 0
  · have hP1 : 1 ≤ P := by rw [hP]; split <;> omega
    obtain ⟨num, den, hdec, hnum, hden, hv, hdb⟩ := decode_fin mb eb bits hfin hnz
    obtain ⟨hvlo, hvhi⟩ := magQ_range mb eb bits bias hbias heb hfin hnz
    obtain ⟨K, x, hK1, hK2, hclose, hform⟩ := generalBody_form num den p P hP hnum hden
      (le_trans hdb (Nat.mul_le_mul_left _ hrange))
    rw [hv] at hclose
    have hx := decExp_range hP1 hK1 hK2 hclose A B
      (le_trans hA (div_le_div_of_nonneg_right hvlo (by norm_num)))
      (le_trans (mul_le_mul_of_nonneg_left hvhi.le (by norm_num)) hB)
    rw [hdec]
    show Shape17 (FmtSpec.signed _ (FmtSpec.generalBody num den p)) ∧
      (_ → Text17 (FmtSpec.signed _ (FmtSpec.generalBody num den p)))
    rw [hform]
    have := shape_of_form P hP1 hP17 (decide ((bits / 2 ^ (mb + eb)) % 2 = 1)) K x hK1 hK2 (by omega)
    exact ⟨this.1, fun h => this.2 (by omega)⟩
  · simp only [not_or, ne_eq, not_not] at hnz
    rw [(format_zero mb eb p bits heb hb hnz.1 hnz.2).1]
    exact ⟨Shape17.plain _ (text17_zero _), fun _ => text17_zero _⟩

theorem shape17_format (b : Nat) (hb : b < 2 ^ 64) (hfin : (b / 2 ^ 52) % 2 ^ 11 ≠ 2 ^ 11 - 1) :
    Shape17 (FmtSpec.format64 b 17 .default) := by
  have hA : (2 * 2 ^ 1074 : Nat) ≤ 10 ^ 324 := by decide +kernel
  have hB : (2 * 2 ^ 1024 : Nat) ≤ 10 ^ 309 := by decide +kernel
  refine (shape_format 52 11 17 17 b 1023 (-324) 309 (by decide) (by decide) (by norm_num) (by decide) range64 hb hfin
    ?_ ?_ (by decide) (by decide)).1
  · rw [show (1 : Int) - 1023 - ((52 : Nat) : Int) = -1074 by norm_num, zpow_neg, zpow_neg, zpow_ofNat, zpow_ofNat,
      inv_eq_one_div, inv_eq_one_div, div_div]
    refine one_div_le_one_div_of_le (by positivity) ?_
    rw [mul_comm]; exact_mod_cast hA
  · rw [show (2 : Int) ^ 11 - 1 - 1023 = 1024 by norm_num, zpow_ofNat, zpow_ofNat]
    exact_mod_cast hB

theorem shape9_format (b : Nat) (hb : b < 2 ^ 32) (hfin : (b / 2 ^ 23) % 2 ^ 8 ≠ 2 ^ 8 - 1) :
    Text17 (FmtSpec.format32 b 9 .default) := by
  refine (shape_format 23 8 9 9 b 127 (-46) 39 (by decide) (by decide) (by norm_num) (by decide) range32 hb hfin
    ?_ ?_ (by decide) (by decide)).2 (by decide)
  · rw [show (1 : Int) - 127 - ((23 : Nat) : Int) = -149 by norm_num, zpow_neg, zpow_neg, zpow_ofNat, zpow_ofNat]
    norm_num
  · rw [show (2 : Int) ^ 8 - 1 - 127 = 128 by norm_num]; norm_num

theorem marginText_format (b : Nat) (hb : b < 2 ^ 64) (hfin : (b / 2 ^ 52) % 2 ^ 11 ≠ 2 ^ 11 - 1) :
    MarginText (FmtSpec.format64 b 17 .default) := by
  intro neg num den hrd hnum0
  by_cases hnz : (b / 2 ^ 52) % 2 ^ 11 ≠ 0 ∨ b % 2 ^ 52 ≠ 0
  · obtain ⟨m, d, hd, hread, hV, hVb⟩ := text_value_close 52 11 17 17 b (by decide) range64 hfin hnz
    have hread' : FmtSpec.readDecimal (FmtSpec.format64 b 17 .default) = some (decide ((b / 2 ^ (52 + 11)) % 2 = 1), m, d) := hread
    rw [hrd] at hread'
    injection hread' with h1
    injection h1 with _ h2
    injection h2 with hm hdd
    subst hm; subst hdd
    have hu := ulpQ_pos 52 11 b
    have hδ : (2 : ℚ) ^ 52 / 10 ^ (17 - 1) ≤ 15 / 32 := by norm_num
    apply margin32_of_close b num den hfin hnz hd
    · exact le_trans (le_of_lt hV) (mul_le_mul_of_nonneg_right hδ (le_of_lt hu))
    · intro hsg
      refine le_trans (hVb hsg) (mul_le_mul_of_nonneg_right ?_ (le_of_lt hu))
      linarith
  · simp only [not_or, ne_eq, not_not] at hnz
    rw [show FmtSpec.format64 b 17 .default = _ from (format_zero 52 11 17 b (by decide) hb hnz.1 hnz.2).1,
      readDecimal_signed_D] at hrd
    injection hrd with h; injection h with _ h2; injection h2 with h3 _; exact absurd h3.symm hnum0

end Qentem.Proofs.Ident
