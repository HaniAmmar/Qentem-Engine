import Qentem.Proofs.StrToNumReal
/-! C09 helper lemmas: the windowed scan over `digits . digits`, for every position of the dot
relative to the 19-unit window; then the whole paths of `afterSign` over such mantissas, by positions only. -/
namespace Qentem.StrToNum

theorem stop_unit (c : List Nat) (e Q : Nat) (st : Stop) (h : stopAt c e Q st) (hQ : Q < e) :
    ∃ x, rd c e Q = some x ∧ isDigit x = false ∧ (x = 46 ↔ st = .dot) := by
  cases st with
  | good =>
    rcases h with h | ⟨x, hx, hc⟩
    · omega
    · have hc := contInt_stop (contReal_eq x ▸ hc)
      exact ⟨x, hx, hc.1, by simp [hc.2]⟩
  | dot => exact ⟨46, h, by decide, by simp⟩
  | emptyExp =>
    obtain ⟨m, hm, hmE, _⟩ := h
    refine ⟨m, hm, ?_, ?_⟩
    · exact (marker_sep hmE).1
    · constructor
      · intro h; omega
      · intro h; cases h

/-- result of the windowed scan once the dot has been taken: a state inside `[lo, Q]` that holds
the dot, or (only when `Q` is not a good stop) NotANumber -/
def Walked (st : Stop) (P lo Q : Nat) (r : Option (Res ⊕ Scan)) : Prop :=
  (∃ s, r = some (.inr s) ∧ s.hasDot = true ∧ s.isReal = true ∧ s.dotOff = P ∧ lo ≤ s.off ∧ s.off ≤ Q) ∨
  (st ≠ .good ∧ ∃ b o, r = some (.inl ⟨.notANumber, b, o⟩))

theorem iter2_walk (c : List Nat) (e W num off dg P Q : Nat) (st : Stop) (hd : digitsOn c e off Q)
    (h1 : off ≤ Q) (hW : W ≤ e) (hoW : off < W) (hst : stopAt c e Q st) :
    Walked st P off Q (iter2 c e W num off dg P) := by
  have hoe : off < e := by omega
  rw [iter2_inside c e W num off dg P hoe]
  by_cases hWQ : W ≤ Q
  · obtain ⟨num', d', hs, hd'⟩ := scanDigits_on c e Q (W - off) off num dg hd (by omega)
    have hne : d' ≠ 46 := by
      rcases hd' with ⟨h0, _⟩ | h
      · omega
      · exact isDigit_ne_dot h
    rw [hs]; simp only [hne, if_false]
    exact Or.inl ⟨_, rfl, rfl, rfl, rfl, Nat.le_add_right _ _, by show off + (W - off) ≤ Q; omega⟩
  · obtain ⟨x, hx, hxd, hx46⟩ := stop_unit c e Q st hst (by omega)
    obtain ⟨num', hs⟩ := scanDigits_hit c e Q x hx hxd (W - off) off num dg hd h1 (by omega)
    rw [hs]
    by_cases h46 : x = 46
    · simp only [h46, if_true]
      exact Or.inr ⟨by rw [hx46.1 h46]; decide, _, _, rfl⟩
    · simp only [h46, if_false]
      exact Or.inl ⟨_, rfl, rfl, rfl, rfl, h1, Nat.le_refl _⟩

theorem Walked_mono {st : Stop} {P lo lo' Q : Nat} {r : Option (Res ⊕ Scan)} (h : Walked st P lo Q r) (hl : lo' ≤ lo) :
    Walked st P lo' Q r := by
  rcases h with ⟨s, h1, h2, h3, h4, h5, h6⟩ | h
  · exact Or.inl ⟨s, h1, h2, h3, h4, Nat.le_trans hl h5, h6⟩
  · exact Or.inr h

theorem afterDot_walk (c : List Nat) (e W num P Q : Nat) (st : Stop) (hd : digitsOn c e (P + 1) Q) (h1 : P + 1 ≤ Q)
    (hW : W ≤ e) (hst : stopAt c e Q st) : Walked st P (P + 1) Q (afterDot c e W num P) := by
  have stay : Walked st P (P + 1) Q (some (.inr ⟨num, P + 1, true, P, true⟩)) :=
    Or.inl ⟨_, rfl, rfl, rfl, rfl, Nat.le_refl _, h1⟩
  -- a unit after the dot that is no digit is the stop
  have stop : ∀ p, p = Q → p < W → ∃ x, rd c e p = some x ∧ isDigit x = false := fun p hp hpW => by
    obtain ⟨x, hx, hxd, _⟩ := stop_unit c e Q st hst (by omega)
    exact ⟨x, hp ▸ hx, hxd⟩
  by_cases h2 : P + 1 < W
  · by_cases hPQ : P + 1 = Q
    · rw [afterDot_stay c e W num P (Or.inr (Or.inl (stop _ hPQ h2)))]; exact stay
    · obtain ⟨d2, hr2, hd2⟩ := hd (P + 1) (Nat.le_refl _) (by omega)
      rcases isDigit_cases hd2 with hnz | h48
      · rw [afterDot, if_pos h2, hr2]; simp only [hnz, if_true]
        exact iter2_walk c e W num (P + 1) d2 P Q st hd (by omega) hW h2 hst
      · subst h48
        by_cases h3 : P + 1 + 1 < W
        · by_cases hPQ2 : P + 1 + 1 = Q
          · rw [afterDot_stay c e W num P (Or.inr (Or.inr ⟨hr2, Or.inr (stop _ hPQ2 h3)⟩))]; exact stay
          · obtain ⟨d3, hr3, hd3⟩ := hd (P + 1 + 1) (by omega) (by omega)
            rw [afterDot, if_pos h2, hr2]
            simp only [show isNonZeroDigit 48 = false by decide, Bool.false_eq_true, if_false, true_and, h3, if_true, hr3,
              hd3]
            exact iter2_walk c e W num (P + 1) d3 P Q st hd (by omega) hW h2 hst
        · rw [afterDot_stay c e W num P (Or.inr (Or.inr ⟨hr2, Or.inl h3⟩))]; exact stay
  · rw [afterDot_stay c e W num P (Or.inl h2)]; exact stay

theorem iter1_walk (c : List Nat) (e W num off dg dotOff : Nat) (isReal : Bool) (P Q : Nat) (st : Stop)
    (hdg : dg ≠ 46) (hd1 : digitsOn c e off P) (hoP : off ≤ P) (hP : rd c e P = some 46)
    (hd : digitsOn c e (P + 1) Q) (h1 : P + 1 ≤ Q) (hW : W ≤ e) (hoW : off ≤ W) (hst : stopAt c e Q st) :
    Walked st P (P + 1) Q (iter1 c e W num off dg false dotOff isReal) ∨
    ∃ num', iter1 c e W num off dg false dotOff isReal = some (.inr ⟨num', W, false, dotOff, isReal⟩) ∧ W ≤ P := by
  have hoe : off < e := Nat.lt_of_le_of_lt hoP (rd_lt hP)
  by_cases hWP : W ≤ P
  · obtain ⟨num', hs⟩ := iter1_on c e W num off dg dotOff isReal P hdg hd1 hoW hWP (Nat.le_of_lt (rd_lt hP))
    exact Or.inr ⟨num', hs, hWP⟩
  · left
    obtain ⟨num', hs⟩ := scanDigits_hit c e P 46 hP (by decide) (W - off) off num dg hd1 hoP (by omega)
    rw [iter1_noDot c e W num off dg dotOff isReal hoe, hs]; simp only [if_true]
    exact afterDot_walk c e W num' P Q st hd h1 hW hst

theorem twentieth_long (c : List Nat) (e num off P m : Nat) (hd1 : digitsOn c e off P) (hoP : off ≤ P)
    (hP : rd c e P = some m) (hm : isDotOrE m = true) :
    ∃ num' off', twentieth c e num off false = some (num', off', off', true) ∧ off ≤ off' ∧ off' ≤ P := by
  by_cases hoP2 : off = P
  · subst hoP2
    exact ⟨num, off, twentieth_sep c e num off m hP hm, Nat.le_refl _, Nat.le_refl _⟩
  · obtain ⟨d, hr, hdig⟩ := hd1 off (Nat.le_refl _) (by omega)
    by_cases hov : num > 0x1999999999999999 ∨ (num = 0x1999999999999999 ∧ d > 53)
    · exact ⟨num, off, twentieth_over c e num off d hr hdig hov, Nat.le_refl _, hoP⟩
    · by_cases h1P : off + 1 = P
      · refine ⟨num * 10 + (d - 48), off + 1, ?_, Nat.le_succ _, by omega⟩
        rw [twentieth_take c e num off d m hr hdig hov (h1P ▸ hP), hm]; rfl
      · obtain ⟨d2, hr2, hd2⟩ := hd1 (off + 1) (by omega) (by omega)
        refine ⟨num * 10 + (d - 48), off + 1, ?_, Nat.le_succ _, by omega⟩
        rw [twentieth_take c e num off d d2 hr hdig hov hr2, hd2, Bool.or_true]

/-! ### Whole paths

`digits . digits` (first digit non-zero), `0 . digits`, and `digits e<nothing>`, for mantissas of any length. -/

theorem outcome_of_nan (st : Stop) (Q : Nat) (hst : st ≠ .good) (b o : Nat) :
    Outcome st Q (some ⟨.notANumber, b, o⟩) := by
  cases st with
  | good => exact absurd rfl hst
  | dot => exact ⟨b, o, rfl⟩
  | emptyExp => exact ⟨b, o, rfl⟩

theorem afterScan_walked (c : List Nat) (e : Nat) (neg : Bool) (start : Nat) (fo : Bool) (st : Stop) (P lo Q : Nat)
    (r : Option (Res ⊕ Scan)) (hw : Walked st P lo Q r) (hd : digitsOn c e lo Q) (hQe : Q ≤ e) (hst : stopAt c e Q st) :
    Outcome st Q (thenScan r (afterScan c e neg start fo)) := by
  rcases hw with ⟨s, hr, h2, h3, h4, h5, h6⟩ | ⟨hne, b, o, hr⟩
  · subst hr
    simp only [thenScan]
    rw [afterScan_real c e neg start fo s h3, h2, h4]
    exact finishReal_afterDot c e neg s.num s.off s.off start fo P Q st (digitsOn_mono hd h5) h6 hQe hst
  · subst hr; simp only [thenScan]; exact outcome_of_nan st Q hne b o

theorem afterSign_real_nonzero (c : List Nat) (e : Nat) (neg : Bool) (off d1 P Q : Nat) (st : Stop) (he : e < 2 ^ 32)
    (h0 : rd c e off = some d1) (h1 : isNonZeroDigit d1 = true) (hd1 : digitsOn c e (off + 1) P) (hoP : off + 1 ≤ P)
    (hP : rd c e P = some 46) (hd : digitsOn c e (P + 1) Q) (hPQ : P + 1 ≤ Q) (hQe : Q ≤ e) (hst : stopAt c e Q st) :
    Outcome st Q (afterSign c e neg off) := by
  have hoff := rd_lt h0
  obtain ⟨hW1, hW2⟩ := windowEnd_bounds e off he hoff
  rw [afterSign_nonzero c e neg off d1 h0 h1]
  generalize windowEnd e off = W at hW1 hW2 ⊢
  rcases iter1_walk c e W (d1 - 48) (off + 1) d1 0 false P Q st
    (isDigit_ne_dot (isNonZeroDigit_isDigit h1)) hd1 hoP hP hd hPQ hW2 (by omega) hst with hw | ⟨num', hs, hWP⟩
  · exact afterScan_walked c e neg off false st P (P + 1) Q _ hw hd hQe hst
  · simp only [hs, thenScan]
    obtain ⟨n2, o2, ht, ho1, ho2⟩ := twentieth_long c e num' W P 46 (digitsOn_mono hd1 (by omega)) hWP hP (by decide)
    rw [afterScan_of_twentieth_real c e neg off false ⟨num', W, false, 0, false⟩ n2 o2 o2 ht]
    exact finishReal_beforeDot c e neg n2 o2 o2 off false 0 P Q st (digitsOn_mono hd1 (by omega)) hP ho2 hd hPQ hQe hst

theorem skipZeros_on (c : List Nat) (e Q : Nat) (st : Stop) (hst : stopAt c e Q st) :
    ∀ (k i dg : Nat), i + k = e → digitsOn c e i Q → i ≤ Q →
    ∃ z dg2, skipZeros c e k i dg = some (z, dg2) ∧ i ≤ z ∧ z ≤ Q
  | 0, i, dg, hk, _, hi => ⟨i, dg, rfl, Nat.le_refl _, hi⟩
  | k + 1, i, dg, hk, hd, hi => by
    by_cases hiQ : i = Q
    · subst hiQ
      obtain ⟨x, hx, hxd, _⟩ := stop_unit c e i st hst (by omega)
      have h48 : x ≠ 48 := by intro h; subst h; simp [isDigit] at hxd
      exact ⟨i, x, by rw [skipZeros, hx]; simp [h48], Nat.le_refl _, Nat.le_refl _⟩
    · obtain ⟨d, hr, _⟩ := hd i (Nat.le_refl _) (by omega)
      by_cases h48 : d = 48
      · obtain ⟨z, dg2, h1, h2, h3⟩ := skipZeros_on c e Q st hst k (i + 1) d (by omega) (digitsOn_mono hd (by omega)) (by omega)
        exact ⟨z, dg2, by rw [skipZeros, hr]; simp only [h48, if_true]; rw [← h48]; exact h1, by omega, h3⟩
      · exact ⟨i, d, by rw [skipZeros, hr]; simp [h48], Nat.le_refl _, hi⟩

theorem afterSign_real_zeroDot (c : List Nat) (e : Nat) (neg : Bool) (off Q : Nat) (st : Stop) (he : e < 2 ^ 32)
    (h0 : rd c e off = some 48) (hP : rd c e (off + 1) = some 46) (hd : digitsOn c e (off + 2) Q) (hPQ : off + 2 ≤ Q)
    (hQe : Q ≤ e) (hst : stopAt c e Q st) :
    Outcome st Q (afterSign c e neg off) := by
  rw [afterSign_zero_next c e neg off 46 h0 hP (by decide) (by decide) (by decide), afterLead, if_pos rfl]
  obtain ⟨z, dg2, hz, hz1, hz2⟩ := skipZeros_on c e Q st hst (e - (off + 1 + 1)) (off + 1 + 1) 46 (by omega)
    (by rw [show off + 1 + 1 = off + 2 by omega]; exact hd) (by omega)
  simp only [hz]
  have hnd : ¬ (off + 1 + 1 = z ∧ off + 1 = off ∧ (!isDigit dg2) = true) := by omega
  simp only [hnd, if_false]
  have hdz : digitsOn c e z Q := digitsOn_mono hd (by omega)
  by_cases hze : z < e
  · obtain ⟨hW1, hW2⟩ := windowEnd_bounds e z he hze
    generalize windowEnd e z = W at hW1 hW2 ⊢
    have hw : Walked st (off + 1) z Q (iter1 c e W 0 z dg2 true (off + 1) true) := by
      rw [iter1_hasDot]
      exact iter2_walk c e W 0 z dg2 (off + 1) Q st hdz hz2 hW2 hW1 hst
    exact afterScan_walked c e neg z true st (off + 1) z Q _ hw hdz hQe hst
  · generalize windowEnd e z = W
    have hw : Walked st (off + 1) z Q (iter1 c e W 0 z dg2 true (off + 1) true) := by
      rw [iter1_hasDot, iter2_atEnd c e W 0 z dg2 (off + 1) hze]
      exact Or.inl ⟨_, rfl, rfl, rfl, rfl, Nat.le_refl _, hz2⟩
    exact afterScan_walked c e neg z true st (off + 1) z Q _ hw hdz hQe hst

theorem afterSign_int_emptyExp (c : List Nat) (e : Nat) (neg : Bool) (off d1 Q m : Nat) (he : e < 2 ^ 32)
    (h0 : rd c e off = some d1) (h1 : isNonZeroDigit d1 = true) (hd1 : digitsOn c e (off + 1) Q) (hoQ : off + 1 ≤ Q)
    (hm : rd c e Q = some m) (hmE : m = 101 ∨ m = 69) (hemp : emptyExpAt c e (Q + 1)) :
    ∃ b o, afterSign c e neg off = some ⟨.notANumber, b, o⟩ := by
  have hoff := rd_lt h0
  have hQe := rd_lt hm
  obtain ⟨hW1, hW2⟩ := windowEnd_bounds e off he hoff
  obtain ⟨hmd, hm46, hmde⟩ := marker_sep hmE
  rw [afterSign_nonzero c e neg off d1 h0 h1]
  generalize windowEnd e off = W at hW1 hW2 ⊢
  -- the windowed scan: no dot anywhere
  have hscan : ∃ num' off', iter1 c e W (d1 - 48) (off + 1) d1 false 0 false =
      some (.inr ⟨num', off', false, 0, false⟩) ∧ off + 1 ≤ off' ∧ off' ≤ Q := by
    by_cases hWQ : W ≤ Q
    · obtain ⟨num', hs⟩ := iter1_on c e W (d1 - 48) (off + 1) d1 0 false Q
        (isDigit_ne_dot (isNonZeroDigit_isDigit h1)) hd1 (by omega) hWQ (Nat.le_of_lt hQe)
      exact ⟨num', W, hs, by omega, hWQ⟩
    · obtain ⟨num', hs⟩ := scanDigits_hit c e Q m hm hmd (W - (off + 1)) (off + 1) (d1 - 48) d1 hd1 hoQ (by omega)
      rw [iter1_noDot c e W (d1 - 48) (off + 1) d1 0 false (by omega), hs]; simp only [hm46, if_false]
      exact ⟨num', Q, rfl, hoQ, Nat.le_refl _⟩
  obtain ⟨num', off', hs, ho1, ho2⟩ := hscan
  rw [hs]; simp only [thenScan]
  obtain ⟨n2, o2, ht, ho3, ho4⟩ := twentieth_long c e num' off' Q m (digitsOn_mono hd1 ho1) ho2 hm hmde
  rw [afterScan_of_twentieth_real c e neg off false ⟨num', off', false, 0, false⟩ n2 o2 o2 ht]
  rw [finishReal]
  have hrun := tailLoop_skip c e n2 Q o2 false 0 (digitsOn_mono hd1 (by omega)) ho4 (Nat.le_of_lt hQe)
  obtain ⟨o, ho⟩ := tailLoop_emptyExp c e n2 Q false 0 m hm hmE hemp
  simp only [hrun, ho]
  exact ⟨_, _, rfl⟩

/-! ### A run of digits that reaches `end_offset`

Optionally after `-`: it is either rejected or consumed completely (used by the JSON area). -/

theorem finishReal_digits_to_end (c : List Nat) (e : Nat) (neg : Bool) (num off tmp start : Nat) (fo hasDot : Bool)
    (dotOff : Nat) (hd : digitsOn c e off e) (ho : off ≤ e) :
    ∃ r, finishReal c e neg num off tmp start fo hasDot dotOff = some r ∧ r.offset = e := by
  have hrun := tailLoop_skip c e num e off hasDot dotOff hd ho (Nat.le_refl _)
  rw [Nat.sub_self] at hrun
  rw [finishReal, hrun]
  simp only [tailLoop]
  obtain ⟨r, h1, h2, _⟩ := realResult_some neg num _ _ _ e
  exact ⟨r, h1, h2⟩

theorem afterScan_digits_to_end (c : List Nat) (e : Nat) (neg : Bool) (start : Nat) (fo : Bool) (s : Scan)
    (hd : digitsOn c e s.off e) (hW : s.off ≤ e) :
    ∃ r, afterScan c e neg start fo s = some r ∧ r.offset = e := by
  have fin : ∀ n o t, digitsOn c e o e → o ≤ e →
      ∃ r, finishReal c e neg n o t start fo s.hasDot s.dotOff = some r ∧ r.offset = e :=
    fun n o t h1 h2 => finishReal_digits_to_end c e neg n o t start fo _ _ h1 h2
  -- every way `twentieth` can end leads to offset `e`
  have key : ∀ n o t ir, twentieth c e s.num s.off s.isReal = some (n, o, t, ir) →
      (ir = true ∧ digitsOn c e o e ∧ o ≤ e) ∨ (o = e) →
      ∃ r, afterScan c e neg start fo s = some r ∧ r.offset = e := by
    intro n o t ir ht hcase
    unfold afterScan
    rw [ht]
    simp only
    rcases hcase with ⟨hir, h1, h2⟩ | ho
    · subst hir
      simp only [Bool.not_true, Bool.false_eq_true, false_and, if_false]
      exact fin n o t h1 h2
    · subst ho
      split
      · exact ⟨_, rfl, rfl⟩
      · split
        · exact ⟨_, rfl, rfl⟩
        · split
          · exact ⟨_, rfl, rfl⟩
          · exact fin n o t (fun k h1 h2 => by omega) (Nat.le_refl _)
  cases hir : s.isReal with
  | true =>
    exact key s.num s.off s.off true (by rw [hir]; exact twentieth_real c e _ _) (Or.inl ⟨rfl, hd, hW⟩)
  | false =>
    rcases Nat.lt_or_ge s.off e with hlt | hge
    · obtain ⟨d, hr, hdig⟩ := hd s.off (Nat.le_refl _) hlt
      by_cases hov : s.num > 0x1999999999999999 ∨ (s.num = 0x1999999999999999 ∧ d > 53)
      · exact key s.num s.off s.off true (by rw [hir]; exact twentieth_over c e _ _ d hr hdig hov) (Or.inl ⟨rfl, hd, hW⟩)
      · rcases Nat.lt_or_ge (s.off + 1) e with h1 | h1
        · obtain ⟨d2, hr2, hd2⟩ := hd (s.off + 1) (by omega) h1
          exact key _ (s.off + 1) (s.off + 1) true
            (by rw [hir, twentieth_take c e _ _ d d2 hr hdig hov hr2, hd2, Bool.or_true])
            (Or.inl ⟨rfl, digitsOn_mono hd (by omega), by omega⟩)
        · exact key _ (s.off + 1) (s.off + 1) false
            (by rw [hir]; exact twentieth_take_last c e _ _ d hr hdig hov (by omega)) (Or.inr (by omega))
    · exact key s.num s.off s.off false (by rw [hir]; exact twentieth_stop c e _ _ (Or.inl (by omega))) (Or.inr (by omega))

theorem afterSign_digits_to_end (c : List Nat) (e : Nat) (neg : Bool) (off d1 : Nat) (he : e < 2 ^ 32)
    (h0 : rd c e off = some d1) (h1 : isNonZeroDigit d1 = true) (hd : digitsOn c e (off + 1) e) :
    ∃ r, afterSign c e neg off = some r ∧ r.offset = e := by
  have hoff := rd_lt h0
  obtain ⟨hW1, hW2⟩ := windowEnd_bounds e off he hoff
  rw [afterSign_nonzero c e neg off d1 h0 h1]
  generalize windowEnd e off = W at hW1 hW2 ⊢
  clear he
  have hscan := iter1_on c e W (d1 - 48) (off + 1) d1 0 false e (isDigit_ne_dot (isNonZeroDigit_isDigit h1)) hd
    (by omega) hW2 (Nat.le_refl _)
  obtain ⟨num', hs⟩ := hscan
  simp only [hs, thenScan]
  exact afterScan_digits_to_end c e neg off false ⟨num', W, false, 0, false⟩
    (digitsOn_mono hd (show off + 1 ≤ W by omega)) hW2

end Qentem.StrToNum
