import Qentem.Proofs.NumToStrExact
import Qentem.Proofs.NumToStrInt
import Qentem.Proofs.NumToStrBits
/-! C10 helper: the reduction.  On a finite non-zero input `realFinite` equals the string-level formatter
(`layout`) applied to the reversed decimal digits of the digit run `runSpec`, the exact decimal expansion of the
value cut at a known place (NumToStrDigits).  What is left of
`FormatEqSpec` after this file is a statement about `formatDefault` / `formatFixed` on digit strings.
`Ieee c M X B` (`Shape` + `Masks` + the bias; `ieee64`, `ieee32`) and `realToString_of_layout` carry a statement about
`layout` on the fields to `realToString` on the bit pattern. -/
namespace Qentem.Proofs.NumToStr
open Qentem.NumToStr Qentem.Generated.NumToStr Qentem

/-! ### the model as "string-level formatter applied to the digit run" -/

/-- the layout step of `realFinite`: one of the three string-level formatters, selected by `format.Type` -/
def layout (fmt start : Nat) (s : List Nat) (p : Nat) (r : Nat × Nat × Nat × Bool × Bool) : M (List Nat) :=
  if fmt = fmtSemiFixed then formatFixed false start s p r.2.2.1 r.2.2.2.2
  else if fmt = fmtFixed then formatFixed true start s p r.2.2.1 r.2.2.2.2
  else formatDefault start s p r.2.1 r.2.2.1 r.2.2.2.1 r.2.2.2.2

theorem layout_default (start : Nat) (s : List Nat) (p : Nat) (r : Nat × Nat × Nat × Bool × Bool) :
    layout 0 start s p r = formatDefault start s p r.2.1 r.2.2.1 r.2.2.2.1 r.2.2.2.2 := rfl

theorem layout_fixed (start : Nat) (s : List Nat) (p : Nat) (r : Nat × Nat × Nat × Bool × Bool) :
    layout 1 start s p r = formatFixed true start s p r.2.2.1 r.2.2.2.2 := rfl

theorem layout_semiFixed (start : Nat) (s : List Nat) (p : Nat) (r : Nat × Nat × Nat × Bool × Bool) :
    layout 2 start s p r = formatFixed false start s p r.2.2.1 r.2.2.2.2 := rfl

theorem runSpec_digits_le {c : Cfg} {M B : Nat} (hc : Shape c M B) {f e p fmt : Nat}
    (hf : f < 2 ^ M) (he : e ≤ 2 * B) (hnz : e ≠ 0 ∨ f ≠ 0) (hp : p ≤ 40 ∨ (B ≤ e ∧ fracBits M B f e = 0)) :
    (D (runSpec M B f e p fmt).1).length ≤ 2 ^ 20 :=
  le_trans (D_length_le _ c.totalBits (by have := hc.wide; omega)
    (lt_of_lt_of_le (digitRun_spec hc hf he hnz hp).2 (Nat.pow_le_pow_left (by decide) _))) hc.len

theorem realFinite_reduce {c : Cfg} {M B : Nat} (hc : Shape c M B) {f e p fmt : Nat} (s : List Nat)
    (hf : f < 2 ^ M) (he : e ≤ 2 * B) (hnz : e ≠ 0 ∨ f ≠ 0) (hp : p ≤ 40 ∨ (B ≤ e ∧ fracBits M B f e = 0)) :
    realFinite c s f (e * 2 ^ M) p fmt =
      layout fmt s.length (s ++ R (runSpec M B f e p fmt).1) p (runSpec M B f e p fmt) := by
  unfold realFinite layout
  obtain ⟨h1, h2⟩ := digitRun_spec hc hf he hnz hp
  rw [h1, ok_bind, bigIntToString_eq s h2, ok_bind]

/-! ### from fields to bit patterns -/

/-- a configuration that is the IEEE 754 binary format with `M` trailing-significand bits, `X` exponent bits and
bias `B`, with a BigInt that has the room `Shape` asks for -/
structure Ieee (c : Cfg) (M X B : Nat) : Prop where
  shape : Shape c M B
  masks : Masks c M X
  mpos : 0 < M
  xge : 2 ≤ X
  hB : B = 2 ^ (X - 1) - 1

theorem ieee64 : Ieee f64 52 11 1023 := ⟨shape64, masks64, by decide, by decide, by decide⟩

/-- `binary32` (23 mantissa bits, 8 exponent bits, bias 127, the 320-bit BigInt) is an instance: the class theorems hold
for `f32` as they do for `f64` -/
theorem ieee32 : Ieee f32 23 8 127 := ⟨shape32, masks32, by decide, by decide, by decide⟩

/-- If, on the fields of a finite non-zero pattern and for every fraction equal to its value, the layout step
prints the reference body after whatever the stream holds, then `realToString` appends the reference text: the
sign, the reduction to `layout` and the decoding are the same for every class of values. -/
theorem realToString_of_layout {c : Cfg} {M X B : Nat} (hc : Ieee c M X B) (pre : List Nat) (bits p fmt : Nat)
    (hfin : (bits / 2 ^ M) % 2 ^ X ≠ 2 ^ X - 1) (hnz : (bits / 2 ^ M) % 2 ^ X ≠ 0 ∨ bits % 2 ^ M ≠ 0)
    (hp : (if fmt = fmtDefault ∧ p = 0 then 1 else p) ≤ 40 ∨
      (B ≤ (bits / 2 ^ M) % 2 ^ X ∧ fracBits M B (bits % 2 ^ M) ((bits / 2 ^ M) % 2 ^ X) = 0))
    (H : ∀ (s : List Nat) (num den : Nat), FinVal M B (bits % 2 ^ M) ((bits / 2 ^ M) % 2 ^ X) num den →
      layout fmt s.length
          (s ++ R (runSpec M B (bits % 2 ^ M) ((bits / 2 ^ M) % 2 ^ X) (if fmt = fmtDefault ∧ p = 0 then 1 else p) fmt).1)
          (if fmt = fmtDefault ∧ p = 0 then 1 else p)
          (runSpec M B (bits % 2 ^ M) ((bits / 2 ^ M) % 2 ^ X) (if fmt = fmtDefault ∧ p = 0 then 1 else p) fmt) =
        .ok (s ++ refBody fmt num den p)) :
    realToString c pre bits p fmt = .ok (pre ++ FmtSpec.formatVal (FmtSpec.decode M X bits) p (fmtOf fmt)) := by
  obtain ⟨num, den, hdec, hv⟩ := decode_fields hc.mpos hc.xge hfin hnz
  rw [← hc.hB] at hv
  rw [realToString_finite hc.masks pre bits p fmt hfin hnz, realFinite_reduce hc.shape _ hv.hf hv.he hv.hnz hp,
    H _ num den hv, hdec, formatVal_fin, sign_append]

end Qentem.Proofs.NumToStr
