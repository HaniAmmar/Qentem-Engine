import Qentem.Model.HashTable
import Mathlib.Data.List.Perm.Subperm
/-!
The representation invariant of the hash table, in two halves.  What it says about keys and hashes is a property of the
list `stats s`; what it says about links is `Chains` over the link store `getLink s` (a chain: the item numbers met when
following links from a bucket head until the link that holds 0).  Every relinking operation (`insert`, `remove`,
`generateHash`, `Rename`) is made of two updates, append an item to a bucket (`Chains.snoc`) and unlink an item
(`Chains.remove`); the elementary updates (`setLink`, `pushItem`, `modItem`) come with their action on both halves, and an
operation re-establishes `Inv` through `inv_of_stat`.  Under the invariant `find` walks the chain of the key's bucket
within its fuel (`find_some`, `find_none`), and appending an item where it stops keeps `Inv` (`insertAt_inv`).
-/
namespace Qentem.HashTable
variable {V : Type}

/-- Following `g` from link `l` visits exactly the items `c` and then reads 0. -/
def Chain (g : Link → Option Nat) : Link → List Nat → Prop
  | l, [] => g l = some 0
  | l, j :: c => g l = some (j + 1) ∧ Chain g (.next j) c

/-- The link at which a walk along `c` from `l` stops. -/
def lastLink (l : Link) (c : List Nat) : Link :=
  match c.getLast? with
  | none => l
  | some x => .next x

/-- The links a walk along `c` from `l` reads. -/
def links (l : Link) (c : List Nat) : List Link := l :: c.map .next

@[simp] theorem lastLink_nil (l : Link) : lastLink l [] = l := rfl

theorem lastLink_cons (l : Link) (j : Nat) (c : List Nat) : lastLink l (j :: c) = lastLink (.next j) c := by
  cases c with
  | nil => rfl
  | cons a t =>
    simp only [lastLink, List.getLast?_cons_cons]
    cases hx : (a :: t).getLast? with
    | none => simp at hx
    | some x => rfl

@[simp] theorem lastLink_snoc (l : Link) (c : List Nat) (n : Nat) : lastLink l (c ++ [n]) = .next n := by
  simp [lastLink]

theorem lastLink_append (l : Link) : ∀ a b : List Nat, lastLink l (a ++ b) = lastLink (lastLink l a) b
  | [], _ => rfl
  | x :: a, b => by rw [List.cons_append, lastLink_cons, lastLink_cons, lastLink_append]

theorem mem_links {l l' : Link} {c : List Nat} : l' ∈ links l c ↔ l' = l ∨ ∃ x ∈ c, l' = .next x := by
  simp only [links, List.mem_cons, List.mem_map]
  exact or_congr Iff.rfl ⟨fun ⟨x, hx, e⟩ => ⟨x, hx, e.symm⟩, fun ⟨x, hx, e⟩ => ⟨x, hx, e.symm⟩⟩

theorem lastLink_mem (l : Link) : ∀ c : List Nat, lastLink l c ∈ links l c
  | [] => by simp [links]
  | j :: c => by rw [lastLink_cons]; exact List.mem_cons_of_mem _ (lastLink_mem (.next j) c)

theorem links_cons (l : Link) (j : Nat) (c : List Nat) : links l (j :: c) = l :: links (.next j) c := rfl

theorem links_append (l : Link) (a b : List Nat) : links l (a ++ b) = links l a ++ b.map .next := by
  simp [links]

theorem chain_last {g : Link → Option Nat} : ∀ {c : List Nat} {l : Link}, Chain g l c → g (lastLink l c) = some 0
  | [], _, h => h
  | j :: c, l, h => by rw [lastLink_cons]; exact chain_last h.2

theorem chain_prefix_last {g : Link → Option Nat} {j : Nat} {post : List Nat} : ∀ {pre : List Nat} {l : Link},
    Chain g l (pre ++ j :: post) → g (lastLink l pre) = some (j + 1)
  | [], _, h => h.1
  | a :: pre, l, h => by rw [lastLink_cons]; exact chain_prefix_last (pre := pre) h.2

/-- Frame rule: a chain only depends on what its links hold (not even on which link it starts from). -/
theorem chain_congr {g g' : Link → Option Nat} : ∀ {c : List Nat} {l l' : Link},
    Chain g l c → g' l' = g l → (∀ x ∈ c, g' (.next x) = g (.next x)) → Chain g' l' c
  | [], _, _, h, hl, _ => hl.trans h
  | j :: c, _, _, h, hl, hc =>
    ⟨hl.trans h.1, chain_congr h.2 (hc j (by simp)) (fun x hx => hc x (by simp [hx]))⟩

theorem chain_frame {g g' : Link → Option Nat} {c : List Nat} {l : Link} (h : Chain g l c)
    (hfr : ∀ l' ∈ links l c, g' l' = g l') : Chain g' l c :=
  chain_congr h (hfr l (by simp [links])) (fun x hx => hfr _ (mem_links.mpr (Or.inr ⟨x, hx, rfl⟩)))

theorem chain_mem_some {g : Link → Option Nat} : ∀ {c : List Nat} {l : Link},
    Chain g l c → ∀ x ∈ c, ∃ w, g (.next x) = some w
  | [], _, _, x, hx => by simp at hx
  | j :: c, l, h, x, hx => by
    rcases List.mem_cons.mp hx with rfl | hx
    · cases c with
      | nil => exact ⟨0, h.2⟩
      | cons a t => exact ⟨a + 1, h.2.1⟩
    · exact chain_mem_some h.2 x hx

theorem chain_snoc {g g' : Link → Option Nat} {n : Nat} : ∀ {c : List Nat} {l : Link},
    Chain g l c → (links l c).Nodup → .next n ∉ links l c →
    (∀ l', l' ≠ lastLink l c → l' ≠ .next n → g' l' = g l') →
    g' (lastLink l c) = some (n + 1) → g' (.next n) = some 0 →
    Chain g' l (c ++ [n])
  | [], _, _, _, _, _, h1, h2 => ⟨h1, h2⟩
  | j :: c, l, h, hnd, hn, hfr, h1, h2 => by
    rw [lastLink_cons] at h1 hfr
    obtain ⟨hl, hnd'⟩ := List.nodup_cons.mp hnd
    refine ⟨?_, chain_snoc h.2 hnd' (fun hm => hn (List.mem_cons_of_mem _ hm)) hfr h1 h2⟩
    rw [hfr l (fun e => hl (e ▸ lastLink_mem _ c)) (fun e => hn (e ▸ List.mem_cons_self))]
    exact h.1

theorem chain_remove {g g' : Link → Option Nat} {j w : Nat} {post : List Nat} : ∀ {pre : List Nat} {l : Link},
    Chain g l (pre ++ j :: post) → (links l (pre ++ j :: post)).Nodup →
    g (.next j) = some w → g' (lastLink l pre) = some w →
    (∀ l', l' ≠ lastLink l pre → l' ≠ .next j → g' l' = g l') →
    Chain g' l (pre ++ post)
  | [], l, h, hnd, hw, h1, hfr => by
    rw [List.nil_append, links_cons] at hnd
    rw [lastLink_nil] at h1 hfr
    obtain ⟨hl, hnd'⟩ := List.nodup_cons.mp hnd
    obtain ⟨hj, _⟩ := List.nodup_cons.mp hnd'
    refine chain_congr h.2 (h1.trans hw.symm) (fun x hx => hfr _ ?_ ?_)
    · exact fun e => hl (e ▸ mem_links.mpr (Or.inr ⟨x, hx, rfl⟩))
    · exact fun e => hj (e ▸ List.mem_map_of_mem hx)
  | a :: pre, l, h, hnd, hw, h1, hfr => by
    rw [List.cons_append] at h ⊢
    rw [List.cons_append, links_cons] at hnd
    rw [lastLink_cons] at h1 hfr
    obtain ⟨hl, hnd'⟩ := List.nodup_cons.mp hnd
    refine ⟨?_, chain_remove h.2 hnd' hw h1 hfr⟩
    rw [hfr l (fun e => hl ?_) (fun e => hl (e ▸ mem_links.mpr (Or.inr ⟨j, by simp, rfl⟩)))]
    · exact h.1
    · rw [links_append]; exact List.mem_append_left _ (e ▸ lastLink_mem _ pre)

/-- `ch b` is, for every bucket `b < cap`, the duplicate-free chain of `g` from `.head b`; it goes
through items whose hash selects `b` (`hs j` is the hash of item `j`, `none` for an item that is
not there), and every item whose hash satisfies `need` is on its chain. -/
structure Chains (g : Link → Option Nat) (hs : Nat → Option Nat) (need : Nat → Prop) (cap : Nat)
    (ch : Nat → List Nat) : Prop where
  chain : ∀ b, b < cap → Chain g (.head b) (ch b)
  nodup : ∀ b, b < cap → (ch b).Nodup
  bucket : ∀ b, b < cap → ∀ j ∈ ch b, ∃ h, hs j = some h ∧ h &&& (cap - 1) = b
  complete : ∀ j h, hs j = some h → need h → j ∈ ch (h &&& (cap - 1))

section Chains
variable {g g' : Link → Option Nat} {hs hs' : Nat → Option Nat} {need : Nat → Prop} {cap : Nat}
  {ch : Nat → List Nat}

theorem Chains.links_nodup (hC : Chains g hs need cap ch) {b : Nat} (hb : b < cap) :
    (links (.head b) (ch b)).Nodup :=
  List.nodup_cons.mpr ⟨by simp, List.Pairwise.map Link.next (fun _ _ hne e => hne (by injection e)) (hC.nodup b hb)⟩

theorem Chains.bucket_unique (hC : Chains g hs need cap ch) {b b' x : Nat} (hb : b < cap) (hb' : b' < cap)
    (hx : x ∈ ch b) (hx' : x ∈ ch b') : b' = b := by
  obtain ⟨h, e, rfl⟩ := hC.bucket b hb x hx
  obtain ⟨h', e', rfl⟩ := hC.bucket b' hb' x hx'
  rw [e] at e'; cases e'; rfl

theorem Chains.links_disjoint (hC : Chains g hs need cap ch) {b b' : Nat} (hb : b < cap) (hb' : b' < cap)
    (hne : b' ≠ b) {l : Link} (hl : l ∈ links (.head b') (ch b')) : l ∉ links (.head b) (ch b) := by
  intro hl'
  rcases mem_links.mp hl with rfl | ⟨x, hx, rfl⟩ <;> rcases mem_links.mp hl' with e | ⟨y, hy, e⟩
  · injection e with e; exact hne e
  · cases e
  · cases e
  · injection e with e; exact hne (hC.bucket_unique hb hb' hy (e ▸ hx))

theorem Chains.snoc (hC : Chains g hs need cap ch) {b n h : Nat} (hb : b < cap) (hn : hs n = none)
    (hh : hs' n = some h) (hhb : h &&& (cap - 1) = b) (hrest : ∀ x, x ≠ n → hs' x = hs x)
    (h1 : g' (lastLink (.head b) (ch b)) = some (n + 1)) (h2 : g' (.next n) = some 0)
    (hfr : ∀ l', l' ≠ lastLink (.head b) (ch b) → l' ≠ .next n → g' l' = g l') :
    Chains g' hs' need cap (fun b' => if b' = b then ch b ++ [n] else ch b') := by
  have hnot : ∀ b', b' < cap → n ∉ ch b' := fun b' hb' hm => by
    obtain ⟨_, e, _⟩ := hC.bucket b' hb' n hm; rw [hn] at e; cases e
  have hnl : ∀ b', b' < cap → Link.next n ∉ links (.head b') (ch b') := fun b' hb' hm => by
    rcases mem_links.mp hm with e | ⟨x, hx, e⟩
    · cases e
    · injection e with e; exact hnot b' hb' (e ▸ hx)
  refine ⟨fun b' hb' => ?_, fun b' hb' => ?_, fun b' hb' j hj => ?_, fun j h' hj hne => ?_⟩
  · rcases eq_or_ne b' b with rfl | e
    · rw [if_pos rfl]; exact chain_snoc (hC.chain _ hb) (hC.links_nodup hb) (hnl _ hb) hfr h1 h2
    · rw [if_neg e]
      refine chain_frame (hC.chain b' hb') (fun l' hl' => hfr l' ?_ (fun e' => hnl b' hb' (e' ▸ hl')))
      exact fun e' => hC.links_disjoint hb hb' e hl' (e' ▸ lastLink_mem _ _)
  · rcases eq_or_ne b' b with rfl | e
    · rw [if_pos rfl]
      exact List.nodup_append.mpr ⟨hC.nodup _ hb, by simp,
        fun x hx y hy e' => hnot _ hb ((List.mem_singleton.mp hy) ▸ e' ▸ hx)⟩
    · rw [if_neg e]; exact hC.nodup b' hb'
  · have hold : ∀ b'', b'' < cap → j ∈ ch b'' → ∃ h', hs' j = some h' ∧ h' &&& (cap - 1) = b'' :=
      fun b'' hb'' hm => by rw [hrest j (fun e => hnot b'' hb'' (e ▸ hm))]; exact hC.bucket b'' hb'' j hm
    rcases eq_or_ne b' b with rfl | e
    · rw [if_pos rfl] at hj
      rcases List.mem_append.mp hj with hm | hm
      · exact hold _ hb hm
      · rw [List.mem_singleton.mp hm]; exact ⟨h, hh, hhb⟩
    · rw [if_neg e] at hj; exact hold b' hb' hj
  · by_cases e : j = n
    · rw [e, hh] at hj; cases hj
      rw [hhb, if_pos rfl, e]; simp
    · rw [hrest j e] at hj
      have := hC.complete j h' hj hne
      split
      · rename_i e'; exact List.mem_append_left _ (e' ▸ this)
      · exact this

theorem Chains.remove (hC : Chains g hs need cap ch) {b j w : Nat} {pre post : List Nat} (hb : b < cap)
    (hsplit : ch b = pre ++ j :: post) (hw : g (.next j) = some w)
    (hrest : ∀ x, x ≠ j → hs' x = hs x) (hj : ∀ h, hs' j = some h → ¬ need h)
    (h1 : g' (lastLink (.head b) pre) = some w)
    (hfr : ∀ l', l' ≠ lastLink (.head b) pre → l' ≠ .next j → g' l' = g l') :
    Chains g' hs' need cap (fun b' => if b' = b then pre ++ post else ch b') := by
  have hnd := hC.links_nodup hb
  have hnd' := hC.nodup b hb
  rw [hsplit] at hnd hnd'
  have hjb : j ∈ ch b := by rw [hsplit]; simp
  have hsub : (pre ++ post).Sublist (pre ++ j :: post) := (List.sublist_cons_self j post).append_left pre
  -- the members of the new chains are the old ones except `j`
  have hmem : ∀ b', b' < cap → ∀ x ∈ (if b' = b then pre ++ post else ch b'), x ∈ ch b' ∧ x ≠ j := by
    intro b' hb' x hx
    rcases eq_or_ne b' b with rfl | e
    · rw [if_pos rfl] at hx
      refine ⟨by rw [hsplit]; exact hsub.subset hx, fun e' => ?_⟩
      have := List.nodup_append.mp hnd'
      rcases List.mem_append.mp hx with hm | hm
      · exact this.2.2 x hm j (by simp) e'
      · exact (List.nodup_cons.mp this.2.1).1 (e' ▸ hm)
    · rw [if_neg e] at hx
      exact ⟨hx, fun e' => e (hC.bucket_unique hb hb' hjb (e' ▸ hx))⟩
  refine ⟨fun b' hb' => ?_, fun b' hb' => ?_, fun b' hb' x hx => ?_, fun x h' hx hne => ?_⟩
  · rcases eq_or_ne b' b with rfl | e
    · rw [if_pos rfl]; exact chain_remove (hsplit ▸ hC.chain _ hb) hnd hw h1 hfr
    · rw [if_neg e]
      refine chain_frame (hC.chain b' hb') (fun l' hl' => ?_)
      have hdis := hC.links_disjoint hb hb' e hl'
      rw [hsplit] at hdis
      refine hfr l' (fun e' => hdis ?_) (fun e' => hdis (e' ▸ by simp [links]))
      rw [links_append]; exact List.mem_append_left _ (e' ▸ lastLink_mem _ pre)
  · rcases eq_or_ne b' b with rfl | e
    · rw [if_pos rfl]; exact hnd'.sublist hsub
    · rw [if_neg e]; exact hC.nodup b' hb'
  · obtain ⟨hm, hne⟩ := hmem b' hb' x hx
    rw [hrest x hne]; exact hC.bucket b' hb' x hm
  · have hxj : x ≠ j := fun e => hj h' (e ▸ hx) hne
    rw [hrest x hxj] at hx
    have := hC.complete x h' hx hne
    split
    · rename_i e
      rw [e, hsplit] at this
      rcases List.mem_append.mp this with hm | hm
      · exact List.mem_append_left _ hm
      · exact List.mem_append_right _ ((List.mem_cons.mp hm).resolve_left hxj)
    · exact this

end Chains

theorem walkEnd_chain {s : HT V} : ∀ {c : List Nat} {l : Link} {fuel : Nat},
    Chain (getLink s) l c → c.length < fuel → walkEnd s fuel l = some (lastLink l c)
  | [], l, fuel + 1, h, _ => by
    simp only [walkEnd, show getLink s l = some 0 from h, lastLink_nil]
  | j :: c, l, fuel + 1, h, hf => by
    simp only [walkEnd, h.1, walkEnd_chain (fuel := fuel) h.2 (Nat.lt_of_succ_lt_succ hf), lastLink_cons]

theorem findLoop_none {s : HT V} {key : List Nat} {hash : Nat} : ∀ {c : List Nat} {l : Link} {fuel : Nat},
    Chain (getLink s) l c → c.length < fuel →
    (∀ j ∈ c, ∀ it, s.items[j]? = some it → ¬ (it.hash = hash ∧ it.key = key)) →
    findLoop s key hash fuel l = some (lastLink l c, none)
  | [], l, fuel + 1, h, _, _ => by
    simp only [findLoop, show getLink s l = some 0 from h, lastLink_nil]
  | j :: c, l, fuel + 1, h, hf, hno => by
    have ih := findLoop_none (key := key) (hash := hash) (fuel := fuel) h.2 (Nat.lt_of_succ_lt_succ hf)
      (fun x hx => hno x (List.mem_cons_of_mem _ hx))
    obtain ⟨w, hw⟩ := chain_mem_some (l := l) h j List.mem_cons_self
    obtain ⟨it, hit, _⟩ := Option.map_eq_some_iff.mp hw
    simp only [findLoop, h.1, hit, if_neg (hno j List.mem_cons_self it hit), ih, lastLink_cons]

theorem findLoop_some {s : HT V} {key : List Nat} {hash : Nat} {j : Nat} {post : List Nat} {it : Item V} :
    ∀ {pre : List Nat} {l : Link} {fuel : Nat},
    Chain (getLink s) l (pre ++ j :: post) → pre.length < fuel →
    (∀ i ∈ pre, ∀ it', s.items[i]? = some it' → ¬ (it'.hash = hash ∧ it'.key = key)) →
    s.items[j]? = some it → it.hash = hash → it.key = key →
    findLoop s key hash fuel l = some (lastLink l pre, some j)
  | [], l, fuel + 1, h, _, _, hit, hh, hk => by
    simp only [findLoop, h.1, hit, if_pos (And.intro hh hk), lastLink_nil]
  | a :: pre, l, fuel + 1, h, hf, hno, hit, hh, hk => by
    have ih := findLoop_some (fuel := fuel) h.2 (Nat.lt_of_succ_lt_succ hf)
      (fun x hx => hno x (List.mem_cons_of_mem _ hx)) hit hh hk
    obtain ⟨w, hw⟩ := chain_mem_some (l := l) h a List.mem_cons_self
    obtain ⟨ita, hita, _⟩ := Option.map_eq_some_iff.mp hw
    simp only [findLoop, h.1, hita, if_neg (hno a List.mem_cons_self ita hita), ih, lastLink_cons]

/-- A duplicate-free list of numbers below `n` has at most `n` elements: the fuel bound. -/
theorem nodup_length_le {c : List Nat} {n : Nat} (hnd : c.Nodup) (hlt : ∀ x ∈ c, x < n) : c.length ≤ n := by
  have hsub : c ⊆ List.range n := fun x hx => List.mem_range.mpr (hlt x hx)
  have := (List.subperm_of_subset hnd hsub).length_le
  simpa using this

/-- `ch b` is the chain of bucket `b`, for every bucket. -/
structure ChainsOK (s : HT V) (ch : Nat → List Nat) : Prop where
  chain : ∀ b, b < s.cap → Chain (getLink s) (.head b) (ch b)
  nodup : ∀ b, b < s.cap → (ch b).Nodup
  /-- an item sits on the chain of the bucket its stored hash selects (a removed item that is still
  chained after `Sort` has hash 0, hence bucket 0) -/
  bucket : ∀ b, b < s.cap → ∀ j ∈ ch b, ∃ it : Item V, s.items[j]? = some it ∧ it.hash &&& (s.cap - 1) = b
  complete : ∀ (j : Nat) (it : Item V), s.items[j]? = some it → it.hash ≠ 0 → j ∈ ch (it.hash &&& (s.cap - 1))

/-- The representation invariant, for a hash function `H`. -/
structure Inv (H : List Nat → Nat) (s : HT V) : Prop where
  cap_pow : s.cap = 0 ∨ ∃ k, s.cap = 2 ^ k
  heads_size : s.heads.size = s.cap
  size_le : s.items.size ≤ s.cap
  hash_ok : ∀ (j : Nat) (it : Item V), s.items[j]? = some it → it.hash ≠ 0 → it.hash = H it.key
  distinct : s.items.toList.Pairwise (fun a b => a.hash ≠ 0 → b.hash ≠ 0 → a.key ≠ b.key)
  dead_key : ∀ (j : Nat) (it : Item V), s.items[j]? = some it → it.hash = 0 → it.key = []
  chains : ∃ ch, ChainsOK s ch

theorem bucket_lt {c k : Nat} (h : Nat) (hc : c = 2 ^ k) : h &&& (c - 1) < c := by
  subst hc
  rw [Nat.and_two_pow_sub_one_eq_mod]
  exact Nat.mod_lt _ (Nat.two_pow_pos k)

theorem Inv.cap_pow_of_ne {H : List Nat → Nat} {s : HT V} (hI : Inv H s) (h : s.cap ≠ 0) : ∃ k, s.cap = 2 ^ k :=
  hI.cap_pow.resolve_left h

theorem Inv.cap_pow_of_size {H : List Nat → Nat} {s : HT V} (hI : Inv H s) (h : s.size ≠ 0) : ∃ k, s.cap = 2 ^ k :=
  hI.cap_pow_of_ne (by have := hI.size_le; unfold HT.size at h; omega)

/-- The part of an item the abstraction sees. -/
def stat (it : Item V) : List Nat × Nat × V := (it.key, it.hash, it.val)

def stats (s : HT V) : List (List Nat × Nat × V) := s.items.toList.map stat

/-- The part of the invariant that only talks about keys and hashes. -/
structure StatOK (H : List Nat → Nat) (l : List (List Nat × Nat × V)) : Prop where
  hash_ok : ∀ x ∈ l, x.2.1 ≠ 0 → x.2.1 = H x.1
  distinct : l.Pairwise (fun a b => a.2.1 ≠ 0 → b.2.1 ≠ 0 → a.1 ≠ b.1)
  dead_key : ∀ x ∈ l, x.2.1 = 0 → x.1 = []

theorem forall_mem_stats {s : HT V} {P : List Nat × Nat × V → Prop} :
    (∀ x ∈ stats s, P x) ↔ ∀ (j : Nat) (it : Item V), s.items[j]? = some it → P (stat it) := by
  constructor
  · intro h j it hj
    exact h _ (List.mem_map.mpr ⟨it, Array.mem_toList_iff.mpr (Array.mem_iff_getElem?.mpr ⟨j, hj⟩), rfl⟩)
  · intro h x hx
    obtain ⟨it, hit, rfl⟩ := List.mem_map.mp hx
    obtain ⟨j, hj⟩ := Array.mem_iff_getElem?.mp (Array.mem_toList_iff.mp hit)
    exact h j it hj

theorem stats_getElem? (s : HT V) (j : Nat) : (stats s)[j]? = (s.items[j]?).map stat := by
  simp [stats]

theorem Inv.statOK {H : List Nat → Nat} {s : HT V} (hI : Inv H s) : StatOK H (stats s) :=
  ⟨forall_mem_stats.mpr hI.hash_ok, List.pairwise_map.mpr hI.distinct, forall_mem_stats.mpr hI.dead_key⟩

theorem inv_of_stat {H : List Nat → Nat} {s : HT V} (h1 : s.cap = 0 ∨ ∃ k, s.cap = 2 ^ k)
    (h2 : s.heads.size = s.cap) (h3 : s.items.size ≤ s.cap) (h4 : StatOK H (stats s))
    (h5 : ∃ ch, ChainsOK s ch) : Inv H s :=
  ⟨h1, h2, h3, forall_mem_stats.mp h4.hash_ok, List.pairwise_map.mp h4.distinct, forall_mem_stats.mp h4.dead_key, h5⟩

theorem pairwise_iff_ne {α : Type} {R : α → α → Prop} (hsym : ∀ a b, R a b → R b a) {l : List α} :
    l.Pairwise R ↔ ∀ (i j : Nat) (a b : α), i ≠ j → l[i]? = some a → l[j]? = some b → R a b := by
  rw [List.pairwise_iff_getElem]
  constructor
  · intro h i j a b hij ha hb
    obtain ⟨hi, rfl⟩ := List.getElem?_eq_some_iff.mp ha
    obtain ⟨hj, rfl⟩ := List.getElem?_eq_some_iff.mp hb
    rcases Nat.lt_or_gt_of_ne hij with h' | h'
    · exact h i j hi hj h'
    · exact hsym _ _ (h j i hj hi h')
  · intro h i j hi hj hij
    exact h i j _ _ (Nat.ne_of_lt hij) (List.getElem?_eq_getElem hi) (List.getElem?_eq_getElem hj)

theorem distinct_symm (a b : List Nat × Nat × V) (h : a.2.1 ≠ 0 → b.2.1 ≠ 0 → a.1 ≠ b.1) :
    b.2.1 ≠ 0 → a.2.1 ≠ 0 → b.1 ≠ a.1 := fun hb ha e => h ha hb e.symm

theorem Inv.distinct_idx {H : List Nat → Nat} {s : HT V} (hI : Inv H s) {i j : Nat} {a b : Item V}
    (ha : s.items[i]? = some a) (hb : s.items[j]? = some b) (hla : a.hash ≠ 0) (hlb : b.hash ≠ 0)
    (hk : a.key = b.key) : i = j := by
  by_contra hij
  exact (pairwise_iff_ne distinct_symm).mp hI.statOK.distinct i j (stat a) (stat b) hij
    (by rw [stats_getElem?, ha]; rfl) (by rw [stats_getElem?, hb]; rfl) hla hlb hk

theorem StatOK.sublist {H : List Nat → Nat} {l l' : List (List Nat × Nat × V)} (h : StatOK H l)
    (hs : l'.Sublist l) : StatOK H l' :=
  ⟨fun x hx => h.hash_ok x (hs.subset hx), h.distinct.sublist hs, fun x hx => h.dead_key x (hs.subset hx)⟩

theorem StatOK.perm {H : List Nat → Nat} {l l' : List (List Nat × Nat × V)} (h : StatOK H l) (hp : l'.Perm l) :
    StatOK H l' :=
  ⟨fun x hx => h.hash_ok x (hp.mem_iff.mp hx), (List.Perm.pairwise_iff (distinct_symm _ _) hp).mpr h.distinct,
    fun x hx => h.dead_key x (hp.mem_iff.mp hx)⟩

theorem StatOK.snoc {H : List Nat → Nat} {l : List (List Nat × Nat × V)} (h : StatOK H l) {k : List Nat} (v : V)
    (hk : H k ≠ 0) (hno : ∀ x ∈ l, x.2.1 ≠ 0 → x.1 ≠ k) : StatOK H (l ++ [(k, H k, v)]) := by
  refine ⟨fun x hx => ?_, ?_, fun x hx => ?_⟩
  · rcases List.mem_append.mp hx with hx | hx
    · exact h.hash_ok x hx
    · rw [List.mem_singleton.mp hx]; exact fun _ => rfl
  · refine List.pairwise_append.mpr ⟨h.distinct, List.pairwise_singleton _ _, fun a ha b hb hla _ => ?_⟩
    rw [List.mem_singleton.mp hb]; exact hno a ha hla
  · rcases List.mem_append.mp hx with hx | hx
    · exact h.dead_key x hx
    · rw [List.mem_singleton.mp hx]; exact fun e => absurd e hk

theorem StatOK.set {H : List Nat → Nat} {l : List (List Nat × Nat × V)} (h : StatOK H l) {j : Nat}
    {x : List Nat × Nat × V} (hx1 : x.2.1 ≠ 0 → x.2.1 = H x.1) (hx2 : x.2.1 = 0 → x.1 = [])
    (hx3 : x.2.1 ≠ 0 → ∀ (i : Nat) (y : List Nat × Nat × V), i ≠ j → l[i]? = some y → y.2.1 ≠ 0 → y.1 ≠ x.1) :
    StatOK H (l.set j x) := by
  refine ⟨fun y hy => ?_, ?_, fun y hy => ?_⟩
  · rcases List.mem_or_eq_of_mem_set hy with hy | rfl
    · exact h.hash_ok y hy
    · exact hx1
  · have hold := (pairwise_iff_ne distinct_symm).mp h.distinct
    refine (pairwise_iff_ne distinct_symm).mpr (fun i i' a b hne ha hb => ?_)
    rw [List.getElem?_set] at ha hb
    by_cases hi : j = i
    · have hi' : ¬ j = i' := fun e => hne (hi.symm.trans e)
      rw [if_pos hi] at ha
      rw [if_neg hi'] at hb
      have : a = x := by split at ha <;> cases ha; rfl
      exact this ▸ fun hla hlb e => hx3 hla i' b (Ne.symm hi') hb hlb e.symm
    · rw [if_neg hi] at ha
      by_cases hi' : j = i'
      · rw [if_pos hi'] at hb
        have : b = x := by split at hb <;> cases hb; rfl
        exact this ▸ fun hla hlb => hx3 hlb i a (Ne.symm hi) ha hla
      · rw [if_neg hi'] at hb; exact hold i i' a b hne ha hb
  · rcases List.mem_or_eq_of_mem_set hy with hy | rfl
    · exact h.dead_key y hy
    · exact hx2

def hashAt (s : HT V) (j : Nat) : Option Nat := (s.items[j]?).map (·.hash)

theorem chainsOK_iff {s : HT V} {ch : Nat → List Nat} :
    ChainsOK s ch ↔ Chains (getLink s) (hashAt s) (· ≠ 0) s.cap ch := by
  constructor
  · intro h
    refine ⟨h.chain, h.nodup, fun b hb j hj => ?_, fun j x hj hx => ?_⟩
    · obtain ⟨it, hit, e⟩ := h.bucket b hb j hj
      exact ⟨it.hash, by rw [hashAt, hit]; rfl, e⟩
    · obtain ⟨it, hit, rfl⟩ := Option.map_eq_some_iff.mp hj
      exact h.complete j it hit hx
  · intro h
    refine ⟨h.chain, h.nodup, fun b hb j hj => ?_, fun j it hit hx => ?_⟩
    · obtain ⟨x, hx, e⟩ := h.bucket b hb j hj
      obtain ⟨it, hit, rfl⟩ := Option.map_eq_some_iff.mp hx
      exact ⟨it, hit, e⟩
    · exact h.complete j it.hash (by rw [hashAt, hit]; rfl) hx

theorem chainsOK_of {s s' : HT V} {ch : Nat → List Nat} (hcap : s'.cap = s.cap)
    (h : Chains (getLink s') (hashAt s') (· ≠ 0) s.cap ch) : ChainsOK s' ch :=
  chainsOK_iff.mpr (hcap ▸ h)

def pushItem (t : HT V) (x : Item V) : HT V := { t with items := t.items.push x }

def modItem (t : HT V) (j : Nat) (f : Item V → Item V) : HT V := { t with items := t.items.modify j f }

@[simp] theorem setLink_cap {s : HT V} {l : Link} {v : Nat} : (setLink s l v).cap = s.cap := by
  cases l <;> rfl

@[simp] theorem setLink_size {s : HT V} {l : Link} {v : Nat} : (setLink s l v).items.size = s.items.size := by
  cases l <;> simp [setLink]

@[simp] theorem setLink_heads_size {s : HT V} {l : Link} {v : Nat} : (setLink s l v).heads.size = s.heads.size := by
  cases l <;> simp [setLink]

@[simp] theorem modItem_size (t : HT V) (j : Nat) (f : Item V → Item V) :
    (modItem t j f).items.size = t.items.size := by simp [modItem]

theorem getLink_setLink (s : HT V) (l l' : Link) (v : Nat) :
    getLink (setLink s l v) l' = if l' = l then (getLink s l).map (fun _ => v) else getLink s l' := by
  by_cases e : l' = l
  · subst e
    rw [if_pos rfl]
    cases l' with
    | head b =>
      simp only [getLink, setLink, Array.getElem?_setIfInBounds, if_true]
      split <;> simp_all
    | next i =>
      simp only [getLink, setLink, Array.getElem?_modify, if_true]
      cases s.items[i]? <;> rfl
  · rw [if_neg e]
    cases l <;> cases l' <;> simp only [getLink, setLink, Array.getElem?_setIfInBounds, Array.getElem?_modify]
    all_goals rw [if_neg (fun h => e (by rw [h]))]

theorem getLink_pushItem (t : HT V) (x : Item V) (l : Link) :
    getLink (pushItem t x) l = if l = .next t.items.size then some x.next else getLink t l := by
  cases l with
  | head b => rfl
  | next j =>
    simp only [getLink, pushItem, Array.getElem?_push, Link.next.injEq]
    split <;> rfl

theorem hashAt_pushItem (t : HT V) (x : Item V) (j : Nat) :
    hashAt (pushItem t x) j = if j = t.items.size then some x.hash else hashAt t j := by
  simp only [hashAt, pushItem, Array.getElem?_push]
  split <;> rfl

theorem stats_pushItem (t : HT V) (x : Item V) : stats (pushItem t x) = stats t ++ [stat x] := by
  simp [stats, pushItem]

theorem getLink_modItem (t : HT V) (j : Nat) (f : Item V → Item V) (l : Link) :
    getLink (modItem t j f) l =
      if l = .next j then (t.items[j]?).map (fun it => (f it).next) else getLink t l := by
  cases l with
  | head b => rfl
  | next x =>
    simp only [getLink, modItem, Array.getElem?_modify, Link.next.injEq]
    by_cases e : j = x
    · subst e; rw [if_pos rfl, if_pos rfl]; cases t.items[j]? <;> rfl
    · rw [if_neg e, if_neg (fun h => e h.symm)]

theorem hashAt_modItem (t : HT V) (j : Nat) (f : Item V → Item V) (x : Nat) :
    hashAt (modItem t j f) x = if x = j then (t.items[j]?).map (fun it => (f it).hash) else hashAt t x := by
  simp only [hashAt, modItem, Array.getElem?_modify]
  by_cases e : j = x
  · subst e; rw [if_pos rfl, if_pos rfl]; cases t.items[j]? <;> rfl
  · rw [if_neg e, if_neg (fun h => e h.symm)]

theorem stats_modItem {t : HT V} {j : Nat} {x : List Nat × Nat × V} {f : Item V → Item V}
    (F : List Nat × Nat × V → List Nat × Nat × V) (hf : ∀ it, stat (f it) = F (stat it))
    (hj : (stats t)[j]? = some x) : stats (modItem t j f) = (stats t).set j (F x) := by
  rw [stats_getElem?] at hj
  obtain ⟨it, hit, rfl⟩ := Option.map_eq_some_iff.mp hj
  obtain ⟨hlt, rfl⟩ := Array.getElem?_eq_some_iff.mp hit
  apply List.ext_getElem?
  intro i
  simp only [stats, modItem, List.getElem?_map, Array.getElem?_toList, Array.getElem?_modify, List.getElem?_set,
    List.length_map, Array.length_toList]
  split
  · rename_i e; subst e; simp [hlt, hf]
  · rfl

theorem stats_setNext (t : HT V) (j v : Nat) : stats (modItem t j (fun it => { it with next := v })) = stats t := by
  apply List.ext_getElem?
  intro x
  simp only [stats, modItem, List.getElem?_map, Array.getElem?_toList, Array.getElem?_modify]
  split
  · cases t.items[x]? <;> rfl
  · rfl

theorem hashAt_setNext (t : HT V) (j v x : Nat) :
    hashAt (modItem t j (fun it => { it with next := v })) x = hashAt t x := by
  rw [hashAt_modItem]
  split
  · rename_i e; subst e; unfold hashAt; cases t.items[x]? <;> rfl
  · rfl

theorem hashAt_setLink (s : HT V) (l : Link) (v : Nat) (j : Nat) : hashAt (setLink s l v) j = hashAt s j := by
  cases l with
  | head b => rfl
  | next i => exact hashAt_setNext s i v j

theorem stats_setLink (s : HT V) (l : Link) (v : Nat) : stats (setLink s l v) = stats s := by
  cases l with
  | head b => rfl
  | next i => exact stats_setNext s i v

theorem chain_length_lt {s : HT V} {ch : Nat → List Nat} (hc : ChainsOK s ch) {b : Nat} (hb : b < s.cap) :
    (ch b).length < s.size + 1 := by
  have : ∀ x ∈ ch b, x < s.items.size := by
    intro x hx
    obtain ⟨it, hit, _⟩ := hc.bucket b hb x hx
    exact (Array.getElem?_eq_some_iff.mp hit).1
  have := nodup_length_le (hc.nodup b hb) this
  simp only [HT.size]; omega

theorem find_some {H : List Nat → Nat} {s : HT V} {ch : Nat → List Nat} (hI : Inv H s) (hc : ChainsOK s ch)
    (hH : ∀ k, H k ≠ 0) {j : Nat} {it : Item V} (hit : s.items[j]? = some it) (hl : it.hash ≠ 0) :
    ∃ pre post, ch (H it.key &&& (s.cap - 1)) = pre ++ j :: post ∧
      find s it.key (H it.key) = some (lastLink (.head (H it.key &&& (s.cap - 1))) pre, some j) ∧
      getLink s (lastLink (.head (H it.key &&& (s.cap - 1))) pre) = some (j + 1) := by
  have hh := hI.hash_ok j it hit hl
  have hmem := hc.complete j it hit hl
  rw [hh] at hmem
  obtain ⟨pre, post, hsplit⟩ := List.append_of_mem hmem
  refine ⟨pre, post, hsplit, ?_⟩
  obtain ⟨k, hk⟩ := hI.cap_pow_of_size (Nat.ne_of_gt (Nat.zero_lt_of_lt (Array.getElem?_eq_some_iff.mp hit).1))
  have hb : H it.key &&& (s.cap - 1) < s.cap := bucket_lt _ hk
  have hchain := hc.chain _ hb
  have hnd := hc.nodup _ hb
  have hlen := chain_length_lt hc hb
  rw [hsplit] at hchain hnd hlen
  refine ⟨findLoop_some hchain (by simp at hlen; omega) ?_ hit hh rfl, chain_prefix_last hchain⟩
  intro i hi it' hit' ⟨h1, h2⟩
  have : i = j := hI.distinct_idx hit' hit (by rw [h1]; exact hH _) hl h2
  exact (List.nodup_append.mp hnd).2.2 i hi j (by simp) this

theorem find_none {H : List Nat → Nat} {s : HT V} {ch : Nat → List Nat} (hc : ChainsOK s ch)
    (hH : ∀ k, H k ≠ 0) {key : List Nat} (hcap : ∃ k, s.cap = 2 ^ k)
    (hno : ∀ (j : Nat) (it : Item V), s.items[j]? = some it → it.hash ≠ 0 → it.key ≠ key) :
    find s key (H key) = some (lastLink (.head (H key &&& (s.cap - 1))) (ch (H key &&& (s.cap - 1))), none) := by
  obtain ⟨k, hk⟩ := hcap
  have hb : H key &&& (s.cap - 1) < s.cap := bucket_lt _ hk
  refine findLoop_none (hc.chain _ hb) (chain_length_lt hc hb) ?_
  intro j _ it hit ⟨h1, h2⟩
  exact hno j it hit (by rw [h1]; exact hH _) h2

theorem insertAt_eq {s : HT V} {l : Link} {key : List Nat} {hash : Nat} {v : V} (h : s.size < s.cap) :
    insertAt s l key hash v = some (pushItem (setLink s l (s.size + 1)) ⟨key, hash, 0, v⟩) := by
  simp [insertAt, h, pushItem]

theorem insertAt_inv {H : List Nat → Nat} {s : HT V} {ch : Nat → List Nat} (hI : Inv H s) (hc : ChainsOK s ch)
    (hH : ∀ k, H k ≠ 0) {key : List Nat} {v : V} (hroom : s.size < s.cap)
    (hno : ∀ (j : Nat) (it : Item V), s.items[j]? = some it → it.hash ≠ 0 → it.key ≠ key) :
    Inv H (pushItem (setLink s (lastLink (.head (H key &&& (s.cap - 1))) (ch (H key &&& (s.cap - 1)))) (s.size + 1))
      ⟨key, H key, 0, v⟩) := by
  obtain ⟨k, hk⟩ := hI.cap_pow_of_ne (Nat.ne_of_gt (Nat.zero_lt_of_lt hroom))
  have hb : H key &&& (s.cap - 1) < s.cap := bucket_lt _ hk
  generalize hl : lastLink (.head (H key &&& (s.cap - 1))) (ch (H key &&& (s.cap - 1))) = l
  have hl0 : getLink s l = some 0 := hl ▸ chain_last (hc.chain _ hb)
  have hln : l ≠ .next s.items.size := fun e => by simp [e, getLink] at hl0
  have hcap' : (pushItem (setLink s l (s.size + 1)) ⟨key, H key, 0, v⟩).cap = s.cap := setLink_cap
  refine inv_of_stat (Or.inr ⟨k, hcap'.trans hk⟩) ?_ ?_ ?_
    ⟨fun b' => if b' = H key &&& (s.cap - 1) then ch (H key &&& (s.cap - 1)) ++ [s.items.size] else ch b',
      chainsOK_of hcap' ?_⟩
  · exact setLink_heads_size.trans (hI.heads_size.trans hcap'.symm)
  · rw [hcap']; simpa [pushItem, HT.size] using Nat.succ_le_of_lt hroom
  · rw [stats_pushItem, stats_setLink]
    exact hI.statOK.snoc v (hH key) (forall_mem_stats.mpr hno)
  · refine (chainsOK_iff.mp hc).snoc (n := s.items.size) (h := H key) hb (by simp [hashAt]) ?_ rfl
      (fun x hx => ?_) ?_ ?_ (fun l' h1 h2 => ?_)
    · rw [hashAt_pushItem, setLink_size, if_pos rfl]
    · rw [hashAt_pushItem, setLink_size, if_neg hx, hashAt_setLink]
    · rw [hl, getLink_pushItem, setLink_size, if_neg hln, getLink_setLink, if_pos rfl, hl0]; rfl
    · rw [getLink_pushItem, setLink_size, if_pos rfl]
    · rw [hl] at h1
      rw [getLink_pushItem, setLink_size, if_neg h2, getLink_setLink, if_neg h1]

end Qentem.HashTable
