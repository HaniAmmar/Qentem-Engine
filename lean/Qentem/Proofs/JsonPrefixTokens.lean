import Qentem.Proofs.JsonPrefix
import Qentem.Proofs.JsonTokens
import Mathlib.Tactic.IntervalCases
/-! Truncation contracts of `Proofs/JsonPrefix.lean` discharged for the concrete sub-routine
models (`jsonDeps w`): decimal integers (a proper prefix of an integer is `-` or an integer that
ends at the end of the buffer) and string bodies made of accepted tokens (a body cut inside an
escape is rejected, a body cut between tokens is consumed up to the end of the buffer).  The two facts about the
un-escaper on a cut token sequence (`unEscapeB_partial`, `unEscapeB_prefix_toks`) stand here and not in the Unicode
files because their case analysis uses `interval_cases` and those files import no Mathlib.  Then the documents over
these token classes (`Conc`: keywords, `IntTok` numerals, `StrTok` strings and names) are well formed and truncation-safe
(`conc_wft`), which `Props/C07` instantiates. -/
namespace Qentem.Json
open Qentem.StrToNum Qentem.Props.C09

theorem Cut.at {c : Array Nat} {o : Nat} {l : List Nat} (h : Cut c o l) :
    ∃ q, q <+: l ∧ q.length < l.length ∧ At c o q ∧ o + q.length = c.size ∧ c.toList.drop o = q := by
  obtain ⟨hle, hp, hlen⟩ := h
  refine ⟨c.toList.drop o, hp, by simpa using hlen, List.prefix_refl _, by simp; omega, rfl⟩

theorem decVal_prefix_le {q l : List Nat} (h : q <+: l) : decVal q ≤ decVal l := by
  obtain ⟨m, rfl⟩ := h
  rw [decVal_append]
  exact Nat.le_trans (Nat.le_mul_of_pos_right _ (Nat.pow_pos (by decide))) (Nat.le_add_right _ _)

theorem numTrunc_natural (w d1 : Nat) (xs : List Nat) (h1 : isNonZeroDigit d1 = true) (hxs : AllDigits xs)
    (hv : decVal (d1 :: xs) < 2 ^ 64) : NumTrunc (jsonDeps w) (d1 :: xs) := by
  intro c o hsz hlt hcut
  obtain ⟨q, hq, hql, hat, hend, _⟩ := hcut.at
  rcases List.prefix_cons_iff.1 hq with rfl | ⟨xs', rfl, hxs'⟩
  · simp at hend; omega
  have hu := unitsAt_of_At c _ o hat
  have hdig : AllDigits xs' := fun y hy => hxs y (hxs'.subset hy)
  have hval : decVal (d1 :: xs') < 2 ^ 64 := Nat.lt_of_le_of_lt (decVal_prefix_le hq) hv
  have e1 : o + b2n false + 1 + xs'.length = c.size := by simp [b2n] at hend ⊢; omega
  have := int_exact_natural c.toList o c.size false d1 xs' hsz h1 hdig (by simpa using hu) (Or.inl e1) hval
  refine ⟨⟨kindOf .natural, decVal (d1 :: xs'), o + b2n false + 1 + xs'.length⟩, ?_, Or.inr e1⟩
  exact strToNumDep_of_run w this

theorem numTrunc_negative (w d1 : Nat) (xs : List Nat) (h1 : isNonZeroDigit d1 = true) (hxs : AllDigits xs)
    (hv : decVal (d1 :: xs) ≤ 2 ^ 63) : NumTrunc (jsonDeps w) (45 :: d1 :: xs) := by
  intro c o hsz hlt hcut
  obtain ⟨q, hq, hql, hat, hend, _⟩ := hcut.at
  rcases List.prefix_cons_iff.1 hq with rfl | ⟨q1, rfl, hq1⟩
  · simp at hend; omega
  have hu := unitsAt_of_At c _ o hat
  rcases List.prefix_cons_iff.1 hq1 with rfl | ⟨xs', rfl, hxs'⟩
  · -- a lone minus sign at the end of the buffer
    have e1 : o + 1 = c.size := by simpa using hend
    refine ⟨⟨kindOf .notANumber, 0, o + 1⟩, ?_, Or.inl rfl⟩
    refine strToNumDep_of_run w (r := ⟨.notANumber, 0, o + 1⟩) ?_
    unfold strToNum
    simp only [hlt, if_true, hu.1]
    unfold afterSign
    simp [show ¬ o + 1 < c.size by omega]
  · have hdig : AllDigits xs' := fun y hy => hxs y (hxs'.subset hy)
    have hval : decVal (d1 :: xs') ≤ 2 ^ 63 := Nat.le_trans (decVal_prefix_le hq1) hv
    have e1 : o + 2 + xs'.length = c.size := by simp at hend; omega
    have := int_exact_negative c.toList o c.size d1 xs' hsz h1 hdig hu (Or.inl e1) hval
    refine ⟨⟨kindOf .integer, 2 ^ 64 - decVal (d1 :: xs'), o + 2 + xs'.length⟩, ?_, Or.inr e1⟩
    exact strToNumDep_of_run w this

/-- `0` has no non-empty proper prefix. -/
theorem numTrunc_zero (w : Nat) : NumTrunc (jsonDeps w) [48] := by
  intro c o hsz hlt hcut
  obtain ⟨q, hq, hql, hat, hend, _⟩ := hcut.at
  simp at hql
  subst hql
  simp at hend; omega

end Qentem.Json

namespace Qentem.Json
open Qentem.Unicode

/-- A token cut in the middle: nothing read yet (the pending run goes on to the end of the buffer)
or an incomplete escape, which the routine rejects. -/
theorem unEscapeB_partial (w : Nat) (t : Tok) (ht : t.ok = true) (q : List Nat) (hq : q <+: t.src)
    (hlt : q.length < t.src.length) (pend st : List Nat) (n : Nat) :
    (unEscapeB w q pend st n).2 = 0 ∨ (unEscapeB w q pend st n).2 = n + q.length := by
  rw [List.prefix_iff_eq_take] at hq
  generalize hk : q.length = k at hq hlt
  cases t with
  | plain c =>
    simp only [Tok.src, List.length_cons, List.length_nil] at hlt
    interval_cases k
    simp only [Tok.src, List.take_zero] at hq
    subst hq
    right; simp [unEscapeB, finishB_ret]
  | simple e =>
    simp only [Tok.src, List.length_cons, List.length_nil] at hlt
    interval_cases k <;> simp only [Tok.src, List.take_zero, List.take_succ_cons] at hq <;> subst hq
    · right; simp [unEscapeB, finishB_ret]
    · exact .inl rfl
  | u e a b x d =>
    simp only [Tok.ok, Bool.and_eq_true, Bool.or_eq_true, beq_iff_eq, bne_iff_ne] at ht
    simp only [Tok.src, List.length_cons, List.length_nil] at hlt
    obtain ⟨he, hc⟩ := ht
    interval_cases k <;> simp only [Tok.src, List.take_zero, List.take_succ_cons] at hq <;> subst hq
    · right; simp [unEscapeB, finishB_ret]
    all_goals (left; rcases he with rfl | rfl <;> rfl)
  | pair e a b x d y z a2 b2 x2 d2 =>
    simp only [Tok.ok, Bool.and_eq_true, Bool.or_eq_true, beq_iff_eq] at ht
    simp only [Tok.src, List.length_cons, List.length_nil] at hlt
    obtain ⟨he, hc⟩ := ht
    interval_cases k <;> simp only [Tok.src, List.take_zero, List.take_succ_cons] at hq <;> subst hq
    · right; simp [unEscapeB, finishB_ret]
    all_goals (left; rcases he with rfl | rfl <;> simp [unEscapeB, hc])

theorem unEscapeB_prefix_toks (w : Nat) : ∀ (ts : List Tok), (∀ t ∈ ts, t.ok = true) → ∀ (q : List Nat),
    q <+: ts.flatMap Tok.src → ∀ (pend st : List Nat) (n : Nat),
    (unEscapeB w q pend st n).2 = 0 ∨ (unEscapeB w q pend st n).2 = n + q.length
  | [], _, q, hq, pend, st, n => by
    simp at hq
    subst hq
    right; simp [unEscapeB, finishB_ret]
  | t :: r, hok, q, hq, pend, st, n => by
    rw [List.flatMap_cons] at hq
    rcases Nat.lt_or_ge q.length t.src.length with hlt | hge
    · exact unEscapeB_partial w t (hok t (by simp)) q
        (List.prefix_of_prefix_length_le hq (List.prefix_append _ _) (by omega)) hlt pend st n
    · have hp : t.src <+: q := List.prefix_of_prefix_length_le (List.prefix_append _ _) hq hge
      obtain ⟨q', rfl⟩ := hp
      have hq' : q' <+: r.flatMap Tok.src := (List.prefix_append_right_inj _).1 hq
      have ih := unEscapeB_prefix_toks w r (fun t' ht' => hok t' (by simp [ht'])) q' hq'
      rw [unEscapeB_tok w t (hok t (by simp)), List.length_append, ← Nat.add_assoc]
      split
      · exact ih _ _ _
      · exact ih _ _ _

theorem strTrunc_tokens (w : Nat) (ts : List Tok) (hok : ∀ t ∈ ts, t.ok = true) :
    StrTrunc (jsonDeps w) (ts.flatMap Tok.src) := by
  intro c o hcut
  obtain ⟨q, hq, hql, hat, hend, hdrop⟩ := hcut.at
  have hqb : q <+: ts.flatMap Tok.src :=
    List.prefix_of_prefix_length_le hq (List.prefix_append _ _) (by simp only [List.length_append, List.length_cons, List.length_nil] at hql; omega)
  have := unEscapeB_prefix_toks w ts hok q hqb [] [] 0
  refine ⟨(unEscapeB w q [] [] 0).2, (unEscapeB w q [] [] 0).1, ?_, ?_⟩
  · show unEscapeDep w c o (c.size - o) = _
    rw [unEscapeDep_rest, hdrop]
  · rcases this with h0 | h1
    · exact Or.inl h0
    · right; rw [h1]; omega

end Qentem.Json

/-! ## Documents over the concrete token classes -/


namespace Qentem.Json
open Qentem.Unicode Qentem.StrToNum

/-- Decimal integer numerals in the 64-bit range with the number they denote. -/
inductive IntTok : List Nat → NumKind → Nat → Prop
  | zero : IntTok [48] .natural 0
  | natural (d1 : Nat) (xs : List Nat) (h1 : isNonZeroDigit d1 = true) (hxs : AllDigits xs)
      (hv : decVal (d1 :: xs) < 2 ^ 64) : IntTok (d1 :: xs) .natural (decVal (d1 :: xs))
  | negative (d1 : Nat) (xs : List Nat) (h1 : isNonZeroDigit d1 = true) (hxs : AllDigits xs)
      (hv : decVal (d1 :: xs) ≤ 2 ^ 63) : IntTok (45 :: d1 :: xs) .integer (2 ^ 64 - decVal (d1 :: xs))

/-- String bodies made of tokens the un-escaper accepts (plain units of any width, the eight short
escapes, `\uXXXX`, surrogate pairs), with the text they decode to at character width `w`. -/
def StrTok (w : Nat) (body text : List Nat) : Prop :=
  ∃ ts : List Tok, (∀ t ∈ ts, t.ok = true) ∧ body = ts.flatMap Tok.src ∧ text = ts.flatMap (Tok.out w)

mutual
/-- Documents whose leaves are keywords, `IntTok` numerals and `StrTok` strings (member names
too), with RFC whitespace at every layout position. -/
def Conc (w : Nat) : JDoc → Prop
  | .num tok kind bits => IntTok tok kind bits
  | .str body text => StrTok w body text
  | .arr ws0 items => AllWs ws0 ∧ ConcItems w items
  | .obj ws0 ms => AllWs ws0 ∧ ConcMembers w ms
  | _ => True
def ConcItems (w : Nat) : List (Ws × JDoc × Ws) → Prop
  | [] => True
  | (wsB, doc, wsA) :: rest => AllWs wsB ∧ Conc w doc ∧ AllWs wsA ∧ ConcItems w rest
def ConcMembers (w : Nat) : List (Ws × List Nat × List Nat × Ws × Ws × JDoc × Ws) → Prop
  | [] => True
  | (wsB, kbody, ktext, ws1, ws2, doc, wsA) :: rest =>
    AllWs wsB ∧ StrTok w kbody ktext ∧ AllWs ws1 ∧ AllWs ws2 ∧ Conc w doc ∧ AllWs wsA ∧ ConcMembers w rest
end

theorem intTok_spec (w : Nat) {tok : List Nat} {kind : NumKind} {bits : Nat} (h : IntTok tok kind bits) :
    NumSpec (jsonDeps w) tok kind bits ∧ NumTrunc (jsonDeps w) tok := by
  cases h with
  | zero => exact ⟨numSpec_zero w, numTrunc_zero w⟩
  | natural d1 xs h1 hxs hv => exact ⟨numSpec_natural w d1 xs h1 hxs hv, numTrunc_natural w d1 xs h1 hxs hv⟩
  | negative d1 xs h1 hxs hv => exact ⟨numSpec_negative w d1 xs h1 hxs hv, numTrunc_negative w d1 xs h1 hxs hv⟩

theorem strTok_spec (w : Nat) {body text : List Nat} (h : StrTok w body text) :
    StrSpec (jsonDeps w) body text ∧ StrTrunc (jsonDeps w) body := by
  obtain ⟨ts, hok, rfl, rfl⟩ := h
  exact ⟨strSpec_tokens w ts hok, strTrunc_tokens w ts hok⟩

mutual
theorem conc_wft (w : Nat) : ∀ (doc : JDoc), Conc w doc → WF (jsonDeps w) doc ∧ TS (jsonDeps w) doc
  | .null, _ => ⟨trivial, trivial⟩
  | .tru, _ => ⟨trivial, trivial⟩
  | .fals, _ => ⟨trivial, trivial⟩
  | .num _ _ _, h => intTok_spec w h
  | .str _ _, h => strTok_spec w h
  | .arr _ items, h => ⟨⟨h.1, (concItems_wft w items h.2).1⟩, (concItems_wft w items h.2).2⟩
  | .obj _ ms, h => ⟨⟨h.1, (concMembers_wft w ms h.2).1⟩, (concMembers_wft w ms h.2).2⟩
theorem concItems_wft (w : Nat) : ∀ (items : List (Ws × JDoc × Ws)), ConcItems w items →
    WFItems (jsonDeps w) items ∧ TSItems (jsonDeps w) items
  | [], _ => ⟨trivial, trivial⟩
  | (_, doc, _) :: rest, h =>
    ⟨⟨h.1, (conc_wft w doc h.2.1).1, h.2.2.1, (concItems_wft w rest h.2.2.2).1⟩,
      ⟨(conc_wft w doc h.2.1).2, (concItems_wft w rest h.2.2.2).2⟩⟩
theorem concMembers_wft (w : Nat) : ∀ (ms : List (Ws × List Nat × List Nat × Ws × Ws × JDoc × Ws)), ConcMembers w ms →
    WFMembers (jsonDeps w) ms ∧ TSMembers (jsonDeps w) ms
  | [], _ => ⟨trivial, trivial⟩
  | (_, _, _, _, _, doc, _) :: rest, h =>
    ⟨⟨h.1, (strTok_spec w h.2.1).1, h.2.2.1, h.2.2.2.1, (conc_wft w doc h.2.2.2.2.1).1, h.2.2.2.2.2.1,
        (concMembers_wft w rest h.2.2.2.2.2.2).1⟩,
      ⟨(strTok_spec w h.2.1).2, (conc_wft w doc h.2.2.2.2.1).2, (concMembers_wft w rest h.2.2.2.2.2.2).2⟩⟩
end

end Qentem.Json
