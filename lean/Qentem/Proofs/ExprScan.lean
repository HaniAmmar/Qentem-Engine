import Qentem.Model.ExprSpec
import Qentem.Proofs.Runs
/-!
# C01/C04 — what the expression scanner returns, and how it can stop

What holds of every run of the scanner, on any content, is one statement in the form `Ends E x P`
(Proofs/Runs.lean: `x` returns a value satisfying `P`, or stops with a fault that `E` admits),
`parseTop_ends`, proved by one induction on the fuel of the three mutually recursive functions
(`scan_ends`): for every range that ends below `n`, if every read below `n` succeeds or fails with an
admitted fault, the scanner returns nothing or a well-formed flat list all of whose variable
operands satisfy `P`, or stops with an admitted fault; its fuel is never the reason unless admitted.
The choice of `E` gives the statements used elsewhere: no failed read inside a tag (`Safe`), a value
inside a tag (`parseTop_total`; `Total` of Proofs/Runs.lean is `Ends` with no fault admitted).
-/
namespace Qentem.Expr
open Qentem.Generated.Expr

/-! ### The character-level scanners -/

theorem isExpression_succ (c : List Nat) (off : Nat) :
    isExpression c (off + 1) = (do
      let ch ← rd c off
      if ch = cSpace then isExpression c off
      else if ch = cPClose ∨ ch = cBClose then .ok true
      else .ok (decide (W1.digitZero ≤ ch ∧ ch ≤ W1.digitNine))) := rfl

theorem skipParen_succ (c : List Nat) (endO f off skip : Nat) :
    skipParen c endO (f + 1) off skip =
      if off < endO then do
        let ch ← rd c off
        if ch = cPClose then
          if skip = 0 then .ok off else skipParen c endO f (off + 1) (skip - 1)
        else if ch = cPOpen then skipParen c endO f (off + 1) (skip + 1)
        else skipParen c endO f (off + 1) skip
      else .ok off := rfl

theorem skipBracket_succ (c : List Nat) (endO f off : Nat) :
    skipBracket c endO (f + 1) off =
      if off + 1 < endO then do
        let ch ← rd c (off + 1)
        if ch ≠ cBClose then skipBracket c endO f (off + 1) else .ok (off + 1)
      else .ok (off + 1) := rfl

theorem getOperation_succ (c : List Nat) (endO f off : Nat) :
    getOperation c endO (f + 1) off =
      if off < endO then do
        let ch ← rd c off
        match classify ch with
        | .two yes no second => do
          let nx ← rd c (off + 1)
          .ok (if nx = second then yes else no, off)
        | .sign op => do
          let b ← isExpression c off
          if b then .ok (op, off) else getOperation c endO f (off + 1)
        | .single op => .ok (op, off)
        | .paren => do
          let off2 ← skipParen c endO (endO + 1) (off + 1) 0
          if off2 < endO then getOperation c endO f off2 else .ok (.error, off2)
        | .bracket => do
          let off2 ← skipBracket c endO (endO + 1) off
          if off2 < endO then getOperation c endO f off2 else .ok (.error, endO)
        | .other => getOperation c endO f (off + 1)
      else .ok (.noOp, off) := rfl

theorem trimLeft_succ (c : List Nat) (endO f off : Nat) :
    trimLeft c endO (f + 1) off =
      if off < endO then do
        let ch ← rd c off
        if isWs ch then trimLeft c endO f (off + 1) else .ok off
      else .ok off := rfl

theorem trimRight_succ (c : List Nat) (off e : Nat) :
    trimRight c off (e + 1) =
      if e + 1 > off then do
        let ch ← rd c e
        if isWs ch then trimRight c off e else .ok (e + 1)
      else .ok (e + 1) := rfl

section
variable {E : Fault → Prop} {c : List Nat} {n : Nat}

theorem isExpression_ends (hrd : ReadsTo E c n) : ∀ off, off ≤ n →
    Ends E (isExpression c off) (fun _ => True) := by
  intro off
  induction off with
  | zero => intro _; exact Ends.ok _ trivial
  | succ off ih =>
    intro h
    rw [isExpression_succ]
    exact Ends.bind (rd_ends hrd (by omega)) (fun ch _ => Ends.ite (fun _ => ih (by omega))
      (fun _ => Ends.ite (fun _ => Ends.ok _ trivial) (fun _ => Ends.ok _ trivial)))

/-- the fuel `endO + 1 - off` suffices: every step moves `off` forward -/
theorem skipParen_ends (hrd : ReadsTo E c n) {endO : Nat} (he : endO ≤ n) :
    ∀ f off skip, off ≤ endO → (E .fuel ∨ endO + 1 ≤ f + off) →
      Ends E (skipParen c endO f off skip) (fun o => off ≤ o ∧ o ≤ endO) := by
  intro f
  induction f with
  | zero => intro off skip _ hf; exact Ends.err (hf.resolve_right (by omega))
  | succ f ih =>
    intro off skip h hf
    rw [skipParen_succ]
    refine Ends.ite (fun hlt => ?_) (fun _ => Ends.ok _ ⟨Nat.le_refl _, h⟩)
    have next : ∀ s, Ends E (skipParen c endO f (off + 1) s) (fun o => off ≤ o ∧ o ≤ endO) :=
      fun s => (ih _ s (by omega) (hf.imp_right (fun h => by omega))).mono
        (fun a ha => ⟨by omega, ha.2⟩)
    exact Ends.bind (rd_ends hrd (by omega)) (fun ch _ =>
      Ends.ite (fun _ => Ends.ite (fun _ => Ends.ok _ ⟨Nat.le_refl _, h⟩) (fun _ => next _))
        (fun _ => Ends.ite (fun _ => next _) (fun _ => next _)))

theorem skipBracket_ends (hrd : ReadsTo E c n) {endO : Nat} (he : endO ≤ n) :
    ∀ f off, off < endO → (E .fuel ∨ endO + 1 ≤ f + off) →
      Ends E (skipBracket c endO f off) (fun o => off < o ∧ o ≤ endO) := by
  intro f
  induction f with
  | zero => intro off _ hf; exact Ends.err (hf.resolve_right (by omega))
  | succ f ih =>
    intro off h hf
    rw [skipBracket_succ]
    refine Ends.ite (fun hlt => ?_) (fun _ => Ends.ok _ ⟨by omega, by omega⟩)
    exact Ends.bind (rd_ends hrd (by omega)) (fun ch _ => Ends.ite
      (fun _ => (ih _ hlt (hf.imp_right (fun h => by omega))).mono (fun a ha => ⟨by omega, ha.2⟩))
      (fun _ => Ends.ok _ ⟨by omega, by omega⟩))

/-- the operators `classify` can return are real operators -/
def OpChar.good : OpChar → Bool
  | .two y n _ => y != .noOp && n != .noOp
  | .sign o => o != .noOp
  | .single o => o != .noOp
  | _ => true

theorem opTable_good : opTable.all (fun p => p.2.good) = true := by decide

theorem classify_good (ch : Nat) : (classify ch).good = true := by
  unfold classify
  cases h : opTable.find? (fun p => p.1 == ch) with
  | none => rfl
  | some p => exact List.all_eq_true.mp opTable_good p (List.mem_of_find?_eq_some h)

theorem classify_ops (ch : Nat) :
    (∀ y n s, classify ch = .two y n s → y ≠ .noOp ∧ n ≠ .noOp) ∧
    (∀ o, classify ch = .sign o → o ≠ .noOp) ∧ (∀ o, classify ch = .single o → o ≠ .noOp) := by
  have h := classify_good ch
  refine ⟨?_, ?_, ?_⟩
  · intro y n s hc; rw [hc] at h; simpa [OpChar.good] using h
  · intro o hc; rw [hc] at h; simpa [OpChar.good] using h
  · intro o hc; rw [hc] at h; simpa [OpChar.good] using h

theorem getOperation_ends (hrd : ReadsTo E c n) {endO : Nat} (he : endO < n) :
    ∀ f off, off ≤ endO → (E .fuel ∨ endO + 1 ≤ f + off) →
      Ends E (getOperation c endO f off)
        (fun r => off ≤ r.2 ∧ r.2 ≤ endO ∧ (r.1 = .noOp → r.2 = endO)) := by
  intro f
  induction f with
  | zero => intro off _ hf; exact Ends.err (hf.resolve_right (by omega))
  | succ f ih =>
    intro off h hf
    rw [getOperation_succ]
    refine Ends.ite (fun hlt => ?_) (fun _ => Ends.ok _ ⟨Nat.le_refl _, h, fun _ => by omega⟩)
    have next : ∀ o, off < o → o ≤ endO → Ends E (getOperation c endO f o)
        (fun r => off ≤ r.2 ∧ r.2 ≤ endO ∧ (r.1 = .noOp → r.2 = endO)) :=
      fun o h1 h2 => (ih o h2 (hf.imp_right (fun h => by omega))).mono
        (fun a ha => ⟨by omega, ha.2⟩)
    apply Ends.bind (rd_ends hrd (by omega))
    intro ch _
    have hcl := classify_ops ch
    cases hc : classify ch with
    | two yes no second =>
      have := hcl.1 yes no second hc
      refine Ends.bind (rd_ends hrd (by omega)) (fun nx _ => Ends.ok _ ⟨Nat.le_refl _, h, ?_⟩)
      intro hn
      have hn : (if nx = second then yes else no) = .noOp := hn
      split at hn
      · exact absurd hn this.1
      · exact absurd hn this.2
    | sign op =>
      exact Ends.bind (isExpression_ends hrd off (by omega)) (fun b _ => Ends.ite
        (fun _ => Ends.ok _ ⟨Nat.le_refl _, h, fun hn => absurd hn (hcl.2.1 op hc)⟩)
        (fun _ => next _ (by omega) (by omega)))
    | single op => exact Ends.ok _ ⟨Nat.le_refl _, h, fun hn => absurd hn (hcl.2.2 op hc)⟩
    | paren =>
      exact Ends.bind (skipParen_ends hrd (by omega) _ _ _ (by omega) (Or.inr (by omega)))
        (fun o2 ho2 => Ends.ite (fun _ => next _ (by omega) (by omega))
          (fun _ => Ends.ok _ ⟨by show off ≤ o2; omega, ho2.2, fun hn => nomatch hn⟩))
    | bracket =>
      exact Ends.bind (skipBracket_ends hrd (by omega) _ _ hlt (Or.inr (by omega)))
        (fun o2 ho2 => Ends.ite (fun _ => next _ (by omega) (by omega))
          (fun _ => Ends.ok _ ⟨h, Nat.le_refl _, fun hn => nomatch hn⟩))
    | other => exact next _ (by omega) (by omega)

theorem trimLeft_ends (hrd : ReadsTo E c n) {endO : Nat} (he : endO ≤ n) :
    ∀ f off, Ends E (trimLeft c endO f off) (fun r => off ≤ r) := by
  intro f
  induction f with
  | zero => intro off; exact Ends.ok _ (Nat.le_refl _)
  | succ f ih =>
    intro off
    rw [trimLeft_succ]
    refine Ends.ite (fun hlt => ?_) (fun _ => Ends.ok _ (Nat.le_refl _))
    exact Ends.bind (rd_ends hrd (by omega)) (fun ch _ => Ends.ite
      (fun _ => (ih _).mono (fun a ha => by omega)) (fun _ => Ends.ok _ (Nat.le_refl _)))

theorem trimRight_ends (hrd : ReadsTo E c n) (off : Nat) :
    ∀ e, e ≤ n → Ends E (trimRight c off e) (fun r => r ≤ e) := by
  intro e
  induction e with
  | zero => intro _; exact Ends.ok _ (Nat.le_refl _)
  | succ e ih =>
    intro h
    rw [trimRight_succ]
    refine Ends.ite (fun _ => ?_) (fun _ => Ends.ok _ (Nat.le_refl _))
    exact Ends.bind (rd_ends hrd (by omega)) (fun ch _ => Ends.ite
      (fun _ => (ih (by omega)).mono (fun a ha => by omega)) (fun _ => Ends.ok _ (Nat.le_refl _)))

end

/-! ### The lists under construction -/

variable {R : Type}

/-- operands well-formed, every entry followed by a real operator (a list still being extended) -/
def wfOpen : List (Item R) → Bool
  | [] => true
  | (x, o) :: rest => x.wf && o != .noOp && wfOpen rest

theorem wfOpen_snoc (x : Operand R) (o : Op) : ∀ (a : List (Item R)),
    wfOpen (a ++ [(x, o)]) = (wfOpen a && x.wf && o != .noOp) := by
  intro a
  induction a with
  | nil => simp [wfOpen]
  | cons y rest ih =>
    obtain ⟨y1, y2⟩ := y
    simp only [List.cons_append, wfOpen, ih]
    cases y1.wf <;> cases (y2 != Op.noOp) <;> simp

theorem wfTail_snoc (x : Operand R) (hx : x.wf = true) : ∀ (a : List (Item R)) (o : Op),
    o ≠ .noOp → wfOpen a = true → wfTail o (a ++ [(x, .noOp)]) = true := by
  intro a
  induction a with
  | nil => intro o ho _; simp [wfTail, ho, hx]
  | cons y rest ih =>
    intro o ho hw
    obtain ⟨y1, y2⟩ := y
    simp only [wfOpen, Bool.and_eq_true, bne_iff_ne, ne_eq] at hw
    simp only [List.cons_append, wfTail, Bool.and_eq_true, bne_iff_ne, ne_eq]
    exact ⟨⟨ho, hw.1.1⟩, ih y2 hw.1.2 hw.2⟩

theorem wfItems_snoc (x : Operand R) (hx : x.wf = true) (a : List (Item R)) (hw : wfOpen a = true) :
    wfItems (a ++ [(x, .noOp)]) = true := by
  cases a with
  | nil => simp [wfItems, wfTail, hx]
  | cons y rest =>
    obtain ⟨y1, y2⟩ := y
    simp only [wfOpen, Bool.and_eq_true, bne_iff_ne, ne_eq] at hw
    simp only [List.cons_append, wfItems, Bool.and_eq_true]
    exact ⟨hw.1.1, wfTail_snoc x hx rest y2 hw.1.2 hw.2⟩

mutual
def operandAll (P : VarRef → Prop) : Operand R → Prop
  | .var v => P v
  | .sub items => itemsAll P items
  | _ => True
def itemsAll (P : VarRef → Prop) : List (Item R) → Prop
  | [] => True
  | (x, _) :: rest => operandAll P x ∧ itemsAll P rest
end

theorem itemsAll_nil (P : VarRef → Prop) : itemsAll P ([] : List (Item R)) := by
  simp [itemsAll]

theorem itemsAll_snoc (P : VarRef → Prop) (x : Operand R) (o : Op) : ∀ (a : List (Item R)),
    itemsAll P (a ++ [(x, o)]) ↔ (itemsAll P a ∧ operandAll P x) := by
  intro a
  induction a with
  | nil => simp [itemsAll]
  | cons y rest ih =>
    obtain ⟨y1, y2⟩ := y
    simp only [List.cons_append, itemsAll, ih, and_assoc]

/-- result of the scanner: nothing, or a well-formed list -/
def ScanOk (r : List (Item R)) : Prop := r = [] ∨ wfItems r = true

/-- result of `parseValue` under `oper`: no entry, or the list extended by one entry (closed when
`oper` is `NoOp`) -/
def ValueOk (P : VarRef → Prop) (oper : Op) (r : Option (List (Item R))) : Prop :=
  ∀ l, r = some l →
    (oper ≠ .noOp → wfOpen l = true) ∧ (oper = .noOp → wfItems l = true) ∧ itemsAll P l

theorem ValueOk.none (P : VarRef → Prop) (oper : Op) : ValueOk P oper (none : Option (List (Item R))) :=
  fun _ h => nomatch h

theorem ValueOk.snoc {P : VarRef → Prop} {exprs : List (Item R)} (hex : wfOpen exprs = true)
    (hall : itemsAll P exprs) (oper : Op) {x : Operand R} (hx : x.wf = true) (hxP : operandAll P x) :
    ValueOk P oper (some (exprs ++ [(x, oper)])) := by
  intro l hl
  cases hl
  refine ⟨fun hne => ?_, fun heq => ?_, (itemsAll_snoc P x oper exprs).2 ⟨hall, hxP⟩⟩
  · rw [wfOpen_snoc]; simp [hex, hx, hne]
  · subst heq; exact wfItems_snoc x hx exprs hex

/-! ### The three mutually recursive scanner functions -/

/-- the variable operand the scanner makes of `{…}` at `off … e` -/
def scanVar (cfg : ScanCfg R) (off e : Nat) : VarRef :=
  ⟨off + 5, (e - (off + 5)) % 2 ^ variableLengthBits, (cfg.loopVar (off + 5)).1, (cfg.loopVar (off + 5)).2⟩

/-- Fuel: two units per unit of text and one more per level of the mutual recursion — `parseLoop` on `[off, endO]`
needs `2·(endO − off) + 2`, `parseExpressions` one more, `parseValue` on an operand `[off0, end0]` one less.  The
invariant of `parseLoop` has two cases: the list is open (every entry followed by a real operator; empty when no
operator has been seen), or it was closed by the last operand (`lastOp = NoOp`) and the loop is entered once more
behind `endO`, where it returns the list. -/
theorem scan_ends {E : Fault → Prop} {c : List Nat} {n : Nat} (cfg : ScanCfg R) (P : VarRef → Prop)
    (hrd : ReadsTo E c n)
    (hP : ∀ off e, off + 5 ≤ e → c[e]? = some W1.inLineLastChar → P (scanVar cfg off e)) : ∀ f,
    (∀ off endO, endO < n → (E .fuel ∨ (2 ≤ f ∧ (off < endO → 2 * endO + 3 ≤ f + 2 * off))) →
      Ends E (parseExpressions cfg c f off endO) (fun r => ScanOk r ∧ itemsAll P r)) ∧
    (∀ endO off exprs lastOp, endO < n →
      (E .fuel ∨ (1 ≤ f ∧ (off < endO → 2 * endO + 2 ≤ f + 2 * off))) →
      ((wfOpen exprs = true ∧ (lastOp = .noOp → exprs = [])) ∨
       (lastOp = .noOp ∧ wfItems exprs = true ∧ endO < off)) → itemsAll P exprs →
      Ends E (parseLoop cfg c f endO off exprs lastOp) (fun r => ScanOk r ∧ itemsAll P r)) ∧
    (∀ exprs oper lastOp off0 end0, end0 < n → (E .fuel ∨ (off0 ≤ end0 ∧ 2 * end0 + 1 ≤ f + 2 * off0)) →
      wfOpen exprs = true → itemsAll P exprs →
      Ends E (parseValue cfg c f exprs oper lastOp off0 end0) (ValueOk P oper)) := by
  have hnil : ScanOk ([] : List (Item R)) ∧ itemsAll P ([] : List (Item R)) :=
    ⟨Or.inl rfl, itemsAll_nil P⟩
  intro f
  induction f with
  | zero =>
    refine ⟨?_, ?_, ?_⟩
    · intro off endO _ hf; rw [parseExpressions]; exact Ends.err (hf.resolve_right (fun h => by omega))
    · intro endO off exprs lastOp _ hf _ _; rw [parseLoop]; exact Ends.err (hf.resolve_right (fun h => by omega))
    · intro exprs oper lastOp off0 end0 _ hf _ _; rw [parseValue]; exact Ends.err (hf.resolve_right (fun h => by omega))
  | succ f ih =>
    obtain ⟨ihE, ihL, ihV⟩ := ih
    refine ⟨?_, ?_, ?_⟩
    · intro off endO he hf
      rw [parseExpressions]
      exact ihL _ _ _ _ he (hf.imp_right (fun h => ⟨by omega, fun h' => by have := h.2 h'; omega⟩))
        (Or.inl ⟨rfl, fun _ => rfl⟩) (itemsAll_nil P)
    · intro endO off exprs lastOp he hf hinv hall
      rw [parseLoop]
      refine Ends.ite (fun hlt => ?_) (fun _ => Ends.ite (fun hex => ?_) (fun _ => Ends.ok _ hnil))
      · rcases hinv with ⟨hopen, _⟩ | ⟨_, _, hgt⟩
        · apply Ends.bind (getOperation_ends hrd he _ off (by omega) (Or.inr (by omega)))
          intro r hr
          obtain ⟨oper, opOff⟩ := r
          have hr : off ≤ opOff ∧ opOff ≤ endO ∧ (oper = .noOp → opOff = endO) := hr
          refine Ends.ite (fun _ => Ends.ok _ hnil) (fun _ => ?_)
          apply Ends.bind (ihV exprs oper lastOp off opOff (by omega)
            (hf.imp_right (fun h => ⟨hr.1, by have := h.2 hlt; omega⟩)) hopen hall)
          intro v hv
          cases v with
          | none => exact Ends.ok _ hnil
          | some ex =>
            obtain ⟨h1, h2, h3⟩ := hv ex rfl
            have hf' := hf.imp_right (fun h => show 1 ≤ f ∧ (opOff + 1 +
                (if oper.rank < Op.greater.rank then 1 else 0) < endO → 2 * endO + 2 ≤ f + 2 * (opOff + 1 +
                (if oper.rank < Op.greater.rank then 1 else 0))) from
              ⟨by have := h.2 hlt; omega, fun _ => by have := h.2 hlt; omega⟩)
            by_cases hno : oper = .noOp
            · subst hno
              -- the last operand: the loop is entered once more, behind `endO`
              have hrank : Op.noOp.rank < Op.greater.rank := by decide
              refine ihL _ _ _ _ he hf' (Or.inr ⟨rfl, h2 rfl, ?_⟩) h3
              rw [if_pos hrank, hr.2.2 rfl]; omega
            · exact ihL _ _ _ _ he hf' (Or.inl ⟨h1 hno, fun h => absurd h hno⟩) h3
        · omega
      · rcases hinv with ⟨_, hnil'⟩ | ⟨_, hw, _⟩
        · exact Ends.ok _ ⟨Or.inl (hnil' hex.2), hall⟩
        · exact Ends.ok _ ⟨Or.inr hw, hall⟩
    · intro exprs oper lastOp off0 end0 he hf hex hall
      have h1 : W1.inLineSuffixLength = 1 := rfl
      have h5 : W1.variablePrefixLength = 5 := rfl
      have h6 : W1.variableFullLength = 6 := rfl
      have none_ok : Ends E (.ok (none : Option (List (Item R)))) (ValueOk P oper) :=
        Ends.ok _ (ValueOk.none P oper)
      rw [parseValue]
      apply Ends.bind (trimLeft_ends hrd (by omega) _ off0)
      intro off hoff
      apply Ends.bind (trimRight_ends hrd off end0 (by omega))
      intro endO hend
      refine Ends.ite (fun hlt => ?_) (fun _ => none_ok)
      apply Ends.bind (rd_ends hrd (by omega))
      intro ch _
      refine Ends.ite (fun _ => ?_) (fun _ => Ends.ite (fun _ => Ends.ite (fun hfull => ?_)
        (fun _ => none_ok)) (fun _ => ?_))
      · apply Ends.bind (ihE (off + 1) (endO - 1) (by omega)
          (hf.imp_right (fun h => ⟨by omega, fun _ => by omega⟩)))
        intro sub hsub
        cases hse : sub.isEmpty
        · have hw : wfItems sub = true :=
            hsub.1.resolve_left (fun h => by rw [h] at hse; cases hse)
          refine Ends.ite (fun _ => ?_) (fun hcond => ?_)
          · exact Ends.ok _ (ValueOk.snoc hex hall oper (x := .sub sub) hw hsub.2)
          · have hop : oper = .noOp := Decidable.byContradiction fun h => hcond (Or.inr h)
            exact Ends.ok _ (fun l hl => by
              cases hl; exact ⟨fun h => absurd hop h, fun _ => hw, hsub.2⟩)
        · exact Ends.ite (fun _ => none_ok) (fun _ => none_ok)
      · apply Ends.bind (rd_ends hrd (by omega))
        intro last hlast
        refine Ends.ite (fun hl => ?_) (fun _ => none_ok)
        exact Ends.ok _ (ValueOk.snoc hex hall oper (x := .var _) rfl
          (hP _ _ (by omega) (hl ▸ hlast)))
      · cases cfg.readNum ((c.drop off).take (endO - off)) with
        | some num => exact Ends.ok _ (ValueOk.snoc hex hall oper (x := .num num) rfl trivial)
        | none =>
          exact Ends.ite (fun _ => Ends.ok _ (ValueOk.snoc hex hall oper (x := .text _ _) rfl trivial))
            (fun _ => none_ok)

theorem parseTop_ends {E : Fault → Prop} {c : List Nat} {n : Nat} (cfg : ScanCfg R)
    (P : VarRef → Prop) (hrd : ReadsTo E c n)
    (hP : ∀ off e, off + 5 ≤ e → c[e]? = some W1.inLineLastChar → P (scanVar cfg off e))
    (off endO : Nat) (he : endO < n) :
    Ends E (parseTop cfg c off endO) (fun r => ScanOk r ∧ itemsAll P r) :=
  (scan_ends cfg P hrd hP _).1 off endO he (Or.inr ⟨by omega, fun _ => by omega⟩)

end Qentem.Expr
