import Qentem.Proofs.TmplGenBase
/-!
# C02 — the parse of a printed inline `{if case="e" true="T" false="F"}` in trees

The attribute names, their quotes and the closing quotes are *text segments* (`attrSegs`): the two values are then one
run of segments parsed inside the inline container (`parseMain_segs` with `isChild`), between the search for the
case's closing quote across its `{var:}` operands (`iifQuote_parts`) and the closing of the tag (`closeIif_print`).
-/
namespace Qentem.Tmpl
open Qentem.Expr (Fault rd ScanCfg VarRef Item Num Val Env RealLike)
open Qentem.Generated.Tmpl

variable {R : Type}

theorem printMP_no34 : ∀ (parts : List (List Nat × List Nat)), (∀ tp ∈ parts, (∀ x ∈ tp.1, x ≠ 34) ∧ ∀ x ∈ tp.2, x ≠ 34) →
    ∀ x ∈ printMP parts, x ≠ 34 := by
  intro parts
  induction parts with
  | nil => intro _ x hx; simp [printMP] at hx
  | cons tp r ih =>
    obtain ⟨t, p⟩ := tp
    intro h x hx
    have h1 := h (t, p) (List.mem_cons_self ..)
    simp only [printMP, List.mem_append] at hx
    rcases hx with (hx | hx) | hx
    · exact h1.1 x hx
    · simp only [List.mem_cons] at hx
      rcases hx with (hx | hx) | hx
      · simp at hx; rcases hx with h | h | h | h | h <;> subst h <;> decide
      · exact h1.2 x hx
      · simp at hx; subst hx; decide
    · exact ih (fun y hy => h y (List.mem_cons_of_mem _ hy)) x hx

/-- the two cases of `iifQuote`'s loop body that occur on printed text: the quote is found before the next
match, or the next match is a `{var:` whose `}` follows -/
theorem iifQuote_found (c : List Nat) (quote fuel : Nat) (st : PState R) (off endO off' : Nat) (hm : st.mtch ≠ 0)
    (hsk : skipW c endO (· != quote) off = .ok off') (hlt : off' < endO) :
    iifQuote c quote (fuel + 1) st off endO = .ok (st, off') := by
  simp only [iifQuote, hm, ne_eq, not_false_eq_true, if_true, hsk, bind, Except.bind, hlt]

theorem iifQuote_operand (c : List Nat) (quote fuel : Nat) (st st1 st2 : PState R) (off endO : Nat) (hm : st.mtch ≠ 0)
    (hsk : skipW c endO (· != quote) off = .ok endO) (h1 : finderNext c st = .ok st1) (hm1 : st1.mtch = 1)
    (h2 : finderNext c st1 = .ok st2) :
    iifQuote c quote (fuel + 1) st off endO = iifQuote c quote fuel st2 endO st2.off := by
  simp only [iifQuote, hm, ne_eq, not_false_eq_true, if_true, hsk, bind, Except.bind, Nat.lt_irrefl, if_false, h1, hm1,
    show W1.lineEndID = 1 from rfl, h2]

/-- the `while` of `case InLineIfID` that looks for the closing quote of the case text, over the `{var:}`
operands of the text; `X` is what has been passed since the last match -/
theorem iifQuote_parts (c : List Nat) (hn : c.length + 16 < 4294967296) (ch : List LoopRef) (child : Bool)
    (stk : List (Frame R)) (acc : List (Tag R)) (last : List Nat) (hl : plainL last) (hl34 : ∀ x ∈ last, x ≠ 34) :
    ∀ (parts : List (List Nat × List Nat)) (X : List Nat) (off fuel o m oF mF : Nat),
      At c off X → (∀ x ∈ X, x ≠ 34) →
      At c (off + X.length) (printMP parts ++ (last ++ [34])) →
      (∀ tp ∈ parts, plainL tp.1 ∧ plainL tp.2) → (∀ x ∈ printMP parts, x ≠ 34) →
      parts.length + 1 ≤ fuel → next c (off + X.length) = .ok (o, m) →
      next c (off + X.length + (printMP parts ++ last).length + 1) = .ok (oF, mF) → mF ≠ 0 →
      iifQuote c 34 fuel (stAtC ch child stk acc o m : PState R) off o =
        .ok (stAtC ch child stk acc oF mF, off + X.length + (printMP parts ++ last).length) := by
  intro parts
  induction parts with
  | nil =>
    intro X off fuel o m oF mF hX hX34 h _ _ hf hnext hfin hmF
    simp only [printMP, List.nil_append] at h hfin ⊢
    rw [h.run (plainL_append hl (plainL_of_all [34] rfl)), List.length_append, List.length_singleton, ← Nat.add_assoc, hfin]
      at hnext
    cases hnext
    obtain ⟨f, rfl⟩ : ∃ f, fuel = f + 1 := ⟨fuel - 1, by omega⟩
    obtain ⟨o', m', hn', _, hge, _⟩ := next_total c (off + X.length + last.length + 1)
      (by have := h.le; rw [List.length_append, List.length_singleton] at this; omega)
    rw [hfin] at hn'
    cases hn'
    have hsk := (hX.append h.left).skip (pr := (· != 34)) (endO := o)
      (fun x hx => bne_iff_ne.mpr ((List.mem_append.mp hx).elim (hX34 x) (hl34 x)))
      (by rw [List.length_append, ← Nat.add_assoc]; exact h.right.head) rfl (by rw [List.length_append]; omega)
    rw [List.length_append, ← Nat.add_assoc] at hsk
    exact iifQuote_found c 34 f _ off o _ hmF hsk (by omega)
  | cons tp r ih =>
    obtain ⟨t, q⟩ := tp
    intro X off fuel o m oF mF hX hX34 h hall h34 hf hnext hfin hmF
    have htp := hall (t, q) (List.mem_cons_self ..)
    obtain ⟨f, rfl⟩ : ∃ f, fuel = f + 1 := ⟨fuel - 1, by simp only [List.length_cons] at hf; omega⟩
    simp only [printMP, List.append_assoc] at h h34
    obtain ⟨hv, hcl⟩ := next_operand c hn _ t q _ h htp.1 htp.2
    rw [hv] at hnext
    cases hnext
    have hq : At c (off + X.length + t.length + 5) ((q ++ [125]) ++ (printMP r ++ (last ++ [34]))) := by
      rw [List.append_assoc]; exact h.right.right
    have h4 : At c (off + X.length + t.length + 5 + (q ++ [125]).length) (printMP r ++ (last ++ [34])) := hq.right
    obtain ⟨o2, m2, hn2, _⟩ := next_total c _ (Nat.le_trans (Nat.le_add_right _ _) h4.le)
    have hXt : At c off (X ++ (t ++ VAR)) :=
      hX.append (show At c (off + X.length) ((t ++ VAR) ++ _) by rw [List.append_assoc]; exact h).left
    have hv34 : ∀ x ∈ VAR, x ≠ 34 := by decide
    have hsk := hXt.skip_end (pr := (· != 34)) (fun x hx => bne_iff_ne.mpr
      ((List.mem_append.mp hx).elim (hX34 x) fun hx =>
        (List.mem_append.mp hx).elim (fun hx => h34 x (List.mem_append_left _ hx)) (hv34 x)))
    have hXl : off + (X ++ (t ++ VAR)).length = off + X.length + t.length + 5 := by
      simp only [List.length_append, VAR, List.length_cons, List.length_nil]; omega
    rw [hXl] at hsk
    have hlen : off + X.length + (printMP ((t, q) :: r) ++ last).length =
        off + X.length + t.length + 5 + (q ++ [125]).length + (printMP r ++ last).length := by
      rw [printMP_cons_len]; simp only [List.length_append, List.length_singleton]; omega
    rw [hlen] at hfin ⊢
    rw [iifQuote_operand c 34 f _ _ _ off _ (by decide : (2 : Nat) ≠ 0) hsk
      (finderNext_stAtC c ch child stk acc _ 2 _ _ hcl) rfl
      (finderNext_stAtC c ch child stk acc _ 1 _ _ (by rw [List.length_append, List.length_singleton, ← Nat.add_assoc] at hn2; exact hn2))]
    exact ih (q ++ [125]) _ f o2 m2 oF mF hq.left
      (fun x hx => (List.mem_append.mp hx).elim
        (fun hx => h34 x (List.mem_append_right _ (List.mem_append_right _ (List.mem_append_left _ hx))))
        (fun hx => by rw [List.mem_singleton.mp hx]; decide))
      h4 (fun x hx => hall x (List.mem_cons_of_mem _ hx))
      (fun x hx => h34 x (List.mem_append_right _ (List.mem_append_right _ (List.mem_append_right _ (List.mem_append_right _ hx)))))
      (by simp only [List.length_cons] at hf; omega) hn2 hfin hmF

theorem stepIif_print (cfg : ScanCfg R) (c : List Nat) (hn : c.length + 16 < 4294967296) (ch : List LoopRef)
    (stk : List (Frame R)) (acc : List (Tag R)) (p : Nat) (last : List Nat) (parts : List (List Nat × List Nat))
    (h : At c p (IIF1 ++ (printMP parts ++ (last ++ [34]))))
    (hl : plainL last) (hl34 : ∀ x ∈ last, x ≠ 34)
    (hall : ∀ tp ∈ parts, plainL tp.1 ∧ plainL tp.2) (h34 : ∀ x ∈ printMP parts, x ≠ 34)
    (oF mF : Nat) (hfin : next c (p + 10 + (printMP parts ++ last).length + 1) = .ok (oF, mF)) (hmF : mF ≠ 0)
    (hto : (printMP parts ++ last).length + 11 < 65536) (hlt : p + 10 + (printMP parts ++ last).length < c.length) :
    step cfg c (stAtC ch false stk acc (p + 3) 6) =
      .ok (stAtC ch true (.iif acc (itemsAtC cfg c ch (p + 10) (p + 10 + (printMP parts ++ last).length))
        { off := p, trueOff := 11 + (printMP parts ++ last).length } :: stk) [] oF mF) := by
  show stepIif cfg c (stAtC ch false stk acc (p + 3) 6) = _
  have hE : At c (p + 3 + 1 + 4 + 1 + 1) (printMP parts ++ (last ++ [34])) := h.right
  have h' : At c (p + 3) (32 :: (W1.caseStr ++ 61 :: 34 :: (printMP parts ++ (last ++ [34])))) :=
    At.right (u := [123, 105, 102]) h
  have c4 : c[p + 3 + 1]? = some 99 := h'.tail.head
  obtain ⟨o1, m1, hn1, _, hge1, _⟩ := next_total c (p + 3 + 1 + 4 + 1 + 1)
    (Nat.le_trans (Nat.le_add_right _ _) hE.le)
  have hrun : next c (p + 3) = .ok (o1, m1) :=
    ((At.left (u := [32, 99, 97, 115, 101, 61, 34]) h').run (plainL_of_all _ rfl)).trans hn1
  have hs := attrHead c o1 (p + 3) 4 99 W1.caseStr _ h' rfl c4 rfl (by omega)
  have hq := iifQuote_parts c hn ch false stk acc last hl hl34 parts [] (p + 3 + 1 + 4 + 1 + 1) (c.length + 2) o1 m1 oF mF
    (At.left (u := []) hE) (fun x hx => absurd hx (List.not_mem_nil)) hE hall h34
    (by have := printMP_len_ge parts; have := hE.left.le; omega) hn1 hfin hmF
  have hto' : trunc bits_InLineIfTag_TrueOffset (p + 10 + (printMP parts ++ last).length + 1 - p) =
      11 + (printMP parts ++ last).length := by
    simp only [trunc, show bits_InLineIfTag_TrueOffset = 16 from rfl]; omega
  have hcond : (decide (p + 3 + 1 < o1) && decide (o1 - (p + 3 + 1) > 4)) = true := by
    simp only [Bool.and_eq_true, decide_eq_true_eq]; omega
  have hoff : (stAtC ch false stk acc (p + 3) 6 : PState R).off = p + 3 := rfl
  have hoff1 : (stAtC ch false stk acc o1 m1 : PState R).off = o1 := rfl
  have hmf : (stAtC ch false stk acc oF mF : PState R).mtch = mF := rfl
  have hchf : (stAtC ch false stk acc oF mF : PState R).loopChain = ch := rfl
  rw [show p + 3 + 1 + 4 + 1 + 1 = p + 10 from rfl] at hq
  simp only [stepIif, finderNext_stAtC c ch false stk acc (p + 3) 6 o1 m1 hrun, bind, Except.bind, hoff, hoff1, hs.sp,
    show W1.caseLength = 4 from rfl, andEqualAt, hcond, if_true, hs.nm, hs.eq, hs.sp2, show p + 3 + 1 + 4 + 1 < o1 by omega,
    hs.quote, show p + 3 + 1 + 4 + 1 + 1 = p + 10 from rfl, hq, hmf, hchf, List.length_nil, ne_eq, hmF,
    not_false_eq_true, exprs_itemsAtC cfg c ch _ _ hlt, show W1.inLineIfPrefixLength = 3 from rfl, Nat.add_sub_cancel, hto']
  rfl

theorem iifAttrs_true (c : List Nat) (p : Nat) (T : List Nat) (h : At c p (TRUEA ++ (T ++ [34]))) (hT : ∀ x ∈ T, x ≠ 34)
    (endO to fuel : Nat) (tru0 : Bool) (f : IifFields) (he : p + 8 + T.length < endO) :
    iifAttrs c endO to (fuel + 1) p tru0 f =
      iifAttrs c endO to fuel (p + 8 + T.length) false
        { f with trueOff := trunc bits_InLineIfTag_TrueOffset (p + 7 - f.off),
                 trueLen := trunc bits_InLineIfTag_TrueLength T.length } := by
  have h' : At c p (32 :: (W1.trueStr ++ 61 :: 34 :: (T ++ [34]))) := h
  have c1 : c[p + 1]? = some 116 := h'.tail.head
  have hs := attrHead c endO p 4 116 W1.trueStr _ h' rfl c1 rfl (by omega)
  have s5 : skipW c endO (· != 34) (p + 1 + 4 + 1 + 1) = .ok (p + 1 + 4 + 1 + 1 + T.length) :=
    (show At c (p + 1 + 4 + 1 + 1) T from h.right.left).skip (fun x hx => bne_iff_ne.mpr (hT x hx)) h.right.right.head rfl
      (by omega)
  simp only [iifAttrs, hs.sp, bind, Except.bind, show p + 1 < endO by omega, if_true, h'.tail.read,
    show W1.trueChar = 116 from rfl, show W1.trueLength = 4 from rfl, andEqualAt,
    show decide (endO - (p + 1) > 4) = true from decide_eq_true (by omega), hs.nm, pure, Except.pure, hs.eq, hs.sp2,
    show p + 1 + 4 + 1 < endO by omega, hs.quote, s5, show p + 1 + 4 + 1 + 1 + T.length < endO by omega,
    show p + 1 + 4 + 1 + 1 + T.length + 1 < endO by omega, Nat.add_sub_cancel_left]
  rw [show p + 1 + 4 + 1 + 1 + T.length + 1 = p + 8 + T.length by omega, show p + 1 + 4 + 1 + 1 = p + 7 from rfl]

theorem iifAttrs_false (c : List Nat) (p : Nat) (F : List Nat) (h : At c p (FALSEA ++ (F ++ [34]))) (hF : ∀ x ∈ F, x ≠ 34)
    (endO to fuel : Nat) (f : IifFields) (he : p + 9 + F.length < endO) :
    iifAttrs c endO to (fuel + 1) p false f =
      iifAttrs c endO to fuel (p + 9 + F.length) false
        { f with falseOff := trunc bits_InLineIfTag_FalseOffset (p + 8 - f.off),
                 falseLen := trunc bits_InLineIfTag_FalseLength F.length } := by
  have h' : At c p (32 :: (W1.falseStr ++ 61 :: 34 :: (F ++ [34]))) := h
  have c1 : c[p + 1]? = some 102 := h'.tail.head
  have hs := attrHead c endO p 5 102 W1.falseStr _ h' rfl c1 rfl (by omega)
  have s5 : skipW c endO (· != 34) (p + 1 + 5 + 1 + 1) = .ok (p + 1 + 5 + 1 + 1 + F.length) :=
    (show At c (p + 1 + 5 + 1 + 1) F from h.right.left).skip (fun x hx => bne_iff_ne.mpr (hF x hx)) h.right.right.head rfl
      (by omega)
  simp only [iifAttrs, hs.sp, bind, Except.bind, show p + 1 < endO by omega, if_true, h'.tail.read,
    show W1.trueChar = 116 from rfl, show ¬ ((102 : Nat) = 116) by decide, if_false, show W1.falseChar = 102 from rfl,
    show W1.falseLength = 5 from rfl, andEqualAt,
    decide_true, Bool.true_and, show decide (endO - (p + 1) > 5) = true from decide_eq_true (by omega),
    hs.nm, pure, Except.pure, hs.eq, hs.sp2, show p + 1 + 5 + 1 < endO by omega, hs.quote, s5,
    show p + 1 + 5 + 1 + 1 + F.length < endO by omega, show p + 1 + 5 + 1 + 1 + F.length + 1 < endO by omega,
    Nat.add_sub_cancel_left, Bool.false_eq_true]
  rw [show p + 1 + 5 + 1 + 1 + F.length + 1 = p + 9 + F.length by omega, show p + 1 + 5 + 1 + 1 = p + 8 from rfl]

theorem iifAttrs_end (c : List Nat) (endO to fuel off0 : Nat) (tru0 : Bool) (f : IifFields)
    (h0 : c[off0]? = some 125) (he : off0 < endO) :
    iifAttrs c endO to (fuel + 1) off0 tru0 f = .ok { f := f } := by
  have s1 : skipW c endO (· == W1.spaceChar) off0 = .ok off0 :=
    skipW_stop c endO off0 125 _ h0 (by decide) (Nat.le_of_lt he)
  simp only [iifAttrs, s1, bind, Except.bind, he, if_true, Qentem.Expr.rd_ok h0, show W1.trueChar = 116 by decide,
    show ¬ ((125 : Nat) = 116) by decide, if_false, show W1.falseChar = 102 by decide,
    show decide ((125 : Nat) = 102) = false by decide, Bool.false_and, andEqualAt, Bool.false_eq_true, pure, Except.pure]

/-- a sub tag of an inline-if value: a var / raw / math tag occupying `[s, e)`, its offset `o` -/
def SubIn (t : Tag R) (lo hi : Nat) : Prop :=
  ∃ s e o, subTagRange t = some (s, e) ∧ subTagOffset t = some o ∧ lo ≤ s ∧ s ≤ o ∧ o < e ∧ e ≤ hi

theorem tagsOfD_sub (cfg : ScanCfg R) (c : List Nat) (D : List LoopD) : ∀ (segs : List Seg) (p : Nat),
    ∀ t ∈ tagsOfD cfg c D p segs, SubIn t p (p + (printSegs segs).length) := by
  intro segs
  induction segs with
  | nil => intro p t ht; simp [tagsOfD] at ht
  | cons sg rest ih =>
    intro p t ht
    have widen : ∀ k, SubIn t (p + k) (p + k + (printSegs rest).length) → k = (printSeg sg).length →
        SubIn t p (p + (printSegs (sg :: rest)).length) := by
      intro k ⟨s, e, o, h1, h2, h3, h4, h5, h6⟩ hk
      refine ⟨s, e, o, h1, h2, by omega, h4, h5, ?_⟩
      simp only [printSegs, List.length_append]; omega
    -- a `{var:}` / `{raw:}` tag `T` of the path `pa`, or one of the rest
    have hvr : ∀ (T : Tag R) (pa : List Nat), subTagRange T = some (p, p + 5 + pa.length + 1) →
        subTagOffset T = some (p + 5) → (printSeg sg).length = 5 + pa.length + 1 →
        t ∈ T :: tagsOfD cfg c D (p + 5 + pa.length + 1) rest → SubIn t p (p + (printSegs (sg :: rest)).length) := by
      intro T pa hr ho hl ht
      rcases List.mem_cons.mp ht with h | h
      · subst h
        exact ⟨p, p + 5 + pa.length + 1, p + 5, hr, ho, Nat.le_refl _, by omega, by omega,
          by simp only [printSegs, List.length_append, hl]; omega⟩
      · exact widen (5 + pa.length + 1) (by
          rw [show p + (5 + pa.length + 1) = p + 5 + pa.length + 1 by omega]; exact ih _ t h) hl.symm
    cases sg with
    | text s =>
      simp only [tagsOfD] at ht
      exact widen s.length (ih _ t ht) (by simp [printSeg])
    | var pa =>
      exact hvr _ pa
        (by simp [subTagRange, refD_off, refD_len, show W1.variablePrefixLength = 5 by decide, show W1.inLineSuffixLength = 1 by decide])
        (by simp [subTagOffset, refD_off]) (by simp [printSeg]; omega) ht
    | raw pa =>
      exact hvr _ pa
        (by simp [subTagRange, refD_off, refD_len, show W1.variablePrefixLength = 5 by decide, show W1.inLineSuffixLength = 1 by decide])
        (by simp [subTagOffset, refD_off]) (by simp [printSeg]; omega) ht
    | math e =>
      simp only [tagsOfD, List.mem_cons] at ht
      rcases ht with h | h
      · subst h
        refine ⟨p, p + 6 + e.length + 1, p, ?_, ?_, Nat.le_refl _, Nat.le_refl _, by omega, ?_⟩
        · simp [subTagRange]
        · simp [subTagOffset]
        · simp [printSegs, printSeg]; omega
      · have := ih (p + 6 + e.length + 1) t h
        exact widen (6 + e.length + 1) (by rw [show p + (6 + e.length + 1) = p + 6 + e.length + 1 by omega]; exact this)
          (by simp [printSeg]; omega)

theorem startIdScan_split (first : Nat) : ∀ (a b : List (Tag R)) (i : Nat),
    (∀ t ∈ a, ∃ o, subTagOffset t = some o ∧ o < first) → (∀ t ∈ b, ∃ o, subTagOffset t = some o ∧ first ≤ o) →
    startIdScan first (a ++ b) i = (i + a.length, false) := by
  intro a
  induction a with
  | nil =>
    intro b i _ hb
    cases b with
    | nil => simp [startIdScan]
    | cons t r =>
      obtain ⟨o, h1, h2⟩ := hb t (List.mem_cons_self ..)
      simp [startIdScan, h1, h2]
  | cons t r ih =>
    intro b i ha hb
    obtain ⟨o, h1, h2⟩ := ha t (List.mem_cons_self ..)
    simp only [List.cons_append, startIdScan, h1, show ¬ (o ≥ first) by omega, if_false]
    rw [ih b (i + 1) (fun x hx => ha x (List.mem_cons_of_mem _ hx)) hb]
    simp; omega

theorem allRole_of (f : IifFields) (id : Nat) : ∀ (l : List (Tag R)) (i : Nat),
    (∀ (k : Nat) (t : Tag R), l[k]? = some t → insideRole f id (i + k) t = true) → allRole f id i l = true := by
  intro l
  induction l with
  | nil => intro i _; rfl
  | cons t r ih =>
    intro i h
    simp only [allRole, Bool.and_eq_true]
    refine ⟨by simpa using h 0 t (by simp), ih (i + 1) (fun k t' hk => ?_)⟩
    have := h (k + 1) t' (by simpa using hk)
    rw [show i + (k + 1) = i + 1 + k by omega] at this
    exact this

/-- the record `closeIif` stores: the start id goes to the value that comes second -/
def iifFinal (f2 : IifFields) (id : Nat) : IifFields :=
  if f2.trueOff < f2.falseOff then { f2 with falseStart := trunc bits_InLineIfTag_FalseTagsStartID id }
  else { f2 with trueStart := trunc bits_InLineIfTag_TrueTagsStartID id }

theorem closeIif_print (c : List Nat) (ch : List LoopRef) (pre sub : List (Tag R)) (cs : List (Item R)) (f0 f2 : IifFields)
    (rest : List (Frame R)) (endO m : Nat)
    (hstart : f0.off + f0.trueOff < endO)
    (hattr : iifAttrs c endO f0.trueOff (endO + 2) (f0.off + f0.trueOff) false
      { f0 with trueOff := 0, len := trunc bits_InLineIfTag_Length (endO - f0.off) } = .ok { f := f2 })
    (hnz : f2.trueOff ≠ 0 ∨ f2.falseOff ≠ 0) (hne : f2.trueOff ≠ f2.falseOff) (id : Nat)
    (hscan : startIdScan ((if f2.trueOff < f2.falseOff then f2.falseOff else f2.trueOff) + f2.off) sub 0 = (id, false))
    (hrole : allRole f2 id 0 sub = true) :
    closeIif c (stAtC ch true (.iif pre cs f0 :: rest) sub endO m) pre cs f0 rest =
      .ok (stAtC ch false rest (pre ++ [.iif cs sub (iifFinal f2 id)]) endO m) := by
  have hoff : (stAtC ch true (.iif pre cs f0 :: rest) sub endO m : PState R).off = endO := rfl
  have hsto : (stAtC ch true (.iif pre cs f0 :: rest) sub endO m : PState R).storage = sub := rfl
  simp only [closeIif, hoff, hsto, hstart, if_true, hattr, bind, Except.bind, hnz, hscan, Bool.not_false, Bool.true_and,
    hne, ne_eq, not_false_eq_true, decide_true, hrole, Bool.and_self, Bool.not_true, Bool.false_eq_true, if_false,
    iifFinal]
  by_cases h : f2.trueOff < f2.falseOff <;> simp [h, stAtC]

theorem stepLineEnd_iif (cfg : ScanCfg R) (c : List Nat) (ch : List LoopRef) (pre sub : List (Tag R)) (cs : List (Item R)) (f0 : IifFields)
    (rest : List (Frame R)) (endO : Nat) (acc : List (Tag R)) (hle : endO ≤ c.length)
    (hclose : closeIif c (stAtC ch true (.iif pre cs f0 :: rest) sub endO 1) pre cs f0 rest =
      .ok (stAtC ch false rest acc endO 1)) :
    step cfg c (stAtC ch true (.iif pre cs f0 :: rest) sub endO 1) = .ok (stP c ch false rest acc endO) := by
  rw [← finderNext_stP c ch false rest acc endO 1 hle]
  show stepLineEnd c (stAtC ch true (.iif pre cs f0 :: rest) sub endO 1) = _
  simp only [stepLineEnd, stAtC, bind, Except.bind]
  simp only [stAtC] at hclose
  rw [hclose]

theorem insideRole_true (f : IifFields) (id i : Nat) (t : Tag R)
    (h : SubIn t (f.off + f.trueOff) (f.off + f.trueOff + f.trueLen))
    (hin : (decide (i < id) == decide (f.trueOff < f.falseOff)) = true) : insideRole f id i t = true := by
  obtain ⟨s, e, o, h1, _, h3, h4, h5, h6⟩ := h
  simp only [insideRole, h1, hin, if_true, Bool.and_eq_true, decide_eq_true_eq]
  exact ⟨by omega, by omega, by omega⟩

theorem insideRole_false (f : IifFields) (id i : Nat) (t : Tag R)
    (h : SubIn t (f.off + f.falseOff) (f.off + f.falseOff + f.falseLen))
    (hin : (decide (i < id) == decide (f.trueOff < f.falseOff)) = false) : insideRole f id i t = true := by
  obtain ⟨s, e, o, h1, _, h3, h4, h5, h6⟩ := h
  simp only [insideRole, h1, hin, Bool.false_eq_true, if_false, Bool.and_eq_true, decide_eq_true_eq]
  exact ⟨by omega, by omega, by omega⟩

/-- what `closeIif` needs to know about the sub tags of the two values -/
theorem iif_facts (f2 : IifFields) (tagsT tagsF : List (Tag R))
    (hT : ∀ t ∈ tagsT, SubIn t (f2.off + f2.trueOff) (f2.off + f2.trueOff + f2.trueLen))
    (hF : ∀ t ∈ tagsF, SubIn t (f2.off + f2.falseOff) (f2.off + f2.falseOff + f2.falseLen))
    (hcase : (f2.trueOff ≠ 0 ∧ f2.trueOff + f2.trueLen < f2.falseOff) ∨ (f2.falseOff = 0 ∧ f2.trueOff ≠ 0 ∧ tagsF = []) ∨
      (f2.trueOff = 0 ∧ f2.falseOff ≠ 0 ∧ tagsT = [])) :
    (f2.trueOff ≠ 0 ∨ f2.falseOff ≠ 0) ∧ f2.trueOff ≠ f2.falseOff ∧
    ∃ id,
      startIdScan ((if f2.trueOff < f2.falseOff then f2.falseOff else f2.trueOff) + f2.off) (tagsT ++ tagsF) 0 = (id, false) ∧
      allRole f2 id 0 (tagsT ++ tagsF) = true ∧
      (f2.trueOff < f2.falseOff → id = tagsT.length) ∧ (¬ f2.trueOff < f2.falseOff → id = 0) := by
  have hoT : ∀ t ∈ tagsT, ∃ o, subTagOffset t = some o ∧ f2.off + f2.trueOff ≤ o ∧ o < f2.off + f2.trueOff + f2.trueLen := by
    intro t ht; obtain ⟨s, e, o, _, h2, h3, h4, h5, h6⟩ := hT t ht; exact ⟨o, h2, by omega, by omega⟩
  have hoF : ∀ t ∈ tagsF, ∃ o, subTagOffset t = some o ∧ f2.off + f2.falseOff ≤ o := by
    intro t ht; obtain ⟨s, e, o, _, h2, h3, h4, h5, h6⟩ := hF t ht; exact ⟨o, h2, by omega⟩
  rcases hcase with ⟨h1, h2⟩ | ⟨h1, h2, h3⟩ | ⟨h1, h2, h3⟩
  · -- both values: true first
    have hlt : f2.trueOff < f2.falseOff := by omega
    refine ⟨Or.inl h1, by omega, tagsT.length, ?_, ?_, fun _ => rfl, fun h => absurd hlt h⟩
    · simp only [hlt, if_true]
      have := startIdScan_split (f2.falseOff + f2.off) tagsT tagsF 0
        (fun t ht => by obtain ⟨o, ho, _, ho2⟩ := hoT t ht; exact ⟨o, ho, by omega⟩)
        (fun t ht => by obtain ⟨o, ho, ho2⟩ := hoF t ht; exact ⟨o, ho, by omega⟩)
      simpa using this
    · apply allRole_of
      intro k t hk
      simp only [Nat.zero_add]
      by_cases hkl : k < tagsT.length
      · rw [List.getElem?_append_left hkl] at hk
        exact insideRole_true f2 _ k t (hT t (List.mem_of_getElem? hk)) (by simp [hkl, hlt])
      · rw [List.getElem?_append_right (by omega)] at hk
        exact insideRole_false f2 _ k t (hF t (List.mem_of_getElem? hk)) (by simp [hkl, hlt])
  · -- only `true`
    subst h3
    have hnlt : ¬ f2.trueOff < f2.falseOff := by omega
    refine ⟨Or.inl h2, by omega, 0, ?_, ?_, fun h => absurd h hnlt, fun _ => rfl⟩
    · simp only [hnlt, if_false, List.append_nil]
      have := startIdScan_split (f2.trueOff + f2.off) [] tagsT 0 (by intro t ht; cases ht)
        (fun t ht => by obtain ⟨o, ho, ho2, _⟩ := hoT t ht; exact ⟨o, ho, by omega⟩)
      simpa using this
    · apply allRole_of
      intro k t hk
      simp only [List.append_nil] at hk
      exact insideRole_true f2 _ _ t (hT t (List.mem_of_getElem? hk)) (by simp [hnlt])
  · -- only `false`
    subst h3
    have hlt : f2.trueOff < f2.falseOff := by omega
    refine ⟨Or.inr h2, by omega, 0, ?_, ?_, fun _ => rfl, fun _ => rfl⟩
    · simp only [hlt, if_true, List.nil_append]
      have := startIdScan_split (f2.falseOff + f2.off) [] tagsF 0 (by intro t ht; cases ht)
        (fun t ht => by obtain ⟨o, ho, ho2⟩ := hoF t ht; exact ⟨o, ho, by omega⟩)
      simpa using this
    · apply allRole_of
      intro k t hk
      simp only [List.nil_append] at hk
      exact insideRole_false f2 _ _ t (hF t (List.mem_of_getElem? hk)) (by simp [hlt])

/-- the printed attributes of an inline-if -/
def attrText (ts fs : Option (List Seg)) : List Nat :=
  (match ts with | some l => TRUEA ++ (printSegs l ++ [34]) | none => []) ++
  (match fs with | some l => FALSEA ++ (printSegs l ++ [34]) | none => [])

/-- the same as a run of segments (the attribute names and quotes are text) -/
def attrSegs (ts fs : Option (List Seg)) : List Seg :=
  (match ts with | some l => .text TRUEA :: (l ++ [.text [34]]) | none => []) ++
  (match fs with | some l => .text FALSEA :: (l ++ [.text [34]]) | none => [])

theorem printSegs_attrSegs (ts fs : Option (List Seg)) : printSegs (attrSegs ts fs) = attrText ts fs := by
  cases ts <;> cases fs <;> simp [attrSegs, attrText, printSegs, printSeg, printSegs_append, List.append_assoc]

/-- units of the `true` attribute -/
def tLen (ts : Option (List Seg)) : Nat := match ts with | some l => 8 + (printSegs l).length | none => 0
def fLen (fs : Option (List Seg)) : Nat := match fs with | some l => 9 + (printSegs l).length | none => 0

theorem attrText_len (ts fs : Option (List Seg)) : (attrText ts fs).length = tLen ts + fLen fs := by
  cases ts <;> cases fs <;> simp [attrText, tLen, fLen, TRUEA, FALSEA] <;> omega

/-- the fields the attribute scan sets (`start` = offset after the case's closing quote) -/
def attrFields (p start : Nat) (ts fs : Option (List Seg)) (f1 : IifFields) : IifFields :=
  let fT : IifFields := match ts with
    | some l => { f1 with trueOff := start + 7 - p, trueLen := (printSegs l).length }
    | none => f1
  match fs with
  | some l => { fT with falseOff := start + tLen ts + 8 - p, falseLen := (printSegs l).length }
  | none => fT

theorem iifAttrs_chain (c : List Nat) (p0 : Nat) (ts fs : Option (List Seg)) (h : At c p0 (attrText ts fs ++ [125]))
    (hT : ∀ l, ts = some l → ∀ x ∈ printSegs l, x ≠ 34) (hF : ∀ l, fs = some l → ∀ x ∈ printSegs l, x ≠ 34)
    (p to : Nat) (f1 : IifFields) (hp : f1.off = p) (hpA : p ≤ p0)
    (hsz : p0 + (attrText ts fs).length + 1 - p < 65536) :
    iifAttrs c (p0 + (attrText ts fs).length + 1) to (p0 + (attrText ts fs).length + 1 + 2) p0 false f1 =
      .ok { f := attrFields p p0 ts fs f1 } := by
  have t16 : ∀ n, n < 65536 → trunc bits_InLineIfTag_TrueOffset n = n ∧ trunc bits_InLineIfTag_TrueLength n = n ∧
      trunc bits_InLineIfTag_FalseOffset n = n ∧ trunc bits_InLineIfTag_FalseLength n = n := fun n hn =>
    ⟨Nat.mod_eq_of_lt hn, Nat.mod_eq_of_lt hn, Nat.mod_eq_of_lt hn, Nat.mod_eq_of_lt hn⟩
  have hlen := attrText_len ts fs
  rw [hlen] at hsz ⊢
  cases ts with
  | none =>
    cases fs with
    | none =>
      exact iifAttrs_end c _ _ _ _ _ _ (At.head (w := []) h) (by omega)
    | some lf =>
      simp only [attrText, List.nil_append, tLen, fLen] at h hsz ⊢
      have h125 : c[p0 + 9 + (printSegs lf).length]? = some 125 :=
        (h.right.cast (by simp only [List.length_append, FALSEA, List.length_cons, List.length_nil]; omega)).head
      rw [iifAttrs_false c p0 _ h.left (hF lf rfl) _ _ _ _ (by omega), iifAttrs_end c _ _ _ _ _ _ h125 (by omega)]
      simp only [attrFields, tLen, hp, Nat.add_zero]
      rw [(t16 (p0 + 8 - p) (by omega)).2.2.1, (t16 (printSegs lf).length (by omega)).2.2.2]
  | some lt =>
    cases fs with
    | none =>
      simp only [attrText, List.append_nil, tLen, fLen] at h hsz ⊢
      have h125 : c[p0 + 8 + (printSegs lt).length]? = some 125 :=
        (h.right.cast (by simp only [List.length_append, TRUEA, List.length_cons, List.length_nil]; omega)).head
      rw [iifAttrs_true c p0 _ h.left (hT lt rfl) _ _ _ _ _ (by omega), iifAttrs_end c _ _ _ _ _ _ h125 (by omega)]
      simp only [attrFields, hp]
      rw [(t16 (p0 + 7 - p) (by omega)).1, (t16 (printSegs lt).length (by omega)).2.1]
    | some lf =>
      simp only [attrText, tLen, fLen] at h hsz ⊢
      have hF2 : At c (p0 + 8 + (printSegs lt).length) (FALSEA ++ (printSegs lf ++ [34])) :=
        h.left.right.cast (by simp only [List.length_append, TRUEA, List.length_cons, List.length_nil]; omega)
      have h125 : c[p0 + 8 + (printSegs lt).length + 9 + (printSegs lf).length]? = some 125 :=
        (h.right.cast (by simp only [List.length_append, TRUEA, FALSEA, List.length_cons, List.length_nil]; omega)).head
      rw [iifAttrs_true c p0 _ h.left.left (hT lt rfl) _ _ _ _ _ (by omega),
        iifAttrs_false c _ _ hF2 (hF lf rfl) _ _ _ _ (by omega), iifAttrs_end c _ _ _ _ _ _ h125 (by omega)]
      simp only [attrFields, tLen, hp]
      rw [(t16 (p0 + 7 - p) (by omega)).1, (t16 (printSegs lt).length (by omega)).2.1,
        (t16 (p0 + 8 + (printSegs lt).length + 8 - p) (by omega)).2.2.1, (t16 (printSegs lf).length (by omega)).2.2.2]
      rw [show p0 + 8 + (printSegs lt).length + 8 - p = p0 + (8 + (printSegs lt).length) + 8 - p by omega]

/-- the sub tags of the `true` / `false` values -/
def tagsVal (cfg : ScanCfg R) (c : List Nat) (D : List LoopD) (p : Nat) (v : Option (List Seg)) : List (Tag R) :=
  match v with
  | some l => tagsOfD cfg c D p l
  | none => []

theorem tagsOfD_attrSegs (cfg : ScanCfg R) (c : List Nat) (D : List LoopD) (start : Nat) (ts fs : Option (List Seg)) :
    tagsOfD cfg c D start (attrSegs ts fs) =
      tagsVal cfg c D (start + 7) ts ++ tagsVal cfg c D (start + tLen ts + 8) fs := by
  cases ts <;> cases fs <;>
    simp [attrSegs, tagsVal, tagsOfD, tagsOfD_append, tLen, TRUEA, FALSEA, 
      Nat.add_assoc] <;> (congr 1; omega)

def nTagsVal (v : Option (List Seg)) : Nat := match v with | some l => nTags l | none => 0

theorem nTags_attrSegs (ts fs : Option (List Seg)) : nTags (attrSegs ts fs) = nTagsVal ts + nTagsVal fs := by
  cases ts <;> cases fs <;> simp [attrSegs, nTagsVal, nTags, nTags_append]

def printIif (e : List Nat) (ts fs : Option (List Seg)) : List Nat :=
  IIF1 ++ (e ++ ([34] ++ (attrText ts fs ++ [125])))

theorem printIif_len (e : List Nat) (ts fs : Option (List Seg)) :
    (printIif e ts fs).length = 12 + e.length + tLen ts + fLen fs := by
  simp [printIif, IIF1, attrText_len]; omega

/-- side conditions on a value of an inline-if: covered segments free of `"` -/
def ValOk (v : Option (List Seg)) : Prop := ∀ l, v = some l → (∀ s ∈ l, s.ok) ∧ ∀ x ∈ printSegs l, x ≠ 34

/-- the record of the printed inline-if before the start id is set -/
def iifF2 (p : Nat) (e : List Nat) (ts fs : Option (List Seg)) : IifFields :=
  attrFields p (p + 11 + e.length) ts fs { off := p, trueOff := 0, len := 12 + e.length + tLen ts + fLen fs }

/-- the start id: the number of sub tags of the `true` value when both values are present -/
def iifId (cfg : ScanCfg R) (c : List Nat) (D : List LoopD) (p : Nat) (e : List Nat) (ts fs : Option (List Seg)) : Nat :=
  if (iifF2 p e ts fs).trueOff < (iifF2 p e ts fs).falseOff then (tagsVal cfg c D (p + 11 + e.length + 7) ts : List (Tag R)).length else 0

/-- the tag `parse` stores for the printed inline-if at `p` -/
def iifTag (cfg : ScanCfg R) (c : List Nat) (D : List LoopD) (p : Nat) (e : List Nat) (ts fs : Option (List Seg)) : Tag R :=
  .iif (itemsAtC cfg c (refsD D) (p + 10) (p + 10 + e.length))
    (tagsVal cfg c D (p + 11 + e.length + 7) ts ++ tagsVal cfg c D (p + 11 + e.length + tLen ts + 8) fs)
    (iifFinal (iifF2 p e ts fs) (iifId cfg c D p e ts fs))

theorem attrFields_off (p start : Nat) (ts fs : Option (List Seg)) (f1 : IifFields) :
    (attrFields p start ts fs f1).off = f1.off := by
  cases ts <;> cases fs <;> rfl

theorem iifF2_true (p : Nat) (e : List Nat) (l : List Seg) (fs : Option (List Seg)) :
    (iifF2 p e (some l) fs).trueOff = 18 + e.length ∧ (iifF2 p e (some l) fs).trueLen = (printSegs l).length := by
  cases fs <;> exact ⟨by simp only [iifF2, attrFields]; omega, rfl⟩

theorem iifF2_false (p : Nat) (e : List Nat) (ts : Option (List Seg)) (l : List Seg) :
    (iifF2 p e ts (some l)).falseOff = 19 + e.length + tLen ts ∧ (iifF2 p e ts (some l)).falseLen = (printSegs l).length := by
  cases ts <;> exact ⟨by simp only [iifF2, attrFields]; omega, rfl⟩

theorem iifF2_true_none (p : Nat) (e : List Nat) (fs : Option (List Seg)) : (iifF2 p e none fs).trueOff = 0 := by
  cases fs <;> rfl

theorem iifF2_false_none (p : Nat) (e : List Nat) (ts : Option (List Seg)) : (iifF2 p e ts none).falseOff = 0 := by
  cases ts <;> rfl

theorem tagsVal_sub (cfg : ScanCfg R) (c : List Nat) (D : List LoopD) (p : Nat) (v : Option (List Seg)) :
    ∀ t ∈ (tagsVal cfg c D p v : List (Tag R)), SubIn t p (p + (match v with | some l => (printSegs l).length | none => 0)) := by
  cases v with
  | none => intro t ht; simp [tagsVal] at ht
  | some l => intro t ht; exact tagsOfD_sub cfg c D l p t ht

theorem SubIn.cast {t : Tag R} {a b a' b' : Nat} (h : SubIn t a b) (ha : a = a') (hb : b = b') : SubIn t a' b' :=
  ha ▸ hb ▸ h

/-- what `closeIif` asks of the record and the sub tags of a printed inline-if: the start id is `iifId` -/
theorem iifF2_facts (cfg : ScanCfg R) (c : List Nat) (D : List LoopD) (p : Nat) (e : List Nat) (ts fs : Option (List Seg))
    (hone : ts ≠ none ∨ fs ≠ none) :
    ((iifF2 p e ts fs).trueOff ≠ 0 ∨ (iifF2 p e ts fs).falseOff ≠ 0) ∧
    (iifF2 p e ts fs).trueOff ≠ (iifF2 p e ts fs).falseOff ∧
    startIdScan ((if (iifF2 p e ts fs).trueOff < (iifF2 p e ts fs).falseOff then (iifF2 p e ts fs).falseOff
        else (iifF2 p e ts fs).trueOff) + (iifF2 p e ts fs).off)
      (tagsVal cfg c D (p + 11 + e.length + 7) ts ++ tagsVal cfg c D (p + 11 + e.length + tLen ts + 8) fs) 0 =
      (iifId cfg c D p e ts fs, false) ∧
    allRole (iifF2 p e ts fs) (iifId cfg c D p e ts fs) 0
      (tagsVal cfg c D (p + 11 + e.length + 7) ts ++ tagsVal cfg c D (p + 11 + e.length + tLen ts + 8) fs) = true := by
  have hoff2 : (iifF2 p e ts fs).off = p := by
    simp [iifF2, attrFields_off]
  have hfacts := iif_facts (iifF2 p e ts fs)
    (tagsVal cfg c D (p + 11 + e.length + 7) ts)
    (tagsVal cfg c D (p + 11 + e.length + tLen ts + 8) fs)
    (by
      intro t ht
      cases ts with
      | none => exact nomatch ht
      | some l =>
        rw [hoff2, (iifF2_true _ _ _ _).1, (iifF2_true _ _ _ _).2]
        exact (tagsVal_sub cfg c D _ _ t ht).cast (by omega) (by simp only []; omega))
    (by
      intro t ht
      cases fs with
      | none => exact nomatch ht
      | some l =>
        rw [hoff2, (iifF2_false _ _ _ _).1, (iifF2_false _ _ _ _).2]
        exact (tagsVal_sub cfg c D _ _ t ht).cast (by omega) (by simp only []; omega))
    (by
      cases ts with
      | none =>
        cases fs with
        | none => rcases hone with h | h <;> exact absurd rfl h
        | some lf => exact Or.inr (Or.inr ⟨iifF2_true_none _ _ _, by rw [(iifF2_false _ _ _ _).1]; omega, rfl⟩)
      | some lt =>
        cases fs with
        | none => exact Or.inr (Or.inl ⟨iifF2_false_none _ _ _, by rw [(iifF2_true _ _ _ _).1]; omega, rfl⟩)
        | some lf =>
          refine Or.inl ⟨by rw [(iifF2_true _ _ _ _).1]; omega, ?_⟩
          rw [(iifF2_true _ _ _ _).1, (iifF2_true _ _ _ _).2, (iifF2_false _ _ _ _).1]
          simp only [tLen]; omega)
  obtain ⟨hnz, hne, id, hscan, hrole, hid1, hid2⟩ := hfacts
  have hidE : id = iifId cfg c D p e ts fs := by
    unfold iifId
    by_cases h : (iifF2 p e ts fs).trueOff < (iifF2 p e ts fs).falseOff
    · simp only [h, if_true]; exact hid1 h
    · simp only [h, if_false]; exact hid2 h
  exact ⟨hnz, hne, hidE ▸ hscan, hidE ▸ hrole⟩

theorem parse_iif (cfg : ScanCfg R) (c : List Nat) (hn : c.length + 16 < 4294967296) (D : List LoopD) (hD : ChainD c D)
    (stk : List (Frame R)) (e : List Nat) (ts fs : Option (List Seg)) (p : Nat) (acc : List (Tag R))
    (h : At c p (printIif e ts fs)) (he : MathOk e) (he34 : ∀ x ∈ e, x ≠ 34)
    (hts : ValOk ts) (hfs : ValOk fs) (hone : ts ≠ none ∨ fs ≠ none) (hsz : (printIif e ts fs).length < 65536) :
    Steps cfg c (2 + nTagsVal ts + nTagsVal fs) (stP c (refsD D) false stk acc p)
      (stP c (refsD D) false stk (acc ++ [iifTag cfg c D p e ts fs]) (p + (printIif e ts fs).length)) := by
  obtain ⟨parts, last, rfl, hl, hall⟩ := he
  have hlen := printIif_len (printMP parts ++ last) ts fs
  have hatl := attrText_len ts fs
  have hend := h.le
  rw [hlen] at hsz hend ⊢
  -- where the pieces stand
  have hI : At c p IIF1 := h.left
  have hE : At c (p + 10) ((printMP parts ++ last) ++ ([34] ++ (attrText ts fs ++ [125]))) := h.right
  have hQ : At c (p + 10 + (printMP parts ++ last).length) ([34] ++ (attrText ts fs ++ [125])) := hE.right
  have hA : At c (p + 11 + (printMP parts ++ last).length) (attrText ts fs ++ [125]) :=
    hQ.right.cast (show p + 10 + (printMP parts ++ last).length + 1 = _ by omega)
  have hcl : c[p + 11 + (printMP parts ++ last).length + (attrText ts fs).length]? = some 125 := hA.right.head
  have hle : p + 11 + (printMP parts ++ last).length ≤ c.length := Nat.le_trans (Nat.le_add_right _ _) hA.le
  obtain ⟨oF, mF, hnF, _, _, _, hzero⟩ := next_total c _ hle
  have hmF : mF ≠ 0 := by
    intro h0
    have hpos := (List.getElem?_eq_some_iff.mp hcl).1
    exact (next_facts c hn _ oF mF hle hnF).skipped _ (by omega) (by rw [h0, hzero h0]; simp only [mLen]; omega) 125 hcl rfl
  have hclose := next_at_close c _ hcl
  -- step 1: `{if`
  have hstep1 := stepIif_print cfg c hn (refsD D) stk acc p last parts
    (hI.append (by rw [← List.append_assoc]; exact hE.left.append hQ.left)) hl
    (fun x hx => he34 x (List.mem_append_right _ hx)) hall (fun x hx => he34 x (List.mem_append_left _ hx))
    oF mF (by rw [show p + 10 + (printMP parts ++ last).length + 1 = p + 11 + (printMP parts ++ last).length by omega]; exact hnF)
    hmF (by omega) (by omega)
  -- step 2: the values
  have hval : ∀ (W : List Nat) (v : Option (List Seg)), plainL W → ValOk v →
      ∀ s ∈ (match v with | some l => Seg.text W :: (l ++ [Seg.text [34]]) | none => [] : List Seg), s.ok := by
    intro W v hW hv s hs
    cases v with
    | none => exact nomatch hs
    | some l =>
      rcases List.mem_cons.mp hs with h | h
      · subst h; exact hW
      · rcases List.mem_append.mp h with h | h
        · exact (hv l rfl).1 s h
        · rw [List.mem_singleton.mp h]; exact plainL_of_all [34] rfl
  have hseg : ∀ s ∈ attrSegs ts fs, s.ok := fun s hs =>
    (List.mem_append.mp hs).elim (hval TRUEA ts (plainL_of_all _ rfl) hts s) (hval FALSEA fs (plainL_of_all _ rfl) hfs s)
  have hrun := parseMain_segs cfg c hn D hD true
    (.iif acc (itemsAtC cfg c (refsD D) (p + 10) (p + 10 + (printMP parts ++ last).length))
      { off := p, trueOff := 11 + (printMP parts ++ last).length } :: stk)
    (attrSegs ts fs) (p + 11 + (printMP parts ++ last).length) []
    (by rw [printSegs_attrSegs]; exact hA.left) hseg
  rw [tagsOfD_attrSegs, nTags_attrSegs, printSegs_attrSegs] at hrun
  -- step 3: the closing `}`
  have hattr := iifAttrs_chain c (p + 11 + (printMP parts ++ last).length) ts fs hA (fun l h => (hts l h).2)
    (fun l h => (hfs l h).2) p (11 + (printMP parts ++ last).length)
    { off := p, trueOff := 0, len := 12 + (printMP parts ++ last).length + tLen ts + fLen fs } rfl (by omega)
    (by rw [hatl]; omega)
  obtain ⟨hnz, hne, hscan, hrole⟩ := iifF2_facts cfg c D p (printMP parts ++ last) ts fs hone
  have htl : trunc bits_InLineIfTag_Length (p + 11 + (printMP parts ++ last).length + (attrText ts fs).length + 1 - p) =
      12 + (printMP parts ++ last).length + tLen ts + fLen fs := by
    rw [hatl, show p + 11 + (printMP parts ++ last).length + (tLen ts + fLen fs) + 1 - p =
      12 + (printMP parts ++ last).length + tLen ts + fLen fs by omega]
    exact Nat.mod_eq_of_lt hsz
  have hcloseI := closeIif_print c (refsD D) acc _
    (itemsAtC cfg c (refsD D) (p + 10) (p + 10 + (printMP parts ++ last).length))
    { off := p, trueOff := 11 + (printMP parts ++ last).length } _ stk
    (p + 11 + (printMP parts ++ last).length + (attrText ts fs).length + 1) 1
    (show p + (11 + (printMP parts ++ last).length) < _ by omega)
    (by
      show iifAttrs c _ _ _ (p + (11 + (printMP parts ++ last).length)) false
        { off := p, trueOff := 0, len := trunc bits_InLineIfTag_Length _ } = _
      rw [htl, show p + (11 + (printMP parts ++ last).length) = p + 11 + (printMP parts ++ last).length by omega]
      exact hattr)
    hnz hne _ hscan hrole
  -- the three parts: `{if case="e"`, the values inside the container, the closing `}`
  have s1 : Steps cfg c 1 (stP c (refsD D) false stk acc p) _ :=
    Steps.first (hI.next_iif hn) (Nat.succ_ne_zero _) hstep1
  rw [← stP_eq hnF] at s1
  have s3 := Steps.first (cfg := cfg) hclose (Nat.succ_ne_zero _)
    (stepLineEnd_iif cfg c (refsD D) acc _ _ _ stk _ _ (by rw [hatl]; omega) hcloseI)
  refine ((s1.trans hrun).trans s3).cast (by omega) ?_
  simp only [iifTag, hatl]
  congr 1; omega

end Qentem.Tmpl
