import Qentem.Proofs.StrToNumInt
/-! C09 helper lemmas: the scan of `afterSign` on each layout of a numeral's mantissa, as an equation
`afterSign c e neg off = finishReal …` (or the integer result). The text is given as lists of units laid out in the
buffer (`unitsAt`). -/
namespace Qentem.StrToNum

/-! ### `0`, and the malformed shapes that are rejected -/

theorem afterSign_zero (c : List Nat) (e : Nat) (neg : Bool) (off : Nat) (he : e < 2 ^ 32)
    (h0 : rd c e off = some 48) (hend : endsAt c e (off + 1) contZero) :
    afterSign c e neg off =
      some (if neg then ⟨.real, 0x8000000000000000, off + 1⟩ else ⟨.natural, 0, off + 1⟩) := by
  -- either way the scan ends behind the zero holding 0, and nothing continues the numeral there
  have finish : afterScan c e neg 0 false ⟨0, off + 1, false, 0, false⟩ =
      some (if neg then ⟨.real, 0x8000000000000000, off + 1⟩ else ⟨.natural, 0, off + 1⟩) := by
    have hend' : endsAt c e (off + 1) contInt := endsAt_mono hend fun _ => contZero_contInt
    unfold afterScan
    simp only [twentieth_stop c e 0 (off + 1) hend']
    cases neg <;> simp
  rcases hend with h | ⟨x, hx, hc⟩
  · -- the zero is the last unit: the scan starts on it
    rw [afterSign_lead c e neg off 48 h0 (by decide) (Or.inl rfl), leadStep_last c e off 48 (by omega)]
    simp only
    rw [afterLead_noDot c e neg off off 48 (by decide), iter1_zero_last c e off he h0 (by omega)]
    exact finish
  · simp only [contZero, Bool.or_eq_false_iff, beq_eq_false_iff_ne] at hc
    obtain ⟨hd, h46⟩ := contInt_stop hc.1.1
    rw [afterSign_zero_next c e neg off x h0 hx hd hc.1.2 hc.2, afterLead_noDot c e neg off (off + 1) x h46,
      iter1_nondigit c e _ 0 (off + 1) x false hx hd h46]
    exact finish

theorem afterSign_loneDot (c : List Nat) (e : Nat) (neg : Bool) (off : Nat)
    (h0 : rd c e off = some 46) (hend : endsAt c e (off + 1) isDigit) :
    afterSign c e neg off = some ⟨.notANumber, 0, off + 1⟩ := by
  rw [afterSign_lead c e neg off 46 h0 (by decide) (Or.inr rfl), leadStep_dot]
  simp only
  rw [afterLead, if_pos rfl]
  rcases hend with h | ⟨x, hx, hc⟩
  · rw [show e - (off + 1) = 0 by omega]
    simp [skipZeros, isDigit]
  · have h48 : x ≠ 48 := by intro h; subst h; simp [isDigit] at hc
    simp [skipZeros_read _ _ hx (Nat.sub_pos_of_lt (rd_lt hx)), h48, hc]

/-! ### A dot inside the window -/

/-- behind a dot that follows `a ≤ 18` integer digits the windowed scan keeps the fraction digits `ys` and leaves `R` to the
tail loop. It keeps none when nothing follows the dot, when the fraction is a lone `0`, when it starts with a `0` that the
look-ahead cannot see past (17 integer digits) or when the dot fills the window; otherwise it keeps as many as the window
(18 digits and the dot) holds, and these are not just a `0` -/
def FracKept (a : Nat) (ys R : List Nat) : Prop :=
  (ys = [] ∧ (R = [] ∨ R = [48] ∨ (R.head? = some 48 ∧ 17 ≤ a) ∨ 18 ≤ a)) ∨
  (ys ≠ [] ∧ ys ≠ [48] ∧ a + ys.length ≤ 18 ∧ (R = [] ∨ a + ys.length = 18))

theorem FracKept.fits {a : Nat} {ys R : List Nat} (h : FracKept a ys R) (ha : a ≤ 18) : a + ys.length ≤ 18 := by
  rcases h with ⟨rfl, _⟩ | ⟨_, _, h, _⟩
  · exact ha
  · exact h

theorem fracKept_total (a : Nat) (F : List Nat) (ha : a ≤ 18) : ∃ ys R, F = ys ++ R ∧ FracKept a ys R := by
  by_cases h0 : F = [] ∨ F = [48] ∨ (F.head? = some 48 ∧ 17 ≤ a) ∨ 18 ≤ a
  · exact ⟨[], F, rfl, Or.inl ⟨rfl, h0⟩⟩
  · have hF : F ≠ [] := fun h => h0 (Or.inl h)
    have ha17 : a ≤ 17 := Nat.not_lt.1 fun h => h0 (Or.inr (Or.inr (Or.inr h)))
    refine ⟨F.take (18 - a), F.drop (18 - a), (List.take_append_drop _ _).symm, Or.inr ⟨?_, ?_, ?_, ?_⟩⟩
    · intro h
      have := congrArg List.length h
      have hl := List.length_pos_iff.2 hF
      rw [List.length_take, List.length_nil] at this; omega
    · intro h
      match F, h0, h with
      | [x], h0, h =>
        rw [List.take_of_length_le (by simp only [List.length_singleton]; omega)] at h
        exact h0 (Or.inr (Or.inl h))
      | x :: y :: t, h0, h =>
        have hl := congrArg List.length h
        simp only [List.length_take, List.length_cons, List.length_nil] at hl
        have ha : 18 - a = 1 := by omega
        rw [ha, List.take_succ_cons, List.take_zero] at h
        exact h0 (Or.inr (Or.inr (Or.inl ⟨by rw [List.head?_cons, (List.cons.inj h).1], by omega⟩)))
    · rw [List.length_take]; omega
    · by_cases hle : F.length ≤ 18 - a
      · exact Or.inl (List.drop_eq_nil_iff.2 hle)
      · exact Or.inr (by rw [List.length_take]; omega)

/-- `hstop` is what stands behind the whole fraction `ys ++ R` -/
theorem afterSign_dot (c : List Nat) (e : Nat) (neg : Bool) (off d1 : Nat) (xs ys R : List Nat) (he : e < 2 ^ 32)
    (h1 : isNonZeroDigit d1 = true) (hxs : AllDigits xs) (hys : AllDigits ys) (hlen : xs.length ≤ 17)
    (hk : FracKept (xs.length + 1) ys R) (hu : unitsAt c e off (d1 :: xs ++ 46 :: (ys ++ R)))
    (hstop : off + 1 + xs.length + 1 + ys.length + R.length = e ∨
      runStop c e (off + 1 + xs.length + 1 + ys.length + R.length)) :
    afterSign c e neg off =
      finishReal c e neg (decVal (d1 :: xs ++ ys)) (off + 1 + xs.length + 1 + ys.length)
        (off + 1 + xs.length + 1 + ys.length) off false true (off + 1 + xs.length) := by
  have hj18 := hk.fits (by omega)
  have hsp := (unitsAt_append c e (d1 :: xs) (46 :: (ys ++ R)) off).1 hu
  have hdF : unitsAt c e (off + 1 + xs.length) (46 :: (ys ++ R)) := by
    have := hsp.2; rwa [List.length_cons, ← Nat.add_assoc, Nat.add_right_comm] at this
  have hyR := (unitsAt_append c e ys R (off + 1 + xs.length + 1)).1 hdF.2
  have hoff : off < e := rd_lt hsp.1.1
  have hQe : off + 1 + xs.length + 1 + ys.length + R.length ≤ e := by
    rcases hstop with h | ⟨x, hx, _⟩
    · exact Nat.le_of_eq h
    · exact Nat.le_of_lt (rd_lt hx)
  obtain ⟨hW1, hW2⟩ := windowEnd_fit e off (off + 1 + xs.length + 1 + ys.length) he hoff (by omega) (by omega)
  have hW19 := windowEnd_le19 e off he hoff
  have hWe := (windowEnd_bounds e off he hoff).2
  have hscan : afterDot c e (windowEnd e off) (decVal (d1 :: xs)) (off + 1 + xs.length) =
      some (.inr ⟨ys.foldl pushDigit (decVal (d1 :: xs)), off + 1 + xs.length + 1 + ys.length, true,
        off + 1 + xs.length, true⟩) := by
    cases ys with
    | nil =>
      -- the scan stays behind the dot
      simp only [List.length_nil, Nat.add_zero] at hyR hstop ⊢
      refine afterDot_stay c e _ _ _ ?_
      rcases hk.elim (fun h => h.2) (fun h => absurd rfl h.1) with h | h | ⟨h, h17⟩ | h
      · subst h
        simp only [List.length_nil, Nat.add_zero] at hstop
        rcases hstop with h | ⟨x, hx, hxd, _⟩
        · exact Or.inl (by omega)
        · exact Or.inr (Or.inl ⟨x, hx, hxd⟩)
      · subst h
        simp only [List.length_singleton] at hstop
        refine Or.inr (Or.inr ⟨hyR.2.1, ?_⟩)
        rcases hstop with h | ⟨x, hx, hxd, _⟩
        · exact Or.inl (by omega)
        · exact Or.inr ⟨x, hx, hxd⟩
      · match R, h, hyR with
        | r :: R', h, hyR =>
          cases h
          exact Or.inr (Or.inr ⟨hyR.2.1, Or.inl (by omega)⟩)
      · exact Or.inl (by omega)
    | cons y yt =>
      obtain ⟨h, _⟩ | ⟨_, h48, _, hfill⟩ := hk
      · cases h
      refine afterDot_frac c e (windowEnd e off) (decVal (d1 :: xs)) _ (y :: yt) hys (List.cons_ne_nil _ _) h48 hyR.1 hW1 ?_
      rcases hfill with rfl | h
      · rw [List.length_nil, Nat.add_zero] at hstop
        exact hstop.imp (fun h => hW2 (Or.inl h)) id
      · exact Or.inl (hW2 (Or.inr (by omega)))
  rw [afterSign_dotRun c e neg off d1 xs he h1 hxs hsp.1 hdF.1 hlen, hscan, thenScan_inr, afterScan_mk_real,
    foldl_pushDigit_decVal (d1 :: xs) ys (decVal_lt_two64 _ ((hxs.cons (isNonZeroDigit_isDigit h1)).append hys)
      (by simp only [List.length_append, List.length_cons]; omega))]

/-! ### Integer digits up to the window end, the 20th digit -/

/-- a dot counts only behind exactly 19 digits: a dot inside the window is `afterSign_dot` -/
theorem afterSign_int_sep (c : List Nat) (e : Nat) (neg : Bool) (off d1 : Nat) (xs : List Nat) (u : Nat) (he : e < 2 ^ 32)
    (h1 : isNonZeroDigit d1 = true) (hxs : AllDigits xs) (hlen : xs.length ≤ 18) (hu : unitsAt c e off (d1 :: xs))
    (hP : rd c e (off + 1 + xs.length) = some u) (hsep : isDotOrE u = true) (h46 : u = 46 → xs.length = 18) :
    afterSign c e neg off =
      finishReal c e neg (decVal (d1 :: xs)) (off + 1 + xs.length) (off + 1 + xs.length) off false false 0 := by
  have hud : isDigit u = false := by
    cases h : isDigit u with
    | false => rfl
    | true => rw [isDigit_not_dotOrE h] at hsep; cases hsep
  have hs : off + 1 + xs.length = e ∨ xs.length = 18 ∨
      runStop c e (off + 1 + xs.length) :=
    if h : u = 46 then Or.inr (Or.inl (h46 h)) else Or.inr (Or.inr ⟨u, hP, hud, h⟩)
  rw [afterSign_intRun c e neg off d1 xs he h1 hxs hu hlen hs]
  exact afterScan_of_twentieth_real c e neg off false _ _ _ _ (twentieth_sep c e _ _ u hP hsep)

theorem afterSign_negbig (c : List Nat) (e : Nat) (off d1 : Nat) (xs : List Nat) (he : e < 2 ^ 32)
    (h1 : isNonZeroDigit d1 = true) (hxs : AllDigits xs) (hu : unitsAt c e off (d1 :: xs))
    (hend : endsAt c e (off + 1 + xs.length) contInt)
    (hv : decVal (d1 :: xs) < 2 ^ 64) (hbig : 2 ^ 63 < decVal (d1 :: xs)) :
    afterSign c e true off =
      finishReal c e true (decVal (d1 :: xs)) (off + 1 + xs.length) (off + 1 + xs.length) off false false 0 := by
  obtain ⟨s, hsc, hd, hdo, hp⟩ := afterSign_intEnd c e true off d1 xs he h1 hxs hu hend hv
  rw [hsc, afterScan_negbig c e off false s _ _ _ hp hbig, hd, hdo]

theorem afterSign_20th_refused (c : List Nat) (e : Nat) (neg : Bool) (off d1 : Nat) (xs : List Nat) (d20 : Nat) (he : e < 2 ^ 32)
    (h1 : isNonZeroDigit d1 = true) (hxs : AllDigits xs) (hlen : xs.length = 18) (hd20 : isDigit d20 = true)
    (hu : unitsAt c e off (d1 :: xs ++ [d20]))
    (hbig : decVal (d1 :: xs) > 0x1999999999999999 ∨ (decVal (d1 :: xs) = 0x1999999999999999 ∧ d20 > 53)) :
    afterSign c e neg off = finishReal c e neg (decVal (d1 :: xs)) (off + 19) (off + 19) off false false 0 := by
  obtain ⟨hd1xs, hP, _⟩ := (unitsAt_sep c e off d1 xs d20 []).1 (by rw [List.append_nil]; exact hu)
  rw [afterSign_intRun c e neg off d1 xs he h1 hxs hd1xs (Nat.le_of_eq hlen) (Or.inr (Or.inl hlen)),
    show off + 1 + xs.length = off + 19 by omega]
  exact afterScan_of_twentieth_real c e neg off false _ _ _ _
    (twentieth_over c e _ _ d20 (by rw [← show off + 1 + xs.length = off + 19 by omega]; exact hP) hd20 hbig)

theorem afterSign_20th_taken (c : List Nat) (e : Nat) (neg : Bool) (off d1 : Nat) (xs : List Nat) (d20 u : Nat) (he : e < 2 ^ 32)
    (h1 : isNonZeroDigit d1 = true) (hxs : AllDigits xs) (hlen : xs.length = 18) (hd20 : isDigit d20 = true)
    (hu : unitsAt c e off (d1 :: xs ++ [d20, u])) (hnext : isDigit u = true ∨ isDotOrE u = true)
    (hsmall : ¬ (decVal (d1 :: xs) > 0x1999999999999999 ∨ (decVal (d1 :: xs) = 0x1999999999999999 ∧ d20 > 53))) :
    afterSign c e neg off =
      finishReal c e neg (decVal (d1 :: xs) * 10 + (d20 - 48)) (off + 20) (off + 20) off false false 0 := by
  obtain ⟨hd1xs, hP, hP2, _⟩ := (unitsAt_sep c e off d1 xs d20 [u]).1 (by rw [List.append_assoc]; exact hu)
  have h19 : off + 1 + xs.length = off + 19 := by omega
  rw [h19] at hP hP2
  rw [afterSign_intRun c e neg off d1 xs he h1 hxs hd1xs (Nat.le_of_eq hlen) (Or.inr (Or.inl hlen)), h19]
  refine afterScan_of_twentieth_real c e neg off false _ _ _ _ ?_
  rw [twentieth_take c e _ _ d20 u hP hd20 hsmall hP2]
  rcases hnext with h | h <;> simp [h]

/-- 19 or more integer digits `d₁ x₁₈ rest`: the scan keeps the first 19 or 20 of them (`d₁ kt`) and leaves `R` to the
tail loop. It keeps the 20th when that fits and a digit, a dot or an exponent marker follows it; `hsep` is asked only when
the integer digits end with the kept ones -/
theorem afterSign_longInt (c : List Nat) (e : Nat) (neg : Bool) (off d1 : Nat) (x18 rest : List Nat) (he : e < 2 ^ 32)
    (h1 : isNonZeroDigit d1 = true) (hx18 : AllDigits x18) (hl : x18.length = 18) (hrest : AllDigits rest)
    (hu : unitsAt c e off (d1 :: x18 ++ rest))
    (hsep : (∀ d20 rt, rest = d20 :: rt → rt = [] ∧
        ¬ (decVal (d1 :: x18) > 0x1999999999999999 ∨ (decVal (d1 :: x18) = 0x1999999999999999 ∧ d20 > 53))) →
      ∃ u, rd c e (off + 19 + rest.length) = some u ∧ isDotOrE u = true) :
    ∃ kt R, d1 :: x18 ++ rest = d1 :: kt ++ R ∧ (kt.length = 18 ∨ kt.length = 19) ∧ AllDigits kt ∧
      decVal (d1 :: kt) < 2 ^ 64 ∧
      (R = [] → ∀ d20 rt, rest = d20 :: rt → rt = [] ∧
        ¬ (decVal (d1 :: x18) > 0x1999999999999999 ∨ (decVal (d1 :: x18) = 0x1999999999999999 ∧ d20 > 53))) ∧
      afterSign c e neg off =
        finishReal c e neg (decVal (d1 :: kt)) (off + 1 + kt.length) (off + 1 + kt.length) off false false 0 := by
  have hsp := (unitsAt_append c e (d1 :: x18) rest off).1 hu
  have hv64 : decVal (d1 :: x18) < 2 ^ 64 :=
    Nat.lt_of_lt_of_le (mantissa_bounds d1 x18 19 h1 hx18 (by omega)).2 (by decide)
  have h19 : off + 1 + x18.length = off + 19 := by omega
  cases rest with
  | nil =>
    obtain ⟨u, hu19, hs⟩ := hsep (fun _ _ h => nomatch h)
    refine ⟨x18, [], rfl, Or.inl hl, hx18, hv64, fun _ _ _ h => (nomatch h), ?_⟩
    rw [List.length_nil, Nat.add_zero, ← h19] at hu19
    exact afterSign_int_sep c e neg off d1 x18 u he h1 hx18 (Nat.le_of_eq hl) hsp.1 hu19 hs (fun _ => hl)
  | cons d20 rt =>
    have hd20 : isDigit d20 = true := hrest d20 (List.mem_cons_self ..)
    have hr : unitsAt c e (off + 19) (d20 :: rt) := unitsAt_cast hsp.2 (by simp only [List.length_cons]; omega)
    by_cases hbig : decVal (d1 :: x18) > 0x1999999999999999 ∨ (decVal (d1 :: x18) = 0x1999999999999999 ∧ d20 > 53)
    · refine ⟨x18, d20 :: rt, rfl, Or.inl hl, hx18, hv64, fun h => (nomatch h), ?_⟩
      rw [h19]
      exact afterSign_20th_refused c e neg off d1 x18 d20 he h1 hx18 hl hd20
        ((unitsAt_append c e (d1 :: x18) [d20] off).2 ⟨hsp.1, by rw [List.length_cons, hl]; exact ⟨hr.1, trivial⟩⟩) hbig
    · -- the 20th digit is taken; a digit, a dot or an exponent marker follows it
      obtain ⟨u, hu21, hnx⟩ : ∃ u, rd c e (off + 20) = some u ∧ (isDigit u = true ∨ isDotOrE u = true) := by
        cases rt with
        | nil =>
          obtain ⟨u, h1', h2'⟩ := hsep (fun _ _ h => by cases h; exact ⟨rfl, hbig⟩)
          exact ⟨u, h1', Or.inr h2'⟩
        | cons r rt' => exact ⟨r, hr.2.1, Or.inl (hrest r (by simp))⟩
      have hv20 : decVal (d1 :: (x18 ++ [d20])) = decVal (d1 :: x18) * 10 + (d20 - 48) := decVal_append_singleton (d1 :: x18) d20
      refine ⟨x18 ++ [d20], rt, by simp, Or.inr (by simp [hl]), AllDigits.append hx18 (AllDigits.cons hd20 (fun _ h => nomatch h)),
        ?_, ?_, ?_⟩
      · rw [hv20]
        simp only [isDigit, Bool.and_eq_true, decide_eq_true_eq] at hd20
        omega
      · rintro rfl d r h; cases h; exact ⟨rfl, hbig⟩
      · rw [hv20, show off + 1 + (x18 ++ [d20]).length = off + 20 by simp [hl]]
        exact afterSign_20th_taken c e neg off d1 x18 d20 u he h1 hx18 hl hd20
          ((unitsAt_append c e (d1 :: x18) [d20, u] off).2 ⟨hsp.1, by rw [List.length_cons, hl]; exact ⟨hr.1, hu21, trivial⟩⟩)
          hnx hbig

/-! ### The fraction-only path `0.000ddd` (zero skipping after the dot) -/

theorem afterSign_smallRun (c : List Nat) (e : Nat) (neg : Bool) (off : Nat) (zs : List Nat) (d1 : Nat) (ys : List Nat)
    (he : e < 2 ^ 32) (hz : ∀ z ∈ zs, z = 48) (h1 : isNonZeroDigit d1 = true) (hys : AllDigits ys) (hlen : ys.length ≤ 18)
    (hu : unitsAt c e off ([48, 46] ++ zs ++ d1 :: ys))
    (hstop : off + 2 + zs.length + 1 + ys.length = e ∨ ys.length = 18 ∨
      runStop c e (off + 2 + zs.length + 1 + ys.length)) :
    afterSign c e neg off =
      finishReal c e neg (decVal (d1 :: ys)) (off + 2 + zs.length + 1 + ys.length)
        (off + 2 + zs.length + 1 + ys.length) (off + 2 + zs.length) true true (off + 1) := by
  obtain ⟨h48, h46, hzs, hdy⟩ := (unitsAt_zeroDot c e off zs (d1 :: ys)).1 hu
  have hzlt := rd_lt hdy.1
  have hall : AllDigits (d1 :: ys) := hys.cons (isNonZeroDigit_isDigit h1)
  have hQe : off + 2 + zs.length + (ys.length + 1) ≤ e := unitsAt_le c e (d1 :: ys) _ hdy (List.cons_ne_nil _ _)
  obtain ⟨hW1, hW2⟩ := windowEnd_fit e (off + 2 + zs.length) (off + 2 + zs.length + 1 + ys.length) he hzlt
    (by omega) (by omega)
  have hpos : off + 2 + zs.length + (d1 :: ys).length = off + 2 + zs.length + 1 + ys.length := by
    rw [List.length_cons]; omega
  obtain ⟨dg, hsc⟩ := afterSign_skipZeros c e neg off zs h48 h46 hz hzs
    (Or.inr ⟨d1, hdy.1, fun h => by rw [h] at h1; exact absurd h1 (by decide)⟩)
  rw [hsc, iter2_digits c e _ (d1 :: ys) (off + 2 + zs.length) 0 dg (off + 1)
      (fun h => absurd h (Nat.not_le.2 (windowEnd_bounds e _ he hzlt).1)) hall hdy
      (by rw [List.length_cons]; omega)
      (by
        rw [hpos, List.length_cons]
        rcases hstop with h | h | h
        · left; have := hW2 (Or.inl h); omega
        · left; have := hW2 (Or.inr (by omega)); omega
        · exact Or.inr h),
    thenScan_inr, afterScan_mk_real, hpos,
    foldl_pushDigit_zero _ (decVal_lt_two64 _ hall (by rw [List.length_cons]; omega))]

/-! ### Zero values: `0.000…` and `0e…` -/

theorem afterSign_zero_dot (c : List Nat) (e : Nat) (neg : Bool) (off : Nat) (zs : List Nat) (he : e < 2 ^ 32)
    (hz : ∀ z ∈ zs, z = 48) (hu : unitsAt c e off ([48, 46] ++ zs))
    (hstop : off + 2 + zs.length = e ∨ runStop c e (off + 2 + zs.length)) :
    afterSign c e neg off =
      finishReal c e neg 0 (off + 2 + zs.length) (off + 2 + zs.length) (off + 2 + zs.length) true true (off + 1) := by
  obtain ⟨h48, h46, hzs, _⟩ := (unitsAt_zeroDot c e off zs []).1 (by rw [List.append_nil]; exact hu)
  obtain ⟨dg, hsc⟩ := afterSign_skipZeros c e neg off zs h48 h46 hz hzs
    (hstop.imp_right fun ⟨x, hx, hxd, _⟩ => ⟨x, hx, fun h => by rw [h] at hxd; exact absurd hxd (by decide)⟩)
  have hscan : iter2 c e (windowEnd e (off + 2 + zs.length)) 0 (off + 2 + zs.length) dg (off + 1) =
      some (.inr ⟨0, off + 2 + zs.length, true, off + 1, true⟩) := by
    rcases hstop with h | ⟨x, hx, hxd, hx46⟩
    · exact iter2_atEnd c e _ 0 _ dg (off + 1) (by omega)
    · exact iter2_digits c e _ [] (off + 2 + zs.length) 0 dg (off + 1)
        (fun h => absurd h (Nat.not_le.2 (windowEnd_bounds e _ he (rd_lt hx)).1)) (fun y hy => nomatch hy) trivial
        (Nat.zero_le _) (Or.inr ⟨x, hx, hxd, hx46⟩)
  rw [hsc, hscan, thenScan_inr, afterScan_mk_real]

theorem afterSign_zero_exp (c : List Nat) (e : Nat) (neg : Bool) (off m : Nat)
    (h48 : rd c e off = some 48) (hm : rd c e (off + 1) = some m) (hmE : m = 101 ∨ m = 69) :
    afterSign c e neg off = finishReal c e neg 0 (off + 1) (off + 1) 0 false false 0 := by
  obtain ⟨hmd, hm46, hmde⟩ := marker_sep hmE
  rw [afterSign_zero_next c e neg off m h48 hm hmd (by omega) (by omega), afterLead_noDot c e neg off (off + 1) m hm46,
    iter1_nondigit c e _ 0 (off + 1) m false hm hmd hm46, thenScan_inr]
  exact afterScan_of_twentieth_real c e neg 0 false _ _ _ _ (twentieth_sep c e 0 (off + 1) m hm hmde)

end Qentem.StrToNum
