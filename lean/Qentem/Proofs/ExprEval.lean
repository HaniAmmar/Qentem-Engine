import Qentem.Proofs.ExprClimb
/-!
# C04 — evaluating while scanning = evaluating the tree

`loop` / `evaluate` / `getVal` (values, as coded, repaired) against `run` (trees,
`Proofs/ExprClimb.lean`): by induction on the fuel, what one activation of the loop returns is `fin` of
what `run` returns — the value of the tree built, the pending operator, the items left.  With
`run_noOp_wf` this gives `evaluateTop_eq_tree`.
-/
namespace Qentem.Expr
variable {R : Type}

def Tree.isBin : Tree R → Bool
  | .bin _ _ _ => true
  | _ => false

theorem attach_isBin (t : Tree R) (op : Op) (x : Tree R) : (attach t op x).isBin = true := by
  cases t with
  | leaf y => simp [attach, Tree.isBin]
  | paren t => simp [attach, Tree.isBin]
  | bin o l r => simp only [attach]; split <;> simp [Tree.isBin]

theorem run_isBin (p : Op) (rest : List (Item R)) :
    ∀ (t : Tree R) (op : Op), t.isBin = true → (run p t op rest).1.isBin = true := by
  intro t op
  fun_induction run p t op rest with
  | case1 t op => exact id
  | case2 t op x o' rest h ih => exact fun _ => ih (attach_isBin _ _ _)
  | case3 t op x o' rest h => exact id

theorem run_isBin_of_lt (p : Op) (t : Tree R) (op : Op) (x : Operand R) (o' : Op)
    (rest : List (Item R)) (h : p.rank < op.rank) :
    (run p t op ((x, o') :: rest)).1.isBin = true := by
  simp only [run, h, if_true]
  exact run_isBin _ _ _ _ (attach_isBin _ _ _)

variable [RealLike R]

theorem applyOp_some (env : Env R) (op : Op) (l r v : Val R) (h : applyOp env op l r = some v) :
    (∃ b, v = .num (boolNum b)) ∨
    ∃ a b n, l = .num a ∧ r = .num b ∧ applyNumChk op a b = .ok (some n) ∧ v = .num n := by
  unfold applyOp at h
  cases hx : applyChk env op l r with
  | error e => rw [hx] at h; cases h
  | ok x =>
    rw [hx] at h
    subst h
    unfold applyChk at hx
    split at hx
    · obtain ⟨b, _, rfl⟩ := Option.map_eq_some_iff.1 (Except.ok.inj hx); exact Or.inl ⟨_, rfl⟩
    · obtain ⟨b, _, rfl⟩ := Option.map_eq_some_iff.1 (Except.ok.inj hx); exact Or.inl ⟨_, rfl⟩
    · next op _ _ _ a b _ _ =>
      cases hn : applyNumChk op a b with
      | error e => rw [hn] at hx; cases hx
      | ok y =>
        rw [hn] at hx
        obtain ⟨n, rfl, rfl⟩ := Option.map_eq_some_iff.1 (Except.ok.inj hx)
        exact Or.inr ⟨a, b, n, rfl, rfl, hn, rfl⟩
    · cases hx

theorem applyOp_isNum (env : Env R) (op : Op) (l r v : Val R) (h : applyOp env op l r = some v) :
    ∃ n, v = .num n := by
  rcases applyOp_some env op l r v h with ⟨b, rfl⟩ | ⟨_, _, n, _, _, _, rfl⟩ <;> exact ⟨_, rfl⟩

theorem evalTree_bin_ctx (env : Env R) (t : Tree R) (h : t.isBin = true) (c c' : Op) :
    evalTree env c t = evalTree env c' t := by
  cases t <;> simp_all [Tree.isBin, evalTree]

theorem evalTree_bin_notText (env : Env R) (t : Tree R) (h : t.isBin = true) (c : Op) (v : Val R)
    (hv : evalTree env c t = some v) : v.isText = false := by
  cases t with
  | leaf y => simp [Tree.isBin] at h
  | paren t => simp [Tree.isBin] at h
  | bin op l r =>
    simp only [evalTree] at hv
    split at hv
    · simp at hv
    · split at hv
      · simp at hv
      · obtain ⟨_, rfl⟩ := applyOp_isNum _ _ _ _ _ hv; rfl

/-- what an activation of `loop` returns when `run` returns `r`: the value of the tree (none for a lone
text), the pending operator, the items left -/
def fin (env : Env R) (r : Tree R × Op × List (Item R)) : Option (Cursor R) :=
  (evalTree env r.2.1 r.1).bind
    (fun v => if v.isText && r.2.1 == .noOp then none else some (v, r.2.1, r.2.2))

theorem fin_bin (env : Env R) (t : Tree R) (o : Op) (rest : List (Item R)) (h : t.isBin = true)
    (c : Op) : fin env (t, o, rest) = (evalTree env c t).map (fun v => (v, o, rest)) := by
  unfold fin
  simp only []
  rw [evalTree_bin_ctx env t h o c]
  cases hv : evalTree env c t with
  | none => simp
  | some v =>
    have := evalTree_bin_notText env t h c v hv
    simp [this]

omit [RealLike R] in
theorem getVar_ctx (env : Env R) (v : VarRef) (ctx io : Op) (h : io = ctx ∨ ctx ≠ .noOp) :
    getVar env v ctx io = getVar env v ctx ctx := by
  rcases h with h | h
  · rw [h]
  · simp [getVar, h]

/-- the three statements proved together by induction on the fuel -/
def StA (env : Env R) (f : Nat) : Prop :=
  ∀ (x : Operand R) (ctx io : Op), x.wf = true → 2 * x.size + 1 ≤ f → (io = ctx ∨ ctx ≠ .noOp) →
    getVal env true f x ctx io = evalTree env ctx (climbOperand x)

def StB (env : Env R) (f : Nat) : Prop :=
  ∀ (prev : Op) (t : Tree R) (op : Op) (rest : List (Item R)) (lo : Option (Val R)),
    2 * sizeItems rest + 1 ≤ f → wfTail op rest = true → closedFor t op →
    (op = .noOp ∨ prev.rank < op.rank) → evalTree env op t = lo →
    (lo.bind fun left => loop env true f prev left op rest) = fin env (run prev t op rest)

def StC (env : Env R) (f : Nat) : Prop :=
  ∀ (prev : Op) (x : Operand R) (o : Op) (rest : List (Item R)),
    2 * sizeItems ((x, o) :: rest) ≤ f → x.wf = true → wfTail o rest = true →
    (o = .noOp ∨ prev.rank < o.rank) →
    evaluate env true f prev ((x, o) :: rest) = fin env (run prev (climbOperand x) o rest)

theorem stA_succ (env : Env R) (f : Nat) (hC : StC env f) : StA env (f + 1) := by
  intro x ctx io hwf hsz hctx
  cases x with
  | num n => simp [getVal, climbOperand, evalTree, evalLeaf]
  | text off len => simp [getVal, climbOperand, evalTree, evalLeaf]
  | var v => simp [getVal, climbOperand, evalTree, evalLeaf]; exact getVar_ctx env v ctx io hctx
  | sub items =>
    cases items with
    | nil => simp [Operand.wf, wfItems] at hwf
    | cons it rest =>
      obtain ⟨x0, o0⟩ := it
      simp only [Operand.wf, wfItems, Bool.and_eq_true] at hwf
      simp only [Operand.size] at hsz
      have hp : o0 = .noOp ∨ Op.noOp.rank < o0.rank := by
        by_cases h : o0 = .noOp
        · exact Or.inl h
        · right; rw [rank_noOp]; exact rank_pos _ h
      have hc := hC .noOp x0 o0 rest (by omega) hwf.1 hwf.2 hp
      rw [run_noOp_wf _ _ _ hwf.2] at hc
      simp only [getVal, hc, climbOperand, evalTree, climb]
      simp only [Option.bind, fin]
      cases hv : evalTree env .noOp (climbGo (climbOperand x0) o0 rest) with
      | none => simp
      | some v => cases hvt : v.isText <;> simp [notText, hvt]

theorem stC_succ (env : Env R) (f : Nat) (hA : StA env f) (hB : StB env f) : StC env (f + 1) := by
  intro prev x o rest hsz hwf hw hp
  have hsz' := sizeItems_cons x o rest
  have ha := hA x o o hwf (by omega) (Or.inl rfl)
  have hb := hB prev (climbOperand x) o rest _ (by omega) hw (closedFor_climbOperand _ _) hp rfl
  simp only [evaluate, ha]
  rw [← hb]
  cases evalTree env o (climbOperand x) <;> rfl

/-- what `loop` does with the right operand `right` once the scan stands at `o''`, `rest''` -/
def loopStep (env : Env R) (f : Nat) (prev : Op) (left : Val R) (op : Op) (right : Val R) (o'' : Op)
    (rest'' : List (Item R)) : Option (Cursor R) :=
  (applyOp env op left right).bind fun left' =>
    if prev.rank < o''.rank then loop env true f prev left' o'' rest'' else some (left', o'', rest'')

theorem loop_direct (env : Env R) (f : Nat) (prev : Op) (left : Val R) (op : Op) (x : Operand R)
    (o' : Op) (rest' : List (Item R)) (hop : op ≠ .noOp) (hge : op.rank ≥ o'.rank) :
    loop env true (f + 1) prev left op ((x, o') :: rest') =
      (getVal env true f x op o').bind fun right => loopStep env f prev left op right o' rest' := by
  simp only [loop, hop, if_false, hge, if_true]
  cases getVal env true f x op o' with
  | none => rfl
  | some right => simp only [Option.bind, loopStep]; cases applyOp env op left right <;> rfl

theorem loop_rec (env : Env R) (f : Nat) (prev : Op) (left : Val R) (op : Op) (x : Operand R)
    (o' : Op) (rest' : List (Item R)) (hop : op ≠ .noOp) (hge : ¬ op.rank ≥ o'.rank) :
    loop env true (f + 1) prev left op ((x, o') :: rest') =
      (evaluate env true f op ((x, o') :: rest')).bind fun r =>
        loopStep env f prev left op r.1 r.2.1 r.2.2 := by
  simp only [loop, hop, if_false, hge, if_true]
  cases evaluate env true f op ((x, o') :: rest') with
  | none => rfl
  | some r =>
    obtain ⟨right, o'', rest''⟩ := r
    simp only [Option.bind, loopStep]
    cases applyOp env op left right <;> rfl

/-- the tail the two branches of `loop` share: the right operand has the tree `rt`, the scan stands at
`o''`, `rest''` -/
theorem stB_step (env : Env R) (f : Nat) (hB : StB env f) (prev : Op) (t rt : Tree R) (op o'' : Op)
    (rest'' : List (Item R)) (lo : Option (Val R)) (hlo : evalTree env op t = lo)
    (hf : 2 * sizeItems rest'' + 1 ≤ f) (hw : wfTail o'' rest'' = true)
    (hc : closedFor (Tree.bin op t rt) o'') :
    (lo.bind fun left => (evalTree env op rt).bind fun right =>
      loopStep env f prev left op right o'' rest'') =
    fin env (run prev (.bin op t rt) o'' rest'') := by
  unfold loopStep
  by_cases hcont : prev.rank < o''.rank
  · rw [← hB prev (.bin op t rt) o'' rest'' _ hf hw hc (Or.inr hcont) rfl]
    simp only [evalTree, hlo, hcont, if_true]
    cases lo with
    | none => rfl
    | some left =>
      cases evalTree env op rt with
      | none => rfl
      | some right => simp only [Option.bind_some]
  · rw [run_of_not_lt _ _ _ _ hcont, fin_bin env _ _ _ rfl op]
    simp only [evalTree, hlo, hcont, if_false]
    cases lo with
    | none => rfl
    | some left =>
      cases evalTree env op rt with
      | none => rfl
      | some right =>
        simp only [Option.bind_some]
        cases applyOp env op left right <;> rfl

theorem stB_succ (env : Env R) (f : Nat) (hA : StA env f) (hB : StB env f) (hC : StC env f) :
    StB env (f + 1) := by
  intro prev t op rest lo hf hw hc hp hlo
  by_cases hop : op = .noOp
  · subst hop
    cases rest with
    | cons it rest => obtain ⟨x, o'⟩ := it; exact absurd rfl (wfTail_cons.1 hw).1
    | nil =>
      cases lo with
      | none => simp [run, fin, hlo]
      | some left =>
        simp only [Option.bind, loop, run, fin, hlo, if_true]
        cases left.isText <;> simp
  · have hlt : prev.rank < op.rank := hp.resolve_left hop
    cases rest with
    | nil => exact absurd (wfTail_nil.1 hw) hop
    | cons it rest' =>
      obtain ⟨x, o'⟩ := it
      obtain ⟨_, hwx, hw'⟩ := wfTail_cons.1 hw
      have hsz := sizeItems_cons x o' rest'
      rw [hsz] at hf
      -- the first step of `run` attaches `x` at the root: nothing in `t` ranks below `op`
      have hrun : run prev t op ((x, o') :: rest') =
          run prev (.bin op t (climbOperand x)) o' rest' := by
        rw [run, if_pos hlt, attach_closed _ _ _ hc]
      rw [hrun]
      by_cases hge : op.rank ≥ o'.rank
      · -- direct branch: the right operand is the next entry
        have ha := hA x op o' hwx (by omega) (Or.inr hop)
        rw [← stB_step env f hB prev t (climbOperand x) op o' rest' lo hlo (by omega) hw'
            (by simp [closedFor]; omega)]
        simp only [loop_direct env f prev _ op x o' rest' hop hge, ha]
      · -- recursive branch: the right operand is what the inner run builds
        have hlt' : op.rank < o'.rank := by omega
        have hcc := hC op x o' rest' (by rw [hsz]; omega) hwx hw' (Or.inr hlt')
        obtain ⟨hwf'', hsize, hnl⟩ := run_inner op rest' (climbOperand x) o' hw'
        have hbin : (run op (climbOperand x) o' rest').1.isBin = true := by
          cases rest' with
          | nil => rw [wfTail_nil.1 hw', rank_noOp] at hlt'; omega
          | cons it2 r2 => obtain ⟨x2, o2⟩ := it2; exact run_isBin_of_lt _ _ _ _ _ _ hlt'
        have hsplit := run_split prev op (by omega) rest' (.bin op t (climbOperand x)) o'
        rw [run_under] at hsplit
        simp only [] at hsplit
        rw [hsplit]
        generalize run op (climbOperand x) o' rest' = r at hcc hwf'' hsize hnl hbin
        obtain ⟨rt, o'', rest''⟩ := r
        simp only [] at hwf'' hsize hnl hbin
        have hev : evaluate env true f op ((x, o') :: rest') =
            (evalTree env op rt).map (fun v => (v, o'', rest'')) :=
          hcc.trans (fin_bin env rt o'' rest'' hbin op)
        rw [← stB_step env f hB prev t rt op o'' rest'' lo hlo (by omega) hwf''
            (by simp [closedFor]; omega)]
        simp only [loop_rec env f prev _ op x o' rest' hop hge, hev]
        cases lo with
        | none => rfl
        | some left => cases evalTree env op rt <;> rfl

theorem stAll (env : Env R) : ∀ f, StA env f ∧ StB env f ∧ StC env f := by
  intro f
  induction f with
  | zero =>
    refine ⟨?_, ?_, ?_⟩
    · intro x ctx io _ h; omega
    · intro prev t op rest lo h; omega
    · intro prev x o rest h
      have := sizeItems_cons x o rest
      omega
  | succ f ih =>
    exact ⟨stA_succ env f ih.2.2, stB_succ env f ih.1 ih.2.1 ih.2.2, stC_succ env f ih.1 ih.2.1⟩

theorem evaluateTop_eq_tree (env : Env R) (items : List (Item R)) (hwf : wfItems items = true) :
    evaluateTop env true items = evalTop env (climb items) := by
  -- the whole list is evaluated as the parenthesised operand `(items)` would be
  have h := (stAll env (fuelFor items + 1)).1 (.sub items) .noOp .noOp hwf
    (by simp only [Operand.size, fuelFor]; omega) (Or.inl rfl)
  simp only [getVal, climbOperand, evalTree] at h
  unfold evaluateTop evalTop
  rw [← h]
  cases evaluate env true (fuelFor items) .noOp items <;> rfl

end Qentem.Expr
