import Mathlib.Tactic.Ring
import Mathlib.Tactic.Linarith
import Qentem.Model.Round
/-! C09, pure `Nat` arithmetic under both sides of the rounding theorem (`StrToNumRatClose`): the specification's
round-half-even (`rne`) and the code's "truncate to 54 bits, add the low bit, halve" (`roundBit`, here `halfUp`);
bit lengths (`Nat.log2`), the overflow cap and the raw pattern `codeRaw` the positive path assembles from a big integer
and a binary exponent; the binade of a rational from bounds (`floorLog2Frac_shift`) and the specification's pattern in
the units of the code's big integer (`ratRaw`; `nearestMag_units` in `StrToNumC11` shows it is `nearestMag`). -/
namespace Qentem.Round

theorem rne_decomp (q r den : Nat) (h : r < den) :
    rne (den * q + r) den =
      if 2 * r < den then q else if 2 * r > den then q + 1 else if q % 2 = 0 then q else q + 1 := by
  have hd : 0 < den := by omega
  unfold rne
  have h1 : (den * q + r) / den = q := by
    rw [Nat.mul_add_div hd, Nat.div_eq_of_lt h]; rfl
  have h2 : (den * q + r) % den = r := by
    rw [Nat.mul_add_mod, Nat.mod_eq_of_lt h]
  simp only [h1, h2]

theorem rne_one (x : Nat) : rne x 1 = x := by
  have := rne_decomp x 0 1 (by decide)
  simpa using this

theorem rne_mul_right (a d c : Nat) (hd : 0 < d) (hc : 0 < c) : rne (a * c) (d * c) = rne a d := by
  have h1 : a = d * (a / d) + a % d := (Nat.div_add_mod a d).symm
  have hr : a % d < d := Nat.mod_lt _ hd
  have e : a * c = (d * c) * (a / d) + (a % d) * c := by
    conv_lhs => rw [h1]
    ring
  rw [e, rne_decomp (a / d) ((a % d) * c) (d * c) (Nat.mul_lt_mul_of_pos_right hr hc)]
  conv_rhs => rw [h1, rne_decomp (a / d) (a % d) d hr]
  have k1 : (2 * (a % d * c) < d * c) ↔ (2 * (a % d) < d) := by
    rw [← Nat.mul_assoc]; exact Nat.mul_lt_mul_right hc
  have k2 : (2 * (a % d * c) > d * c) ↔ (2 * (a % d) > d) := by
    rw [← Nat.mul_assoc]; exact Nat.mul_lt_mul_right hc
  simp only [k1, k2]

theorem rne_cross (a b c d : Nat) (hb : 0 < b) (hd : 0 < d) (h : a * d = c * b) : rne a b = rne c d := by
  rw [← rne_mul_right a b d hb hd, h, Nat.mul_comm b d, rne_mul_right c d b hd hb]

theorem rne_ge (num den : Nat) (hd : 0 < den) : num / den ≤ rne num den := by
  have h1 : num = den * (num / den) + num % den := (Nat.div_add_mod num den).symm
  rw [h1, rne_decomp _ _ _ (Nat.mod_lt _ hd)]
  rw [← h1]
  split
  · exact Nat.le_refl _
  · split
    · omega
    · split <;> omega

theorem rne_le (num den : Nat) (hd : 0 < den) : rne num den ≤ num / den + 1 := by
  have h1 : num = den * (num / den) + num % den := (Nat.div_add_mod num den).symm
  rw [h1, rne_decomp _ _ _ (Nat.mod_lt _ hd)]
  rw [← h1]
  split
  · omega
  · split
    · omega
    · split <;> omega

theorem rne_exact (q den : Nat) (hd : 0 < den) : rne (q * den) den = q := by
  have := rne_decomp q 0 den hd
  rw [Nat.add_zero, Nat.mul_comm] at this
  rw [this]; simp [hd]

theorem rne_bounds (N den : Nat) (hd : 0 < den) :
    2 * (den * rne N den) ≤ 2 * N + den ∧ 2 * N ≤ 2 * (den * rne N den) + den := by
  have h1 : N = den * (N / den) + N % den := (Nat.div_add_mod N den).symm
  have hr := Nat.mod_lt N hd
  generalize N / den = q at *
  generalize N % den = r at *
  rw [h1, rne_decomp q r den hr]
  split
  · constructor <;> omega
  · split
    · have : den * (q + 1) = den * q + den := by ring
      constructor <;> omega
    · split
      · constructor <;> omega
      · have : den * (q + 1) = den * q + den := by ring
        constructor <;> omega

/-- the code's rounding of `B / 2h`: `t = B / h` (one extra bit), `(t + t % 2) / 2` -/
def halfUp (B h : Nat) : Nat := (B / h + (B / h) % 2) / 2

theorem halfUp_cases (B h : Nat) (hh : 0 < h) :
    ∃ t r0 q hb, B = h * t + r0 ∧ r0 < h ∧ t = 2 * q + hb ∧ hb < 2 ∧ halfUp B h = q + hb := by
  refine ⟨B / h, B % h, B / h / 2, B / h % 2, (Nat.div_add_mod B h).symm, Nat.mod_lt _ hh,
    (Nat.div_add_mod _ 2).symm, Nat.mod_lt _ (by decide), ?_⟩
  unfold halfUp; omega

theorem log2_bounds (n : Nat) (hn : n ≠ 0) : 2 ^ Nat.log2 n ≤ n ∧ n < 2 ^ (Nat.log2 n + 1) :=
  ⟨Nat.log2_self_le hn, Nat.lt_log2_self⟩

theorem ne_zero_of_two_pow_le {k b : Nat} (h : 2 ^ k ≤ b) : b ≠ 0 :=
  Nat.ne_of_gt (Nat.lt_of_lt_of_le (Nat.pow_pos (by decide)) h)

/-- "`b` has more than `k` bits" is written `2^k ≤ b` in statements; this is the step to `Nat.log2` -/
theorem log2_ge {k b : Nat} (h : 2 ^ k ≤ b) : k ≤ Nat.log2 b := (Nat.le_log2 (ne_zero_of_two_pow_le h)).2 h

theorem top_bits (b : Nat) (h : 2 ^ 53 ≤ b) :
    2 ^ 53 ≤ b / 2 ^ (Nat.log2 b - 53) ∧ b / 2 ^ (Nat.log2 b - 53) < 2 ^ 54 := by
  obtain ⟨hlo, hhi⟩ := log2_bounds b (ne_zero_of_two_pow_le h)
  have hbit := log2_ge h
  constructor
  · rw [Nat.le_div_iff_mul_le (Nat.pow_pos (by decide)), ← Nat.pow_add, show 53 + (Nat.log2 b - 53) = Nat.log2 b by omega]
    exact hlo
  · rw [Nat.div_lt_iff_lt_mul (Nat.pow_pos (by decide)), ← Nat.pow_add,
      show 54 + (Nat.log2 b - 53) = Nat.log2 b + 1 by omega]
    exact hhi

theorem halfUp_top (b : Nat) (h : 2 ^ 53 ≤ b) :
    2 ^ 52 ≤ halfUp b (2 ^ (Nat.log2 b - 53)) ∧ halfUp b (2 ^ (Nat.log2 b - 53)) ≤ 2 ^ 53 := by
  obtain ⟨h1, h2⟩ := top_bits b h
  unfold halfUp
  omega

/-- a quarter of the unit in the last place of the 53-bit rounding of `b` is `2^(log2 b − 54)` -/
theorem lt_quarter (b : Nat) (h : 2 ^ 54 ≤ b) : b < 2 ^ 55 * 2 ^ (Nat.log2 b - 54) := by
  have hbit := log2_ge h
  rw [← Nat.pow_add, show 55 + (Nat.log2 b - 54) = Nat.log2 b + 1 by omega]
  exact (log2_bounds b (ne_zero_of_two_pow_le h)).2

theorem log2_div_pow (b s : Nat) (h : 2 ^ s ≤ b) : Nat.log2 (b / 2 ^ s) + s = Nat.log2 b := by
  have hb := ne_zero_of_two_pow_le h
  have hq : b / 2 ^ s ≠ 0 := Nat.ne_of_gt ((Nat.le_div_iff_mul_le (Nat.pow_pos (by decide))).2 (by rwa [Nat.one_mul]))
  obtain ⟨h1, h2⟩ := log2_bounds _ hq
  refine ((Nat.log2_eq_iff hb).2 ⟨?_, ?_⟩).symm
  · rw [Nat.pow_add]; exact Nat.le_trans (Nat.mul_le_mul_right _ h1) (Nat.div_mul_le_self _ _)
  · rw [show Nat.log2 (b / 2 ^ s) + s + 1 = Nat.log2 (b / 2 ^ s) + 1 + s by omega, Nat.pow_add]
    exact (Nat.div_lt_iff_lt_mul (Nat.pow_pos (by decide))).1 h2

def cap (x : Nat) : Nat := if x ≥ infBits then infBits else x

theorem cap_of_lt {x : Nat} (h : x < infBits) : cap x = x := if_neg (Nat.not_le.2 h)

theorem cap_close (a b : Nat) (h1 : a ≤ b + 1) (h2 : b ≤ a + 1) : ulpDist (cap a) (cap b) ≤ 1 := by
  have hc : ∀ x, cap x = min x infBits := fun x => by unfold cap; split <;> omega
  rw [hc, hc]
  unfold ulpDist
  split <;> omega

theorem maxFinite_le_cap {c : Nat} (h : maxFiniteBits ≤ c) : maxFiniteBits ≤ cap c := by
  unfold cap maxFiniteBits infBits at *; split <;> omega

theorem cap_overflow {c : Nat} (h : maxFiniteBits ≤ cap c) : cap c = maxFiniteBits ∨ cap c = infBits := by
  have hc : cap c = min c infBits := by unfold cap; split <;> omega
  rw [hc] at h ⊢
  unfold maxFiniteBits infBits at *
  omega

/-- the code's pattern from the big integer `b` and the binary exponent `s`, before the cap -/
def codeRaw (b s : Nat) : Nat :=
  (Nat.log2 b + s + 1022) * 2 ^ 52 +
    (if Nat.log2 b ≤ 52 then b * 2 ^ (52 - Nat.log2 b) else halfUp b (2 ^ (Nat.log2 b - 53)))

theorem halfUp_scale (b J P : Nat) (hP : 0 < P) : halfUp (b * P) (J * P) = halfUp b J := by
  unfold halfUp
  rw [Nat.mul_div_mul_right _ _ hP]

theorem log2_mul_pow (b s : Nat) (hb : b ≠ 0) : Nat.log2 (b * 2 ^ s) = Nat.log2 b + s := by
  have hP : 0 < 2 ^ s := Nat.pow_pos (by decide)
  have hne : b * 2 ^ s ≠ 0 := Nat.mul_ne_zero hb (by omega)
  obtain ⟨h1, h2⟩ := log2_bounds b hb
  rw [Nat.log2_eq_iff hne]
  constructor
  · rw [Nat.pow_add]; exact Nat.mul_le_mul_right _ h1
  · rw [show Nat.log2 b + s + 1 = (Nat.log2 b + 1) + s by omega, Nat.pow_add]
    exact Nat.mul_lt_mul_of_pos_right h2 hP

theorem pow_lt_pow_exp {a b : Nat} (h : 2 ^ a < 2 ^ b) : a < b :=
  (Nat.pow_lt_pow_iff_right (by decide : 1 < 2)).1 h

theorem floorLog2Frac_shift (n d L sh : Nat) (hn : 0 < n) (hd : 0 < d) (h1 : d * 2 ^ L ≤ n * 2 ^ sh)
    (h2 : n * 2 ^ sh < d * 2 ^ (L + 1)) : floorLog2Frac n d = (L : Int) - (sh : Int) := by
  unfold floorLog2Frac
  simp only
  obtain ⟨hnlo, hnhi⟩ := log2_bounds n (by omega)
  obtain ⟨hdlo, hdhi⟩ := log2_bounds d (by omega)
  generalize Nat.log2 n = ln at *
  generalize Nat.log2 d = ld at *
  have ha : ld + L < ln + 1 + sh := by
    apply pow_lt_pow_exp
    calc 2 ^ (ld + L) = 2 ^ ld * 2 ^ L := Nat.pow_add _ _ _
      _ ≤ d * 2 ^ L := Nat.mul_le_mul_right _ hdlo
      _ ≤ n * 2 ^ sh := h1
      _ < 2 ^ (ln + 1) * 2 ^ sh := Nat.mul_lt_mul_of_pos_right hnhi (Nat.two_pow_pos sh)
      _ = 2 ^ (ln + 1 + sh) := (Nat.pow_add _ _ _).symm
  have hb : ln + sh < ld + 1 + (L + 1) := by
    apply pow_lt_pow_exp
    calc 2 ^ (ln + sh) = 2 ^ ln * 2 ^ sh := Nat.pow_add _ _ _
      _ ≤ n * 2 ^ sh := Nat.mul_le_mul_right _ hnlo
      _ < d * 2 ^ (L + 1) := h2
      _ < 2 ^ (ld + 1) * 2 ^ (L + 1) := Nat.mul_lt_mul_of_pos_right hdhi (Nat.two_pow_pos _)
      _ = 2 ^ (ld + 1 + (L + 1)) := (Nat.pow_add _ _ _).symm
  rcases Nat.lt_or_ge ln ld with hlt | hge
  · -- negative e0
    have t1 : (-((ln : Int) - (ld : Int))).toNat = ld - ln := by omega
    have t2 : ((ln : Int) - (ld : Int)).toNat = 0 := by omega
    rw [t1, t2, Nat.pow_zero, Nat.mul_one]
    by_cases hz : L + ld = ln + sh
    · have hsh : sh = L + (ld - ln) := by omega
      have : d ≤ n * 2 ^ (ld - ln) := by
        rw [hsh, Nat.pow_add, ← Nat.mul_assoc, Nat.mul_right_comm] at h1
        exact Nat.le_of_mul_le_mul_right h1 (Nat.two_pow_pos L)
      simp only [ge_iff_le, this, if_true]; omega
    · have hsh : sh = L + 1 + (ld - ln) := by omega
      have : ¬ (d ≤ n * 2 ^ (ld - ln)) := by
        rw [hsh, Nat.pow_add, ← Nat.mul_assoc, Nat.mul_right_comm] at h2
        have := Nat.lt_of_mul_lt_mul_right h2
        omega
      simp only [ge_iff_le, this, if_false]; omega
  · have t1 : (-((ln : Int) - (ld : Int))).toNat = 0 := by omega
    have t2 : ((ln : Int) - (ld : Int)).toNat = ln - ld := by omega
    rw [t1, t2, Nat.pow_zero, Nat.mul_one]
    by_cases hz : L + ld = ln + sh
    · have hL : L = sh + (ln - ld) := by omega
      have : d * 2 ^ (ln - ld) ≤ n := by
        rw [hL, Nat.pow_add, Nat.mul_comm (2 ^ sh), ← Nat.mul_assoc] at h1
        exact Nat.le_of_mul_le_mul_right h1 (Nat.two_pow_pos sh)
      simp only [ge_iff_le, this, if_true]; omega
    · have hL : L + 1 = sh + (ln - ld) := by omega
      have : ¬ (d * 2 ^ (ln - ld) ≤ n) := by
        rw [hL, Nat.pow_add, Nat.mul_comm (2 ^ sh), ← Nat.mul_assoc] at h2
        have := Nat.lt_of_mul_lt_mul_right h2
        omega
      simp only [ge_iff_le, this, if_false]; omega

/-- the specification's raw pattern of `N/(D·2^sh)` where `L = ⌊log₂(N/D)⌋ ≥ 52`: the effective
binade is `max L (sh − 1022)` (gradual underflow), the mantissa is `N/D` rounded half-even at that scale -/
def ratRaw (N D sh L : Nat) : Nat :=
  (max L (sh - 1022) + 1022 - sh) * 2 ^ 52 + rne N (D * 2 ^ (max L (sh - 1022) - 52))

end Qentem.Round
