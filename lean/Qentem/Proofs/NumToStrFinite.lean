import Qentem.Proofs.NumToStrRun
import Qentem.Proofs.NumToStrFixed
import Qentem.Proofs.NumToStrDefault
/-! C10: the three formats on every finite non-zero value.  What ties run and reference: the run's length gives the
value's decimal exponent (`DecExp.of_run`), and the reference's rounded integer is the one the formatters keep
(`scaleRound_sig`).  With `run_of`, the formatters as functions of the run and the reference in the same terms, model
and reference print the same text. -/
namespace Qentem.Proofs.NumToStr
open Qentem.NumToStr Qentem.Generated.NumToStr Qentem

theorem DecExp.of_run {num den b fl d : Nat} (hden : 0 < den) (hb : b = num * 10 ^ fl / (den * 10 ^ d)) (hbpos : 0 < b) :
    DecExp num den (((D b).length : Int) - 1 + d - fl) := by
  have hLpos : 0 < (D b).length := D_length_pos b
  have hD : 0 < den * 10 ^ d := Nat.mul_pos hden (Nat.pow_pos (by decide))
  have hge : 10 ^ ((D b).length - 1) ≤ b := by
    by_cases h1 : (D b).length = 1
    · rw [h1]; exact hbpos
    · exact pow_le_of_len (by omega) (by omega)
  have hlt : b < 10 ^ (D b).length := (D_length_le_iff hLpos).mp (Nat.le_refl _)
  have h1 : b * (den * 10 ^ d) ≤ num * 10 ^ fl := by rw [hb]; exact Nat.div_mul_le_self _ _
  have h2 : num * 10 ^ fl < (b + 1) * (den * 10 ^ d) := by
    rw [hb, Nat.mul_comm _ (den * 10 ^ d)]; exact Nat.lt_mul_div_succ _ hD
  refine DecExp.mk' (n := (D b).length - 1 + d) (k := fl) (n' := (D b).length + d) (k' := fl) (by omega) (by omega) ?_ ?_
  · calc den * 10 ^ ((D b).length - 1 + d) = 10 ^ ((D b).length - 1) * (den * 10 ^ d) := by rw [Nat.pow_add]; ring
      _ ≤ b * (den * 10 ^ d) := Nat.mul_le_mul_right _ hge
      _ ≤ num * 10 ^ fl := h1
  · calc num * 10 ^ fl < (b + 1) * (den * 10 ^ d) := h2
      _ ≤ 10 ^ (D b).length * (den * 10 ^ d) := Nat.mul_le_mul_right _ hlt
      _ = den * 10 ^ ((D b).length + d) := by rw [Nat.pow_add]; ring

/-- the reference's rounded integer at the scale of `p` digits below position `c` of the run is `sig b c p ru` —
whether the run carries fractional digits (`fl`), had integer digits dropped (`d`), or neither -/
theorem scaleRound_sig {num den b fl d c p : Nat} {ru : Bool} (hden : 0 < den)
    (hcut : Cut (num * 10 ^ fl) (den * 10 ^ d) b ru)
    (hfd : fl = 0 ∨ d = 0) (hshort : c ≤ p → ru = false ∧ d = 0) :
    FmtSpec.scaleRound num den ((fl : Int) - d + p - c) = sig b c p ru := by
  have hD : 0 < den * 10 ^ d := Nat.mul_pos hden (Nat.pow_pos (by decide))
  by_cases hpc : p < c
  · obtain ⟨i, rfl⟩ : ∃ i, c = p + (i + 1) := ⟨c - p - 1, by omega⟩
    rw [sig_long hpc, show p + (i + 1) - p - 1 = i by omega,
      show keptUp b i ru = b / 10 ^ (i + 1) + (if upCode b i ru then 1 else 0) from rfl,
      ← roundHalfEven_digits (i := i) hD hcut]
    clear hshort hpc hcut
    rcases hfd with rfl | rfl
    · -- no fractional digits: `d + (i+1)` integer digits go
      rw [show ((0 : Nat) : Int) - d + p - ((p + (i + 1) : Nat) : Int) = -((d + (i + 1) : Nat) : Int) by omega,
        scaleRound_neg, Nat.pow_zero, Nat.mul_one, Nat.pow_add, Nat.mul_assoc]
    · rw [Nat.pow_zero, Nat.mul_one]
      by_cases hk : i + 1 ≤ fl
      · -- fractional digits reach below the rounding position
        rw [show (fl : Int) - (0 : Nat) + p - ((p + (i + 1) : Nat) : Int) = ((fl - (i + 1) : Nat) : Int) by omega,
          scaleRound_natCast, ← roundHalfEven_scale (num * 10 ^ (fl - (i + 1))) den (10 ^ (i + 1)) (Nat.pow_pos (by decide)),
          Nat.mul_assoc, ← Nat.pow_add, show fl - (i + 1) + (i + 1) = fl by omega]
      · rw [show (fl : Int) - (0 : Nat) + p - ((p + (i + 1) : Nat) : Int) = -((i + 1 - fl : Nat) : Int) by omega,
          scaleRound_neg, ← roundHalfEven_scale num (den * 10 ^ (i + 1 - fl)) (10 ^ fl) (Nat.pow_pos (by decide)),
          Nat.mul_assoc, ← Nat.pow_add, show i + 1 - fl + fl = i + 1 by omega]
  · obtain ⟨rfl, rfl⟩ := hshort (by omega)
    have hexact := hcut.exact
    rw [Nat.pow_zero, Nat.mul_one] at hexact
    rw [sig_short (by omega), show (fl : Int) - (0 : Nat) + p - c = ((fl + (p - c) : Nat) : Int) by omega,
      scaleRound_natCast, Nat.pow_add, ← Nat.mul_assoc, hexact,
      show b * den * 10 ^ (p - c) = (b * 10 ^ (p - c)) * den by ring, roundHalfEven_mul _ hden]

theorem roundHalfEven_run {num den b fl p : Nat} {ru : Bool} (hden : 0 < den)
    (hcut : Cut (num * 10 ^ fl) den b ru) (hshort : fl ≤ p → ru = false) :
    FmtSpec.roundHalfEven (num * 10 ^ p) den = sig b fl p ru := by
  have hcut0 : Cut (num * 10 ^ fl) (den * 10 ^ 0) b ru := by rwa [Nat.pow_zero, Nat.mul_one]
  have := scaleRound_sig (c := fl) (p := p) hden hcut0 (Or.inr rfl) (fun h => ⟨hshort h, rfl⟩)
  rwa [show (fl : Int) - (0 : Nat) + p - fl = (p : Int) by omega, scaleRound_natCast] at this

/-- Fixed and SemiFixed for every finite non-zero value (precision ≤ 40; any precision a stream can hold for values
without fraction bits) -/
theorem layout_fixed_finite {c : Cfg} {M B f e num den fmt p : Nat} (hc : Shape c M B)
    (hv : FinVal M B f e num den) (hf12 : fmt = 1 ∨ fmt = 2)
    (hp : p ≤ 40 ∨ (B ≤ e ∧ fracBits M B f e = 0 ∧ p ≤ 1048576)) (s : List Nat) :
    layout fmt s.length (s ++ R (runSpec M B f e p fmt).1) p (runSpec M B f e p fmt) =
      .ok (s ++ refBody fmt num den p) := by
  have hf0 : fmt ≠ 0 := by omega
  obtain ⟨b, dg, fl, ru, d, hR⟩ := run_of hc hv p fmt (by omega)
    (hp.imp id (fun h => ⟨h.1, h.2.1, fun h0 => absurd h0 hf0⟩))
  obtain ⟨rfl, hshort⟩ := hR.fixed hf0
  have hcut := hR.exact
  rw [Nat.pow_zero, Nat.mul_one] at hcut
  have hK := roundHalfEven_run hv.hden hcut hshort
  have hmodel : ∀ fixedT, formatFixed fixedT s.length (s ++ Rl b) p fl ru = _ := fun fixedT =>
    formatFixed_fixedText fixedT s ru hR.pos (by omega)
      (fun h => ⟨hshort h, hR.last (hshort h)⟩)
  rw [hR.spec, show R b = Rl b from R_pos hR.pos]
  rcases hf12 with rfl | rfl
  · rw [layout_fixed, hmodel true, if_pos rfl, ← hK]
    show _ = Except.ok (s ++ FmtSpec.fixedBody num den p)
    rw [fixedBody_eq_text]
  · rw [layout_semiFixed, hmodel false, if_neg Bool.false_ne_true, ← hK]
    show _ = Except.ok (s ++ FmtSpec.stripFraction (FmtSpec.fixedBody num den p))
    rw [fixedBody_eq_text]

/-- Default (`%.{p}g`) for every finite non-zero value: the model prints the `%g` text of the run's significand and
exponent, the reference that of the value's, and the two pairs are equal -/
theorem layout_default_finite {c : Cfg} {M B f e num den p : Nat} (hc : Shape c M B) (hv : FinVal M B f e num den)
    (hp : p ≤ 40 ∨ (B ≤ e ∧ fracBits M B f e = 0 ∧ (e - B) * 30103 / 100000 + 1 ≤ (if p = 0 then 1 else p)))
    (s : List Nat) :
    layout 0 s.length (s ++ R (runSpec M B f e (if p = 0 then 1 else p) 0).1) (if p = 0 then 1 else p)
        (runSpec M B f e (if p = 0 then 1 else p) 0) = .ok (s ++ refBody 0 num den p) := by
  have hden := hv.hden
  have hPpos : 0 < (if p = 0 then 1 else p) := by split <;> omega
  obtain ⟨b, dg, fl, ru, d, hR⟩ := run_of hc hv (if p = 0 then 1 else p) 0 (by decide)
    (hp.imp (fun h => by split <;> omega) (fun h => ⟨h.1, h.2.1, fun _ => h.2.2⟩))
  have hd : (if decide (B ≤ e) = true ∧ (if p = 0 then 1 else p) < dg then dg - ((if p = 0 then 1 else p) + 1) else 0) = d := by
    rw [hR.drop]; simp
  have hlen := hR.len
  have hdgle := hR.dg_le
  have hfls := hR.fl_small
  rw [hR.spec, show R b = Rl b from R_pos hR.pos, layout_default]
  show formatDefault s.length (s ++ Rl b) _ dg fl (decide (B ≤ e)) ru = Except.ok (s ++ FmtSpec.generalBody num den p)
  rw [formatDefault_gText s _ ru hR.pos hPpos (by simpa using hR.int_part) (fun h1 h2 => hR.est_fits h1 (by simpa using h2) rfl)
      (fun h => ⟨fun h2 => (hR.short_default h).1 (by simpa using h2), (hR.short_default h).2.1,
        hR.last (hR.short_default h).2.1⟩) (by omega) (by omega), hd,
    generalBody_gText hden hR.num_pos (DecExp.of_run hden hR.exact.quot hR.pos) (by have := D_length_pos b; omega),
    show (((if p = 0 then 1 else p) : Nat) : Int) - 1 - (((D b).length : Int) - 1 + d - fl) =
      (fl : Int) - d + ((if p = 0 then 1 else p) : Nat) - (D b).length by omega,
    scaleRound_sig hden hR.exact hR.one_zero (fun h => (hR.short_default h).2)]

/-- an instance: integers with at most `P` digits, at any precision -/
theorem layout_small_int {c : Cfg} {M B f e num den p : Nat} (hc : Shape c M B) (hv : FinVal M B f e num den)
    (hpos : B ≤ e) (h0 : fracBits M B f e = 0) (hl : (D (intVal M B f e)).length ≤ (if p = 0 then 1 else p))
    (s : List Nat) :
    layout 0 s.length (s ++ R (runSpec M B f e (if p = 0 then 1 else p) 0).1) (if p = 0 then 1 else p)
        (runSpec M B f e (if p = 0 then 1 else p) 0) = .ok (s ++ refBody 0 num den p) := by
  have he0 : e ≠ 0 := by have := hc.bpos; omega
  obtain ⟨hnum, hn⟩ := hv.int_eq hc.mlt hpos he0 h0
  have h2 : 2 ^ (e - B) ≤ intVal M B f e := by
    have := hv.ge_pow hpos he0
    rw [hnum] at this
    exact Nat.le_of_mul_le_mul_right this hv.hden
  exact layout_default_finite hc hv
    (Or.inr ⟨hpos, h0, le_trans (est_le_len (by have := hc.est; have := hv.he; omega) h2) hl⟩) s

theorem default_prec (p : Nat) : (if (0:Nat) = fmtDefault ∧ p = 0 then 1 else p) = if p = 0 then 1 else p := by
  simp [fmtDefault]

theorem fixed_prec {f : Nat} (hf : f = 1 ∨ f = 2) (p : Nat) : (if f = fmtDefault ∧ p = 0 then 1 else p) = p := by
  rcases hf with rfl | rfl <;> exact if_neg (fun h => absurd h.1 (by decide))

/-- `realToString` appends the reference text on every finite non-zero pattern of an IEEE format, for each of the
three formats and every precision up to 40 -/
theorem realToString_finite_eq_spec {c : Cfg} {M X B : Nat} (hc : Ieee c M X B) (pre : List Nat) (bits p fmt : Nat)
    (hp : p ≤ 40) (hfmt : fmt ≤ 2) (hfin : (bits / 2 ^ M) % 2 ^ X ≠ 2 ^ X - 1)
    (hnz : (bits / 2 ^ M) % 2 ^ X ≠ 0 ∨ bits % 2 ^ M ≠ 0) :
    realToString c pre bits p fmt = .ok (pre ++ FmtSpec.formatVal (FmtSpec.decode M X bits) p (fmtOf fmt)) := by
  have h3 : fmt = 0 ∨ fmt = 1 ∨ fmt = 2 := by omega
  rcases h3 with rfl | h12
  · refine realToString_of_layout hc pre bits p 0 hfin hnz (Or.inl (by rw [default_prec]; split <;> omega)) ?_
    intro s num den hv
    rw [default_prec]
    exact layout_default_finite hc.shape hv (Or.inl hp) s
  · refine realToString_of_layout hc pre bits p fmt hfin hnz (Or.inl (by rw [fixed_prec h12]; exact hp)) ?_
    intro s num den hv
    rw [fixed_prec h12]
    exact layout_fixed_finite hc.shape hv h12 (Or.inl hp) s

/-- Fixed and SemiFixed on bit patterns: every normal number without fraction bits, at every precision a stream can
hold (`p ≤ 2^20`) -/
theorem realToString_int_fixed {c : Cfg} {M X B : Nat} (hc : Ieee c M X B) (pre : List Nat) (bits p f : Nat)
    (hf : f = 1 ∨ f = 2) (hp : p ≤ 1048576) (hpos : B ≤ (bits / 2 ^ M) % 2 ^ X)
    (hfin : (bits / 2 ^ M) % 2 ^ X ≠ 2 ^ X - 1)
    (h0 : fracBits M B (bits % 2 ^ M) ((bits / 2 ^ M) % 2 ^ X) = 0) :
    realToString c pre bits p f = .ok (pre ++ FmtSpec.formatVal (FmtSpec.decode M X bits) p (fmtOf f)) := by
  have he0 : (bits / 2 ^ M) % 2 ^ X ≠ 0 := by have := hc.shape.bpos; omega
  refine realToString_of_layout hc pre bits p f hfin (Or.inl he0) (Or.inr ⟨hpos, h0⟩) ?_
  intro s num den hv
  rw [fixed_prec hf]
  exact layout_fixed_finite hc.shape hv hf (Or.inr ⟨hpos, h0, hp⟩) s

/-- Default format, integer-valued doubles whose digit estimate fits the precision (so at most `P + 1` digits).  With
`p ≤ 40` this is a case of `realToString_finite_eq_spec`: the hypotheses name the class, and `hx` is not needed. -/
theorem default_int_fit64 (pre : List Nat) (bits p : Nat) (hp : p ≤ 40)
    (hfin : (bits / 2 ^ 52) % 2 ^ 11 ≠ 2 ^ 11 - 1) (hge1 : 1023 ≤ (bits / 2 ^ 52) % 2 ^ 11)
    (hx : ((bits / 2 ^ 52) % 2 ^ 11 - 1023) * 30103 / 100000 + 1 ≤ (if p = 0 then 1 else p))
    (hfb : fracBits 52 1023 (bits % 2 ^ 52) ((bits / 2 ^ 52) % 2 ^ 11) = 0) :
    realToString f64 pre bits p 0 = .ok (pre ++ FmtSpec.format64 bits p .default) := by
  have hnz : (bits / 2 ^ 52) % 2 ^ 11 ≠ 0 ∨ bits % 2 ^ 52 ≠ 0 := Or.inl (by omega)
  refine realToString_of_layout ieee64 pre bits p 0 hfin hnz (Or.inr ⟨hge1, hfb⟩) ?_
  intro s num den hv
  rw [default_prec]
  exact layout_default_finite shape64 hv (Or.inl hp) s

end Qentem.Proofs.NumToStr
