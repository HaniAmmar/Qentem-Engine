import Qentem.Model.Tmpl.Finder
import Qentem.Proofs.ExprScan
import Qentem.Proofs.TextAt
/-!
# The Finder

Three things about `Finder::Next` (`next`).  For every content, with no size bound: it never reads out of range, a zero
match is reported only at the end of the content (so the fuel is never what ends the scan), and a non-zero match moves
the offset forward (`next_total`).  On a content that fits `SizeT` it returns what the specification `scan` computes
(`next_eq`): the first position where a pattern of the table stands — `}` alone, or `{` / `<` followed by the first word of
its group that stands there; without the bound `offset_ + word_length` may wrap and the equation is false, so what needs
no bound (`next_skip`, `next_at_close`) is read off `nextF` itself.  The bound is written `c.length + 16 < 4294967296`, as
C01's `FitsSizeT` has it; of the 16 the Finder needs 6: `offset_ + 1 + word_length` with `word_length ≤ 5` (`word_length`,
`tryWords_eq`), the rest is head room for the callers.  On a word of the table `scan` evaluates, whatever follows the word
(`next_at`).  Read off `scan`: what a result says about the content (`NextFacts`, `next_facts`) — the tag
scanner's invariant needs it for `<loop …>`: the interior of the tag is free of `}` (`skipped`, `word`), and its first `>`
lies before the next match unless that match is `</loop>` / `</if>`, the only patterns that hold one (`nogt`).
-/
namespace Qentem.Tmpl
open Qentem.Expr (Fault rd rd_ok)
open Qentem.Generated.Tmpl

/-! ### no read out of range; a zero match only at the end -/

theorem pow32 : 2 ^ sizeTBits = 4294967296 := by decide

theorem rd_getElem (c : List Nat) (i : Nat) (h : i < c.length) : rd c i = .ok c[i] :=
  rd_ok (List.getElem?_eq_getElem h)

theorem matchMiddle_total (c : List Nat) (wend : Nat) (hw : wend < c.length) :
    ∀ (ws : List Nat) (off : Nat), ∃ o, matchMiddle c wend ws off = .ok o := by
  intro ws
  induction ws with
  | nil => intro off; exact ⟨off, rfl⟩
  | cons w ws ih =>
    intro off
    simp only [matchMiddle]
    by_cases h : off < wend
    · simp only [h, if_true, rd_getElem c off (by omega)]
      simp only [bind, Except.bind]
      split
      · exact ih _
      · exact ⟨_, rfl⟩
    · simp only [h, if_false]; exact ⟨_, rfl⟩

theorem matchMiddle_le (c : List Nat) (wend : Nat) : ∀ (ws : List Nat) (off o : Nat),
    matchMiddle c wend ws off = .ok o → off ≤ o := by
  intro ws
  induction ws with
  | nil => intro off o h; cases h; exact Nat.le_refl _
  | cons w ws ih =>
    intro off o h
    simp only [matchMiddle] at h
    by_cases hlt : off < wend
    · rw [if_pos hlt] at h
      cases hr : rd c off with
      | error e => rw [hr] at h; cases h
      | ok ch =>
        rw [hr] at h
        by_cases he : ch = w
        · exact Nat.le_of_succ_le (ih _ _ (by simpa [bind, Except.bind, he] using h))
        · have : Except.ok off = Except.ok (ε := Fault) o := by simpa [bind, Except.bind, he] using h
          cases this; exact Nat.le_refl _
    · rw [if_neg hlt] at h; cases h; exact Nat.le_refl _

/-- `matchMiddle_le`; `hw` is not used -/
theorem matchMiddle_mono (c : List Nat) (wend : Nat) (hw : wend < c.length) :
    ∀ (ws : List Nat) (off o : Nat), matchMiddle c wend ws off = .ok o → off ≤ o :=
  matchMiddle_le c wend

theorem tryWords_total (c : List Nat) (start : Nat) :
    ∀ (ids : List Nat), ∃ r, tryWords c start ids = .ok r ∧
      (∀ o m, r = some (o, m) → o ≤ c.length ∧ start ≤ o ∧ m ≠ 0) := by
  intro ids
  induction ids with
  | nil => exact ⟨none, rfl, by intro o m h; cases h⟩
  | cons wid rest ih =>
    obtain ⟨r, hr, hb⟩ := ih
    simp only [tryWords]
    by_cases hw : (start + W1.wordLengths.getD wid 0) % 2 ^ sizeTBits < c.length
    · simp only [hw, if_true, rd_getElem c _ hw, bind, Except.bind]
      split
      · obtain ⟨o, ho⟩ := matchMiddle_total c _ hw ((W1.words.getD wid []).take (W1.wordLengths.getD wid 0)) start
        simp only [ho]
        split
        · rename_i heq
          refine ⟨_, rfl, ?_⟩
          intro o' m h
          simp only [Option.some.injEq, Prod.mk.injEq] at h
          obtain ⟨h1, h2⟩ := h
          subst h1 h2
          have := matchMiddle_le c _ _ _ _ ho
          exact ⟨by omega, by omega, by omega⟩
        · exact ⟨r, hr, hb⟩
      · exact ⟨r, hr, hb⟩
    · simp only [hw, if_false]; exact ⟨r, hr, hb⟩

theorem nextF_total (c : List Nat) : ∀ (f off : Nat), off ≤ c.length →
    ∃ o m, nextF c f off = .ok (o, m) ∧ o ≤ c.length ∧ off ≤ o ∧ (m ≠ 0 → off < o) ∧
      (m = 0 → c.length + 1 - off ≤ f → o = c.length) := by
  intro f
  induction f with
  | zero =>
    intro off h
    exact ⟨off, 0, rfl, h, Nat.le_refl _, by intro h; exact absurd rfl h, by intro _ h2; omega⟩
  | succ f ih =>
    intro off h
    simp only [nextF]
    by_cases hlt : off < c.length
    · simp only [hlt, if_true, rd_getElem c off hlt, bind, Except.bind]
      by_cases hid : firstCharID c[off] < W1.firstCharsCount
      · simp only [hid, if_true]
        obtain ⟨r, hr, hb⟩ := tryWords_total c (off + 1) (W1.groups.getD (firstCharID c[off]) [])
        simp only [hr]
        cases r with
        | none =>
          obtain ⟨o, m, h1, h2, h3, h4, h5⟩ := ih (off + 1) (by omega)
          exact ⟨o, m, h1, h2, by omega, by intro hm; have := h4 hm; omega,
            by intro hm hf; exact h5 hm (by omega)⟩
        | some p =>
          obtain ⟨o, m⟩ := p
          obtain ⟨b1, b2, b3⟩ := hb o m rfl
          exact ⟨o, m, rfl, b1, by omega, by intro _; omega, by intro hm; exact absurd hm b3⟩
      · simp only [hid, if_false]
        by_cases hs : c[off] = W1.singleChar
        · simp only [hs, if_true]
          exact ⟨off + 1, 1, rfl, by omega, by omega, by intro _; omega, by intro h0; cases h0⟩
        · simp only [hs, if_false]
          obtain ⟨o, m, h1, h2, h3, h4, h5⟩ := ih (off + 1) (by omega)
          exact ⟨o, m, h1, h2, by omega, by intro hm; have := h4 hm; omega,
            by intro hm hf; exact h5 hm (by omega)⟩
    · simp only [hlt, if_false]
      exact ⟨off, 0, rfl, h, Nat.le_refl _, by intro h; exact absurd rfl h, by intro _ _; omega⟩

theorem next_total (c : List Nat) (off : Nat) (h : off ≤ c.length) :
    ∃ o m, next c off = .ok (o, m) ∧ o ≤ c.length ∧ off ≤ o ∧ (m ≠ 0 → off < o) ∧
      (m = 0 → o = c.length) := by
  obtain ⟨o, m, h1, h2, h3, h4, h5⟩ := nextF_total c (c.length + 1 - off) off h
  exact ⟨o, m, h1, h2, h3, h4, fun hm => h5 hm (Nat.le_refl _)⟩

/-! ### what needs no size bound: skipped units, `}` -/

/-- a unit the Finder skips -/
def plainU (x : Nat) : Prop := x ≠ 123 ∧ x ≠ 60 ∧ x ≠ 125

theorem nextF_skip (c : List Nat) : ∀ (k f off : Nat),
    (∀ i, i < k → ∃ x, c[off + i]? = some x ∧ plainU x) →
    nextF c (f + k) off = nextF c f (off + k) := by
  intro k
  induction k with
  | zero => intro f off _; rfl
  | succ k ih =>
    intro f off h
    obtain ⟨x, hx, hp⟩ := h 0 (by omega)
    simp only [Nat.add_zero] at hx
    have hlt : off < c.length := (List.getElem?_eq_some_iff.mp hx).1
    have hfc : ¬ firstCharID x < W1.firstCharsCount := by
      unfold firstCharID
      have h1 : W1.inLineFirstChar = 123 := by decide
      have h2 : W1.multiLineFirstChar = 60 := by decide
      rw [h1, h2]
      simp [hp.1, hp.2.1]; decide
    have hsc : x ≠ W1.singleChar := by
      have : W1.singleChar = 125 := by decide
      rw [this]; exact hp.2.2
    have : f + (k + 1) = (f + k) + 1 := by omega
    rw [this]
    simp only [nextF, hlt, if_true, rd_ok hx, bind, Except.bind, hfc, if_false, hsc]
    rw [ih f (off + 1) (by
      intro i hi
      have := h (i + 1) (by omega)
      simpa [Nat.add_assoc, Nat.add_comm 1 i] using this)]
    congr 1; omega

theorem next_skip (c : List Nat) (k off : Nat) (hk : off + k ≤ c.length)
    (h : ∀ i, i < k → ∃ x, c[off + i]? = some x ∧ plainU x) : next c off = next c (off + k) := by
  unfold next
  have : c.length + 1 - off = (c.length + 1 - (off + k)) + k := by omega
  rw [this]
  exact nextF_skip c k _ off h

theorem next_plain_end (c : List Nat) (off : Nat) (ho : off ≤ c.length)
    (h : ∀ i, off ≤ i → i < c.length → ∃ x, c[i]? = some x ∧ plainU x) :
    next c off = .ok (c.length, 0) := by
  rw [next_skip c (c.length - off) off (by omega) (by
    intro i hi
    exact h (off + i) (by omega) (by omega))]
  have : off + (c.length - off) = c.length := by omega
  rw [this]
  unfold next
  have : c.length + 1 - c.length = 1 := by omega
  rw [this]
  simp [nextF]

theorem next_at_close (c : List Nat) (p : Nat) (h : c[p]? = some 125) : next c p = .ok (p + 1, 1) := by
  have hlt : p < c.length := (List.getElem?_eq_some_iff.mp h).1
  unfold next
  have : c.length + 1 - p = (c.length - p) + 1 := by omega
  rw [this]
  simp only [nextF, hlt, if_true, rd_ok h, bind, Except.bind]
  have h1 : ¬ firstCharID 125 < W1.firstCharsCount := by decide
  have h2 : (125 : Nat) = W1.singleChar := by decide
  simp [h1, ← h2]

theorem matchMiddle_stop (c : List Nat) (wend : Nat) (w : Nat) (ws : List Nat) (off x : Nat)
    (hlt : off < wend) (hx : c[off]? = some x) (hne : x ≠ w) :
    matchMiddle c wend (w :: ws) off = .ok off := by
  simp [matchMiddle, hlt, rd_ok hx, bind, Except.bind, hne]

theorem matchMiddle_spec (c : List Nat) (wend : Nat) (hw : wend ≤ c.length) :
    ∀ (ws : List Nat) (off : Nat), off + ws.length = wend →
      ∃ o, matchMiddle c wend ws off = .ok o ∧ (o = wend ↔ ∀ j, j < ws.length → c[off + j]? = ws[j]?) := by
  intro ws
  induction ws with
  | nil => intro off h; exact ⟨off, rfl, ⟨fun _ j hj => absurd hj (Nat.not_lt_zero _), fun _ => h⟩⟩
  | cons w ws ih =>
    intro off h
    rw [List.length_cons] at h
    have hl : off < c.length := by omega
    have hlt : off < wend := by omega
    simp only [matchMiddle, hlt, if_true, rd_getElem c off hl, bind, Except.bind]
    by_cases he : c[off] = w
    · simp only [he, if_true]
      obtain ⟨o, ho, hiff⟩ := ih (off + 1) (by omega)
      refine ⟨o, ho, hiff.trans ⟨fun hall j hj => ?_, fun hall j hj => ?_⟩⟩
      · cases j with
        | zero => rw [Nat.add_zero, List.getElem?_eq_getElem hl, he]; rfl
        | succ j =>
          have := hall j (Nat.lt_of_succ_lt_succ hj)
          rw [List.getElem?_cons_succ, ← this]; congr 1; omega
      · have := hall (j + 1) (Nat.succ_lt_succ hj)
        rw [List.getElem?_cons_succ] at this
        rw [← this]; congr 1; omega
    · simp only [he, if_false]
      refine ⟨off, rfl, ⟨fun h' => by omega, fun hall => ?_⟩⟩
      have := hall 0 (Nat.zero_lt_succ _)
      rw [Nat.add_zero, List.getElem?_eq_getElem hl, List.getElem?_cons_zero, Option.some.injEq] at this
      exact absurd this he

/-! ### the specification `scan`; `next` computes it on a content that fits `SizeT` -/

/-- the word of the table with this id -/
abbrev word (wid : Nat) : List Nat := W1.words.getD wid []

/-- the first word among `ids` that stands at the head of `r` -/
def firstWord (r : List Nat) (ids : List Nat) : Option Nat := ids.find? (fun wid => (word wid).isPrefixOf r)

/-- the pattern at the head of `s`: `(id, number of units)` -/
def patAt : List Nat → Option (Nat × Nat)
  | [] => none
  | ch :: r =>
    if firstCharID ch < W1.firstCharsCount then
      (firstWord r (W1.groups.getD (firstCharID ch) [])).map (fun wid => (wid + 1, (word wid).length + 1))
    else if ch = W1.singleChar then some (1, 1) else none

/-- `Next()` on the suffix `s` that starts at offset `p` -/
def scan : List Nat → Nat → Nat × Nat
  | [], p => (p, 0)
  | ch :: r, p =>
    match patAt (ch :: r) with
    | some (m, len) => (p + len, m)
    | none => scan r (p + 1)

theorem isPrefixOf_iff_get (w r : List Nat) :
    w.isPrefixOf r = true ↔ ∀ j, j < w.length → r[j]? = w[j]? := by
  rw [List.isPrefixOf_iff_prefix, List.prefix_iff_getElem?]
  exact forall₂_congr fun j hj => by rw [List.getElem?_eq_getElem hj]

/-- one candidate of `tryWords`: the last unit is compared first, then the units before it -/
theorem tryWords_cons (c : List Nat) (start wid : Nat) (rest : List Nat)
    (hl : (word wid).length = W1.wordLengths.getD wid 0 + 1)
    (hs : start + W1.wordLengths.getD wid 0 < 2 ^ sizeTBits) :
    tryWords c start (wid :: rest) =
      if (word wid).isPrefixOf (c.drop start) then .ok (some (start + (word wid).length, wid + 1))
      else tryWords c start rest := by
  have hst : (word wid).isPrefixOf (c.drop start) = true ↔
      ∀ j, j < W1.wordLengths.getD wid 0 + 1 → c[start + j]? = (word wid)[j]? := by
    rw [isPrefixOf_iff_get, hl]; simp only [List.getElem?_drop]
  have hwl : W1.wordLengths.getD wid 0 < (word wid).length := by omega
  simp only [tryWords, Nat.mod_eq_of_lt hs]
  by_cases hw : start + W1.wordLengths.getD wid 0 < c.length
  · obtain ⟨o, ho, hiff⟩ := matchMiddle_spec c _ (Nat.le_of_lt hw) ((word wid).take (W1.wordLengths.getD wid 0)) start
      (by rw [List.length_take]; omega)
    rw [List.length_take, Nat.min_eq_left (Nat.le_of_lt hwl)] at hiff
    simp only [hw, if_true, rd_getElem c _ hw, bind, Except.bind, ho]
    -- the last unit, then the middle
    have hlast : c[start + W1.wordLengths.getD wid 0] = (word wid).getD (W1.wordLengths.getD wid 0) 0 ↔
        c[start + W1.wordLengths.getD wid 0]? = (word wid)[W1.wordLengths.getD wid 0]? := by
      rw [List.getElem?_eq_getElem hw, List.getElem?_eq_getElem hwl, Option.some.injEq,
        ← List.getElem_eq_getD (h := hwl) 0]
    have hmid : o = start + W1.wordLengths.getD wid 0 ↔
        ∀ j, j < W1.wordLengths.getD wid 0 → c[start + j]? = (word wid)[j]? :=
      hiff.trans (forall₂_congr fun j hj => by rw [List.getElem?_take_of_lt hj])
    by_cases h : (word wid).isPrefixOf (c.drop start) = true
    · have hall := hst.mp h
      rw [if_pos (hlast.mpr (hall _ (Nat.lt_succ_self _))),
        if_pos (hmid.mpr fun j hj => hall j (Nat.lt_succ_of_lt hj)), if_pos h,
        hmid.mpr fun j hj => hall j (Nat.lt_succ_of_lt hj), hl]
      rfl
    · rw [if_neg h]
      split
      · rename_i he
        rw [if_neg]
        exact fun ho' => h (hst.mpr fun j hj => (Nat.lt_succ_iff_lt_or_eq.mp hj).elim (hmid.mp ho' j)
          (fun hj => hj ▸ hlast.mp he))
      · rfl
  · rw [if_neg hw, if_neg]
    intro h
    have := (hst.mp h) _ (Nat.lt_succ_self _)
    rw [List.getElem?_eq_getElem hwl] at this
    exact hw (List.getElem?_eq_some_iff.mp this).1

/-- the table lengths are the word lengths less the last unit -/
theorem word_length : ∀ wid ∈ W1.groups.getD 0 [] ++ W1.groups.getD 1 [],
    (word wid).length = W1.wordLengths.getD wid 0 + 1 ∧ W1.wordLengths.getD wid 0 ≤ 5 := by decide

theorem tryWords_eq (c : List Nat) (start : Nat) (hs : start + 5 < 2 ^ sizeTBits) : ∀ (ids : List Nat),
    (∀ wid ∈ ids, (word wid).length = W1.wordLengths.getD wid 0 + 1 ∧ W1.wordLengths.getD wid 0 ≤ 5) →
    tryWords c start ids =
      .ok ((firstWord (c.drop start) ids).map (fun wid => (start + (word wid).length, wid + 1)))
  | [], _ => rfl
  | wid :: rest, h => by
    obtain ⟨hl, h5⟩ := h wid (List.mem_cons_self ..)
    rw [tryWords_cons c start wid rest hl (by omega), firstWord, List.find?_cons]
    split
    · rename_i hst; rw [hst]; rfl
    · rename_i hst; rw [Bool.not_eq_true] at hst; rw [hst]
      exact tryWords_eq c start hs rest (fun w hw => h w (List.mem_cons_of_mem _ hw))

theorem nextF_eq (c : List Nat) (hn : c.length + 16 < 4294967296) : ∀ (s : List Nat) (f off : Nat),
    c.drop off = s → s.length + 1 ≤ f → nextF c f off = .ok (scan s off) := by
  intro s
  induction s with
  | nil =>
    intro f off hs hf
    have hoff : ¬ off < c.length := by
      intro h; have := congrArg List.length hs; simp at this; omega
    cases f with
    | zero => rfl
    | succ f => simp only [nextF, hoff, if_false, scan]
  | cons ch r ih =>
    intro f off hs hf
    have hlen := congrArg List.length hs
    simp only [List.length_drop, List.length_cons] at hlen
    have hoff : off < c.length := by omega
    have hch : c[off] = ch := by
      have := congrArg (·[0]?) hs
      simpa [List.getElem?_drop, List.getElem?_eq_getElem hoff] using this
    have hr : c.drop (off + 1) = r := by
      rw [← List.drop_drop, hs]; rfl
    cases f with
    | zero => simp at hf
    | succ f =>
      have ihr := ih f (off + 1) hr (by simpa using hf)
      simp only [nextF, hoff, if_true, rd_getElem c off hoff, bind, Except.bind, hch, scan, patAt]
      by_cases hid : firstCharID ch < W1.firstCharsCount
      · simp only [hid, if_true]
        have hg : ∀ wid ∈ W1.groups.getD (firstCharID ch) [],
            (word wid).length = W1.wordLengths.getD wid 0 + 1 ∧ W1.wordLengths.getD wid 0 ≤ 5 := by
          intro wid hw
          apply word_length wid
          have : firstCharID ch = 0 ∨ firstCharID ch = 1 := by
            have : W1.firstCharsCount = 2 := rfl
            omega
          rcases this with h | h <;> rw [h] at hw
          · exact List.mem_append.mpr (Or.inl hw)
          · exact List.mem_append.mpr (Or.inr hw)
        rw [tryWords_eq c (off + 1) (by rw [pow32]; omega) _ hg, hr]
        cases firstWord r (W1.groups.getD (firstCharID ch) []) with
        | none => exact ihr
        | some wid => simp only [Option.map_some]; congr 2; omega
      · simp only [hid, if_false]
        by_cases hsc : ch = W1.singleChar
        · simp only [hsc, if_true]
        · simp only [hsc, if_false]; exact ihr

theorem next_eq (c : List Nat) (hn : c.length + 16 < 4294967296) (off : Nat) (h : off ≤ c.length) :
    next c off = .ok (scan (c.drop off) off) :=
  nextF_eq c hn _ _ off rfl (by simp; omega)

/-- for a word of the table `hr` is `fun _ => rfl`: `scan` evaluates on the word, whatever follows -/
theorem next_at {c w : List Nat} {p : Nat} {r : Nat × Nat} (hn : c.length + 16 < 4294967296)
    (h : At c p w) (hr : ∀ B, scan (w ++ B) p = r) : next c p = .ok r := by
  obtain ⟨A, B, hc, rfl⟩ := h
  rw [next_eq c hn _ (by rw [hc, List.length_append]; omega), hc, List.drop_left, hr B]

/-! ### what a result says about the content -/

/-- `mLen` on `}`, `{var:`, `{raw:`, `{math:` (`mLen_patLen`) -/
def patLen : Nat → Nat
  | 1 => 1
  | 2 => 5
  | 3 => 5
  | 4 => 6
  | _ => 0

/-- number of units of pattern `m` -/
def mLen : Nat → Nat
  | 1 => 1 | 2 => 5 | 3 => 5 | 4 => 6 | 5 => 6 | 6 => 3 | 7 => 5 | 8 => 7 | 9 => 3 | 10 => 5 | 11 => 5
  | _ => 0

theorem mLen_patLen (m : Nat) (h : m ≤ 4) : mLen m = patLen m := by
  have : m = 0 ∨ m = 1 ∨ m = 2 ∨ m = 3 ∨ m = 4 := by omega
  rcases this with h | h | h | h | h <;> subst h <;> rfl

/-- the units of pattern `m` -/
def pattern (m : Nat) : List Nat :=
  if m = 1 then [W1.singleChar] else W1.firstChars.getD (if m ≤ 6 then 0 else 1) 0 :: word (m - 1)

/-- no pattern but `}` contains a `}`; only `</loop>` and `</if>` contain a `>` -/
theorem pattern_table : ∀ m ∈ [1, 2, 3, 4, 5, 6, 7, 8, 9, 10, 11], (pattern m).length = mLen m ∧
    (2 ≤ m → ∀ x ∈ pattern m, x ≠ 125 ∧ (m ≠ 8 → m ≠ 10 → x ≠ 62)) := by decide

theorem group_table : ∀ g ∈ [0, 1], ∀ wid ∈ W1.groups.getD g [],
    wid + 1 ∈ [2, 3, 4, 5, 6, 7, 8, 9, 10, 11] ∧ pattern (wid + 1) = W1.firstChars.getD g 0 :: word wid := by decide

theorem firstCharID_lt {ch : Nat} (h : firstCharID ch < W1.firstCharsCount) :
    firstCharID ch ∈ [0, 1] ∧ W1.firstChars.getD (firstCharID ch) 0 = ch := by
  unfold firstCharID at h ⊢
  split
  · exact ⟨by simp, by subst ch; rfl⟩
  · split
    · exact ⟨by simp, by subst ch; rfl⟩
    · rename_i h1 h2; rw [if_neg h1, if_neg h2] at h; exact absurd h (by decide)

theorem patAt_some {s : List Nat} {m len : Nat} (h : patAt s = some (m, len)) :
    m ∈ [1, 2, 3, 4, 5, 6, 7, 8, 9, 10, 11] ∧ len = (pattern m).length ∧ (pattern m).isPrefixOf s = true := by
  cases s with
  | nil => cases h
  | cons ch r =>
    simp only [patAt] at h
    split at h
    · rename_i hid
      obtain ⟨hg, hch⟩ := firstCharID_lt hid
      cases hf : firstWord r (W1.groups.getD (firstCharID ch) []) with
      | none => rw [hf] at h; cases h
      | some wid =>
        rw [hf] at h
        simp only [Option.map_some, Option.some.injEq, Prod.mk.injEq] at h
        obtain ⟨rfl, rfl⟩ := h
        obtain ⟨hm, hp⟩ := group_table _ hg wid (List.mem_of_find?_eq_some hf)
        have hst := List.find?_some hf
        rw [hp, hch]
        exact ⟨List.mem_cons_of_mem _ hm, by simp, by simpa using hst⟩
    · split at h
      · rename_i hsc
        cases h; subst hsc
        exact ⟨by simp, rfl, by simp [pattern]⟩
      · cases h

theorem patAt_none {x : Nat} {r : List Nat} (h : patAt (x :: r) = none) : x ≠ 125 := by
  rintro rfl
  simp [patAt, firstCharID, W1.inLineFirstChar, W1.multiLineFirstChar, W1.firstCharsCount, W1.singleChar] at h

theorem scan_facts : ∀ (s : List Nat) (p : Nat), ∃ k, (scan s p).1 = p + k + mLen (scan s p).2 ∧
    k + mLen (scan s p).2 ≤ s.length ∧ (∀ i, i < k → ∀ x, s[i]? = some x → x ≠ 125) ∧
    ((scan s p).2 = 0 ∨ ((scan s p).2 ∈ [1, 2, 3, 4, 5, 6, 7, 8, 9, 10, 11] ∧
      ∀ j, j < mLen (scan s p).2 → s[k + j]? = (pattern (scan s p).2)[j]?))
  | [], p => ⟨0, rfl, Nat.le_refl _, fun _ h => absurd h (Nat.not_lt_zero _), Or.inl rfl⟩
  | ch :: r, p => by
    cases hp : patAt (ch :: r) with
    | none =>
      obtain ⟨k, h1, h2, h3, h4⟩ := scan_facts r (p + 1)
      have hs : scan (ch :: r) p = scan r (p + 1) := by rw [scan, hp]
      rw [hs]
      refine ⟨k + 1, by omega, by rw [List.length_cons]; omega, ?_, ?_⟩
      · intro i hi x hx
        cases i with
        | zero => rw [List.getElem?_cons_zero] at hx; cases hx; exact patAt_none hp
        | succ i => exact h3 i (by omega) x (by simpa using hx)
      · refine h4.imp id (fun h => ⟨h.1, fun j hj => ?_⟩)
        rw [← h.2 j hj, show k + 1 + j = (k + j) + 1 by omega, List.getElem?_cons_succ]
    | some ml =>
      obtain ⟨m, len⟩ := ml
      have hs : scan (ch :: r) p = (p + len, m) := by rw [scan, hp]
      obtain ⟨hm, hlen, hst⟩ := patAt_some hp
      have hml := (pattern_table m hm).1
      rw [hs]
      refine ⟨0, by simp only []; omega, ?_, fun _ h => absurd h (Nat.not_lt_zero _), Or.inr ⟨hm, fun j hj => ?_⟩⟩
      · have := (List.isPrefixOf_iff_prefix.mp hst).length_le
        simp only []; omega
      · rw [Nat.zero_add]; exact (isPrefixOf_iff_get _ _).mp hst j (by simp only [] at hj; omega)

/-- of `next c off = ok (o, m)`: the match occupies `[o - mLen m, o)`, at or after `off`; no unit skipped
before it is `}`, and none inside it unless `m = 1` -/
structure NextFacts (c : List Nat) (off o m : Nat) : Prop where
  le : o ≤ c.length
  id : m ≤ 11
  start : off + mLen m ≤ o
  skipped : ∀ i, off ≤ i → i + mLen m < o → ∀ x, c[i]? = some x → x ≠ 125
  close : m = 1 → c[o - 1]? = some 125
  word : 2 ≤ m → ∀ i, o ≤ i + mLen m → i < o → ∀ x, c[i]? = some x → x ≠ 125
  nogt : 2 ≤ m → m ≠ 8 → m ≠ 10 → ∀ i, o ≤ i + mLen m → i < o → ∀ x, c[i]? = some x → x ≠ 62

theorem next_facts (c : List Nat) (hn : c.length + 16 < 4294967296) (off o m : Nat)
    (hoff : off ≤ c.length) (h : next c off = .ok (o, m)) : NextFacts c off o m := by
  rw [next_eq c hn off hoff, Except.ok.injEq] at h
  obtain ⟨k, h1, h2, h3, h4⟩ := scan_facts (c.drop off) off
  rw [h] at h1 h2 h4
  simp only [] at h1 h2 h4
  rw [List.length_drop] at h2
  have hget : ∀ j, (c.drop off)[j]? = c[off + j]? := fun j => List.getElem?_drop
  -- the unit at `i` inside the match is a unit of the pattern
  have hin : m ≠ 0 → ∀ i, o ≤ i + mLen m → i < o → ∀ x, c[i]? = some x → x ∈ pattern m := by
    intro hm i hi1 hi2 x hx
    obtain ⟨hmem, hpat⟩ := h4.resolve_left hm
    have := hpat (i - (off + k)) (by omega)
    rw [hget, show off + (k + (i - (off + k))) = i by omega, hx] at this
    exact List.mem_of_getElem? this.symm
  have hm11 : m ≤ 11 := by
    rcases h4 with h | h
    · omega
    · have := h.1; simp only [List.mem_cons, List.not_mem_nil, or_false] at this; omega
  have htab : 2 ≤ m → ∀ x ∈ pattern m, x ≠ 125 ∧ (m ≠ 8 → m ≠ 10 → x ≠ 62) := fun h2m =>
    (pattern_table m ((h4.resolve_left (by omega)).1)).2 h2m
  refine ⟨by omega, hm11, by omega, ?_, ?_, ?_, ?_⟩
  · intro i hi1 hi2 x hx
    exact h3 (i - off) (by omega) x (by rw [hget, show off + (i - off) = i by omega]; exact hx)
  · rintro rfl
    have := (h4.resolve_left (by omega)).2 0 (by decide)
    rw [hget] at this
    rw [show o - 1 = off + (k + 0) by simp only [mLen] at h1; omega, this]; rfl
  · intro h2m i hi1 hi2 x hx
    exact (htab h2m x (hin (by omega) i hi1 hi2 x hx)).1
  · intro h2m h8 h10 i hi1 hi2 x hx
    exact (htab h2m x (hin (by omega) i hi1 hi2 x hx)).2 h8 h10

end Qentem.Tmpl
