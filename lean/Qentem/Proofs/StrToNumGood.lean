import Qentem.Proofs.StrToNumRealResult
import Qentem.Proofs.StrToNumFinish
/-! C09: the outcome statement on a **fraction** `n/d` (`Good`), the fraction of a decimal numeral (`valFrac`), and
`realResult` on a truncated mantissa in general (`realResult_trunc`): kept mantissa `v` (`≥ 10^16`), `j` dropped digits,
exact mantissa `vt`, code exponent `(x, negExp)`; the exact value is `vt·10^(±x − j)`.
Then from a scan result to `Good` on the exact value of the whole numeral: the exponent bookkeeping as equations of
`valFrac` (`valFrac_netExp`, `valFrac_intExp`; `valFrac_out_of_range` for a saturated exponent), the truncation bounds
(`trunc_bounds`, `trunc_rel_zero`) and the integer regime `good_intRegime` (no dot seen by the scan: ignored integer
digits, a late dot, an exponent). -/
namespace Qentem.StrToNum
open Qentem.Round

/-- the C09 outcome for a numeral of exact magnitude `n/d` and sign `neg`: consumed up to `fin`; NotANumber only if the
value is below the smallest subnormal or above the largest finite double; otherwise a `Real` with the sign bit of the
text, within one ulp of the correctly rounded value, and — when the value exceeds the largest finite double — the
largest finite double or an infinity -/
def Good (neg : Bool) (n d fin : Nat) (res : Option Res) : Prop :=
  ∃ r, res = some r ∧ r.offset = fin ∧
    ((r.kind = .notANumber ∧ (n * 2 ^ 1074 < d ∨ (2 ^ 53 - 1) * 2 ^ 971 * d < n)) ∨
     (r.kind = .real ∧ r.bits / 2 ^ 63 = b2n neg ∧ ulpDist (r.bits % 2 ^ 63) (nearestMag n d) ≤ 1 ∧
        ((2 ^ 53 - 1) * 2 ^ 971 * d < n → r.bits % 2 ^ 63 = maxFiniteBits ∨ infBits ≤ r.bits % 2 ^ 63)))

/-- the exact fraction of mantissa `M` (an integer), decimal exponent `±k` and `f` fraction digits; clause for clause
the `Numeral.magFrac` of `Model/Round.lean`, which is how `numeral_good` (Props/C09Closed) closes -/
def valFrac (M k : Nat) (eneg : Bool) (f : Nat) : Nat × Nat :=
  if eneg then (M, 10 ^ (k + f)) else if k ≥ f then (M * 10 ^ (k - f), 1) else (M, 10 ^ (f - k))

theorem good_of_class {neg : Bool} {v X : Nat} {FLAG : Bool} {fin : Nat} {res : Option Res}
    (h : ClassOutcome neg v X FLAG fin res) : Good neg (valFrac v X FLAG 0).1 (valFrac v X FLAG 0).2 fin res := by
  obtain ⟨r, h1, h2, h3⟩ := h
  refine ⟨r, h1, h2, ?_⟩
  cases FLAG with
  | true =>
    simp only [valFrac, if_true, Nat.add_zero] at h3 ⊢
    rcases h3 with ⟨a, b⟩ | ⟨a, b, c, d⟩
    · exact Or.inl ⟨a, Or.inl b⟩
    · exact Or.inr ⟨a, b, c, d⟩
  | false =>
    simp only [valFrac, Bool.false_eq_true, if_false, Nat.mul_one, Nat.zero_le, if_true, Nat.sub_zero] at h3 ⊢
    rcases h3 with ⟨a, b⟩ | ⟨a, b, c, d⟩
    · exact Or.inl ⟨a, Or.inr b⟩
    · exact Or.inr ⟨a, b, c, d⟩

theorem good_cast {neg : Bool} {n d fin fin' : Nat} {res : Option Res} (h : Good neg n d fin res) (hf : fin = fin') :
    Good neg n d fin' res := hf ▸ h

theorem class_of_good_int {neg : Bool} {V fin : Nat} {res : Option Res} (hV : 0 < V) (h : Good neg V 1 fin res) :
    ClassOutcome neg V 0 false fin res := by
  obtain ⟨r, h1, h2, h3⟩ := h
  refine ⟨r, h1, h2, ?_⟩
  simp only [Bool.false_eq_true, if_false, Nat.pow_zero, Nat.mul_one] at h3 ⊢
  rcases h3 with ⟨a, b | b⟩ | h3
  · omega
  · exact Or.inl ⟨a, b⟩
  · exact Or.inr h3

theorem good_zero (neg : Bool) (d fin : Nat) :
    Good neg 0 d fin (some ⟨.real, if neg then 0x8000000000000000 else 0, fin⟩) := by
  refine ⟨_, rfl, rfl, Or.inr ⟨rfl, ?_, ?_, ?_⟩⟩
  · cases neg <;> simp [b2n]
  · have h0 : nearestMag 0 d = 0 := by unfold nearestMag; simp
    cases neg <;> simp [h0, ulpDist]
  · intro h; omega

theorem nearestMag_le_inf (n d : Nat) : nearestMag n d ≤ infBits := by
  by_cases h : n = 0 ∨ d = 0
  · unfold nearestMag; simp only [h, if_true]; unfold infBits; omega
  · rw [nearestMag_pair n d (by omega) (by omega)]
    unfold cap
    split
    · exact Nat.le_refl _
    · omega

theorem good_scale {neg : Bool} {n d c fin : Nat} {res : Option Res} (hn : 0 < n) (hd : 0 < d) (hc : 0 < c)
    (h : Good neg n d fin res) : Good neg (n * c) (d * c) fin res := by
  obtain ⟨r, h1, h2, h3⟩ := h
  refine ⟨r, h1, h2, ?_⟩
  rcases h3 with ⟨a, b⟩ | ⟨a, b, e, f⟩
  · left
    refine ⟨a, ?_⟩
    rcases b with b | b
    · left
      calc n * c * 2 ^ 1074 = n * 2 ^ 1074 * c := by ring
        _ < d * c := Nat.mul_lt_mul_of_pos_right b hc
    · right
      calc (2 ^ 53 - 1) * 2 ^ 971 * (d * c) = (2 ^ 53 - 1) * 2 ^ 971 * d * c := by ring
        _ < n * c := Nat.mul_lt_mul_of_pos_right b hc
  · right
    refine ⟨a, b, by rw [nearestMag_scale n d c hn hd hc]; exact e, ?_⟩
    intro hov
    apply f
    have : (2 ^ 53 - 1) * 2 ^ 971 * d * c < n * c := by
      calc (2 ^ 53 - 1) * 2 ^ 971 * d * c = (2 ^ 53 - 1) * 2 ^ 971 * (d * c) := by ring
        _ < n * c := hov
    exact Nat.lt_of_mul_lt_mul_right this

theorem realResult_trunc (neg : Bool) (v n x : Nat) (negExp : Bool) (off j vt : Nat) (hv16 : 10 ^ 16 ≤ v) (hv : v < 2 ^ 64)
    (hvn : 10 ^ (n - 1) ≤ v) (hvn2 : v < 10 ^ n) (hn1 : 1 ≤ n) (hn : n ≤ 20) (hx : x < 2 ^ 31)
    (ht1 : v * 10 ^ j ≤ vt) (ht2 : 10 ^ 17 * vt < (10 ^ 17 + 1) * (v * 10 ^ j)) :
    Good neg (valFrac vt x negExp j).1 (valFrac vt x negExp j).2 off (realResult neg v n x negExp off) := by
  have h10 : ∀ k : Nat, 0 < 10 ^ k := fun k => Nat.pow_pos (by decide)
  cases negExp with
  | true =>
    have := good_of_class (realResult_neg_trunc neg v n x off j vt hv16 hv hvn2 hn hx ht1 ht2)
    simpa [valFrac] using this
  | false =>
    have hv0 : v ≠ 0 := by have := h10 16; omega
    have hadd : add32 x n = x + n := add32_eq _ _ (by omega)
    -- the exact fraction N/D with v·10^x·D ≤ N < (v+1)·10^x·D
    obtain ⟨N, D, hND, hD, hb1, hb2⟩ : ∃ N D, valFrac vt x false j = (N, D) ∧ 0 < D ∧
        v * 10 ^ x * D ≤ N ∧ 10 ^ 17 * N < (10 ^ 17 + 1) * (v * 10 ^ x * D) := by
      unfold valFrac
      simp only [Bool.false_eq_true, if_false]
      by_cases hxj : x ≥ j
      · refine ⟨_, _, by rw [if_pos hxj], by decide, ?_, ?_⟩
        · have e : v * 10 ^ x * 1 = v * 10 ^ j * 10 ^ (x - j) := by
            rw [Nat.mul_one, Nat.mul_assoc, ← Nat.pow_add]; congr 2; omega
          rw [e]; exact Nat.mul_le_mul_right _ ht1
        · have e : (10 ^ 17 + 1) * (v * 10 ^ x * 1) = (10 ^ 17 + 1) * (v * 10 ^ j) * 10 ^ (x - j) := by
            rw [Nat.mul_one, Nat.mul_assoc (10 ^ 17 + 1), Nat.mul_assoc v, ← Nat.pow_add]; congr 3; omega
          rw [e, ← Nat.mul_assoc]; exact Nat.mul_lt_mul_of_pos_right ht2 (h10 _)
      · have e : v * 10 ^ x * 10 ^ (j - x) = v * 10 ^ j := by
          rw [Nat.mul_assoc, ← Nat.pow_add]; congr 2; omega
        refine ⟨_, _, by rw [if_neg hxj], h10 _, ?_, ?_⟩
        · rw [e]; exact ht1
        · rw [e]; exact ht2
    rw [hND]
    simp only
    by_cases hr : x + n > 309
    · refine ⟨⟨.notANumber, v, off⟩, ?_, rfl, Or.inl ⟨rfl, Or.inr ?_⟩⟩
      · exact realResult_pos_nan neg v n x off hv0 (by rw [hadd]; exact hr)
      · have h1 : 10 ^ 309 ≤ 10 ^ (n - 1 + x) := Nat.pow_le_pow_right (by decide) (by omega)
        calc (2 ^ 53 - 1) * 2 ^ 971 * D < 10 ^ 309 * D := Nat.mul_lt_mul_of_pos_right maxFinite_lt_pow309 hD
          _ ≤ 10 ^ (n - 1 + x) * D := Nat.mul_le_mul_right _ h1
          _ = 10 ^ (n - 1) * 10 ^ x * D := by rw [Nat.pow_add]
          _ ≤ v * 10 ^ x * D := Nat.mul_le_mul_right _ (Nat.mul_le_mul_right _ hvn)
          _ ≤ N := hb1
    · obtain ⟨p, hp, hclose, hfloor⟩ := powerOfPositiveTen_close_trunc_rat v x N D (by omega) hv (by omega) hD hb1 hb2
      have hp63 := powerOfPositiveTen_lt v x p hp
      refine ⟨⟨.real, p ||| (if neg then 0x8000000000000000 else 0), off⟩, ?_, rfl,
        Or.inr ⟨rfl, or_sign_div p neg hp63, ?_, ?_⟩⟩
      · exact realResult_pos_real neg v n x off p hv0 (by rw [hadd]; exact hr) hp
      · rw [or_sign_mod p neg hp63]; exact hclose
      · rw [or_sign_mod p neg hp63]
        intro hov
        have := hfloor (Nat.le_of_lt hov)
        unfold maxFiniteBits infBits at *
        omega

/-! ### From a scan result to the outcome on the exact value of the whole numeral

For every continuation of the text after the scan stop. The exponent bookkeeping as equations of `valFrac`
(`valFrac_netExp`, `valFrac_intExp`) serves both regimes; `good_intRegime` is the integer regime (no dot seen by the scan:
the digits after the stop are ignored integer digits, possibly followed by a late dot and fraction digits). -/

theorem valFrac_zero (k : Nat) (eneg : Bool) (f : Nat) : (valFrac 0 k eneg f).1 = 0 := by
  unfold valFrac
  cases eneg
  · simp only [Bool.false_eq_true, if_false]
    split <;> simp
  · simp

theorem valFrac_plain (v : Nat) : valFrac v (decVal []) (decide (([] : List Nat) = [45])) ([] : List Nat).length = (v, 1) := by
  simp [valFrac, decVal]

/-- scaling by the net exponent and dropping `j` further digits is scaling by the written exponent with `f + j`
fraction digits -/
theorem valFrac_netExp (vt k : Nat) (kneg fo : Bool) (f j : Nat) :
    valFrac vt (netExp fo k kneg f).1 (netExp fo k kneg f).2 j = valFrac vt k kneg (f + j) := by
  unfold netExp valFrac
  cases kneg with
  | false =>
    -- a positive exponent: `fo` is not looked at
    simp only [Bool.false_and, Bool.false_eq_true, if_false, ge_iff_le]
    by_cases h : f ≤ k
    · rw [if_pos h]; simp only [Bool.false_eq_true, if_false]
      by_cases h2 : j ≤ k - f
      · rw [if_pos h2, if_pos (by omega)]; congr 3; omega
      · rw [if_neg h2, if_neg (by omega)]; congr 2; omega
    · rw [if_neg h]; simp only [if_true]
      rw [if_neg (by omega)]; congr 2; omega
  | true =>
    cases fo <;> simp only [Bool.true_and, Bool.false_or, Bool.true_or, if_true, ge_iff_le]
    · by_cases hk : k = 0
      · subst hk
        simp only [ne_eq, not_true_eq_false, decide_false, Bool.false_eq_true, if_false, Nat.zero_add]
        by_cases h : f ≤ 0
        · obtain rfl : f = 0 := by omega
          simp only [Nat.le_refl, if_true, Bool.false_eq_true, if_false, Nat.sub_self, Nat.zero_add]
          by_cases hj : j = 0
          · subst hj; simp
          · rw [if_neg (by omega), Nat.sub_zero]
        · simp only [h, if_false, if_true, Nat.sub_zero]
      · simp only [ne_eq, hk, not_false_eq_true, decide_true, if_true]
        congr 2; omega
    · congr 2; omega

/-- `g` ignored integer digits raise the exponent by `g` and count among the `g + F` dropped digits -/
theorem valFrac_intExp (vt k : Nat) (kneg : Bool) (g F : Nat) :
    valFrac vt (intExp k kneg g).1 (intExp k kneg g).2 (g + F) = valFrac vt k kneg F := by
  unfold intExp valFrac
  cases kneg with
  | false =>
    simp only [Bool.not_false, if_true, Bool.false_eq_true, if_false, ge_iff_le]
    by_cases hk : F ≤ k
    · rw [if_pos hk, if_pos (by omega), show k + g - (g + F) = k - F by omega]
    · rw [if_neg hk, if_neg (by omega), show g + F - (k + g) = F - k by omega]
  | true =>
    simp only [Bool.not_true, Bool.false_eq_true, if_false, if_true]
    by_cases hkg : k ≤ g
    · simp only [hkg, if_true, Bool.false_eq_true, if_false, ge_iff_le]
      by_cases hc : g + F ≤ g - k
      · obtain rfl : k = 0 := by omega
        obtain rfl : F = 0 := by omega
        rw [if_pos hc]; simp
      · rw [if_neg hc, show g + F - (g - k) = k + F by omega]
    · simp only [hkg, if_false, if_true]
      rw [show k - g + (g + F) = k + F by omega]

theorem good_of_class_netExp {neg : Bool} {v k : Nat} {kneg fo : Bool} {f fin : Nat} {res : Option Res}
    (h : ClassOutcome neg v (netExp fo k kneg f).1 (netExp fo k kneg f).2 fin res) :
    Good neg (valFrac v k kneg f).1 (valFrac v k kneg f).2 fin res :=
  valFrac_netExp v k kneg fo f 0 ▸ good_of_class h

theorem good_valFrac_zeros {neg : Bool} {M k : Nat} {eneg : Bool} {f j fin : Nat} {res : Option Res} (hM : 0 < M)
    (h : Good neg (valFrac M k eneg f).1 (valFrac M k eneg f).2 fin res) :
    Good neg (valFrac (M * 10 ^ j) k eneg (f + j)).1 (valFrac (M * 10 ^ j) k eneg (f + j)).2 fin res := by
  have h10 : ∀ t : Nat, 0 < 10 ^ t := fun t => Nat.pow_pos (by decide)
  unfold valFrac at h ⊢
  cases eneg with
  | true =>
    simp only [if_true] at h ⊢
    have := good_scale hM (h10 _) (h10 j) h
    rw [← Nat.pow_add] at this
    rw [show k + (f + j) = k + f + j by omega]; exact this
  | false =>
    simp only [Bool.false_eq_true, if_false, ge_iff_le] at h ⊢
    by_cases h1 : f ≤ k
    · rw [if_pos h1] at h
      by_cases h2 : f + j ≤ k
      · rw [if_pos h2]
        have e : M * 10 ^ j * 10 ^ (k - (f + j)) = M * 10 ^ (k - f) := by
          rw [Nat.mul_assoc, ← Nat.pow_add]; congr 2; omega
        rw [e]; exact h
      · rw [if_neg h2]
        have := good_scale (Nat.mul_pos hM (h10 _)) (by decide : 0 < 1) (h10 (f + j - k)) h
        have e : M * 10 ^ (k - f) * 10 ^ (f + j - k) = M * 10 ^ j := by
          rw [Nat.mul_assoc, ← Nat.pow_add]; congr 2; omega
        rw [e, Nat.one_mul] at this
        exact this
    · rw [if_neg h1] at h
      rw [if_neg (by omega)]
      have := good_scale hM (h10 _) (h10 j) h
      rw [← Nat.pow_add] at this
      rw [show f + j - k = f - k + j by omega]; exact this

theorem decVal_append_bounds (K R : List Nat) (n : Nat) (hR : AllDigits R) (hlo : 10 ^ (n - 1) ≤ decVal K)
    (hhi : decVal K < 10 ^ n) :
    10 ^ (n - 1 + R.length) ≤ decVal (K ++ R) ∧ decVal (K ++ R) < 10 ^ (n + R.length) := by
  obtain ⟨t1, t2⟩ := decVal_trunc K R hR
  rw [Nat.pow_add, Nat.pow_add]
  exact ⟨Nat.le_trans (Nat.mul_le_mul_right _ hlo) t1, Nat.lt_of_lt_of_le t2 (Nat.mul_le_mul_right _ (by omega))⟩

theorem valFrac_out_of_range (vt k : Nat) (eneg : Bool) (n j f : Nat) (hlo : 10 ^ (n - 1 + j) ≤ vt)
    (hvt : vt < 10 ^ (n + j)) (hn1 : 1 ≤ n) (hk : 100000000 ≤ k) (hF : f + n + 400 ≤ 100000000) :
    (valFrac vt k eneg (f + j)).1 * 2 ^ 1074 < (valFrac vt k eneg (f + j)).2 ∨
    (2 ^ 53 - 1) * 2 ^ 971 * (valFrac vt k eneg (f + j)).2 < (valFrac vt k eneg (f + j)).1 := by
  unfold valFrac
  cases eneg with
  | true =>
    left
    simp only [if_true]
    have h1 : n + j + 325 ≤ k + (f + j) := by omega
    calc vt * 2 ^ 1074 < 10 ^ (n + j) * 2 ^ 1074 := Nat.mul_lt_mul_of_pos_right hvt (Nat.pow_pos (by decide))
      _ ≤ 10 ^ (n + j) * 10 ^ 325 := Nat.mul_le_mul_left _ minSub_pow325
      _ = 10 ^ (n + j + 325) := (Nat.pow_add _ _ _).symm
      _ ≤ 10 ^ (k + (f + j)) := Nat.pow_le_pow_right (by decide) h1
  | false =>
    right
    simp only [Bool.false_eq_true, if_false]
    by_cases hkF : k ≥ f + j
    · rw [if_pos hkF]
      simp only [Nat.mul_one]
      have h1 : 309 ≤ n - 1 + j + (k - (f + j)) := by omega
      calc (2 ^ 53 - 1) * 2 ^ 971 < 10 ^ 309 := maxFinite_lt_pow309
        _ ≤ 10 ^ (n - 1 + j + (k - (f + j))) := Nat.pow_le_pow_right (by decide) h1
        _ = 10 ^ (n - 1 + j) * 10 ^ (k - (f + j)) := Nat.pow_add _ _ _
        _ ≤ vt * 10 ^ (k - (f + j)) := Nat.mul_le_mul_right _ hlo
    · rw [if_neg hkF]
      simp only
      have h1 : 309 + (f + j - k) ≤ n - 1 + j := by omega
      calc (2 ^ 53 - 1) * 2 ^ 971 * 10 ^ (f + j - k) < 10 ^ 309 * 10 ^ (f + j - k) :=
            Nat.mul_lt_mul_of_pos_right maxFinite_lt_pow309 (Nat.pow_pos (by decide))
        _ = 10 ^ (309 + (f + j - k)) := (Nat.pow_add _ _ _).symm
        _ ≤ 10 ^ (n - 1 + j) := Nat.pow_le_pow_right (by decide) h1
        _ ≤ vt := hlo

/-- digits dropped behind a kept mantissa `K` of at least 18 digits change the value by less than one part in `10^17` -/
theorem trunc_bounds (K R : List Nat) (hR : AllDigits R) (h17 : 10 ^ 17 ≤ decVal K) :
    decVal K * 10 ^ R.length ≤ decVal (K ++ R) ∧
    10 ^ 17 * decVal (K ++ R) < (10 ^ 17 + 1) * (decVal K * 10 ^ R.length) :=
  ⟨(decVal_trunc K R hR).1, trunc_rel_of_abs _ _ _ h17 (decVal_trunc K R hR).2⟩

/-- with the dot on the window edge after 17 digits whose next digit is `0`, the kept 17 digits still give the value to
one part in `10^17` -/
theorem trunc_rel_zero (K b : List Nat) (hb : AllDigits b) (h16 : 10 ^ 16 ≤ decVal K) :
    10 ^ 17 * decVal (K ++ 48 :: b) < (10 ^ 17 + 1) * (decVal K * 10 ^ (48 :: b).length) := by
  have hbl := decVal_lt_pow b hb
  rw [decVal_append, decVal_zero_cons, List.length_cons]
  have e2 : (10 ^ 17 + 1) * (decVal K * 10 ^ (b.length + 1)) =
      10 ^ 17 * (decVal K * 10 ^ (b.length + 1)) + decVal K * 10 ^ (b.length + 1) := by ring
  rw [e2, Nat.mul_add]
  apply Nat.add_lt_add_left
  calc 10 ^ 17 * decVal b < 10 ^ 17 * 10 ^ b.length := Nat.mul_lt_mul_of_pos_left hbl (Nat.pow_pos (by decide))
    _ = 10 ^ 16 * 10 ^ (b.length + 1) := by rw [Nat.pow_succ]; ring
    _ ≤ decVal K * 10 ^ (b.length + 1) := Nat.mul_le_mul_right _ h16

theorem good_intRegime_core (neg : Bool) (K R F : List Nat) (n k : Nat) (kneg : Bool) (fin : Nat)
    (hlo : 10 ^ (n - 1) ≤ decVal K) (hhi : decVal K < 10 ^ n) (hn19 : 19 ≤ n)
    (hn20 : n ≤ 20) (hv64 : decVal K < 2 ^ 64) (hR : AllDigits R) (hF : AllDigits F)
    (hX : (intExp k kneg R.length).1 < 2 ^ 31) :
    Good neg (valFrac (decVal (K ++ R ++ F)) k kneg F.length).1 (valFrac (decVal (K ++ R ++ F)) k kneg F.length).2 fin
      (realResult neg (decVal K) n (intExp k kneg R.length).1 (intExp k kneg R.length).2 fin) := by
  have h18 : 10 ^ 18 ≤ decVal K := Nat.le_trans (Nat.pow_le_pow_right (by decide) (by omega)) hlo
  obtain ⟨t1, t2⟩ := decVal_trunc K (R ++ F) (hR.append hF)
  rw [← List.append_assoc] at t1 t2
  rw [List.length_append] at t1 t2
  have h := realResult_trunc neg (decVal K) n (intExp k kneg R.length).1 (intExp k kneg R.length).2 fin (R.length + F.length) (decVal (K ++ R ++ F))
    (Nat.le_trans (by decide) h18) hv64 hlo hhi (by omega) hn20 hX t1
    (trunc_rel_of_abs _ _ _ (Nat.le_trans (by decide) h18) t2)
  rwa [valFrac_intExp] at h

theorem good_intRegime (c : List Nat) (e : Nat) (neg : Bool) (stop start : Nat)
    (K : List Nat) (k1 : Nat) (kt R F DF EP es ks : List Nat) (n : Nat) (he : e < 2 ^ 32) (hR31 : R.length < 2 ^ 31)
    (hbound : EP ≠ [] → e ≤ 99999000)
    (hK : K = k1 :: kt) (hk1 : isNonZeroDigit k1 = true) (hKd : AllDigits K) (hn : K.length = n) (hn19 : 19 ≤ n)
    (hn20 : n ≤ 20) (hv64 : decVal K < 2 ^ 64) (hstop0 : stop ≠ 0)
    (hR : AllDigits R) (hF : AllDigits F) (hur : unitsAt c e stop R)
    (hDF : (DF = [] ∧ F = []) ∨ (DF = 46 :: F ∧ F ≠ [])) (hDFu : unitsAt c e (stop + R.length) DF)
    (hEP : ExpPart EP es ks) (hEPu : unitsAt c e (stop + R.length + DF.length) EP)
    (hend : endsAt c e (stop + R.length + DF.length + EP.length) (realEnd EP))
    (hne : R ≠ [] ∨ DF ≠ [] ∨ EP ≠ [])
    (hep : ep10Of stop start false false = n) :
    Good neg (valFrac (decVal (K ++ R ++ F)) (decVal ks) (decide (es = [45])) F.length).1
      (valFrac (decVal (K ++ R ++ F)) (decVal ks) (decide (es = [45])) F.length).2
      (stop + R.length + DF.length + EP.length)
      (finishReal c e neg (decVal K) stop stop start false false 0) := by
  have hfin := endsAt_le hend
  obtain ⟨hlo, hhi⟩ := mantissa_bounds k1 kt n hk1 (fun y hy => hKd y (hK ▸ List.mem_cons_of_mem _ hy)) (by rw [← hn, hK]; rfl)
  rw [← hK] at hlo hhi
  have hv0 := mantissa_pos hlo
  -- without an exponent part the exponent value is `0`
  have hks : EP = [] → decVal ks = 0 := by
    rintro rfl
    rcases hEP with ⟨_, _, rfl⟩ | ⟨m, _, h, _⟩
    · rfl
    · cases h
  have hkR : decVal ks < 100000000 → decVal ks + R.length < 2 ^ 31 := by
    intro hk
    by_cases hE : EP = []
    · rw [hks hE]; omega
    · have := hbound hE; omega
  have hstop : stop ≠ stop + R.length + DF.length + EP.length := by
    have : 0 < R.length ∨ 0 < DF.length ∨ 0 < EP.length :=
      hne.imp List.length_pos_iff.2 (Or.imp List.length_pos_iff.2 List.length_pos_iff.2)
    omega
  obtain ⟨t, ht, hto, hte, htn, hextra⟩ := tail_int c e (decVal K) stop 0 R F DF EP es ks he hstop0 hR hF hur hDF
    hDFu (fun _ => by omega) hEP hEPu hend
  rcases Nat.lt_or_ge (decVal ks) 100000000 with hsmall | hbig
  · rw [expSat_small ks hsmall] at hte
    rw [finishReal_intExp c e neg _ stop stop start 0 t R.length ht (by rw [hte]; exact hsmall) (by rw [hto]; exact hstop)
      hextra (by rw [hte]; have := hkR hsmall; omega) n hep, hto, hte, htn]
    exact good_intRegime_core neg K R F n _ _ _ hlo hhi hn19 hn20 hv64 hR hF
      (Nat.lt_of_le_of_lt (intExp_fst_le _ _ _) (hkR hsmall))
  · have hE : EP ≠ [] := fun h => by rw [hks h] at hbig; omega
    have := hbound hE
    rw [finishReal_sat c e neg _ stop stop start false false 0 t ht (by rw [hte]; exact expSat_big ks hbig) (by omega), hto]
    refine ⟨_, rfl, rfl, Or.inl ⟨rfl, ?_⟩⟩
    obtain ⟨hvlo, hvhi⟩ := decVal_append_bounds K (R ++ F) n (hR.append hF) hlo hhi
    rw [← List.append_assoc, List.length_append, show n - 1 + (R.length + F.length) = n + R.length - 1 + F.length by omega]
      at hvlo
    rw [← List.append_assoc, List.length_append, ← Nat.add_assoc] at hvhi
    have := valFrac_out_of_range (decVal (K ++ R ++ F)) (decVal ks) (decide (es = [45])) (n + R.length) F.length 0 hvlo hvhi
      (by omega) hbig (by omega)
    simpa using this

end Qentem.StrToNum
