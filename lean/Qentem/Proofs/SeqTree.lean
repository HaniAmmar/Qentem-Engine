import Qentem.Model.SeqTree
/-! Get/set laws of paths in a tree of arrays (C14, Array of a recursive owning item type). -/
namespace Qentem.SeqTree

/-- identity of a node: everything but its kids -/
def Node.ident (n : Node) : Nat × Nat := (n.id, n.tag)

theorem getAt_setKidsAt_same : ∀ (d : List Nat) (root dn : Node) (ks : List Node),
    getAt root d = some dn → getAt (setKidsAt root d ks) d = some ⟨dn.id, dn.tag, ks⟩ := by
  intro d
  induction d with
  | nil => intro root dn ks h; simp only [getAt] at h; injection h with h; subst h; rfl
  | cons i p ih =>
    intro root dn ks h
    simp only [getAt] at h
    cases hk : root.kids[i]? with
    | none => simp [hk] at h
    | some k =>
      simp only [hk] at h
      have hi : i < root.kids.length := (List.getElem?_eq_some_iff.1 hk).1
      simp only [setKidsAt, hk, getAt]
      rw [List.getElem?_set_self hi]
      exact ih k dn ks h

theorem getAt_setKidsAt_disjoint : ∀ (d p : List Nat) (root : Node) (ks : List Node),
    ¬ d <+: p → ¬ p <+: d → getAt (setKidsAt root d ks) p = getAt root p := by
  intro d
  induction d with
  | nil => intro p root ks h _; exact absurd (List.nil_prefix) h
  | cons i d' ih =>
    intro p root ks h1 h2
    cases p with
    | nil => exact absurd (List.nil_prefix) h2
    | cons j p' =>
      cases hk : root.kids[i]? with
      | none => simp [setKidsAt, hk]
      | some k =>
        simp only [setKidsAt, hk, getAt]
        by_cases e : j = i
        · subst e
          have hi : j < root.kids.length := (List.getElem?_eq_some_iff.1 hk).1
          rw [List.getElem?_set_self hi, hk]
          exact ih p' k ks (fun h => h1 ((List.cons_prefix_cons).2 ⟨rfl, h⟩))
            (fun h => h2 ((List.cons_prefix_cons).2 ⟨rfl, h⟩))
        · rw [List.getElem?_set_ne (fun h => e h.symm)]

/-- `¬ (s <+: d ∧ s ≠ d)`: `s` is not a proper ancestor of `d`; then replacing the children at `s` leaves the node at `d`
who it was (its own children may be the replaced ones, when `s = d`). -/
theorem getAt_setKidsAt_ident : ∀ (s d : List Nat) (root : Node) (ks : List Node),
    ¬ (s <+: d ∧ s ≠ d) →
    (getAt (setKidsAt root s ks) d).map Node.ident = (getAt root d).map Node.ident := by
  intro s
  induction s with
  | nil =>
    intro d root ks h
    have : d = [] := by
      cases d with
      | nil => rfl
      | cons a t => exact absurd ⟨List.nil_prefix, by simp⟩ h
    subst this; rfl
  | cons i s' ih =>
    intro d root ks h
    cases d with
    | nil =>
      cases hk : root.kids[i]? <;> simp [setKidsAt, hk, getAt, Node.ident]
    | cons j d' =>
      cases hk : root.kids[i]? with
      | none => simp [setKidsAt, hk]
      | some k =>
        simp only [setKidsAt, hk, getAt]
        by_cases e : j = i
        · subst e
          have hi : j < root.kids.length := (List.getElem?_eq_some_iff.1 hk).1
          rw [List.getElem?_set_self hi, hk]
          apply ih d' k ks
          rintro ⟨hp, hne⟩
          exact h ⟨(List.cons_prefix_cons).2 ⟨rfl, hp⟩, by simpa using hne⟩
        · rw [List.getElem?_set_ne (fun h => e h.symm)]

theorem getAt_setKidsAt_exists (s d : List Nat) (root dn : Node) (ks : List Node)
    (h : ¬ (s <+: d ∧ s ≠ d)) (hd : getAt root d = some dn) :
    ∃ dn', getAt (setKidsAt root s ks) d = some dn' ∧ dn'.id = dn.id ∧ dn'.tag = dn.tag := by
  have := getAt_setKidsAt_ident s d root ks h
  rw [hd] at this
  cases hg : getAt (setKidsAt root s ks) d with
  | none => simp [hg] at this
  | some dn' =>
    simp only [hg, Option.map_some, Option.some.injEq, Node.ident, Prod.mk.injEq] at this
    exact ⟨dn', rfl, this.1, this.2⟩

end Qentem.SeqTree
