import Qentem.Model.FmtSpec
import Qentem.Proofs.StrToNumRound
/-! C09 ↔ C11 interface: the formatter area's reference rounding `FmtSpec.nearestBits 52 11` is the
same function as this area's `nearestMag` (plus the sign bit). Two independently written
specifications of IEEE 754 round-to-nearest-even agree.  Then `nearestMag` in `Nat` arithmetic
(`binadeBias`, `nearestMag_bias`) and in the units of the parser's big integer (`nearestMag_units`). -/
namespace Qentem.Round

theorem roundHalfEven_eq_rne (n d : Nat) : FmtSpec.roundHalfEven n d = rne n d := by
  unfold FmtSpec.roundHalfEven rne
  simp only
  generalize n / d = q
  generalize n % d = r
  by_cases h1 : 2 * r < d
  · have h : ¬ (d < 2 * r ∨ 2 * r = d ∧ q % 2 = 1) := by omega
    rw [if_neg h, if_pos h1]
  · by_cases h2 : 2 * r > d
    · have h : d < 2 * r ∨ 2 * r = d ∧ q % 2 = 1 := Or.inl h2
      rw [if_pos h, if_neg h1, if_pos h2]
    · have h3 : 2 * r = d := by omega
      by_cases h4 : q % 2 = 0
      · have h : ¬ (d < 2 * r ∨ 2 * r = d ∧ q % 2 = 1) := by omega
        rw [if_neg h, if_neg h1, if_neg h2, if_pos h4]
      · have h : d < 2 * r ∨ 2 * r = d ∧ q % 2 = 1 := Or.inr ⟨h3, by omega⟩
        rw [if_pos h, if_neg h1, if_neg h2, if_neg h4]

/-- binade exponent of `n/d` as both specifications choose it (`≥ -1022`: gradual underflow) -/
def binadeExp (n d : Nat) : Int := if floorLog2Frac n d < -1022 then -1022 else floorLog2Frac n d

/-- `(A, B)` with `A/B = (n/d) / ulp`: the quotient that is rounded to the 53-bit significand -/
def roundPair (n d : Nat) : Nat × Nat :=
  if 0 ≤ binadeExp n d - 52 then (n, d * 2 ^ (binadeExp n d - 52).toNat)
  else (n * 2 ^ (-(binadeExp n d - 52)).toNat, d)

theorem rne_roundPair (n d : Nat) :
    rne (roundPair n d).1 (roundPair n d).2 =
      if 0 ≤ binadeExp n d - 52 then rne n (d * 2 ^ (binadeExp n d - 52).toNat)
      else rne (n * 2 ^ (-(binadeExp n d - 52)).toNat) d := by
  unfold roundPair; split <;> rfl

theorem nearestMag_pair (n d : Nat) (hn : 0 < n) (hd : 0 < d) :
    nearestMag n d = cap ((binadeExp n d + 1022).toNat * 2 ^ 52 + rne (roundPair n d).1 (roundPair n d).2) := by
  rw [rne_roundPair]
  unfold nearestMag binadeExp cap
  have : ¬ (n = 0 ∨ d = 0) := by omega
  simp only [this, if_false]
  generalize (if floorLog2Frac n d < -1022 then (-1022 : Int) else floorLog2Frac n d) = E
  by_cases hq : 0 ≤ E - 52
  · have t1 : ((52 : Int) - E).toNat = 0 := by omega
    have t2 : (-((52 : Int) - E)).toNat = (E - 52).toNat := by congr 1; omega
    rw [if_pos hq, t1, t2, Nat.pow_zero, Nat.mul_one]
  · have t1 : ((52 : Int) - E).toNat = (-(E - 52)).toNat := by congr 1; omega
    have t2 : (-((52 : Int) - E)).toNat = 0 := by omega
    rw [if_neg hq, t1, t2, Nat.pow_zero, Nat.mul_one]

/-- the exponent expression inside `FmtSpec.nearestBits` is `floorLog2Frac` -/
theorem nearestBits_exponent (num den : Nat) :
    (if (if 0 ≤ (Nat.log2 num : Int) - (Nat.log2 den : Int)
          then decide (den * 2 ^ ((Nat.log2 num : Int) - (Nat.log2 den : Int)).toNat ≤ num)
          else decide (den ≤ num * 2 ^ (-((Nat.log2 num : Int) - (Nat.log2 den : Int))).toNat)) = true
      then (Nat.log2 num : Int) - (Nat.log2 den : Int) else (Nat.log2 num : Int) - (Nat.log2 den : Int) - 1) =
    floorLog2Frac num den := by
  unfold floorLog2Frac
  simp only
  generalize (Nat.log2 num : Int) - (Nat.log2 den : Int) = e0
  by_cases hs : 0 ≤ e0
  · have t : (-e0).toNat = 0 := by omega
    rw [if_pos hs, t, Nat.pow_zero, Nat.mul_one]
    by_cases h : den * 2 ^ e0.toNat ≤ num
    · simp [h]
    · simp [h]
  · have t : e0.toNat = 0 := by omega
    rw [if_neg hs, t, Nat.pow_zero, Nat.mul_one]
    by_cases h : den ≤ num * 2 ^ (-e0).toNat
    · simp [h]
    · simp [h]

theorem nearestBits_eq (neg : Bool) (num den : Nat) (hd : 0 < den) :
    FmtSpec.nearestBits 52 11 neg num den = (if neg then 2 ^ 63 else 0) + nearestMag num den := by
  by_cases h0 : num = 0
  · subst h0
    simp [FmtSpec.nearestBits, nearestMag]
  · have hn : 0 < num := by omega
    rw [nearestMag_pair num den hn hd, rne_roundPair]
    unfold binadeExp
    rw [← nearestBits_exponent num den]
    unfold FmtSpec.nearestBits cap infBits
    simp only [h0, if_false]
    have hbias : ((2 : Int) ^ (11 - 1) - 1) = 1023 := by norm_num
    rw [hbias]
    generalize (if (if 0 ≤ (Nat.log2 num : Int) - (Nat.log2 den : Int)
          then decide (den * 2 ^ ((Nat.log2 num : Int) - (Nat.log2 den : Int)).toNat ≤ num)
          else decide (den ≤ num * 2 ^ (-((Nat.log2 num : Int) - (Nat.log2 den : Int))).toNat)) = true
      then (Nat.log2 num : Int) - (Nat.log2 den : Int) else (Nat.log2 num : Int) - (Nat.log2 den : Int) - 1) = e
    have hemin : ((1 : Int) - 1023) = -1022 := by norm_num
    rw [hemin]
    generalize (if e < -1022 then (-1022 : Int) else e) = E
    have t3 : (E + 1023 - 1).toNat = (E + 1022).toNat := by congr 1; omega
    have hcast : ((52 : Nat) : Int) = 52 := rfl
    rw [t3, hcast]
    have hinf : (2 ^ 11 - 1) * 2 ^ 52 = (0x7FF0000000000000 : Nat) := by norm_num
    rw [hinf]
    have h63 : (2 : Nat) ^ (52 + 11) = 2 ^ 63 := by norm_num
    rw [h63]
    simp only [roundHalfEven_eq_rne, ge_iff_le]

/-- `binadeExp n d + 1022`, the exponent field before a rounding carry, in `Nat` arithmetic -/
def binadeBias (n d : Nat) : Nat :=
  Nat.log2 n + 1022 - Nat.log2 d -
    (if d * 2 ^ (Nat.log2 n - Nat.log2 d) ≤ n * 2 ^ (Nat.log2 d - Nat.log2 n) then 0 else 1)

theorem binadeExp_bias (n d : Nat) : binadeExp n d + 1022 = (binadeBias n d : Int) := by
  unfold binadeExp floorLog2Frac binadeBias
  simp only [ge_iff_le]
  have e1 : (-((Nat.log2 n : Int) - (Nat.log2 d : Int))).toNat = Nat.log2 d - Nat.log2 n := by omega
  have e2 : ((Nat.log2 n : Int) - (Nat.log2 d : Int)).toNat = Nat.log2 n - Nat.log2 d := by omega
  rw [e1, e2]
  split <;> split <;> omega

theorem roundPair_bias (n d : Nat) :
    roundPair n d = (n * 2 ^ (1074 - binadeBias n d), d * 2 ^ (binadeBias n d - 1074)) := by
  have h := binadeExp_bias n d
  unfold roundPair
  split
  · rw [show 1074 - binadeBias n d = 0 by omega, show (binadeExp n d - 52).toNat = binadeBias n d - 1074 by omega,
      Nat.pow_zero, Nat.mul_one]
  · rw [show binadeBias n d - 1074 = 0 by omega, show (-(binadeExp n d - 52)).toNat = 1074 - binadeBias n d by omega,
      Nat.pow_zero, Nat.mul_one]

theorem roundPair_pos (n d : Nat) (hd : 0 < d) : 0 < (roundPair n d).2 := by
  rw [roundPair_bias]; exact Nat.mul_pos hd (Nat.two_pow_pos _)

theorem nearestMag_bias (n d : Nat) (hn : 0 < n) (hd : 0 < d) :
    nearestMag n d = cap (binadeBias n d * 2 ^ 52 +
      rne (n * 2 ^ (1074 - binadeBias n d)) (d * 2 ^ (binadeBias n d - 1074))) := by
  rw [nearestMag_pair n d hn hd, roundPair_bias, binadeExp_bias, Int.toNat_natCast]

theorem binade_of_le (N d : Nat) (hd : 0 < d) (h : d ≤ N) :
    d * 2 ^ Nat.log2 (N / d) ≤ N ∧ N < d * 2 ^ (Nat.log2 (N / d) + 1) := by
  obtain ⟨l1, l2⟩ := log2_bounds (N / d) (Nat.ne_of_gt (Nat.div_pos h hd))
  exact ⟨Nat.le_trans (Nat.mul_le_mul_left _ l1) (Nat.mul_div_le _ _),
    Nat.mul_comm d _ ▸ (Nat.div_lt_iff_lt_mul hd).1 l2⟩

theorem exists_binade (n d : Nat) (hn : 0 < n) (hd : 0 < d) :
    ∃ L sh, d * 2 ^ L ≤ n * 2 ^ sh ∧ n * 2 ^ sh < d * 2 ^ (L + 1) := by
  have hle : d ≤ n * 2 ^ (Nat.log2 d + 1) :=
    Nat.le_trans (Nat.le_of_lt (log2_bounds d (by omega)).2) (Nat.le_mul_of_pos_left _ hn)
  exact ⟨_, Nat.log2 d + 1, binade_of_le _ d hd hle⟩

theorem floorLog2Frac_scale (n d c : Nat) (hn : 0 < n) (hd : 0 < d) (hc : 0 < c) :
    floorLog2Frac (n * c) (d * c) = floorLog2Frac n d := by
  obtain ⟨L, sh, h1, h2⟩ := exists_binade n d hn hd
  rw [floorLog2Frac_shift n d L sh hn hd h1 h2]
  apply floorLog2Frac_shift (n * c) (d * c) L sh (Nat.mul_pos hn hc) (Nat.mul_pos hd hc)
  · calc d * c * 2 ^ L = d * 2 ^ L * c := by ring
      _ ≤ n * 2 ^ sh * c := Nat.mul_le_mul_right _ h1
      _ = n * c * 2 ^ sh := by ring
  · calc n * c * 2 ^ sh = n * 2 ^ sh * c := by ring
      _ < d * 2 ^ (L + 1) * c := Nat.mul_lt_mul_of_pos_right h2 hc
      _ = d * c * 2 ^ (L + 1) := by ring

theorem binadeExp_scale (n d c : Nat) (hn : 0 < n) (hd : 0 < d) (hc : 0 < c) :
    binadeExp (n * c) (d * c) = binadeExp n d := by
  unfold binadeExp; rw [floorLog2Frac_scale n d c hn hd hc]

theorem roundPair_scale (n d c : Nat) (hn : 0 < n) (hd : 0 < d) (hc : 0 < c) :
    roundPair (n * c) (d * c) = ((roundPair n d).1 * c, (roundPair n d).2 * c) := by
  unfold roundPair
  rw [binadeExp_scale n d c hn hd hc]
  split
  · simp only [Prod.mk.injEq, true_and]; ring
  · simp only [Prod.mk.injEq, and_true]; ring

theorem nearestMag_scale (n d c : Nat) (hn : 0 < n) (hd : 0 < d) (hc : 0 < c) :
    nearestMag (n * c) (d * c) = nearestMag n d := by
  rw [nearestMag_pair (n * c) (d * c) (Nat.mul_pos hn hc) (Nat.mul_pos hd hc), nearestMag_pair n d hn hd,
    binadeExp_scale n d c hn hd hc, roundPair_scale n d c hn hd hc]
  simp only
  rw [rne_mul_right _ _ c (roundPair_pos n d hd) hc]

/-! ### In big-integer units: `n/d = N/(d·2^sh)` with `N = n·2^sh` and `d·2^L ≤ N < d·2^(L+1)` -/

theorem binadeBias_units (n d sh L : Nat) (hn : 0 < n) (hd : 0 < d)
    (h1 : d * 2 ^ L ≤ n * 2 ^ sh) (h2 : n * 2 ^ sh < d * 2 ^ (L + 1)) :
    binadeBias n d = max L (sh - 1022) + 1022 - sh := by
  have hfl := floorLog2Frac_shift n d L sh hn hd h1 h2
  have := binadeExp_bias n d
  unfold binadeExp at this
  rw [hfl] at this
  split at this <;> omega

theorem roundPair_units (n d sh L : Nat) (hn : 0 < n) (hd : 0 < d) (hL : 52 ≤ L)
    (h1 : d * 2 ^ L ≤ n * 2 ^ sh) (h2 : n * 2 ^ sh < d * 2 ^ (L + 1)) :
    (roundPair n d).1 * (d * 2 ^ (max L (sh - 1022) - 52)) = n * 2 ^ sh * (roundPair n d).2 := by
  rw [roundPair_bias, binadeBias_units n d sh L hn hd h1 h2]
  have hM : 52 ≤ max L (sh - 1022) ∧ sh - 1022 ≤ max L (sh - 1022) := by omega
  generalize max L (sh - 1022) = M at *
  have he : 1074 - (M + 1022 - sh) + (M - 52) = sh + (M + 1022 - sh - 1074) := by omega
  generalize 1074 - (M + 1022 - sh) = p at he ⊢
  generalize M + 1022 - sh - 1074 = q at he ⊢
  calc n * 2 ^ p * (d * 2 ^ (M - 52)) = n * d * (2 ^ p * 2 ^ (M - 52)) := by ring
    _ = n * d * (2 ^ sh * 2 ^ q) := by rw [← Nat.pow_add, he, Nat.pow_add]
    _ = n * 2 ^ sh * (d * 2 ^ q) := by ring

theorem nearestMag_units (n d sh L : Nat) (hn : 0 < n) (hd : 0 < d) (hL : 52 ≤ L)
    (h1 : d * 2 ^ L ≤ n * 2 ^ sh) (h2 : n * 2 ^ sh < d * 2 ^ (L + 1)) :
    nearestMag n d = cap (ratRaw (n * 2 ^ sh) d sh L) := by
  rw [nearestMag_pair n _ hn hd, binadeExp_bias, Int.toNat_natCast, binadeBias_units n d sh L hn hd h1 h2,
    rne_cross _ _ _ _ (roundPair_pos n d hd) (Nat.mul_pos hd (Nat.two_pow_pos _))
      (roundPair_units n d sh L hn hd hL h1 h2)]
  rfl

theorem exists_units (n d sh : Nat) (hn : 0 < n) (hd : 0 < d) (hlow : 2 ^ 53 * d ≤ n * 2 ^ sh) :
    ∃ L, 52 ≤ L ∧ d * 2 ^ L ≤ n * 2 ^ sh ∧ n * 2 ^ sh < d * 2 ^ (L + 1) ∧
      nearestMag n d = cap (ratRaw (n * 2 ^ sh) d sh L) := by
  obtain ⟨hL1, hL2⟩ := binade_of_le (n * 2 ^ sh) d hd
    (Nat.le_trans (Nat.le_mul_of_pos_left d (by decide)) hlow)
  generalize Nat.log2 (n * 2 ^ sh / d) = L at *
  have hL52 : 52 ≤ L := by
    by_contra hc
    have : d * 2 ^ (L + 1) ≤ d * 2 ^ 53 := Nat.mul_le_mul_left _ (Nat.pow_le_pow_right (by decide) (by omega))
    rw [Nat.mul_comm d (2 ^ 53)] at this
    omega
  exact ⟨L, hL52, hL1, hL2, nearestMag_units n d sh L hn hd hL52 hL1 hL2⟩

end Qentem.Round
