import Qentem.Proofs.JsonGrammar
/-! C07, the "in particular" clause: a well-formed document followed by a non-whitespace unit is rejected
(`trailing_rejected`; after a top-level numeral only when that unit cannot extend it), and every proper prefix of a
well-formed document that is not a bare string or numeral is rejected (`prefix_rejected`; `prefix_rejected_container`
is the form of the property text).  The pieces of a parser step (`Proofs/Json.lean`) on a text that the end of
the buffer cuts (`Cut`), then statements about a run that returned `.ok r`, combined with `parse_run` for
existence. -/
namespace Qentem.Json

def JDoc.isContainer : JDoc → Bool
  | .arr _ _ => true
  | .obj _ _ => true
  | _ => false

/-- string or numeral: the two documents whose reading is delegated to a sub-routine -/
def JDoc.isToken : JDoc → Bool
  | .num _ _ _ => true
  | .str _ _ => true
  | _ => false

theorem JDoc.isToken_of_container {doc : JDoc} (h : doc.isContainer = true) : doc.isToken = false := by
  cases doc <;> simp_all [JDoc.isContainer, JDoc.isToken]

def JDoc.isNum : JDoc → Bool
  | .num _ _ _ => true
  | _ => false

/-! ## Trailing garbage -/

theorem trailing_rejected (d : Deps) (hd : DepsSafe d) (doc : JDoc) (hwf : WF d doc) (wsL wsR : Ws)
    (hL : AllWs wsL) (hR : AllWs wsR) (x : Nat) (t : List Nat) (hx : isWs x = false)
    (hok : doc.isNum = false ∨ wsR ≠ [] ∨ isDelim x = true)
    (hsz0 : (wsL ++ doc.print ++ wsR ++ x :: t).length < 2 ^ 32) :
    parse d (wsL ++ doc.print ++ wsR ++ x :: t).toArray = .ok .undef := by
  have hat := at_zero (wsL ++ doc.print ++ wsR ++ x :: t)
  have hsz : (wsL ++ doc.print ++ wsR ++ x :: t).toArray.size = 0 + wsL.length + doc.print.length + wsR.length + (t.length + 1) := by
    simp; omega
  rw [← List.size_toArray] at hsz0
  generalize (wsL ++ doc.print ++ wsR ++ x :: t).toArray = c at hat hsz hsz0
  rw [List.append_assoc, List.append_assoc] at hat
  obtain ⟨ht, hatd, hatR⟩ := trim_doc hL hwf hat
  have hfollow : FollowOK c (0 + wsL.length + doc.print.length) ∨ ∀ tok kind bits, doc ≠ .num tok kind bits := by
    rcases hok with h1 | h2 | h3
    · right; intro tok kind bits e; rw [e] at h1; cases h1
    · cases wsR with
      | nil => exact absurd rfl h2
      | cons w ws => exact .inl (followOK_of_at hatR (by simp [isDelim, hR w (by simp)]))
    · exact .inl (followOK_ws_or hR h3 hatR)
  obtain ⟨v, o', hv, hp⟩ := parse_run hd hsz0 (by omega)
  rw [ht] at hv
  cases parseValue_print d doc c _ _ _ hsz0 hwf hatd hfollow hv
  rw [hp, (trim_then hR hx hatR).1, if_neg (by omega)]

/-! ## Proper prefixes -/

/-- What is left of the buffer from `o` on is a proper prefix of `l` (the text `l` was cut by the
end of the buffer). -/
def Cut (c : Array Nat) (o : Nat) (l : List Nat) : Prop :=
  o ≤ c.size ∧ c.toList.drop o <+: l ∧ c.size - o < l.length

theorem Cut.nil {c : Array Nat} {o : Nat} : ¬ Cut c o [] := by
  intro h; have := h.2.2; simp at this

theorem Cut.end_of_single {c : Array Nat} {o x : Nat} (h : Cut c o [x]) : o = c.size := by
  have := h.1; have := h.2.2; simp at this; omega

theorem Cut.of_end {c : Array Nat} {o : Nat} {l : List Nat} (ho : o = c.size) (hl : l ≠ []) : Cut c o l := by
  subst ho
  refine ⟨Nat.le_refl _, ?_, ?_⟩
  · rw [List.drop_eq_nil_of_le (by simp)]; exact List.nil_prefix
  · have := List.length_pos_iff.mpr hl; omega

theorem Cut.cons {c : Array Nat} {o x : Nat} {l : List Nat} (h : Cut c o (x :: l)) :
    o = c.size ∨ ∃ hlt : o < c.size, c[o] = x ∧ Cut c (o + 1) l := by
  obtain ⟨hle, hp, hlen⟩ := h
  rcases Nat.lt_or_ge o c.size with hlt | hge
  · right
    refine ⟨hlt, ?_⟩
    have e : c.toList.drop o = c[o] :: c.toList.drop (o + 1) := by
      rw [List.drop_eq_getElem_cons (by simpa using hlt)]; simp
    rw [e] at hp
    have := List.cons_prefix_cons.1 hp
    refine ⟨this.1, by omega, this.2, ?_⟩
    simp at hlen ⊢; omega
  · left; omega

theorem Cut.append {c : Array Nat} {o : Nat} {a b : List Nat} (h : Cut c o (a ++ b)) :
    Cut c o a ∨ (At c o a ∧ Cut c (o + a.length) b) := by
  obtain ⟨hle, hp, hlen⟩ := h
  have hsl : (c.toList.drop o).length = c.size - o := by simp
  rcases Nat.lt_or_ge (c.size - o) a.length with hlt | hge
  · left
    refine ⟨hle, ?_, hlt⟩
    exact List.prefix_of_prefix_length_le hp (List.prefix_append a b) (by rw [hsl]; omega)
  · right
    have hpa : a <+: c.toList.drop o :=
      List.prefix_of_prefix_length_le (List.prefix_append a b) hp (by rw [hsl]; omega)
    refine ⟨hpa, by omega, ?_, ?_⟩
    · obtain ⟨s', hs'⟩ := hpa
      have e : c.toList.drop (o + a.length) = s' := by
        have : c.toList.drop (o + a.length) = (c.toList.drop o).drop a.length := by simp [List.drop_drop]
        rw [this, ← hs']; simp
      rw [e]
      rw [← hs'] at hp
      exact (List.prefix_append_right_inj a).1 hp
    · simp at hlen; omega

theorem trimLeft_cut (c : Array Nat) : ∀ (ws : List Nat) (o x : Nat) (t : List Nat), AllWs ws → isWs x = false →
    Cut c o (ws ++ x :: t) → Cut c (trimLeft c o) (x :: t)
  | [], o, x, t, _, hx, h => by
    rcases Cut.cons (by simpa using h) with he | ⟨hlt, hc, h'⟩
    · rw [trimLeft_end c o (by omega)]; exact Cut.of_end he (by simp)
    · rw [trimLeft_stop c o hlt (hc ▸ hx)]; simpa using h
  | w :: ws, o, x, t, hws, hx, h => by
    rcases Cut.cons (by simpa using h) with he | ⟨hlt, hc, h'⟩
    · rw [trimLeft_end c o (by omega)]; exact Cut.of_end he (by simp)
    · rw [trimLeft_step c o hlt (hc ▸ hws w (by simp))]
      exact trimLeft_cut c ws (o + 1) x t (fun y hy => hws y (by simp [hy])) hx h'

theorem followOK_cut {c : Array Nat} {p : Nat} {ws : Ws} {x : Nat} {t : List Nat} (hws : AllWs ws) (hx : isDelim x = true)
    (h : Cut c p (ws ++ x :: t)) : FollowOK c p := by
  cases ws with
  | nil =>
    rcases Cut.cons (by simpa using h) with he | ⟨hlt, hc, _⟩
    · exact Or.inl he
    · exact Or.inr ⟨hlt, by rw [hc]; exact hx⟩
  | cons w ws =>
    rcases Cut.cons (by simpa using h) with he | ⟨hlt, hc, _⟩
    · exact Or.inl he
    · exact Or.inr ⟨hlt, by rw [hc]; simp [isDelim, hws w (by simp)]⟩

theorem matchKeyword_cut (c : Array Nat) : ∀ (ks : List Nat) (o : Nat), Cut c o ks → (matchKeyword c o ks).2.isEmpty = false
  | [], o, h => absurd h Cut.nil
  | k :: ks, o, h => by
    unfold matchKeyword
    rcases Cut.cons h with he | ⟨hlt, hc, h'⟩
    · simp [show ¬ o < c.size by omega]
    · simp only [hlt, hc, ↓reduceDIte, ↓reduceIte]
      exact matchKeyword_cut c ks (o + 1) h'

/-- Contract of `UnEscape` for a string body cut by the end of the buffer (any proper prefix of
`body ++ "`, the empty one included): the routine rejects it (returns 0) or consumes everything
up to the end of the buffer — the caller then stands at the end of the input and fails. -/
def StrTrunc (d : Deps) (body : List Nat) : Prop :=
  ∀ (c : Array Nat) (o : Nat), Cut c o (body ++ [34]) →
    ∃ r s, d.unEscape c o (c.size - o) = .ok (r, s) ∧ (r = 0 ∨ r = c.size - o)

/-- Contract of `StringToNumber` for a numeral cut by the end of the buffer (a non-empty proper
prefix): not a number, or a number that ends at the end of the buffer. -/
def NumTrunc (d : Deps) (tok : List Nat) : Prop :=
  ∀ (c : Array Nat) (o : Nat), c.size < 2 ^ 32 → o < c.size → Cut c o tok →
    ∃ r, d.strToNum c o c.size = .ok r ∧ (r.kind = .notANumber ∨ r.newOffset = c.size)

mutual
/-- Truncation-safe document: every string body (member names too) and every numeral meets the
truncation contract of the sub-routine that reads it. -/
def TS (d : Deps) : JDoc → Prop
  | .num tok _ _ => NumTrunc d tok
  | .str body _ => StrTrunc d body
  | .arr _ items => TSItems d items
  | .obj _ ms => TSMembers d ms
  | _ => True
def TSItems (d : Deps) : List (Ws × JDoc × Ws) → Prop
  | [] => True
  | (_, doc, _) :: rest => TS d doc ∧ TSItems d rest
def TSMembers (d : Deps) : List (Ws × List Nat × List Nat × Ws × Ws × JDoc × Ws) → Prop
  | [] => True
  | (_, kbody, _, _, _, doc, _) :: rest => StrTrunc d kbody ∧ TS d doc ∧ TSMembers d rest
end

def WFT (d : Deps) (doc : JDoc) : Prop := WF d doc ∧ TS d doc

/-! ### the pieces of a step on a text cut by the end of the buffer -/

theorem cut_doc {d : Deps} {c : Array Nat} {o : Nat} {ws : Ws} {doc : JDoc} {t : List Nat} (hws : AllWs ws) (hwf : WF d doc)
    (h : Cut c o (ws ++ (doc.print ++ t))) : Cut c (trimLeft c o) (doc.print ++ t) := by
  obtain ⟨x, xs, hx, hxd⟩ := print_head d doc hwf
  rw [hx] at h ⊢
  exact trimLeft_cut c ws o x (xs ++ t) hws (not_isWs_of_not_isDelim hxd) h

theorem parseValue_end (d : Deps) (c : Array Nat) (fuel o : Nat) (r : JVal × Nat) (ho : o ≥ c.size)
    (h : parseValue d c fuel o = .ok r) : r = (.undef, c.size) := by
  obtain ⟨fuel, rfl⟩ := parseValue_fuel h
  rw [parseValue_succ, dif_neg (Nat.not_lt.2 ho)] at h; cases h; rfl

theorem arrLoop_end (d : Deps) (c : Array Nat) (fuel o : Nat) (acc : List JVal) (r : JVal × Nat) (ho : o ≥ c.size)
    (h : arrLoop d c fuel o acc = .ok r) : r = (.undef, c.size) := by
  obtain ⟨fuel, rfl⟩ := arrLoop_fuel h
  rw [arrLoop_succ, if_pos ho] at h; cases h; rfl

theorem objLoop_end (d : Deps) (c : Array Nat) (fuel o : Nat) (acc : List (List Nat × JVal)) (r : JVal × Nat) (ho : o ≥ c.size)
    (h : objLoop d c fuel o acc = .ok r) : r = (.undef, c.size) := by
  obtain ⟨fuel, rfl⟩ := objLoop_fuel h
  rw [objLoop_succ, readKey, dif_neg (Nat.not_lt.2 ho)] at h; cases h; rfl

theorem kwValue_cut {c : Array Nat} {o : Nat} {ks : List Nat} (v : JVal) (h : Cut c o ks) :
    kwValue c o ks v = .ok (.undef, c.size) := by
  rw [kwValue, matchKeyword_cut c ks o h]; rfl

theorem stringValue_cut {d : Deps} {c : Array Nat} {o : Nat} {body : List Nat} {r : JVal × Nat} (ht : StrTrunc d body)
    (h : Cut c o (body ++ [34])) : stringValue d c o = .ok r → r.2 = c.size := by
  obtain ⟨len, stream, hu, hlen⟩ := ht c o h
  refine stringValue_cases (P := fun x => x = .ok r → r.2 = c.size) d c o (fun e _ h' => by cases h') (fun h' => by cases h'; rfl)
    fun len' stream' hu' hne h' => ?_
  rw [hu] at hu'; cases hu'; cases h'
  have := h.1
  show o + len = c.size
  omega

theorem numValue_cut {d : Deps} {c : Array Nat} {o : Nat} {tok : List Nat} {r : JVal × Nat} (ht : NumTrunc d tok)
    (hsz : c.size < 2 ^ 32) (hlt : o < c.size) (h : Cut c o tok) : numValue d c o = .ok r → r.2 = c.size := by
  obtain ⟨nr, hnr, hnr2⟩ := ht c o hsz hlt h
  refine numValue_cases (P := fun x => x = .ok r → r.2 = c.size) d c o (fun e _ h' => by cases h') (fun h' => by cases h'; rfl)
    fun nr' v hnr' hk _ h' => ?_
  rw [hnr] at hnr'; cases hnr'; cases h'
  exact hnr2.resolve_left hk

/-- Behind the opening bracket a cut text never shows the closing one. -/
theorem opened_cut {c : Array Nat} {T close x : Nat} {t : List Nat} {loop : M (JVal × Nat)} {empty : JVal}
    (h : Cut c T (x :: t)) (hx : x = close → t = []) : opened c T close loop empty = loop := by
  rcases Cut.cons h with he | ⟨hlt, hc, h1⟩
  · rw [opened, dif_neg (by omega)]
  · rw [opened, dif_pos hlt, if_pos]
    intro e
    rw [hx (hc ▸ e)] at h1
    exact Cut.nil h1

section
variable {c : Array Nat} {r : M (JVal × Nat)} {close : Nat} {next : JVal → Nat → M (JVal × Nat)} {done : JVal → JVal}
  {v : JVal} {o1 : Nat}

theorem elem_end (hr : r = .ok (v, o1)) (hT : c.size ≤ trimLeft c o1) :
    elem c r close next done = .ok (.undef, c.size) := by
  subst hr
  show (if h : trimLeft c o1 < c.size then _ else _) = _
  rw [dif_neg (Nat.not_lt.2 hT)]

/-- After an element whose continuation `y :: t` was cut: the loop fails, or it saw the comma that
was still there and goes on with the rest. -/
theorem elem_cut {y : Nat} {t : List Nat} (hr : r = .ok (v, o1)) (h : Cut c (trimLeft c o1) (y :: t))
    (hy : y = 44 ∨ t = []) :
    elem c r close next done = .ok (.undef, c.size) ∨
      (y = 44 ∧ Cut c (trimLeft c o1 + 1) t ∧ elem c r close next done = next v (trimLeft c (trimLeft c o1 + 1))) := by
  rcases Cut.cons h with he | ⟨hlt, hc, h1⟩
  · exact .inl (elem_end hr (by omega))
  · rcases hy with hy | hy
    · right
      subst hr
      refine ⟨hy, h1, ?_⟩
      show (if h : trimLeft c o1 < c.size then _ else _) = _
      rw [dif_pos hlt, if_pos (hc.trans hy)]
    · rw [hy] at h1
      exact absurd h1 Cut.nil

end

theorem readKey_cut {d : Deps} {c : Array Nat} {o : Nat} {kbody ktext : List Nat} {ws1 : Ws} {t : List Nat}
    {k : List Nat → Nat → M (JVal × Nat)} (hs : StrSpec d kbody ktext) (ht : StrTrunc d kbody) (hws1 : AllWs ws1)
    (h : Cut c o (34 :: ((kbody ++ [34]) ++ (ws1 ++ 58 :: t)))) :
    readKey d c o k = .ok (.undef, c.size) ∨ ∃ T, Cut c T t ∧ readKey d c o k = k ktext (trimLeft c T) := by
  rcases Cut.cons h with he | ⟨hlt, hc, h1⟩
  · exact .inl (by rw [readKey, dif_neg (by omega)])
  rcases Cut.append h1 with hck | ⟨hatk, h2⟩
  · left
    obtain ⟨len, stream, hu, hlen⟩ := ht c (o + 1) hck
    rw [readKey, dif_pos hlt, if_neg fun hne => hne hc, hu]
    simp only [bind, Except.bind]
    rcases hlen with h0 | h0
    · rw [if_pos h0]
    · by_cases h00 : len = 0
      · rw [if_pos h00]
      · rw [if_neg h00, dif_neg]
        rw [trimLeft_end c _ (by omega)]; omega
  · obtain ⟨stream, hu, htext⟩ := hs c (o + 1) hatk
    rw [List.length_append, List.length_singleton] at h2
    have h3 := trimLeft_cut c ws1 _ 58 t hws1 (by decide) h2
    have e : readKey d c o k = if h : trimLeft c (o + 1 + (kbody.length + 1)) < c.size then
        (if c[trimLeft c (o + 1 + (kbody.length + 1))] ≠ 58 then .ok (.undef, c.size)
          else k ktext (trimLeft c (trimLeft c (o + 1 + (kbody.length + 1)) + 1))) else .ok (.undef, c.size) := by
      rw [readKey, dif_pos hlt, if_neg fun hne => hne hc, hu]
      simp only [bind, Except.bind]
      rw [if_neg (Nat.succ_ne_zero _), htext]
    rw [e]
    rcases Cut.cons h3 with he | ⟨hlt1, hc1, h4⟩
    · exact .inl (by rw [dif_neg (by omega)])
    · exact .inr ⟨_, h4, by rw [dif_pos hlt1, if_neg fun hne => hne hc1]⟩

mutual
/-- A value whose text was cut by the end of the buffer: the sub-parse ends at the end of the
buffer (so the enclosing loop fails), and a container (or keyword) is Undefined. -/
theorem parseValue_cut (d : Deps) : ∀ (doc : JDoc) (c : Array Nat) (fuel o : Nat) (r : JVal × Nat), c.size < 2 ^ 32 →
    WF d doc → TS d doc → Cut c o doc.print → parseValue d c fuel o = .ok r →
    r.2 = c.size ∧ (doc.isToken = false → r.1 = .undef)
  | .arr ws0 items, c, fuel, o, r, hsz, hwf, hts, hcut, h => by
    rw [print_arr] at hcut
    rcases Cut.cons hcut with he | ⟨hlt, hc, hcut1⟩
    · rw [parseValue_end d c fuel o r (by omega) h]; simp
    obtain ⟨fuel, rfl⟩ := parseValue_fuel h
    rw [parseValue_arr d c fuel hlt hc] at h
    obtain ⟨fuel, rfl⟩ := parseArray_fuel h
    rw [parseArray_succ] at h
    cases items with
    | nil =>
      rw [opened_cut (trimLeft_cut c ws0 (o + 1) 93 [] hwf.1 (by decide) hcut1) fun _ => rfl] at h
      rw [arrLoop_end d c fuel _ [] r (Nat.le_of_eq (trimLeft_cut c ws0 (o + 1) 93 [] hwf.1 (by decide) hcut1).end_of_single.symm) h]; simp
    | cons i rest =>
      obtain ⟨wsB, doc, wsA⟩ := i
      obtain ⟨x, xs, hx, hxd⟩ := print_head d doc hwf.2.2.1
      have hcut2 := hcut1
      rw [printItems_cons_true, hx] at hcut2
      rw [opened_cut (close := 93) (trimLeft_cut c ws0 (o + 1) x _ hwf.1 (not_isWs_of_not_isDelim hxd) hcut2)
        fun e => absurd (e ▸ hxd : isDelim 93 = false) (by decide)] at h
      rw [arrLoop_cut_ws d _ ws0 c fuel (o + 1) [] r hsz (List.cons_ne_nil _ _) hwf.2 hts hwf.1 hcut1 h]; simp
  | .obj ws0 ms, c, fuel, o, r, hsz, hwf, hts, hcut, h => by
    rw [print_obj] at hcut
    rcases Cut.cons hcut with he | ⟨hlt, hc, hcut1⟩
    · rw [parseValue_end d c fuel o r (by omega) h]; simp
    obtain ⟨fuel, rfl⟩ := parseValue_fuel h
    rw [parseValue_obj d c fuel hlt hc] at h
    obtain ⟨fuel, rfl⟩ := parseObject_fuel h
    rw [parseObject_succ] at h
    cases ms with
    | nil =>
      rw [opened_cut (trimLeft_cut c ws0 (o + 1) 125 [] hwf.1 (by decide) hcut1) fun _ => rfl] at h
      rw [objLoop_end d c fuel _ [] r (Nat.le_of_eq (trimLeft_cut c ws0 (o + 1) 125 [] hwf.1 (by decide) hcut1).end_of_single.symm) h]; simp
    | cons m rest =>
      obtain ⟨wsB, kbody, ktext, ws1, ws2, doc, wsA⟩ := m
      have hcut2 := hcut1
      rw [printMembers_cons_true] at hcut2
      rw [opened_cut (trimLeft_cut c ws0 (o + 1) 34 _ hwf.1 (by decide) hcut2) fun e => absurd e (by decide)] at h
      rw [objLoop_cut_ws d _ ws0 c fuel (o + 1) [] r hsz (List.cons_ne_nil _ _) hwf.2 hts hwf.1 hcut1 h]; simp
  | .null, c, fuel, o, r, _, _, _, hcut, h | .tru, c, fuel, o, r, _, _, _, hcut, h | .fals, c, fuel, o, r, _, _, _, hcut, h => by
    rcases Cut.cons hcut with he | ⟨hlt, hc, hcut1⟩
    · rw [parseValue_end d c fuel o r (by omega) h]; simp
    obtain ⟨fuel, rfl⟩ := parseValue_fuel h
    rw [parseValue_succ, dif_pos hlt, hc] at h
    simp only [Nat.reduceEqDiff, ↓reduceIte] at h
    cases (kwValue_cut _ hcut1).symm.trans h; simp
  | .num tok kind bits, c, fuel, o, r, hsz, hwf, hts, hcut, h => by
    obtain ⟨x, xs, htok, _⟩ := hwf.2.1
    refine ⟨?_, by simp [JDoc.isToken]⟩
    rcases Cut.cons (htok ▸ hcut) with he | ⟨hlt, hc, _⟩
    · rw [parseValue_end d c fuel o r (by omega) h]
    obtain ⟨fuel, rfl⟩ := parseValue_fuel h
    rw [parseValue_num fuel hwf hlt ⟨xs, hc ▸ htok⟩] at h
    exact numValue_cut hts hsz hlt hcut h
  | .str body text, c, fuel, o, r, _, hwf, hts, hcut, h => by
    refine ⟨?_, by simp [JDoc.isToken]⟩
    rcases Cut.cons hcut with he | ⟨hlt, hc, hcut1⟩
    · rw [parseValue_end d c fuel o r (by omega) h]
    obtain ⟨fuel, rfl⟩ := parseValue_fuel h
    rw [parseValue_str d c fuel hlt hc] at h
    exact stringValue_cut hts hcut1 h
theorem arrLoop_cut_ws (d : Deps) : ∀ (items : List (Ws × JDoc × Ws)) (ws : Ws) (c : Array Nat) (fuel o : Nat) (acc : List JVal)
    (r : JVal × Nat), c.size < 2 ^ 32 → items ≠ [] → WFItems d items → TSItems d items → AllWs ws →
    Cut c o (ws ++ (printItems items true ++ [93])) → arrLoop d c fuel (trimLeft c o) acc = .ok r → r = (.undef, c.size)
  | [], _, _, _, _, _, _, _, hne, _, _, _, _, _ => absurd rfl hne
  | (wsB, doc, wsA) :: rest, ws, c, fuel, o, acc, r, hsz, _, hwf, hts, hws, hcut, h => by
    obtain ⟨fuel, rfl⟩ := arrLoop_fuel h
    obtain ⟨_, hdoc, hwsA, hrest⟩ := hwf
    rw [printItems_cons_true] at hcut
    have hcut0 := cut_doc hws hdoc hcut
    by_cases ho : trimLeft c o ≥ c.size
    · exact arrLoop_end d c _ _ acc r ho h
    rw [arrLoop_succ, if_neg ho] at h
    obtain ⟨v, o1, hv⟩ := elem_ok h
    rcases Cut.append hcut0 with hc1 | ⟨hatd, hc2⟩
    · have hend : o1 = c.size := (parseValue_cut d doc c fuel _ _ hsz hdoc hts.1 hc1 hv).1
      rw [elem_end hv (by rw [hend, trimLeft_end c _ (Nat.le_refl _)]; exact Nat.le_refl _)] at h
      cases h; rfl
    · cases rest with
      | nil =>
        cases parseValue_print d doc c fuel _ _ hsz hdoc hatd (.inl (followOK_cut (x := 93) (t := []) hwsA (by decide) hc2)) hv
        rcases elem_cut hv (trimLeft_cut c wsA _ 93 [] hwsA (by decide) hc2) (.inr rfl) with e | ⟨e, _⟩
        · rw [e] at h; cases h; rfl
        · cases e
      | cons i2 rest2 =>
        obtain ⟨wsB2, doc2, wsA2⟩ := i2
        rw [printItems_false] at hc2
        cases parseValue_print d doc c fuel _ _ hsz hdoc hatd (.inl (followOK_cut (x := 44) hwsA (by decide) hc2)) hv
        rcases elem_cut hv (trimLeft_cut c wsA _ 44 _ hwsA (by decide) hc2) (.inl rfl) with e | ⟨_, hc3, e⟩
        · rw [e] at h; cases h; rfl
        · rw [e] at h
          exact arrLoop_cut_ws d _ wsB2 c fuel _ _ r hsz (List.cons_ne_nil _ _) hrest hts.2 hrest.1 hc3 h
theorem objLoop_cut_ws (d : Deps) : ∀ (ms : List (Ws × List Nat × List Nat × Ws × Ws × JDoc × Ws)) (ws : Ws) (c : Array Nat)
    (fuel o : Nat) (acc : List (List Nat × JVal)) (r : JVal × Nat), c.size < 2 ^ 32 → ms ≠ [] → WFMembers d ms →
    TSMembers d ms → AllWs ws → Cut c o (ws ++ (printMembers ms true ++ [125])) →
    objLoop d c fuel (trimLeft c o) acc = .ok r → r = (.undef, c.size)
  | [], _, _, _, _, _, _, _, hne, _, _, _, _, _ => absurd rfl hne
  | (wsB, kbody, ktext, ws1, ws2, doc, wsA) :: rest, ws, c, fuel, o, acc, r, hsz, _, hwf, hts, hws, hcut, h => by
    obtain ⟨fuel, rfl⟩ := objLoop_fuel h
    obtain ⟨_, hkey, hws1, hws2, hdoc, hwsA, hrest⟩ := hwf
    rw [printMembers_cons_true] at hcut
    rw [objLoop_succ] at h
    rcases readKey_cut hkey hts.1 hws1 (trimLeft_cut c ws o 34 _ hws (by decide) hcut) with e | ⟨T, hcutv, e⟩
    · rw [e] at h; cases h; rfl
    rw [e] at h
    have hcut0 := cut_doc hws2 hdoc hcutv
    obtain ⟨v, o1, hv⟩ := elem_ok h
    rcases Cut.append hcut0 with hc1 | ⟨hatd, hc2⟩
    · have hend : o1 = c.size := (parseValue_cut d doc c fuel _ _ hsz hdoc hts.2.1 hc1 hv).1
      rw [elem_end hv (by rw [hend, trimLeft_end c _ (Nat.le_refl _)]; exact Nat.le_refl _)] at h
      cases h; rfl
    · cases rest with
      | nil =>
        cases parseValue_print d doc c fuel _ _ hsz hdoc hatd (.inl (followOK_cut (x := 125) (t := []) hwsA (by decide) hc2)) hv
        rcases elem_cut hv (trimLeft_cut c wsA _ 125 [] hwsA (by decide) hc2) (.inr rfl) with e | ⟨e, _⟩
        · rw [e] at h; cases h; rfl
        · cases e
      | cons m2 rest2 =>
        obtain ⟨wsB2, kbody2, ktext2, ws12, ws22, doc2, wsA2⟩ := m2
        rw [printMembers_false] at hc2
        cases parseValue_print d doc c fuel _ _ hsz hdoc hatd (.inl (followOK_cut (x := 44) hwsA (by decide) hc2)) hv
        rcases elem_cut hv (trimLeft_cut c wsA _ 44 _ hwsA (by decide) hc2) (.inl rfl) with e | ⟨_, hc3, e⟩
        · rw [e] at h; cases h; rfl
        · rw [e] at h
          exact objLoop_cut_ws d _ wsB2 c fuel _ _ r hsz (List.cons_ne_nil _ _) hrest hts.2.2 hrest.1 hc3 h
end

theorem objLoop_cut (d : Deps) : ∀ (ms : List (Ws × List Nat × List Nat × Ws × Ws × JDoc × Ws)) (c : Array Nat) (fuel o : Nat)
    (acc : List (List Nat × JVal)) (r : JVal × Nat),
    c.size < 2 ^ 32 → ms ≠ [] → WFMembers d ms → TSMembers d ms → Cut c o (printMembers ms true ++ [125]) →
    objLoop d c fuel o acc = .ok r → r = (.undef, c.size)
  | ms, c, fuel, o, acc, r, hsz, hne, hwf, hts, hcut, h => by
    have ht : trimLeft c o = o := by
      cases ms with
      | nil => exact absurd rfl hne
      | cons m rest =>
        obtain ⟨wsB, kbody, ktext, ws1, ws2, doc, wsA⟩ := m
        rw [printMembers_cons_true] at hcut
        rcases Cut.cons hcut with he | ⟨hlt, hc, _⟩
        · exact trimLeft_end c o (by omega)
        · exact trimLeft_stop c o hlt (by rw [hc]; decide)
    exact objLoop_cut_ws d ms [] c fuel o acc r hsz hne hwf hts (fun _ h => nomatch h) hcut (ht.symm ▸ h)

theorem prefix_rejected (d : Deps) (hd : DepsSafe d) (doc : JDoc) (hwf : WF d doc) (hts : TS d doc)
    (hnt : doc.isToken = false) (wsL : Ws) (hL : AllWs wsL) (k : Nat) (hk : k < doc.print.length)
    (hsz0 : (wsL ++ doc.print.take k).length < 2 ^ 32) :
    parse d (wsL ++ doc.print.take k).toArray = .ok .undef := by
  have hcut0 : Cut (wsL ++ doc.print.take k).toArray 0 (wsL ++ (doc.print ++ [])) := by
    refine ⟨Nat.zero_le _, ?_, ?_⟩
    · simpa using List.take_prefix _ _
    · simp; omega
  rw [← List.size_toArray] at hsz0
  generalize (wsL ++ doc.print.take k).toArray = c at hcut0 hsz0
  have hcut1 := cut_doc hL hwf hcut0
  rw [List.append_nil] at hcut1
  by_cases hne : c.size = 0
  · rw [parse, if_pos hne]; rfl
  · obtain ⟨v, o', hv, hp⟩ := parse_run hd hsz0 hne
    have h2 : v = .undef := (parseValue_cut d doc c _ _ _ hsz0 hwf hts hcut1 hv).2 hnt
    rw [hp, h2, ite_self]

theorem prefix_rejected_container (d : Deps) (hd : DepsSafe d) (doc : JDoc) (hwf : WF d doc) (hts : TS d doc)
    (hcont : doc.isContainer = true) (wsL : Ws) (hL : AllWs wsL) (k : Nat) (hk : k < doc.print.length)
    (hsz0 : (wsL ++ doc.print.take k).length < 2 ^ 32) :
    parse d (wsL ++ doc.print.take k).toArray = .ok .undef :=
  prefix_rejected d hd doc hwf hts (JDoc.isToken_of_container hcont) wsL hL k hk hsz0

end Qentem.Json
