import Qentem.Model.NumToStr
import Qentem.Model.FmtSpec
import Mathlib.Tactic.Ring
/-! Helper lemmas for C10: the masks of `RealNumberInfo` extract the IEEE 754 fields, and the
model prints the reference text for every non-finite pattern; a finite non-zero pattern is handed to `realFinite`. -/
namespace Qentem.Proofs.NumToStr
open Qentem.NumToStr Qentem.Generated.NumToStr Qentem

theorem and_field (n j k : Nat) : n &&& ((2 ^ j - 1) * 2 ^ k) = ((n / 2 ^ k) % 2 ^ j) * 2 ^ k := by
  apply Nat.eq_of_testBit_eq
  intro i
  simp only [Nat.testBit_and, Nat.testBit_mul_two_pow, Nat.testBit_mod_two_pow, Nat.testBit_div_two_pow, Nat.testBit_two_pow_sub_one]
  by_cases h : k ≤ i
  · simp [h]
    by_cases h2 : i - k < j <;> simp [h2, Bool.and_comm]
  · simp [h]

/-- `RealNumberInfo` of the IEEE 754 binary format with `M` trailing-significand and `X` exponent bits -/
structure Masks (c : Cfg) (M X : Nat) : Prop where
  emask : c.exponentMask = (2 ^ X - 1) * 2 ^ M
  mmask : c.mantissaMask = 2 ^ M - 1
  smask : c.signMask = 2 ^ (M + X)

theorem masks64 : Masks f64 52 11 := ⟨rfl, rfl, rfl⟩

theorem masks32 : Masks f32 23 8 := ⟨rfl, rfl, rfl⟩

theorem fields {c : Cfg} {M X : Nat} (hc : Masks c M X) (bits : Nat) :
    bits &&& c.exponentMask = ((bits / 2 ^ M) % 2 ^ X) * 2 ^ M ∧
    bits &&& c.mantissaMask = bits % 2 ^ M ∧
    (bits &&& c.signMask ≠ 0 ↔ bits / 2 ^ (M + X) % 2 = 1) := by
  refine ⟨?_, ?_, ?_⟩
  · rw [hc.emask]; exact and_field bits X M
  · rw [hc.mmask]; exact Nat.and_two_pow_sub_one_eq_mod bits M
  · have h := and_field bits 1 (M + X)
    rw [show (2 ^ 1 - 1) * 2 ^ (M + X) = 2 ^ (M + X) from Nat.one_mul _] at h
    have hpos := Nat.two_pow_pos (M + X)
    rw [hc.smask, h, Nat.pow_one, Nat.mul_ne_zero_iff]
    omega

def fmtOf (f : Nat) : FmtSpec.Fmt := if f = fmtFixed then .fixed else if f = fmtSemiFixed then .semiFixed else .default

theorem sign_append (neg : Prop) [Decidable neg] (pre body : List Nat) :
    (if neg then pre ++ [Ch.negative] else pre) ++ body = pre ++ FmtSpec.signed (decide neg) body := by
  by_cases h : neg <;> simp [h, FmtSpec.signed, FmtSpec.cMinus, Ch.negative]

theorem nonfinite {c : Cfg} {M X : Nat} (hc : Masks c M X) (pre : List Nat) (bits p f : Nat)
    (he : (bits / 2 ^ M) % 2 ^ X = 2 ^ X - 1) :
    realToString c pre bits p f = .ok (pre ++ FmtSpec.formatVal (FmtSpec.decode M X bits) p (fmtOf f)) := by
  obtain ⟨h1, h2, h3⟩ := fields hc bits
  have hb : bits &&& c.exponentMask = c.exponentMask := by rw [h1, he, hc.emask]
  unfold realToString FmtSpec.decode
  simp only [hb, h2, h3, he, ne_eq, not_true_eq_false, if_true, if_false]
  by_cases hf : bits % 2 ^ M = 0
  · simp only [hf, if_true, FmtSpec.formatVal, ← sign_append]
    rfl
  · simp only [hf, if_false, FmtSpec.formatVal]
    rfl

/-- the reference text of a non-negative finite value `num / den` in the format numbered `f` -/
def refBody (f num den p : Nat) : List Nat :=
  if f = fmtFixed then FmtSpec.fixedBody num den p
  else if f = fmtSemiFixed then FmtSpec.stripFraction (FmtSpec.fixedBody num den p)
  else FmtSpec.generalBody num den p

theorem formatVal_fin (neg : Bool) (num den p f : Nat) :
    FmtSpec.formatVal (.fin neg num den) p (fmtOf f) = FmtSpec.signed neg (refBody f num den p) := by
  unfold fmtOf refBody
  split
  · rfl
  · split <;> rfl

theorem realToString_finite {c : Cfg} {M X : Nat} (hc : Masks c M X) (pre : List Nat) (bits p f : Nat)
    (hfin : (bits / 2 ^ M) % 2 ^ X ≠ 2 ^ X - 1) (hnz : (bits / 2 ^ M) % 2 ^ X ≠ 0 ∨ bits % 2 ^ M ≠ 0) :
    realToString c pre bits p f =
      realFinite c (if bits / 2 ^ (M + X) % 2 = 1 then pre ++ [Ch.negative] else pre) (bits % 2 ^ M)
        ((bits / 2 ^ M) % 2 ^ X * 2 ^ M) (if f = fmtDefault ∧ p = 0 then 1 else p) f := by
  obtain ⟨h1, h2, h3⟩ := fields hc bits
  have h2M := Nat.two_pow_pos M
  have hne : ¬ ((bits / 2 ^ M) % 2 ^ X * 2 ^ M = c.exponentMask) := by
    rw [hc.emask]; exact fun h => hfin (Nat.eq_of_mul_eq_mul_right h2M h)
  have hnz' : ¬ (bits % 2 ^ M = 0) ∨ ¬ ((bits / 2 ^ M) % 2 ^ X * 2 ^ M = 0) :=
    hnz.symm.imp id (fun h => Nat.mul_ne_zero h h2M.ne')
  unfold realToString
  simp only [h1, h2, h3, ne_eq, hne, hnz', not_false_eq_true, if_true]

end Qentem.Proofs.NumToStr
