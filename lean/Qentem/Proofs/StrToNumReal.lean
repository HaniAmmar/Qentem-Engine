import Qentem.Proofs.StrToNumInt
/-! C09 helper lemmas: how the scanner walks over `digits . digits` — where the offset ends up and
when the result is `NotANumber` (second dot, empty exponent). Positions (`digitsOn`), not lists; `Stop` / `Outcome` say
what sits behind the fraction digits and the result it forces. The list lemmas of `StrToNumInt` / `StrToNumScan` compute the
value and so cut the text at the window and bound its length; these need neither, which is what the malformed stops and the offset
theorems want. In between, facts on `realResult` alone: the generated tables have 28 entries (`tables_len`), the two
scalings never fail (`posScale_some`, `negScale_some`), and its result case by case (`realResult_zero`, `_pos_nan`,
`_pos_real`, `_neg_nan`, `_some`). -/
namespace Qentem.StrToNum
open Qentem.Generated.StrToNum

/-- every position in `[i, j)` holds a digit -/
def digitsOn (c : List Nat) (e i j : Nat) : Prop := ∀ k, i ≤ k → k < j → ∃ d, rd c e k = some d ∧ isDigit d = true

theorem digitsOn_mono {c : List Nat} {e i j i' : Nat} (h : digitsOn c e i j) (hi : i ≤ i') : digitsOn c e i' j :=
  fun k h1 h2 => h k (Nat.le_trans hi h1) h2

theorem digitsOn_of_unitsAt (c : List Nat) (e : Nat) : ∀ (l : List Nat) (off : Nat), AllDigits l → unitsAt c e off l →
    digitsOn c e off (off + l.length)
  | [], off, _, _ => fun k h1 h2 => by simp at h2; omega
  | x :: xs, off, hd, hu => by
    intro k h1 h2
    by_cases hk : k = off
    · subst hk; exact ⟨x, hu.1, hd x (by simp)⟩
    · exact digitsOn_of_unitsAt c e xs (off + 1) (fun y hy => hd y (by simp [hy])) hu.2 k (by omega)
        (by simp at h2; omega)

theorem scanDigits_on (c : List Nat) (e j : Nat) : ∀ (k off num dg : Nat), digitsOn c e off j → off + k ≤ j →
    ∃ num' d', scanDigits c e k off num dg = some (off + k, num', d') ∧ ((k = 0 ∧ d' = dg) ∨ isDigit d' = true)
  | 0, off, num, dg, _, _ => ⟨num, dg, rfl, Or.inl ⟨rfl, rfl⟩⟩
  | k + 1, off, num, dg, hd, hk => by
    obtain ⟨d, hr, hdig⟩ := hd off (Nat.le_refl _) (by omega)
    obtain ⟨num', d', h1, h2⟩ := scanDigits_on c e j k (off + 1) (pushDigit num d) d (digitsOn_mono hd (by omega)) (by omega)
    refine ⟨num', d', ?_, Or.inr ?_⟩
    · rw [scanDigits, hr]; simp only [hdig, if_true]; rw [h1]; congr 2; omega
    · rcases h2 with ⟨_, h⟩ | h
      · rw [h]; exact hdig
      · exact h

theorem iter1_on (c : List Nat) (e W num off dg dotOff : Nat) (isReal : Bool) (j : Nat) (hdg : dg ≠ 46)
    (hd : digitsOn c e off j) (hoW : off ≤ W) (hWj : W ≤ j) (hje : j ≤ e) :
    ∃ num', iter1 c e W num off dg false dotOff isReal = some (.inr ⟨num', W, false, dotOff, isReal⟩) := by
  by_cases hoe : off < e
  · obtain ⟨num', d', hs, hd'⟩ := scanDigits_on c e j (W - off) off num dg hd (by omega)
    have hne : d' ≠ 46 := by
      rcases hd' with ⟨_, h⟩ | h
      · rw [h]; exact hdg
      · exact isDigit_ne_dot h
    rw [iter1_noDot c e W num off dg dotOff isReal hoe, hs]; simp only [hne, if_false]
    exact ⟨num', by congr 3; omega⟩
  · rw [iter1_atEnd c e W num off dg dotOff isReal hoe, show W = off by omega]; exact ⟨_, rfl⟩

theorem scanDigits_hit (c : List Nat) (e j x : Nat) (hx : rd c e j = some x) (hxd : isDigit x = false) :
    ∀ (k off num dg : Nat), digitsOn c e off j → off ≤ j → j < off + k →
    ∃ num', scanDigits c e k off num dg = some (j, num', x)
  | 0, off, num, dg, _, h1, h2 => by omega
  | k + 1, off, num, dg, hd, h1, h2 => by
    by_cases hj : off = j
    · subst hj
      exact ⟨num, by rw [scanDigits, hx]; simp [hxd]⟩
    · obtain ⟨d, hr, hdig⟩ := hd off (Nat.le_refl _) (by omega)
      obtain ⟨num', h⟩ := scanDigits_hit c e j x hx hxd k (off + 1) (pushDigit num d) d (digitsOn_mono hd (by omega)) (by omega) (by omega)
      exact ⟨num', by rw [scanDigits, hr]; simp only [hdig, if_true]; exact h⟩

theorem tailLoop_on (c : List Nat) (e num j : Nat) : ∀ (k off : Nat) (hasDot : Bool) (dotOff : Nat),
    digitsOn c e off j → off ≤ j → j ≤ off + k →
    tailLoop c e num k off hasDot dotOff = tailLoop c e num (k - (j - off)) j hasDot dotOff
  | 0, off, hasDot, dotOff, _, h1, h2 => by
    have : off = j := by omega
    subst this; simp
  | k + 1, off, hasDot, dotOff, hd, h1, h2 => by
    by_cases hj : off = j
    · subst hj; simp
    · obtain ⟨d, hr, hdig⟩ := hd off (Nat.le_refl _) (by omega)
      rw [tailLoop, hr]; simp only [hdig, if_true]
      rw [tailLoop_on c e num j k (off + 1) hasDot dotOff (digitsOn_mono hd (by omega)) (by omega) (by omega)]
      congr 1; omega

theorem tailLoop_skip (c : List Nat) (e num j off : Nat) (hasDot : Bool) (dotOff : Nat) (hd : digitsOn c e off j)
    (h1 : off ≤ j) (h2 : j ≤ e) :
    tailLoop c e num (e - off) off hasDot dotOff = tailLoop c e num (e - j) j hasDot dotOff := by
  rw [tailLoop_on c e num j (e - off) off hasDot dotOff hd h1 (by omega), show e - off - (j - off) = e - j by omega]

theorem tailLoop_stop (c : List Nat) (e num off : Nat) (hasDot : Bool) (dotOff : Nat)
    (h : endsAt c e off contReal) :
    tailLoop c e num (e - off) off hasDot dotOff = some (.inr ⟨off, hasDot, dotOff, 0, 0, false⟩) := by
  rcases h with h | ⟨x, hx, hc⟩
  · subst h; simp [tailLoop]
  · simp only [contReal, Bool.or_eq_false_iff, beq_eq_false_iff_ne] at hc
    obtain ⟨⟨h1, h2⟩, h3⟩ := hc
    have h4 : ¬ (x = 101 ∨ x = 69) := by simp [isDotOrE] at h3; omega
    rw [tailLoop_read num _ hasDot dotOff hx (Nat.sub_pos_of_lt (rd_lt hx))]; simp [h1, h2, h4]

theorem tailLoop_secondDot (c : List Nat) (e num off dotOff : Nat) (h : rd c e off = some 46) :
    tailLoop c e num (e - off) off true dotOff = some (.inl ⟨.notANumber, num, off⟩) := by
  rw [tailLoop_read num _ true dotOff h (Nat.sub_pos_of_lt (rd_lt h))]; simp [isDigit]

theorem tailLoop_firstDot (c : List Nat) (e num off dotOff : Nat) (h : rd c e off = some 46) :
    tailLoop c e num (e - off) off false dotOff = tailLoop c e num (e - (off + 1)) (off + 1) true off := by
  rw [tailLoop_read num _ false dotOff h (Nat.sub_pos_of_lt (rd_lt h)), Nat.sub_sub]; simp [isDigit]

/-- an exponent marker followed by no digit (end, a non-digit, or a sign followed by no digit) -/
def emptyExpAt (c : List Nat) (e q : Nat) : Prop :=
  endsAt c e q (fun x => isDigit x || x == 43 || x == 45) ∨
  ∃ s, rd c e q = some s ∧ (s = 43 ∨ s = 45) ∧ endsAt c e (q + 1) isDigit

theorem expDigits_none (c : List Nat) (e q : Nat) (h : endsAt c e q isDigit) :
    expDigits c e (e - q) q 0 = some (0, q) := by
  rcases h with h | ⟨x, hx, hc⟩
  · subst h; simp [expDigits]
  · rw [expDigits_read _ 0 hx (Nat.sub_pos_of_lt (rd_lt hx))]; simp [hc]

theorem parseExponent_empty (c : List Nat) (e q : Nat) (h : emptyExpAt c e q) :
    ∃ x n o, parseExponent c e q = some (false, x, n, o) := by
  unfold parseExponent
  rcases h with h | ⟨s, hs, hsign, hend⟩
  · rcases h with h | ⟨x, hx, hc⟩
    · subst h; simp
    · have hlt := rd_lt hx
      simp only [Bool.or_eq_false_iff, beq_eq_false_iff_ne] at hc
      have hns : ¬ (x = 43 ∨ x = 45) := by omega
      simp only [hlt, if_true, hx, hns, if_false]
      rw [expDigits_none c e q (Or.inr ⟨x, hx, hc.1.1⟩)]
      exact ⟨0, false, q, by simp⟩
  · have hlt := rd_lt hs
    simp only [hlt, if_true, hs, hsign]
    by_cases h1 : q + 1 < e
    · simp only [h1, if_true]
      rcases hend with h | ⟨y, hy, hc⟩
      · omega
      · simp only [hy]
        by_cases hy2 : y = 43 ∨ y = 45
        · simp only [hy2, if_true]; exact ⟨0, _, _, rfl⟩
        · simp only [hy2, if_false]
          rw [expDigits_none c e (q + 1) (Or.inr ⟨y, hy, hc⟩)]
          exact ⟨0, (s == 45), q + 1, by simp⟩
    · simp only [h1, if_false]; exact ⟨0, _, _, rfl⟩

theorem tailLoop_emptyExp (c : List Nat) (e num off : Nat) (hasDot : Bool) (dotOff : Nat) (m : Nat)
    (hm : rd c e off = some m) (hmE : m = 101 ∨ m = 69) (h : emptyExpAt c e (off + 1)) :
    ∃ o, tailLoop c e num (e - off) off hasDot dotOff = some (.inl ⟨.notANumber, num, o⟩) := by
  obtain ⟨x, n, o, hp⟩ := parseExponent_empty c e (off + 1) h
  obtain ⟨h1, h2, _⟩ := marker_sep hmE
  rw [tailLoop_read num _ hasDot dotOff hm (Nat.sub_pos_of_lt (rd_lt hm))]
  simp only [h1, h2, hmE, if_true, if_false, Bool.false_eq_true, hp]
  exact ⟨o, rfl⟩

/-- what sits at the position `Q` where the digits after the dot stop -/
inductive Stop where
  | good      -- `end_offset`, or a unit that cannot continue the numeral
  | dot       -- a second dot
  | emptyExp  -- `e`/`E` followed by no exponent digits
deriving DecidableEq

def stopAt (c : List Nat) (e Q : Nat) : Stop → Prop
  | .good => endsAt c e Q contReal
  | .dot => rd c e Q = some 46
  | .emptyExp => ∃ m, rd c e Q = some m ∧ (m = 101 ∨ m = 69) ∧ emptyExpAt c e (Q + 1)

/-- expected shape of a result: consumed up to `Q` as Real (or rejected as out of range) when the
stop is good, otherwise NotANumber -/
def Outcome (st : Stop) (Q : Nat) (r : Option Res) : Prop :=
  match st with
  | .good => ∃ x, r = some x ∧ x.offset = Q ∧ (x.kind = .real ∨ x.kind = .notANumber)
  | _ => ∃ b o, r = some ⟨.notANumber, b, o⟩

theorem tables_len : powerOfFive.length = 28 ∧ powerOfOneOverFive.length = 28 ∧ powerOfOneOverFiveShift.length = 28 ∧
    maxPowerOfFive = 27 := by decide

theorem posScale_some (num x : Nat) : ∃ bs, posScale num x = some bs := by
  obtain ⟨h1, _, _, h4⟩ := tables_len
  unfold posScale
  have hr : x % maxPowerOfFive < powerOfFive.length := by rw [h1, h4]; exact Nat.lt_trans (Nat.mod_lt _ (by decide)) (by decide)
  have h27 : maxPowerOfFive < powerOfFive.length := by rw [h1, h4]; decide
  rw [List.getElem?_eq_getElem h27]
  simp only
  split
  · rw [List.getElem?_eq_getElem hr]; exact ⟨_, rfl⟩
  · exact ⟨_, rfl⟩

theorem negScale_some (num x : Nat) : ∃ bs, negScale num x = some bs := by
  obtain ⟨_, h2, h3, h4⟩ := tables_len
  unfold negScale
  have hr : x % maxPowerOfFive < 28 := by rw [h4]; exact Nat.lt_trans (Nat.mod_lt _ (by decide)) (by decide)
  have h27 : maxPowerOfFive < 28 := by rw [h4]; decide
  rw [List.getElem?_eq_getElem (h2 ▸ h27), List.getElem?_eq_getElem (h3 ▸ h27)]
  simp only
  split
  · rw [List.getElem?_eq_getElem (h2 ▸ hr), List.getElem?_eq_getElem (h3 ▸ hr)]; exact ⟨_, rfl⟩
  · exact ⟨_, rfl⟩

/-! `realResult` case by case: a zero mantissa, and per sign of the decimal exponent the range test and the scaling. -/

theorem realResult_zero (neg : Bool) (ep10 x : Nat) (ne : Bool) (off : Nat) :
    realResult neg 0 ep10 x ne off = some ⟨.real, 0 ||| (if neg then 0x8000000000000000 else 0), off⟩ := by
  unfold realResult; simp

theorem realResult_pos_nan (neg : Bool) (num ep10 x off : Nat) (hnum : num ≠ 0) (h : add32 x ep10 > 309) :
    realResult neg num ep10 x false off = some ⟨.notANumber, num, off⟩ := by
  unfold realResult; simp [hnum, h]

theorem realResult_pos_real (neg : Bool) (num ep10 x off p : Nat) (hnum : num ≠ 0) (h : ¬ add32 x ep10 > 309)
    (hp : powerOfPositiveTen num x = some p) :
    realResult neg num ep10 x false off = some ⟨.real, p ||| (if neg then 0x8000000000000000 else 0), off⟩ := by
  unfold realResult; simp [hnum, h, hp]

theorem realResult_neg_nan (neg : Bool) (num ep10 x off : Nat) (hnum : num ≠ 0) (h : x > ep10 ∧ sub32 x ep10 > 324) :
    realResult neg num ep10 x true off = some ⟨.notANumber, num, off⟩ := by
  unfold realResult; simp [hnum, h]

theorem realResult_neg_real (neg : Bool) (num ep10 x off p : Nat) (hnum : num ≠ 0) (h : ¬ (x > ep10 ∧ sub32 x ep10 > 324))
    (hp : powerOfNegativeTen num x = some p) :
    realResult neg num ep10 x true off = some ⟨.real, p ||| (if neg then 0x8000000000000000 else 0), off⟩ := by
  unfold realResult; simp [hnum, h, hp]

theorem realResult_some (neg : Bool) (num ep10 x : Nat) (ne : Bool) (off : Nat) :
    ∃ r, realResult neg num ep10 x ne off = some r ∧ r.offset = off ∧ (r.kind = .real ∨ r.kind = .notANumber) := by
  unfold realResult
  simp only
  split
  · split
    · exact ⟨_, rfl, rfl, Or.inr rfl⟩
    · cases ne with
      | true =>
        obtain ⟨bs, hb⟩ := negScale_some num x
        simp only [if_true, powerOfNegativeTen, hb, Option.map_some]
        exact ⟨_, rfl, rfl, Or.inl rfl⟩
      | false =>
        obtain ⟨bs, hb⟩ := posScale_some num x
        simp only [Bool.false_eq_true, if_false, powerOfPositiveTen, hb, Option.map_some]
        exact ⟨_, rfl, rfl, Or.inl rfl⟩
  · exact ⟨_, rfl, rfl, Or.inl rfl⟩

theorem tail_afterDot (c : List Nat) (e num off dotOff Q : Nat) (st : Stop) (hd : digitsOn c e off Q)
    (h1 : off ≤ Q) (h2 : Q ≤ e) (hst : stopAt c e Q st) :
    match st with
    | .good => tailLoop c e num (e - off) off true dotOff = some (.inr ⟨Q, true, dotOff, 0, 0, false⟩)
    | _ => ∃ o, tailLoop c e num (e - off) off true dotOff = some (.inl ⟨.notANumber, num, o⟩) := by
  have hrun := tailLoop_skip c e num Q off true dotOff hd h1 h2
  cases st with
  | good => simp only; rw [hrun]; exact tailLoop_stop c e num Q true dotOff hst
  | dot => simp only; rw [hrun]; exact ⟨Q, tailLoop_secondDot c e num Q dotOff hst⟩
  | emptyExp =>
    simp only; rw [hrun]
    obtain ⟨m, hm, hmE, hemp⟩ := hst
    exact tailLoop_emptyExp c e num Q true dotOff m hm hmE hemp

theorem finishReal_afterDot (c : List Nat) (e : Nat) (neg : Bool) (num off tmp start : Nat) (fo : Bool) (dotOff Q : Nat)
    (st : Stop) (hd : digitsOn c e off Q) (h1 : off ≤ Q) (h2 : Q ≤ e) (hst : stopAt c e Q st) :
    Outcome st Q (finishReal c e neg num off tmp start fo true dotOff) := by
  have ht := tail_afterDot c e num off dotOff Q st hd h1 h2 hst
  unfold finishReal
  cases st with
  | good =>
    simp only at ht
    simp only [ht, Outcome]
    exact realResult_some _ _ _ _ _ _
  | dot => obtain ⟨o, ho⟩ := ht; simp only [ho, Outcome]; exact ⟨_, _, rfl⟩
  | emptyExp => obtain ⟨o, ho⟩ := ht; simp only [ho, Outcome]; exact ⟨_, _, rfl⟩

theorem finishReal_beforeDot (c : List Nat) (e : Nat) (neg : Bool) (num off tmp start : Nat) (fo : Bool) (dotOff P Q : Nat)
    (st : Stop) (hd1 : digitsOn c e off P) (hP : rd c e P = some 46) (hoP : off ≤ P)
    (hd : digitsOn c e (P + 1) Q) (h1 : P + 1 ≤ Q) (h2 : Q ≤ e) (hst : stopAt c e Q st) :
    Outcome st Q (finishReal c e neg num off tmp start fo false dotOff) := by
  have hPe := rd_lt hP
  have hrun := tailLoop_skip c e num P off false dotOff hd1 hoP (Nat.le_of_lt hPe)
  rw [tailLoop_firstDot c e num P dotOff hP] at hrun
  have ht := tail_afterDot c e num (P + 1) P Q st hd h1 h2 hst
  unfold finishReal
  cases st with
  | good =>
    simp only at ht
    simp only [hrun, ht, Outcome]
    exact realResult_some _ _ _ _ _ _
  | dot => obtain ⟨o, ho⟩ := ht; simp only [hrun, ho, Outcome]; exact ⟨_, _, rfl⟩
  | emptyExp => obtain ⟨o, ho⟩ := ht; simp only [hrun, ho, Outcome]; exact ⟨_, _, rfl⟩

end Qentem.StrToNum
