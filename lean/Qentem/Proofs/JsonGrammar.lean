import Qentem.Model.JsonGrammar
import Qentem.Proofs.Json
/-! C06: the parser model maps the text of every well-formed RFC 8259 document to the value the
document denotes.  Strings and numerals are delegated to the two sub-routine specifications. -/
namespace Qentem.Json

/-- The array `c` contains the units `l` starting at offset `o`. -/
def At (c : Array Nat) (o : Nat) (l : List Nat) : Prop := l <+: c.toList.drop o

theorem At.nil (c : Array Nat) (o : Nat) : At c o [] := List.nil_prefix

theorem At.append {c : Array Nat} {o : Nat} {a b : List Nat} (h : At c o (a ++ b)) :
    At c o a ∧ At c (o + a.length) b := by
  unfold At at *
  obtain ⟨t, ht⟩ := h
  refine ⟨⟨b ++ t, by simp [← ht]⟩, ⟨t, ?_⟩⟩
  have : c.toList.drop (o + a.length) = (c.toList.drop o).drop a.length := by simp [List.drop_drop]
  rw [this, ← ht]; simp

theorem At.cons {c : Array Nat} {o x : Nat} {l : List Nat} (h : At c o (x :: l)) :
    ∃ hlt : o < c.size, c[o] = x ∧ At c (o + 1) l := by
  have h2 := (At.append (a := [x]) (b := l) h)
  obtain ⟨t, ht⟩ := h
  have hlt : o < c.size := by
    rcases Nat.lt_or_ge o c.size with h' | h'
    · exact h'
    · have : c.toList.drop o = [] := List.drop_eq_nil_of_le (by simpa using h')
      rw [this] at ht; simp at ht
  refine ⟨hlt, ?_, h2.2⟩
  have : c.toList.drop o = c[o] :: c.toList.drop (o + 1) := by
    rw [List.drop_eq_getElem_cons (by simpa using hlt)]; simp
  rw [this] at ht
  simp at ht
  exact ht.1.symm

theorem At.len {c : Array Nat} {o : Nat} {l : List Nat} (h : At c o l) (hne : l ≠ []) : o + l.length ≤ c.size := by
  obtain ⟨t, ht⟩ := h
  have := congrArg List.length ht
  simp at this
  have hl : 0 < l.length := List.length_pos_iff.mpr hne
  omega

def AllWs (ws : List Nat) : Prop := ∀ x ∈ ws, isWs x = true

theorem AllWs.nil : AllWs [] := fun _ h => nomatch h

theorem AllWs.of_all {ws : List Nat} (h : ws.all isWs = true) : AllWs ws := fun x hx => List.all_eq_true.1 h x hx

theorem trimLeft_ws (c : Array Nat) : ∀ (ws : List Nat) (o x : Nat) (rest : List Nat), AllWs ws → isWs x = false →
    At c o (ws ++ x :: rest) → trimLeft c o = o + ws.length
  | [], o, x, rest, _, hx, h => by
    obtain ⟨hlt, hc, _⟩ := At.cons (by simpa using h)
    rw [trimLeft_stop c o hlt (hc ▸ hx)]; rfl
  | w :: ws, o, x, rest, hws, hx, h => by
    obtain ⟨hlt, hc, h'⟩ := At.cons (by simpa using h)
    rw [trimLeft_step c o hlt (hc ▸ hws w (by simp)),
      trimLeft_ws c ws (o + 1) x rest (fun y hy => hws y (by simp [hy])) hx h']
    simp; omega

/-- Delimiters that may follow a value inside a document. -/
def isDelim (x : Nat) : Bool := isWs x || x == 44 || x == 93 || x == 125

/-- What follows the text at position `p`: end of input or a delimiter. -/
def FollowOK (c : Array Nat) (p : Nat) : Prop := p = c.size ∨ ∃ h : p < c.size, isDelim c[p] = true

/-- Contract of `UnEscape` for one string body: called at the body it consumes the body and the
closing quote and yields the decoded text. -/
def StrSpec (d : Deps) (body text : List Nat) : Prop :=
  ∀ (c : Array Nat) (o : Nat), At c o (body ++ [34]) →
    ∃ stream, d.unEscape c o (c.size - o) = .ok (body.length + 1, stream) ∧
      stringOf c o (body.length + 1) stream = text

/-- Contract of `StringToNumber` for one numeral followed by a delimiter (or the end).  The middle clause: the first unit is
none of those that send `parseValue` elsewhere (`{ [ " t f n`) and no delimiter, so the parser reaches the number branch. -/
def NumSpec (d : Deps) (tok : List Nat) (kind : NumKind) (bits : Nat) : Prop :=
  kind ≠ .notANumber ∧
  (∃ x xs, tok = x :: xs ∧ x ≠ 123 ∧ x ≠ 91 ∧ x ≠ 34 ∧ x ≠ 116 ∧ x ≠ 102 ∧ x ≠ 110 ∧ isDelim x = false) ∧
  ∀ (c : Array Nat) (o : Nat), c.size < 2 ^ 32 → At c o tok → FollowOK c (o + tok.length) →
    d.strToNum c o c.size = .ok ⟨kind, bits, o + tok.length⟩

mutual
/-- Well-formed document: whitespace runs are whitespace, tokens meet the sub-routine contracts. -/
def WF (d : Deps) : JDoc → Prop
  | .num tok kind bits => NumSpec d tok kind bits
  | .str body text => StrSpec d body text
  | .arr ws0 items => AllWs ws0 ∧ WFItems d items
  | .obj ws0 ms => AllWs ws0 ∧ WFMembers d ms
  | _ => True
def WFItems (d : Deps) : List (Ws × JDoc × Ws) → Prop
  | [] => True
  | (wsB, doc, wsA) :: rest => AllWs wsB ∧ WF d doc ∧ AllWs wsA ∧ WFItems d rest
def WFMembers (d : Deps) : List (Ws × List Nat × List Nat × Ws × Ws × JDoc × Ws) → Prop
  | [] => True
  | (wsB, kbody, ktext, ws1, ws2, doc, wsA) :: rest =>
    AllWs wsB ∧ StrSpec d kbody ktext ∧ AllWs ws1 ∧ AllWs ws2 ∧ WF d doc ∧ AllWs wsA ∧ WFMembers d rest
end

theorem matchKeyword_at (c : Array Nat) : ∀ (ks : List Nat) (o : Nat), At c o ks → matchKeyword c o ks = (o + ks.length, [])
  | [], o, _ => by simp [matchKeyword]
  | k :: ks, o, h => by
    obtain ⟨hlt, hc, h'⟩ := At.cons h
    unfold matchKeyword
    simp only [hlt, hc, ↓reduceDIte, ↓reduceIte]
    rw [matchKeyword_at c ks (o + 1) h']
    simp; omega

theorem print_head (d : Deps) (doc : JDoc) (h : WF d doc) :
    ∃ x xs, doc.print = x :: xs ∧ isDelim x = false := by
  cases doc with
  | null => exact ⟨_, _, rfl, by decide⟩
  | tru => exact ⟨_, _, rfl, by decide⟩
  | fals => exact ⟨_, _, rfl, by decide⟩
  | num tok kind bits =>
    obtain ⟨_, ⟨x, xs, ht, _, _, _, _, _, _, hd⟩, _⟩ := h
    exact ⟨x, xs, by simp [JDoc.print, ht], hd⟩
  | str body text => exact ⟨34, body ++ [34], by simp [JDoc.print], by decide⟩
  | arr ws0 items => exact ⟨91, _, by simp [JDoc.print]; rfl, by decide⟩
  | obj ws0 ms => exact ⟨123, _, by simp [JDoc.print]; rfl, by decide⟩

theorem not_isWs_of_not_isDelim {x : Nat} (h : isDelim x = false) : isWs x = false := by
  simp [isDelim] at h; exact h.1.1.1

theorem followOK_of_at {c : Array Nat} {p x : Nat} {t : List Nat} (h : At c p (x :: t)) (hx : isDelim x = true) : FollowOK c p := by
  obtain ⟨hlt, hc, _⟩ := At.cons h
  exact Or.inr ⟨hlt, by rw [hc]; exact hx⟩

/-! The text of a document as it is walked: first unit, then the rest. -/

theorem print_arr (ws0 : Ws) (items : List (Ws × JDoc × Ws)) :
    (JDoc.arr ws0 items).print = 91 :: (ws0 ++ (printItems items true ++ [93])) := by
  simp [JDoc.print]

theorem print_obj (ws0 : Ws) (ms : List (Ws × List Nat × List Nat × Ws × Ws × JDoc × Ws)) :
    (JDoc.obj ws0 ms).print = 123 :: (ws0 ++ (printMembers ms true ++ [125])) := by
  simp [JDoc.print]

theorem printItems_cons_true (wsB : Ws) (doc : JDoc) (wsA : Ws) (rest : List (Ws × JDoc × Ws)) :
    printItems ((wsB, doc, wsA) :: rest) true ++ [93] = doc.print ++ (wsA ++ (printItems rest false ++ [93])) := by
  simp [printItems]

theorem printItems_false (wsB : Ws) (doc : JDoc) (wsA : Ws) (rest : List (Ws × JDoc × Ws)) :
    printItems ((wsB, doc, wsA) :: rest) false ++ [93] = 44 :: (wsB ++ (printItems ((wsB, doc, wsA) :: rest) true ++ [93])) := by
  simp [printItems]

theorem printMembers_cons_true (wsB : Ws) (kbody ktext : List Nat) (ws1 ws2 : Ws) (doc : JDoc) (wsA : Ws)
    (rest : List (Ws × List Nat × List Nat × Ws × Ws × JDoc × Ws)) :
    printMembers ((wsB, kbody, ktext, ws1, ws2, doc, wsA) :: rest) true ++ [125] =
      34 :: ((kbody ++ [34]) ++ (ws1 ++ 58 :: (ws2 ++ (doc.print ++ (wsA ++ (printMembers rest false ++ [125])))))) := by
  simp [printMembers]

theorem printMembers_false (wsB : Ws) (kbody ktext : List Nat) (ws1 ws2 : Ws) (doc : JDoc) (wsA : Ws)
    (rest : List (Ws × List Nat × List Nat × Ws × Ws × JDoc × Ws)) :
    printMembers ((wsB, kbody, ktext, ws1, ws2, doc, wsA) :: rest) false ++ [125] =
      44 :: (wsB ++ (printMembers ((wsB, kbody, ktext, ws1, ws2, doc, wsA) :: rest) true ++ [125])) := by
  simp [printMembers]

theorem trim_then {c : Array Nat} {o : Nat} {ws : Ws} {x : Nat} {t : List Nat} (hws : AllWs ws) (hx : isWs x = false)
    (h : At c o (ws ++ x :: t)) : trimLeft c o = o + ws.length ∧ At c (o + ws.length) (x :: t) :=
  ⟨trimLeft_ws c ws o x t hws hx h, (At.append h).2⟩

theorem trim_doc {d : Deps} {c : Array Nat} {o : Nat} {ws : Ws} {doc : JDoc} {t : List Nat} (hws : AllWs ws) (hwf : WF d doc)
    (h : At c o (ws ++ (doc.print ++ t))) :
    trimLeft c o = o + ws.length ∧ At c (o + ws.length) doc.print ∧ At c (o + ws.length + doc.print.length) t := by
  obtain ⟨x, xs, hx, hxd⟩ := print_head d doc hwf
  have h1 := At.append (At.append h).2
  rw [hx] at h
  exact ⟨trimLeft_ws c ws o x (xs ++ t) hws (not_isWs_of_not_isDelim hxd) h, h1⟩

theorem followOK_ws_or {c : Array Nat} {p : Nat} {ws : Ws} {x : Nat} {t : List Nat} (hws : AllWs ws) (hx : isDelim x = true)
    (h : At c p (ws ++ x :: t)) : FollowOK c p := by
  cases ws with
  | nil => exact followOK_of_at (by simpa using h) hx
  | cons w ws => exact followOK_of_at (by simpa using h) (by simp [isDelim, hws w (by simp)])

/-! ## The pieces of a step on the text they expect -/

theorem kwValue_at {c : Array Nat} {o : Nat} {ks : List Nat} (v : JVal) (h : At c o ks) :
    kwValue c o ks v = .ok (v, o + ks.length) := by
  rw [kwValue, matchKeyword_at c ks o h]; rfl

theorem stringValue_at {d : Deps} {c : Array Nat} {o : Nat} {body text : List Nat} (hs : StrSpec d body text)
    (h : At c o (body ++ [34])) : stringValue d c o = .ok (.str text, o + (body.length + 1)) := by
  obtain ⟨stream, hu, ht⟩ := hs c o h
  rw [stringValue, hu]
  simp only [bind, Except.bind]
  rw [if_pos (Nat.succ_ne_zero _), ht]

theorem numValue_at {d : Deps} {c : Array Nat} {o : Nat} {tok : List Nat} {kind : NumKind} {bits : Nat}
    (hn : NumSpec d tok kind bits) (hsz : c.size < 2 ^ 32) (h : At c o tok) (hf : FollowOK c (o + tok.length)) :
    numValue d c o = .ok ((JDoc.num tok kind bits).denote, o + tok.length) := by
  rw [numValue, hn.2.2 c o hsz h hf]
  cases kind with
  | notANumber => exact absurd rfl hn.1
  | natural => rfl
  | integer => rfl
  | real => rfl

theorem parseValue_num {d : Deps} {c : Array Nat} {o : Nat} {tok : List Nat} {kind : NumKind} {bits : Nat} (fuel : Nat)
    (hn : NumSpec d tok kind bits) (hlt : o < c.size) (hc : ∃ xs, tok = c[o] :: xs) :
    parseValue d c (fuel + 1) o = numValue d c o := by
  obtain ⟨x, xs, htok, h1, h2, h3, h4, h5, h6, _⟩ := hn.2.1
  obtain ⟨ys, hy⟩ := hc
  have hx : c[o] = x := by rw [htok] at hy; exact (List.cons.inj hy).1.symm
  rw [parseValue_succ, dif_pos hlt, hx, if_neg h1, if_neg h2, if_neg h3, if_neg h4, if_neg h5, if_neg h6]

theorem opened_close {c : Array Nat} {T close : Nat} {loop : M (JVal × Nat)} {empty : JVal} (h : At c T [close]) :
    opened c T close loop empty = .ok (empty, T + 1) := by
  obtain ⟨hlt, hc, _⟩ := At.cons h
  rw [opened, dif_pos hlt, if_neg fun hne => hne hc]

theorem opened_other {c : Array Nat} {T close x : Nat} {t : List Nat} {loop : M (JVal × Nat)} {empty : JVal}
    (h : At c T (x :: t)) (hx : x ≠ close) : opened c T close loop empty = loop := by
  obtain ⟨hlt, hc, _⟩ := At.cons h
  rw [opened, dif_pos hlt, if_pos (hc ▸ hx)]

section
variable {c : Array Nat} {r : M (JVal × Nat)} {close : Nat} {next : JVal → Nat → M (JVal × Nat)} {done : JVal → JVal}
  {v : JVal} {o1 : Nat}

theorem elem_ok {x : JVal × Nat} (h : elem c r close next done = .ok x) : ∃ v o1, r = .ok (v, o1) := by
  cases r with
  | error e => cases h
  | ok p => exact ⟨p.1, p.2, rfl⟩

/-- an element followed, behind whitespace, by a comma: the loop goes on behind the comma -/
theorem elem_comma {ws : Ws} {t : List Nat} (hr : r = .ok (v, o1)) (hws : AllWs ws) (h : At c o1 (ws ++ 44 :: t)) :
    elem c r close next done = next v (trimLeft c (o1 + ws.length + 1)) ∧ At c (o1 + ws.length + 1) t := by
  obtain ⟨hT, h2⟩ := trim_then hws (by decide) h
  rw [← hT] at h2 ⊢
  obtain ⟨hlt, hc, h3⟩ := At.cons h2
  subst hr
  refine ⟨?_, h3⟩
  show (if h : trimLeft c o1 < c.size then _ else _) = _
  rw [dif_pos hlt, if_pos hc]

/-- … by the closing bracket: the container is done -/
theorem elem_close {ws : Ws} (hr : r = .ok (v, o1)) (hws : AllWs ws) (h : At c o1 (ws ++ [close])) (hne : close ≠ 44)
    (hcw : isWs close = false) : elem c r close next done = .ok (done v, o1 + ws.length + 1) := by
  obtain ⟨hT, h2⟩ := trim_then (t := []) hws hcw h
  rw [← hT] at h2 ⊢
  obtain ⟨hlt, hc, _⟩ := At.cons h2
  subst hr
  show (if h : trimLeft c o1 < c.size then _ else _) = _
  rw [dif_pos hlt, if_neg (hc ▸ hne), if_pos hc]

end

theorem readKey_at {d : Deps} {c : Array Nat} {o : Nat} {kbody ktext : List Nat} {ws1 : Ws} {t : List Nat}
    {k : List Nat → Nat → M (JVal × Nat)} (hs : StrSpec d kbody ktext) (hws1 : AllWs ws1)
    (h : At c o (34 :: ((kbody ++ [34]) ++ (ws1 ++ 58 :: t)))) :
    readKey d c o k = k ktext (trimLeft c (o + 1 + (kbody.length + 1) + ws1.length + 1)) ∧
      At c (o + 1 + (kbody.length + 1) + ws1.length + 1) t := by
  obtain ⟨hlt, hc, h1⟩ := At.cons h
  obtain ⟨hk, h2⟩ := At.append h1
  obtain ⟨stream, hu, htext⟩ := hs c (o + 1) hk
  rw [List.length_append, List.length_singleton] at h2
  obtain ⟨ht, h3⟩ := trim_then hws1 (by decide) h2
  obtain ⟨hlt2, hc2, h4⟩ := At.cons h3
  refine ⟨?_, h4⟩
  rw [readKey, dif_pos hlt, if_neg fun hne => hne hc, hu]
  simp only [bind, Except.bind]
  rw [if_neg (Nat.succ_ne_zero _), htext]
  simp only [ht]
  rw [dif_pos hlt2, if_neg fun hne => hne hc2]

/-! ## The parser on the text of a document -/

mutual
/-- Only a numeral looks at the unit that follows it (a digit would extend it); keywords, strings
and containers end at their own last unit whatever comes next. -/
theorem parseValue_print (d : Deps) : ∀ (doc : JDoc) (c : Array Nat) (fuel o : Nat) (r : JVal × Nat), c.size < 2 ^ 32 → WF d doc →
    At c o doc.print → (FollowOK c (o + doc.print.length) ∨ ∀ tok kind bits, doc ≠ .num tok kind bits) →
    parseValue d c fuel o = .ok r → r = (doc.denote, o + doc.print.length)
  | .arr ws0 items, c, fuel, o, r, hsz, hwf, hat, _, h => by
    obtain ⟨fuel, rfl⟩ := parseValue_fuel h
    rw [print_arr] at hat ⊢
    obtain ⟨hlt, hc, hat1⟩ := At.cons hat
    rw [parseValue_arr d c fuel hlt hc] at h
    obtain ⟨fuel, rfl⟩ := parseArray_fuel h
    rw [parseArray_succ] at h
    cases items with
    | nil =>
      obtain ⟨ht, hat2⟩ := trim_then (t := []) hwf.1 (by decide) hat1
      rw [ht, opened_close hat2] at h
      cases h
      simp [JDoc.denote, denoteItems, printItems]; omega
    | cons i rest =>
      obtain ⟨wsB, doc, wsA⟩ := i
      obtain ⟨x, xs, hx, hxd⟩ := print_head d doc hwf.2.2.1
      have hat2 := hat1
      rw [printItems_cons_true, hx] at hat2
      obtain ⟨ht, hat3⟩ := trim_then hwf.1 (not_isWs_of_not_isDelim hxd) hat2
      rw [ht, opened_other hat3 (by intro e; subst e; revert hxd; decide), ← ht] at h
      rw [arrLoop_print d _ ws0 c fuel (o + 1) [] r hsz (List.cons_ne_nil _ _) hwf.2 hwf.1 hat1 h]
      simp [JDoc.denote]; omega
  | .obj ws0 ms, c, fuel, o, r, hsz, hwf, hat, _, h => by
    obtain ⟨fuel, rfl⟩ := parseValue_fuel h
    rw [print_obj] at hat ⊢
    obtain ⟨hlt, hc, hat1⟩ := At.cons hat
    rw [parseValue_obj d c fuel hlt hc] at h
    obtain ⟨fuel, rfl⟩ := parseObject_fuel h
    rw [parseObject_succ] at h
    cases ms with
    | nil =>
      obtain ⟨ht, hat2⟩ := trim_then (t := []) hwf.1 (by decide) hat1
      rw [ht, opened_close hat2] at h
      cases h
      simp [JDoc.denote, denoteMembers, printMembers]; omega
    | cons m rest =>
      obtain ⟨wsB, kbody, ktext, ws1, ws2, doc, wsA⟩ := m
      have hat2 := hat1
      rw [printMembers_cons_true] at hat2
      obtain ⟨ht, hat3⟩ := trim_then hwf.1 (by decide) hat2
      rw [ht, opened_other hat3 (by decide), ← ht] at h
      rw [objLoop_print d _ ws0 c fuel (o + 1) [] r hsz (List.cons_ne_nil _ _) hwf.2 hwf.1 hat1 h]
      simp [JDoc.denote]; omega
  | .null, c, fuel, o, r, _, _, hat, _, h | .tru, c, fuel, o, r, _, _, hat, _, h | .fals, c, fuel, o, r, _, _, hat, _, h => by
    obtain ⟨fuel, rfl⟩ := parseValue_fuel h
    obtain ⟨hlt, hc, hat1⟩ := At.cons hat
    rw [parseValue_succ, dif_pos hlt, hc] at h
    simp only [Nat.reduceEqDiff, ↓reduceIte] at h
    cases (kwValue_at _ hat1).symm.trans h; rfl
  | .num tok kind bits, c, fuel, o, r, hsz, hwf, hat, hf, h => by
    obtain ⟨fuel, rfl⟩ := parseValue_fuel h
    obtain ⟨x, xs, htok, _⟩ := hwf.2.1
    obtain ⟨hlt, hc, _⟩ := At.cons (htok ▸ hat)
    rw [parseValue_num fuel hwf hlt ⟨xs, hc ▸ htok⟩, numValue_at hwf hsz hat (hf.elim id fun hn => absurd rfl (hn _ _ _))] at h
    cases h; rfl
  | .str body text, c, fuel, o, r, _, hwf, hat, _, h => by
    obtain ⟨fuel, rfl⟩ := parseValue_fuel h
    obtain ⟨hlt, hc, hat1⟩ := At.cons hat
    rw [parseValue_str d c fuel hlt hc] at h
    rw [stringValue_at hwf hat1] at h
    cases h
    simp [JDoc.denote, JDoc.print]; omega
theorem arrLoop_print (d : Deps) : ∀ (items : List (Ws × JDoc × Ws)) (ws : Ws) (c : Array Nat) (fuel o : Nat) (acc : List JVal)
    (r : JVal × Nat), c.size < 2 ^ 32 → items ≠ [] → WFItems d items → AllWs ws →
    At c o (ws ++ (printItems items true ++ [93])) → arrLoop d c fuel (trimLeft c o) acc = .ok r →
    r = (.arr (acc.reverse ++ denoteItems items), o + ws.length + (printItems items true).length + 1)
  | [], _, _, _, _, _, _, _, hne, _, _, _, _ => absurd rfl hne
  | (wsB, doc, wsA) :: rest, ws, c, fuel, o, acc, r, hsz, _, hwf, hws, hat, h => by
    obtain ⟨fuel, rfl⟩ := arrLoop_fuel h
    obtain ⟨_, hdoc, hwsA, hrest⟩ := hwf
    rw [printItems_cons_true] at hat
    obtain ⟨ht, hatd, hat1⟩ := trim_doc hws hdoc hat
    have hlt : o + ws.length < c.size := by
      obtain ⟨x, xs, hx, _⟩ := print_head d doc hdoc
      exact (At.cons (hx ▸ hatd)).1
    rw [ht, arrLoop_succ, if_neg (Nat.not_le.2 hlt)] at h
    obtain ⟨v, o1, hv⟩ := elem_ok h
    cases rest with
    | nil =>
      cases parseValue_print d doc c fuel _ _ hsz hdoc hatd (.inl (followOK_ws_or (x := 93) (t := []) hwsA (by decide) hat1)) hv
      rw [elem_close hv hwsA hat1 (by decide) (by decide)] at h
      cases h
      simp [denoteItems, printItems]; omega
    | cons i2 rest2 =>
      obtain ⟨wsB2, doc2, wsA2⟩ := i2
      rw [printItems_false] at hat1
      cases parseValue_print d doc c fuel _ _ hsz hdoc hatd (.inl (followOK_ws_or (x := 44) hwsA (by decide) hat1)) hv
      obtain ⟨e, hat2⟩ := elem_comma hv hwsA hat1
      rw [e] at h
      rw [arrLoop_print d _ wsB2 c fuel _ _ r hsz (List.cons_ne_nil _ _) hrest hrest.1 hat2 h]
      simp [denoteItems, printItems]; omega
theorem objLoop_print (d : Deps) : ∀ (ms : List (Ws × List Nat × List Nat × Ws × Ws × JDoc × Ws)) (ws : Ws) (c : Array Nat)
    (fuel o : Nat) (acc : List (List Nat × JVal)) (r : JVal × Nat), c.size < 2 ^ 32 → ms ≠ [] → WFMembers d ms → AllWs ws →
    At c o (ws ++ (printMembers ms true ++ [125])) → objLoop d c fuel (trimLeft c o) acc = .ok r →
    r = (.obj (denoteMembers ms acc), o + ws.length + (printMembers ms true).length + 1)
  | [], _, _, _, _, _, _, _, hne, _, _, _, _ => absurd rfl hne
  | (wsB, kbody, ktext, ws1, ws2, doc, wsA) :: rest, ws, c, fuel, o, acc, r, hsz, _, hwf, hws, hat, h => by
    obtain ⟨fuel, rfl⟩ := objLoop_fuel h
    obtain ⟨_, hkey, hws1, hws2, hdoc, hwsA, hrest⟩ := hwf
    rw [printMembers_cons_true] at hat
    obtain ⟨ht, hat0⟩ := trim_then hws (by decide) hat
    obtain ⟨hk, hatv⟩ := readKey_at (k := fun key o2 =>
      elem c (parseValue d c fuel o2) 125 (fun v o' => objLoop d c fuel o' (objInsert acc key v)) fun v => .obj (objInsert acc key v))
      hkey hws1 hat0
    obtain ⟨ht2, hatd, hat1⟩ := trim_doc hws2 hdoc hatv
    rw [ht, objLoop_succ, hk, ht2] at h
    obtain ⟨v, o1, hv⟩ := elem_ok h
    cases rest with
    | nil =>
      cases parseValue_print d doc c fuel _ _ hsz hdoc hatd (.inl (followOK_ws_or (x := 125) (t := []) hwsA (by decide) hat1)) hv
      rw [elem_close hv hwsA hat1 (by decide) (by decide)] at h
      cases h
      simp [denoteMembers, printMembers]; omega
    | cons m2 rest2 =>
      obtain ⟨wsB2, kbody2, ktext2, ws12, ws22, doc2, wsA2⟩ := m2
      rw [printMembers_false] at hat1
      cases parseValue_print d doc c fuel _ _ hsz hdoc hatd (.inl (followOK_ws_or (x := 44) hwsA (by decide) hat1)) hv
      obtain ⟨e, hat2⟩ := elem_comma hv hwsA hat1
      rw [e] at h
      rw [objLoop_print d _ wsB2 c fuel _ _ r hsz (List.cons_ne_nil _ _) hrest hrest.1 hat2 h]
      simp [denoteMembers, printMembers]; omega
end

theorem trimLeft_ws_end (c : Array Nat) : ∀ (ws : List Nat) (o : Nat), AllWs ws → At c o ws → o + ws.length = c.size →
    trimLeft c o = c.size
  | [], o, _, _, he => by
    rw [trimLeft_end c o (by simp at he; omega)]; simpa using he
  | w :: ws, o, hws, h, he => by
    obtain ⟨hlt, hc, h'⟩ := At.cons h
    rw [trimLeft_step c o hlt (hc ▸ hws w (by simp))]
    exact trimLeft_ws_end c ws (o + 1) (fun y hy => hws y (by simp [hy])) h' (by simp at he; omega)

theorem at_toArray (pre l post : List Nat) : At (pre ++ l ++ post).toArray pre.length (l ++ post) := by
  unfold At
  simp

theorem at_zero (l : List Nat) : At l.toArray 0 l := by
  unfold At
  simp

theorem parse_print (d : Deps) (hd : DepsSafe d) (doc : JDoc) (hwf : WF d doc) (wsL wsR : Ws)
    (hL : AllWs wsL) (hR : AllWs wsR) (hsz0 : (wsL ++ doc.print ++ wsR).length < 2 ^ 32) :
    parse d (wsL ++ doc.print ++ wsR).toArray = .ok doc.denote := by
  have hat := at_zero (wsL ++ doc.print ++ wsR)
  have hsz : (wsL ++ doc.print ++ wsR).toArray.size = 0 + wsL.length + doc.print.length + wsR.length := by simp; omega
  rw [← List.size_toArray] at hsz0
  generalize (wsL ++ doc.print ++ wsR).toArray = c at hat hsz hsz0
  rw [List.append_assoc] at hat
  obtain ⟨ht, hatd, hatR⟩ := trim_doc hL hwf hat
  have hfollow : FollowOK c (0 + wsL.length + doc.print.length) := by
    cases wsR with
    | nil => exact .inl (by simpa using hsz.symm)
    | cons w ws => exact followOK_of_at hatR (by simp [isDelim, hR w (by simp)])
  obtain ⟨x, xs, hx, _⟩ := print_head d doc hwf
  obtain ⟨v, o', hv, hp⟩ := parse_run hd hsz0 (by rw [hsz, hx]; simp)
  rw [ht] at hv
  cases parseValue_print d doc c _ _ _ hsz0 hwf hatd (.inl hfollow) hv
  rw [hp, trimLeft_ws_end c wsR _ hR hatR hsz.symm, if_pos rfl]

end Qentem.Json
