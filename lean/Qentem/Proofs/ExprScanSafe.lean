import Qentem.Proofs.ExprScan
/-!
# C01/C04 — what holds of every run of the expression scanner inside a tag

For every content, reader and range `[off, endO)` with `endO < length` — inside a template the unit at
`endO` is the tag's own terminator (`}` or the closing quote) — the instances of `parseTop_ends`:
`parseTop_safe` (`Safe`: no out-of-range read; running out of fuel is a different failure, which
`parseTop_total` excludes), `parseTop_wf` (nothing or a well-formed flat list),
`parseTop_all` (every variable operand satisfies `P`), `parseTop_total` (a list is returned).
The public `ParseExpressions(content, length)` has `endO = length`: there the one-unit look-ahead of
`getOperation` can read `content[length]` (witness in `Props/C01.lean`).

At the end: `itemsVarsOk n`, the Boolean form of "every variable reference lies inside `n` units and names no loop".
-/
namespace Qentem.Expr
open Qentem.Generated.Expr

variable {R : Type}

theorem parseTop_safe (cfg : ScanCfg R) (c : List Nat) (off endO : Nat) (he : endO < c.length) :
    Safe (parseTop cfg c off endO) (fun _ => True) :=
  Safe.of_ends ((parseTop_ends cfg (fun _ => True) (readsTo_length _ c) (fun _ _ _ _ => trivial)
    off endO he).mono (fun _ _ => trivial))

/-- Inside a tag the scanner returns nothing ("not an expression") or a list satisfying `wfItems` —
the hypothesis of `evaluateTop_eq_tree`.  Needs the second conjunct of the final test of
`parseExpressions` (`last_oper == NoOp`, notes/fix-expr-scan-dangling-operator.diff): before it a
two-unit operator straddling `end_offset` produced a list ending in an operator. -/
theorem parseTop_wf (cfg : ScanCfg R) (c : List Nat) (off endO : Nat) (he : endO < c.length) :
    Safe (parseTop cfg c off endO) ScanOk :=
  Safe.of_ends ((parseTop_ends cfg (fun _ => True) (readsTo_length _ c) (fun _ _ _ _ => trivial)
    off endO he).mono (fun _ h => h.1))

/-- `P` holds of every `{var:…}` operand (at any nesting depth) of the scanner's result whenever it
holds of the reference `scanVar` the scanner builds when it sees `{` … `}` — offset right after `{var:`, length up
to the tested `}`, `IDLength` / `Level` as `checkLoopVariable` reports them. -/
theorem parseTop_all (cfg : ScanCfg R) (c : List Nat) (P : VarRef → Prop)
    (hP : ∀ off e, off + 5 ≤ e → e < c.length → c[e]? = some W1.inLineLastChar → P (scanVar cfg off e))
    (off endO : Nat) (he : endO < c.length) :
    Safe (parseTop cfg c off endO) (fun r => itemsAll P r) :=
  Safe.of_ends ((parseTop_ends cfg P (readsTo_length _ c)
    (fun o e hoe hc => hP o e hoe (List.getElem?_eq_some_iff.1 hc).1 hc) off endO he).mono
    (fun _ h => h.2))

/-- The scanner model (fuel `2·(endO − off) + 4`) returns a list: no checked read fails and the fuel of
the model's recursion is never exhausted.  So the `Safe` statements about the scanner are not vacuous
through fuel. -/
theorem parseTop_total (cfg : ScanCfg R) (c : List Nat) (off endO : Nat) (he : endO < c.length) :
    ∃ items, parseTop cfg c off endO = .ok items := by
  obtain ⟨items, h, _⟩ := (parseTop_ends cfg (fun _ => True)
    (readsTo_length _ c) (fun _ _ _ _ => trivial) off endO he).total
  exact ⟨items, h⟩

/-! ### "every variable reference of the list lies inside `n` units and names no loop", as a Boolean -/

mutual
def operandVarsOk (n : Nat) : Operand R → Bool
  | .var v => decide (v.off + v.len < n) && v.idLen == 0
  | .sub items => itemsVarsOk n items
  | _ => true
def itemsVarsOk (n : Nat) : List (Item R) → Bool
  | [] => true
  | (x, _) :: rest => operandVarsOk n x && itemsVarsOk n rest
end

end Qentem.Expr
