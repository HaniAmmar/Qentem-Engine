import Qentem.Model.Order
/-! The string comparison routines (`StringUtils::IsLess/IsGreater/IsEqual`; all strings = all `List Nat`).  The one fact:
`IsLess` decides the order Lean has on `List Nat` (`isLess_iff`), from which the laws of the `Str.*` operators are lemmas of
that order.  Then the oracle's predicates over any five operators with those laws, and the cursor models against the list
recursions. -/
namespace Qentem.Order

theorem isEqualN_self_length (a b : List Nat) (h : a.length = b.length) :
    isEqualN a b a.length = some (decide (a = b)) := by
  induction a generalizing b with
  | nil => cases b <;> simp_all [isEqualN]
  | cons x xs ih =>
    cases b with
    | nil => simp at h
    | cons y ys =>
      simp only [List.length_cons, Nat.add_right_cancel_iff] at h
      by_cases hxy : x = y
      · subst hxy; simp [isEqualN, ih ys h]
      · simp [isEqualN, hxy]

/-- `IsEqual` never reads past either operand when called with a length both have. -/
theorem isEqualN_ne_none (a b : List Nat) (n : Nat) (ha : n ≤ a.length) (hb : n ≤ b.length) :
    isEqualN a b n ≠ none := by
  induction n generalizing a b with
  | zero => simp [isEqualN]
  | succ n ih =>
    cases a with
    | nil => simp at ha
    | cons x xs =>
      cases b with
      | nil => simp at hb
      | cons y ys =>
        simp only [isEqualN]
        split
        · exact ih xs ys (by simpa using ha) (by simpa using hb)
        · simp

theorem Str.eq_eq_decide (a b : List Nat) : Str.eq a b = decide (a = b) := by
  unfold Str.eq
  by_cases h : a.length = b.length
  · rw [isEqualN_self_length a b h]; simp [h]
  · have : a ≠ b := fun e => h (by rw [e])
    simp [h, this]

/-! ### `isLess` / `isGreater` decide the order Lean has on `List Nat` -/

theorem isLess_iff (e : Bool) : ∀ a b : List Nat, isLess a b e = true ↔ a < b ∨ (e = true ∧ a = b)
  | [], [] | [], _ :: _ | _ :: _, [] => by simp [isLess]
  | x :: a, y :: b => by
    have ih := isLess_iff e a b
    rw [List.cons_lt_cons_iff, List.cons.injEq]
    unfold isLess
    split
    · simp; omega
    · split
      · simp; omega
      · have : x = y := by omega
        simp [this, ih]

theorem isGreater_eq_isLess_swap (a b : List Nat) (e : Bool) : isGreater a b e = isLess b a e := by
  induction a generalizing b with
  | nil => cases b <;> simp [isLess, isGreater]
  | cons x a ih =>
    cases b with
    | nil => simp [isLess, isGreater]
    | cons y b => unfold isLess isGreater; simp only [gt_iff_lt, ih b]

/-! ### `lexLt`, the reference order of the specification side, is the same order -/

theorem lexLt_iff_lt : ∀ a b : List Nat, lexLt a b = true ↔ a < b
  | [], [] | [], _ :: _ | _ :: _, [] => by simp [lexLt]
  | x :: a, y :: b => by
    rw [List.cons_lt_cons_iff]; simp [lexLt, lexLt_iff_lt a b]

theorem lexLt_iff (a b : List Nat) :
    lexLt a b = true ↔
      (∃ p x y ra rb, a = p ++ x :: ra ∧ b = p ++ y :: rb ∧ x < y) ∨ (∃ c r, b = a ++ c :: r) := by
  constructor
  · fun_induction lexLt a b with
    | case1 => simp
    | case2 b bs => intro _; right; exact ⟨b, bs, rfl⟩
    | case3 => simp
    | case4 a as b bs ih =>
      intro h
      simp only [Bool.or_eq_true, decide_eq_true_eq, Bool.and_eq_true, beq_iff_eq] at h
      rcases h with h | ⟨h1, h2⟩
      · left; exact ⟨[], a, b, as, bs, rfl, rfl, h⟩
      · subst h1
        rcases ih h2 with ⟨p, x, y, ra, rb, e1, e2, hxy⟩ | ⟨c, r, e⟩
        · left; exact ⟨a :: p, x, y, ra, rb, by simp [e1], by simp [e2], hxy⟩
        · right; exact ⟨c, r, by simp [e]⟩
  · rintro (⟨p, x, y, ra, rb, rfl, rfl, hxy⟩ | ⟨c, r, rfl⟩)
    · induction p with
      | nil => simp [lexLt, hxy]
      | cons q qs ih => simp [lexLt, ih]
    · induction a with
      | nil => simp [lexLt]
      | cons q qs ih => simp [lexLt, ih]

/-! ### The oracle's predicates over any five operators that read one strict order -/
section laws
variable {α : Type} {lt le gt ge eq : α → α → Bool}

/-- Exactly one of three tests holds. -/
def tri3 (l e g : Bool) : Bool := (l && !e && !g) || (!l && e && !g) || (!l && !e && g)

theorem Obs.trans_of (hle : ∀ a b, le a b = (lt a b || eq a b)) (heq : ∀ a b, eq a b = true → a = b)
    (hirr : ∀ a, lt a a = false) (htr : ∀ a b c, lt a b = true → lt b c = true → lt a c = true) (a b c : α) :
    Obs.trans ⟨lt a b, le a b, gt a b, ge a b, eq a b⟩ ⟨lt b c, le b c, gt b c, ge b c, eq b c⟩
      ⟨lt a c, le a c, gt a c, ge a c, eq a c⟩ = true := by
  simp only [Obs.trans, hle]
  cases hE1 : eq a b with
  | true =>
    cases heq a b hE1
    simp only [hirr a]
    cases lt a c <;> cases eq a c <;> simp
  | false =>
    cases hE2 : eq b c with
    | true =>
      cases heq b c hE2
      simp only [hirr b, hE1]
      cases lt a b <;> simp
    | false =>
      cases hL1 : lt a b <;> cases hL2 : lt b c <;> simp
      simp [htr a b c hL1 hL2]

theorem Obs.consistent_of (hle : ∀ a b, le a b = (lt a b || eq a b)) (hge : ∀ a b, ge a b = (gt a b || eq a b)) (a b : α)
    (t : tri3 (lt a b) (eq a b) (gt a b) = true) :
    (Obs.mk (lt a b) (le a b) (gt a b) (ge a b) (eq a b)).consistent = true := by
  simp only [Obs.consistent, hle, hge, Bool.and_eq_true, beq_self_eq_true, and_true]
  exact t

/-- What a sort leaves between an earlier and a later element: not `>` means `<=`. -/
theorem le_of_not_lt_of (hle : ∀ a b, le a b = (lt a b || eq a b)) (hgt : ∀ a b, gt a b = lt b a) (x y : α)
    (t : tri3 (lt x y) (eq x y) (gt x y) = true)
    (h : lt y x = false) : le x y = true := by
  rw [hgt, h] at t; rw [hle]
  revert t; cases lt x y <;> cases eq x y <;> simp [tri3]

end laws

/-! ### The string operators are the order Lean has on `List Nat` -/

theorem Str.lt_iff (a b : List Nat) : Str.lt a b = true ↔ a < b := by simp [Str.lt, isLess_iff]

theorem Str.le_iff (a b : List Nat) : Str.le a b = true ↔ a ≤ b := by
  rw [Str.le, isLess_iff, List.le_iff_lt_or_eq]; simp

theorem Str.gt_eq_lt_swap (a b : List Nat) : Str.gt a b = Str.lt b a := isGreater_eq_isLess_swap a b false
theorem Str.ge_eq_le_swap (a b : List Nat) : Str.ge a b = Str.le b a := isGreater_eq_isLess_swap a b true

theorem Str.gt_iff (a b : List Nat) : Str.gt a b = true ↔ b < a := by rw [Str.gt_eq_lt_swap]; exact Str.lt_iff b a
theorem Str.ge_iff (a b : List Nat) : Str.ge a b = true ↔ b ≤ a := by rw [Str.ge_eq_le_swap]; exact Str.le_iff b a
theorem Str.eq_iff (a b : List Nat) : Str.eq a b = true ↔ a = b := by rw [Str.eq_eq_decide]; simp

theorem Str.lt_eq_decide (a b : List Nat) : Str.lt a b = decide (a < b) :=
  Bool.eq_iff_iff.2 (by rw [Str.lt_iff, decide_eq_true_iff])

theorem Str.lt_eq_lex (a b : List Nat) : Str.lt a b = lexLt a b := by
  rw [Bool.eq_iff_iff, Str.lt_iff, lexLt_iff_lt]

theorem Str.le_eq (a b : List Nat) : Str.le a b = (Str.lt a b || Str.eq a b) := by
  rw [Bool.eq_iff_iff, Bool.or_eq_true, Str.le_iff, Str.lt_iff, Str.eq_iff]; exact List.le_iff_lt_or_eq

theorem Str.eq_comm (a b : List Nat) : Str.eq a b = Str.eq b a := by
  rw [Str.eq_eq_decide, Str.eq_eq_decide]; simp [_root_.eq_comm]

theorem Str.ge_eq (a b : List Nat) : Str.ge a b = (Str.gt a b || Str.eq a b) := by
  rw [Str.ge_eq_le_swap, Str.gt_eq_lt_swap, Str.eq_comm]; exact Str.le_eq b a

theorem Str.lt_trans (a b c : List Nat) : Str.lt a b = true → Str.lt b c = true → Str.lt a c = true := by
  simp only [Str.lt_iff]; exact List.lt_trans

theorem Str.lt_irrefl (a : List Nat) : Str.lt a a = false := by
  rw [← Bool.not_eq_true, Str.lt_iff]; exact List.lt_irrefl a

theorem list_tri (a b : List Nat) :
    (a < b ∧ ¬ a = b ∧ ¬ b < a) ∨ (¬ a < b ∧ a = b ∧ ¬ b < a) ∨ (¬ a < b ∧ ¬ a = b ∧ b < a) := by
  by_cases e : a = b
  · subst e; exact .inr (.inl ⟨List.lt_irrefl a, rfl, List.lt_irrefl a⟩)
  · by_cases h : a < b
    · exact .inl ⟨h, e, List.lt_asymm h⟩
    · exact .inr (.inr ⟨h, e, (List.le_iff_lt_or_eq.1 (List.not_lt.1 h)).resolve_right (Ne.symm e)⟩)

theorem tri_of {p q r : Prop} [Decidable p] [Decidable q] [Decidable r]
    (h : (p ∧ ¬ q ∧ ¬ r) ∨ (¬ p ∧ q ∧ ¬ r) ∨ (¬ p ∧ ¬ q ∧ r)) :
    tri3 (decide p) (decide q) (decide r) = true := by
  rcases h with ⟨a, b, c⟩ | ⟨a, b, c⟩ | ⟨a, b, c⟩ <;> simp [tri3, a, b, c]

theorem Str.tri (a b : List Nat) : tri3 (Str.lt a b) (Str.eq a b) (Str.gt a b) = true := by
  rw [Str.gt_eq_lt_swap, Str.lt_eq_decide, Str.lt_eq_decide, Str.eq_eq_decide]; exact tri_of (list_tri a b)

theorem Str.le_of_not_lt (x y : List Nat) (h : Str.lt y x = false) : Str.le x y = true :=
  le_of_not_lt_of Str.le_eq Str.gt_eq_lt_swap x y (Str.tri x y) h

theorem Str.ge_of_not_gt (x y : List Nat) (h : Str.gt y x = false) : Str.ge x y = true := by
  rw [Str.ge_eq_le_swap]; rw [Str.gt_eq_lt_swap] at h; exact Str.le_of_not_lt y x h

/-! ### Cursor model = suffix model -/

theorem drop_cons_of_getElem? (l : Array Nat) (off a : Nat) (h : l[off]? = some a) :
    l.toList.drop off = a :: l.toList.drop (off + 1) := by
  have hlt : off < l.size := (Array.getElem?_eq_some_iff.1 h).1
  rw [List.drop_eq_getElem_cons (by simpa using hlt)]
  rw [Array.getElem?_eq_getElem hlt] at h
  simp only [Array.getElem_toList, List.cons.injEq, and_true]
  exact Option.some.inj h

theorem isLess_of_nil (l r : List Nat) (e : Bool) (h : l = [] ∨ r = []) :
    isLess l r e = (decide (l.length < r.length) || (e && l.length == r.length)) := by
  rcases h with rfl | rfl
  · cases r <;> rfl
  · cases l <;> rfl

theorem isLessA_eq (l r : Array Nat) (e : Bool) (off : Nat) (h : off ≤ l.size) (h' : off ≤ r.size) :
    isLessA l r l.size r.size e off = some (isLess (l.toList.drop off) (r.toList.drop off) e) := by
  fun_induction isLessA l r l.size r.size e off with
  | case1 off hc a b hb ha hab =>
    rw [drop_cons_of_getElem? l off a ha, drop_cons_of_getElem? r off b hb, isLess, if_pos hab]
  | case2 off hc a b hb ha hab hab' =>
    rw [drop_cons_of_getElem? l off a ha, drop_cons_of_getElem? r off b hb, isLess, if_neg hab, if_pos hab']
  | case3 off hc a b hb ha hab hab' ih =>
    simp only [gt_iff_lt, Bool.and_eq_true, decide_eq_true_eq] at hc
    rw [ih (by omega) (by omega), drop_cons_of_getElem? l off a ha, drop_cons_of_getElem? r off b hb, isLess,
      if_neg hab, if_neg hab']
  | case4 off hc hx =>
    simp only [gt_iff_lt, Bool.and_eq_true, decide_eq_true_eq] at hc
    exact (hx _ _ (Array.getElem?_eq_getElem hc.1) (Array.getElem?_eq_getElem hc.2)).elim
  | case5 off hc =>
    simp only [gt_iff_lt, Bool.and_eq_true, decide_eq_true_eq, not_and, Nat.not_lt] at hc
    have hnil : l.toList.drop off = [] ∨ r.toList.drop off = [] := by
      by_cases h1 : l.size ≤ off
      · exact .inl (List.drop_eq_nil_of_le (by simpa using h1))
      · exact .inr (List.drop_eq_nil_of_le (by simpa using hc (by omega)))
    have e1 : decide (l.size - off < r.size - off) = decide (l.size < r.size) := decide_eq_decide.2 (by omega)
    have e2 : (l.size - off == r.size - off) = (l.size == r.size) := by
      rw [Bool.eq_iff_iff, beq_iff_eq, beq_iff_eq]; omega
    rw [isLess_of_nil _ _ _ hnil, List.length_drop, List.length_drop, Array.length_toList, Array.length_toList, e1, e2]

/-- The driver's cursor run from offset 0 is the list recursion, and never reads out of range. -/
theorem isLessA_zero (l r : Array Nat) (e : Bool) :
    isLessA l r l.size r.size e 0 = some (isLess l.toList r.toList e) := by
  simpa using isLessA_eq l r e 0 (Nat.zero_le _) (Nat.zero_le _)

theorem isGreaterA_eq_isLessA_swap (l r : Array Nat) (ll rl : Nat) (e : Bool) (off : Nat) :
    isGreaterA l r ll rl e off = isLessA r l rl ll e off := by
  fun_induction isGreaterA l r ll rl e off with
  | case1 off hc a b ha hb hab =>
    rw [isLessA, if_pos (Bool.and_comm _ _ ▸ hc), ha, hb]; exact (if_pos hab).symm
  | case2 off hc a b ha hb hab hab' =>
    rw [isLessA, if_pos (Bool.and_comm _ _ ▸ hc), ha, hb]
    exact ((if_neg hab).trans (if_pos hab')).symm
  | case3 off hc a b ha hb hab hab' ih =>
    rw [isLessA, if_pos (Bool.and_comm _ _ ▸ hc), ha, hb, ih]
    exact ((if_neg hab).trans (if_neg hab')).symm
  | case4 off hc hx =>
    rw [isLessA, if_pos (Bool.and_comm _ _ ▸ hc)]
    cases hr : r[off]? with
    | none => rfl
    | some b =>
      cases hl : l[off]? with
      | none => rfl
      | some a => exact (hx a b hl hr).elim
  | case5 off hc =>
    rw [isLessA, if_neg (fun h => hc (Bool.and_comm _ _ ▸ h)), BEq.comm (a := ll)]

theorem isGreaterA_zero (l r : Array Nat) (e : Bool) :
    isGreaterA l r l.size r.size e 0 = some (isGreater l.toList r.toList e) := by
  rw [isGreaterA_eq_isLessA_swap, isLessA_zero, isGreater_eq_isLess_swap]

theorem isEqualA_eq (l r : Array Nat) (n off : Nat) (h : off ≤ n) (hl : n ≤ l.size) (hr : n ≤ r.size) :
    isEqualA l r n off = isEqualN (l.toList.drop off) (r.toList.drop off) (n - off) := by
  fun_induction isEqualA l r n off with
  | case1 off hc a b hb ha hab ih =>
    have : n - off = (n - (off + 1)) + 1 := by omega
    rw [ih (by omega), drop_cons_of_getElem? l off a ha, drop_cons_of_getElem? r off b hb, this, isEqualN, if_pos hab]
  | case2 off hc a b hb ha hab =>
    have : n - off = (n - (off + 1)) + 1 := by omega
    rw [drop_cons_of_getElem? l off a ha, drop_cons_of_getElem? r off b hb, this, isEqualN, if_neg hab,
      beq_false_of_ne (by omega : n ≠ off)]
  | case3 off hc hx =>
    exact (hx _ _ (Array.getElem?_eq_getElem (by omega)) (Array.getElem?_eq_getElem (by omega))).elim
  | case4 off hc =>
    have : n = off := by omega
    subst this
    rw [Nat.sub_self, isEqualN, beq_self_eq_true]

/-- `IsEqual` as called by `operator==` (equal lengths) reads in range and decides equality. -/
theorem isEqualA_zero (l r : Array Nat) (h : l.size = r.size) :
    isEqualA l r l.size 0 = some (decide (l.toList = r.toList)) := by
  rw [isEqualA_eq l r l.size 0 (Nat.zero_le _) (Nat.le_refl _) (by omega)]
  simpa using isEqualN_self_length l.toList r.toList (by simpa using h)

end Qentem.Order
