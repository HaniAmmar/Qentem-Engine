import Qentem.Model.SeqLedger
import Qentem.Proofs.Ledger
import Qentem.Proofs.SeqArray
/-! C16 for the flat containers: the pointer-level primitives keep the allocator's view (the live
set of `Ledger.run`) and the objects' view (`blks`) in agreement, so every primitive list followed by
the destruction of every register it mentions is `Balanced`. -/
namespace Qentem.SeqLedger
open Qentem.Seq Qentem.Ledger

/-- The allocator's live set is exactly the set of blocks some register points to; ids are older than
the counter; no block has two owners. -/
def Sim (h : Heap) (w : LW) : Prop :=
  (∀ id, isLive h id = true ↔ ∃ x, w.blks x = some id) ∧
  (∀ x id, w.blks x = some id → id < w.next) ∧
  (∀ x y id, w.blks x = some id → w.blks y = some id → x = y)

theorem sim_init : Sim [] LW.init := by
  refine ⟨?_, ?_, ?_⟩ <;> simp [isLive, LW.init]

theorem setR_eq_some {f : Nat → Option Nat} {x y id : Nat} {v : Option Nat} :
    setR f x v y = some id ↔ (y = x ∧ v = some id) ∨ (y ≠ x ∧ f y = some id) := by
  simp only [setR]; split <;> simp [*]

theorem mFree_sim (x : Nat) (h : Heap) (w : LW) (hs : Sim h w) :
    ∃ h', run (mFree x w).2 h = some h' ∧ Sim h' (mFree x w).1 ∧ (mFree x w).1.blks x = none := by
  unfold mFree
  cases hb : w.blks x with
  | none => exact ⟨h, by simp [run], hs, hb⟩
  | some b =>
    obtain ⟨h1, h2, h3⟩ := hs
    have hlive : isLive h b = true := (h1 b).2 ⟨x, hb⟩
    refine ⟨release h b, by simp [run, step, hlive], ⟨?_, ?_, ?_⟩, by simp⟩
    · intro id
      rw [isLive_release, Bool.and_eq_true, bne_iff_ne]
      constructor
      · rintro ⟨hne, hl⟩
        obtain ⟨y, hy⟩ := (h1 id).1 hl
        exact ⟨y, setR_eq_some.2 (.inr ⟨fun e => hne (Option.some.inj ((e ▸ hy).symm.trans hb)), hy⟩)⟩
      · rintro ⟨y, hy⟩
        rcases setR_eq_some.1 hy with ⟨_, e⟩ | ⟨hyx, hy'⟩
        · cases e
        · exact ⟨fun e => hyx (h3 y x id hy' (e ▸ hb)), (h1 id).2 ⟨y, hy'⟩⟩
    · intro y id hy
      rcases setR_eq_some.1 hy with ⟨_, e⟩ | ⟨_, hy'⟩
      · cases e
      · exact h2 y id hy'
    · intro y z id hy hz
      rcases setR_eq_some.1 hy with ⟨_, e⟩ | ⟨_, hy'⟩
      · cases e
      rcases setR_eq_some.1 hz with ⟨_, e⟩ | ⟨_, hz'⟩
      · cases e
      · exact h3 y z id hy' hz'

theorem mAlloc_sim (x sz : Nat) (h : Heap) (w : LW) (hs : Sim h w) (hx : w.blks x = none) :
    ∃ h', run (mAlloc x sz w).2 h = some h' ∧ Sim h' (mAlloc x sz w).1 := by
  obtain ⟨h1, h2, h3⟩ := hs
  have hfresh : isLive h w.next = false := by
    cases hl : isLive h w.next with
    | false => rfl
    | true =>
      obtain ⟨y, hy⟩ := (h1 w.next).1 hl
      exact absurd (h2 y _ hy) (Nat.lt_irrefl _)
  refine ⟨(w.next, sz) :: h, by simp [mAlloc, run, step, hfresh], ⟨?_, ?_, ?_⟩⟩
  · intro id
    rw [isLive_cons, Bool.or_eq_true, beq_iff_eq]
    constructor
    · rintro (e | hl)
      · exact ⟨x, setR_eq_some.2 (.inl ⟨rfl, congrArg some e⟩)⟩
      · obtain ⟨y, hy⟩ := (h1 id).1 hl
        exact ⟨y, setR_eq_some.2 (.inr ⟨(fun e => nomatch hx.symm.trans (e ▸ hy : w.blks x = some id)), hy⟩)⟩
    · rintro ⟨y, hy⟩
      rcases setR_eq_some.1 hy with ⟨_, e⟩ | ⟨_, hy'⟩
      · exact .inl (Option.some.inj e)
      · exact .inr ((h1 id).2 ⟨y, hy'⟩)
  · intro y id hy
    rcases setR_eq_some.1 hy with ⟨_, e⟩ | ⟨_, hy'⟩
    · exact Option.some.inj e ▸ Nat.lt_succ_self _
    · exact Nat.lt_succ_of_lt (h2 y id hy')
  · intro y z id hy hz
    rcases setR_eq_some.1 hy with ⟨ey, e⟩ | ⟨_, hy'⟩ <;> rcases setR_eq_some.1 hz with ⟨ez, e'⟩ | ⟨_, hz'⟩
    · exact ey.trans ez.symm
    · exact absurd (h2 z _ (Option.some.inj e ▸ hz')) (Nat.lt_irrefl _)
    · exact absurd (h2 y _ (Option.some.inj e' ▸ hy')) (Nat.lt_irrefl _)
    · exact h3 y z id hy' hz'

theorem mMove_sim (x y : Nat) (h : Heap) (w : LW) (hs : Sim h w) (hx : w.blks x = none) (hxy : x ≠ y) :
    Sim h (mMove x y w) := by
  obtain ⟨h1, h2, h3⟩ := hs
  -- a block of the new table is a block of the old one: `y`'s block now under `x`, the others where they were
  have old : ∀ {z id}, (mMove x y w).blks z = some id → ∃ z', w.blks z' = some id ∧ (z = x → z' = y) ∧ (z ≠ x → z' = z) := by
    intro z id hz
    rcases setR_eq_some.1 hz with ⟨_, e⟩ | ⟨_, hz⟩
    · cases e
    rcases setR_eq_some.1 hz with ⟨e, hz⟩ | ⟨ne, hz⟩
    · exact ⟨y, hz, fun _ => rfl, fun n => absurd e n⟩
    · exact ⟨z, hz, fun e => absurd e ne, fun _ => rfl⟩
  refine ⟨?_, ?_, ?_⟩
  · intro id
    rw [h1 id]
    constructor
    · rintro ⟨z, hz⟩
      by_cases e : z = y
      · exact ⟨x, setR_eq_some.2 (.inr ⟨hxy, setR_eq_some.2 (.inl ⟨rfl, e ▸ hz⟩)⟩)⟩
      · exact ⟨z, setR_eq_some.2 (.inr ⟨e, setR_eq_some.2 (.inr ⟨(fun e2 => nomatch hx.symm.trans (e2 ▸ hz : w.blks x = some id)), hz⟩)⟩)⟩
    · rintro ⟨z, hz⟩
      obtain ⟨z', hz', _⟩ := old hz
      exact ⟨z', hz'⟩
  · intro z id hz
    obtain ⟨z', hz', _⟩ := old hz
    exact h2 z' id hz'
  · intro z z' id hz hz'
    obtain ⟨a, ha, a1, a2⟩ := old hz
    obtain ⟨b, hb, b1, b2⟩ := old hz'
    have hab := h3 a b id ha hb
    have nz : z ≠ y := fun e => by subst e; simp [mMove, setR] at hz
    have nz' : z' ≠ y := fun e => by subst e; simp [mMove, setR] at hz'
    by_cases ez : z = x <;> by_cases ez' : z' = x
    · exact ez.trans ez'.symm
    · exact absurd ((b2 ez').symm.trans (hab.symm.trans (a1 ez))) nz'
    · exact absurd ((a2 ez).symm.trans (hab.trans (b1 ez'))) nz
    · exact (a2 ez).symm.trans (hab.trans (b2 ez'))

theorem exec_sim (p : Prim) (h : Heap) (w : LW) (hs : Sim h w) :
    ∃ h', run (p.exec w).2 h = some h' ∧ Sim h' (p.exec w).1 := by
  cases p with
  | refresh x sz =>
    obtain ⟨h1, r1, s1, n1⟩ := mFree_sim x h w hs
    obtain ⟨h2, r2, s2⟩ := mAlloc_sim x sz h1 _ s1 n1
    refine ⟨h2, ?_, s2⟩
    simp only [Prim.exec]
    rw [run_append, r1]; simpa using r2
  | drop x =>
    obtain ⟨h1, r1, s1, _⟩ := mFree_sim x h w hs
    exact ⟨h1, r1, s1⟩
  | take x y =>
    simp only [Prim.exec]
    split
    · exact ⟨h, by simp [run], hs⟩
    · next hxy =>
      obtain ⟨h1, r1, s1, n1⟩ := mFree_sim x h w hs
      exact ⟨h1, r1, mMove_sim x y h1 _ s1 n1 hxy⟩

theorem execAll_sim (ps : List Prim) : ∀ (h : Heap) (w : LW), Sim h w →
    ∃ h', run (execAll ps w).2 h = some h' ∧ Sim h' (execAll ps w).1 := by
  induction ps with
  | nil => intro h w hs; exact ⟨h, by simp [execAll, run], hs⟩
  | cons p ps ih =>
    intro h w hs
    obtain ⟨h1, r1, s1⟩ := exec_sim p h w hs
    obtain ⟨h2, r2, s2⟩ := ih h1 _ s1
    refine ⟨h2, ?_, s2⟩
    simp only [execAll]
    rw [run_append, r1]; simpa using r2

theorem execAll_append (a b : List Prim) (w : LW) :
    execAll (a ++ b) w = ((execAll b (execAll a w).1).1, (execAll a w).2 ++ (execAll b (execAll a w).1).2) := by
  induction a generalizing w with
  | nil => simp [execAll]
  | cons p ps ih => simp only [List.cons_append, execAll, ih]; simp

/-- Registers outside `ks` hold no block. -/
def Within (ks : List Nat) (w : LW) : Prop := ∀ x, x ∉ ks → w.blks x = none

theorem exec_within (ks : List Nat) (p : Prim) (w : LW) (hw : Within ks w) (hp : ∀ x ∈ p.regs, x ∈ ks) :
    Within ks (p.exec w).1 := by
  intro z hz
  have hwz := hw z hz
  cases p with
  | refresh x sz =>
    have : z ≠ x := by intro e; subst e; exact hz (hp z (by simp [Prim.regs]))
    simp only [Prim.exec, mAlloc, mFree]
    cases w.blks x <;> simp [setR, this, hwz]
  | drop x =>
    simp only [Prim.exec, mFree]
    cases w.blks x <;> simp [setR, hwz]
  | take x y =>
    have hx : z ≠ x := by intro e; subst e; exact hz (hp z (by simp [Prim.regs]))
    have hy : z ≠ y := by intro e; subst e; exact hz (hp z (by simp [Prim.regs]))
    simp only [Prim.exec]
    split
    · exact hwz
    · simp only [mMove, mFree]
      cases w.blks x <;> simp [setR, hx, hy, hwz]

theorem execAll_within (ks : List Nat) (ps : List Prim) : ∀ (w : LW), Within ks w →
    (∀ p ∈ ps, ∀ x ∈ p.regs, x ∈ ks) → Within ks (execAll ps w).1 := by
  induction ps with
  | nil => intro w hw _; exact hw
  | cons p ps ih =>
    intro w hw hp
    simp only [execAll]
    exact ih _ (exec_within ks p w hw (hp p (by simp))) (fun q hq => hp q (by simp [hq]))

theorem drop_keeps_none (k x : Nat) (w : LW) (h : w.blks x = none) : ((Prim.drop k).exec w).1.blks x = none := by
  simp only [Prim.exec, mFree]
  cases hb : w.blks k with
  | none => simpa [hb] using h
  | some b => simp only [setR]; split <;> simp [h]

theorem drop_clears (k : Nat) (w : LW) : ((Prim.drop k).exec w).1.blks k = none := by
  simp only [Prim.exec, mFree]
  cases hb : w.blks k <;> simp [hb]

theorem drops_keep_none (ks : List Nat) : ∀ (w : LW) (x : Nat), w.blks x = none →
    (execAll (ks.map Prim.drop) w).1.blks x = none := by
  induction ks with
  | nil => intro w x h; exact h
  | cons k ks ih =>
    intro w x h
    simp only [List.map_cons, execAll]
    exact ih _ x (drop_keeps_none k x w h)

theorem drops_clear (ks : List Nat) : ∀ (w : LW) (x : Nat), x ∈ ks →
    (execAll (ks.map Prim.drop) w).1.blks x = none := by
  induction ks with
  | nil => intro w x hx; simp at hx
  | cons k ks ih =>
    intro w x hx
    simp only [List.map_cons, execAll]
    rcases List.mem_cons.1 hx with e | hmem
    · subst e; exact drops_keep_none ks _ x (drop_clears x w)
    · exact ih _ x hmem

theorem balanced_of_prims_list (ps : List Prim) (ks : List Nat) (hp : ∀ p ∈ ps, ∀ x ∈ p.regs, x ∈ ks) :
    Balanced (execAll (ps ++ ks.map Prim.drop) LW.init).2 := by
  have hall : ∀ p ∈ ps ++ ks.map Prim.drop, ∀ x ∈ p.regs, x ∈ ks := by
    intro p hmem x hx
    rcases List.mem_append.1 hmem with h1 | h1
    · exact hp p h1 x hx
    · obtain ⟨k, hk, rfl⟩ := List.mem_map.1 h1
      simp [Prim.regs] at hx; subst hx; exact hk
  obtain ⟨h, r, s⟩ := execAll_sim (ps ++ ks.map Prim.drop) [] LW.init sim_init
  have hwithin := execAll_within ks _ LW.init (by intro x _; rfl) hall
  unfold Balanced
  rw [r]
  have hnone : ∀ x, (execAll (ps ++ ks.map Prim.drop) LW.init).1.blks x = none := by
    intro x
    by_cases hx : x ∈ ks
    · rw [execAll_append]; exact drops_clear ks _ x hx
    · exact hwithin x hx
  cases h with
  | nil => rfl
  | cons e t =>
    have : isLive (e :: t) e.1 = true := by simp [isLive]
    obtain ⟨x, hx⟩ := (s.1 e.1).1 this
    rw [hnone x] at hx; simp at hx

theorem closedTrace_balanced (ps fin : List Prim) : Balanced (closedTrace ps fin) := by
  unfold closedTrace
  apply balanced_of_prims_list
  intro p hp x hx
  exact List.mem_flatMap.2 ⟨p, hp, hx⟩

end Qentem.SeqLedger
