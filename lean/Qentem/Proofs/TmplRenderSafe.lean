import Qentem.Proofs.TmplWF
/-!
# C01 — rendering a well-formed tag tree returns, and performs no out-of-range access

On the tags that `wf` accepts every access of the renderer — content reads, slices,
`loops_items_[Level]`, `s_tag + id` — is in range: the fuel-free parts return (`Total`), and the five
mutually recursive functions that take fuel run (`Runs`, Proofs/Runs.lean), by induction on the size
of the tag list with inner inductions over the items of a loop, the units of a phrase and the cases
of an `<if>` (`render_runs`).  `render_safe_of_wf` is what `renderTop_runs` says of one amount of
fuel.  All of it needs the bound check of 487b090 in `getValue` (`cx.guardIndexRead = true`; without
it the statements are false: `{var:a]}`).
-/
namespace Qentem.Tmpl
open Qentem.Expr (Fault Safe Total Runs Item VarRef RealLike Operand)
open Qentem.Generated.Tmpl

variable {R : Type}

theorem itemAt_total (st : RState) (level : Nat) (h : level < st.items.length) :
    Total (itemAt st level) (fun _ => True) :=
  Total.of_eq (a := st.items[level]) (by simp [itemAt, h]) trivial

theorem getValuePath_total (cx : RCtx R) (hg : cx.guardIndexRead = true) (base length : Nat)
    (hb : base + length ≤ cx.content.length) :
    ∀ fuel v offset, Total (getValuePath cx base length fuel v offset offset) (fun _ => True) := by
  intro fuel
  induction fuel with
  | zero => intro v offset; exact Total.ok _ trivial
  | succ fuel ih =>
    intro v offset
    simp only [getValuePath]
    cases v with
    | none => exact Total.ok _ trivial
    | some d =>
      apply Total.bind (skipW_total cx.content (base + length) _ (by omega) (base + offset))
      intro o2 ho2
      refine Total.bind (P := fun _ => True) (Total.ite (fun _ => Total.ok _ trivial) (fun hne => ?_)) (fun key _ => ?_)
      · by_cases hle : base + offset ≤ base + length
        · have := ho2.2.1 hle
          exact slice_total _ _ _ (by omega) (by omega)
        · have := ho2.2.2 (by omega)
          exact absurd (by omega) hne
      · simp only [hg, Bool.true_and]
        refine Total.ite (fun _ => Total.ok _ trivial) (fun hlt => ?_)
        exact Total.read (by simp at hlt; omega) (Total.ite (fun _ => Total.ok _ trivial) (fun _ => ih _ _))

theorem getValue_total (cx : RCtx R) (hg : cx.guardIndexRead = true) (st : RState) (lv : Nat)
    (hlv : lv ≤ st.items.length) (v : VarRef) (hv : wfVar cx.content.length lv v = true) :
    Total (getValue cx st v) (fun _ => True) := by
  obtain ⟨hb, hl⟩ := wfVar_iff.mp hv
  simp only [getValue]
  refine Total.bind (P := fun _ => True) (Total.ite (fun _ => ?_) (fun _ => Total.ok _ trivial)) (fun hasIndex _ => ?_)
  · exact Total.read (by omega) (Total.ok _ trivial)
  refine Total.ite (fun _ => Total.ite (fun _ => ?_) (fun _ => ?_)) (fun hid => ?_)
  · exact Total.bind (slice_total cx.content _ _ (by omega) (by omega)) (fun key _ => Total.ok _ trivial)
  · apply Total.bind (skipW_total cx.content (v.off + v.len) _ (by omega) v.off)
    intro o ho
    refine Total.bind (P := fun _ => True) (Total.ite (fun _ => ?_) (fun _ => Total.ok _ trivial))
      (fun value _ => getValuePath_total cx hg v.off v.len hb _ _ _)
    have := ho.2.1 (by omega)
    exact Total.bind (slice_total cx.content _ _ (by omega) (by omega)) (fun key _ => Total.ok _ trivial)
  · have hlevel : v.level < st.items.length := by
      rcases hl with h | h
      · exact absurd h hid
      · omega
    refine Total.bind (itemAt_total st v.level hlevel) (fun it _ => ?_)
    exact Total.ite (fun _ => Total.ok _ trivial) (fun _ => getValuePath_total cx hg v.off v.len hb _ _ _)

theorem emit_items (st : RState) (s : List Nat) : (emit st s).items = st.items := rfl

theorem subChk_total (a b : Nat) (h : b ≤ a) : Total (subChk a b) (fun r => r = a - b) :=
  Total.of_eq (by simp [subChk, h]) rfl

theorem renderVariable_total (cx : RCtx R) (hg : cx.guardIndexRead = true) (st : RState) (lv : Nat)
    (hlv : lv ≤ st.items.length) (v : VarRef) (offset s e : Nat)
    (hw : wfTag cx.content.length lv (Tag.var v : Tag R) = some (s, e)) (ho : offset ≤ s) :
    Total (renderVariable cx st v offset) (fun r => r.2 = e ∧ r.1.items = st.items) := by
  obtain ⟨hv, h5, hen, rfl, rfl⟩ := wfTag_var.mp hw
  have hf : W1.variablePrefixLength + W1.inLineSuffixLength = W1.variableFullLength := by decide
  have hend : v.off - W1.variablePrefixLength + (v.len + W1.variableFullLength) =
      v.off + v.len + W1.inLineSuffixLength := by omega
  unfold renderVariable
  apply Total.bind (subChk_total v.off W1.variablePrefixLength h5)
  intro tOff htOff
  subst htOff
  apply Total.bind (slice_total cx.content _ _ ho (by omega))
  intro pre _
  apply Total.bind (getValue_total cx hg (emit st pre) lv hlv v hv)
  intro value _
  split
  · exact Total.ok _ ⟨hend, rfl⟩
  · have hkey : Total (loopKeyText (emit st pre) v) (fun _ => True) := by
      refine Total.ite (fun _ => Total.ok _ trivial) (fun hid => ?_)
      have hl : v.level < st.items.length := by
        rcases (wfVar_iff.mp hv).2 with h | h
        · exact absurd h hid
        · omega
      have := itemAt_total (emit st pre) v.level hl
      cases hit : itemAt (emit st pre) v.level with
      | ok it => exact Total.ok _ trivial
      | error e => rw [hit] at this; exact False.elim this
    apply Total.bind hkey
    intro keyTxt _
    split
    · exact Total.ok _ ⟨hend, rfl⟩
    · exact Total.bind (slice_total cx.content _ _ (by omega) (by omega)) (fun src _ => Total.ok _ ⟨hend, rfl⟩)

theorem renderRawVariable_total (cx : RCtx R) (hg : cx.guardIndexRead = true) (st : RState) (lv : Nat)
    (hlv : lv ≤ st.items.length) (v : VarRef) (offset s e : Nat)
    (hw : wfTag cx.content.length lv (Tag.raw v : Tag R) = some (s, e)) (ho : offset ≤ s) :
    Total (renderRawVariable cx st v offset) (fun r => r.2 = e ∧ r.1.items = st.items) := by
  obtain ⟨hv, h5, hen, rfl, rfl⟩ := wfTag_raw.mp hw
  have hf : W1.rawVariablePrefixLength + W1.inLineSuffixLength = W1.rawVariableFullLength := by decide
  have hend : v.off - W1.rawVariablePrefixLength + (v.len + W1.rawVariableFullLength) =
      v.off + v.len + W1.inLineSuffixLength := by omega
  unfold renderRawVariable
  apply Total.bind (subChk_total v.off W1.rawVariablePrefixLength h5)
  intro tOff htOff
  subst htOff
  apply Total.bind (slice_total cx.content _ _ ho (by omega))
  intro pre _
  apply Total.bind (getValue_total cx hg (emit st pre) lv hlv v hv)
  intro value _
  split
  · exact Total.ok _ ⟨hend, rfl⟩
  · exact Total.bind (slice_total cx.content _ _ (by omega) (by omega)) (fun src _ => Total.ok _ ⟨hend, rfl⟩)

mutual
theorem operandVars_wf (n lv : Nat) : ∀ (x : Operand R), wfOperand n lv x = true →
    ∀ v ∈ operandVars x, wfVar n lv v = true
  | .var w, h => by
    intro v hv; simp only [operandVars, List.mem_singleton] at hv; subst hv
    simpa [wfOperand] using h
  | .sub items, h => by
    simp only [operandVars]; simp only [wfOperand] at h; exact itemsVars_wf n lv items h
  | .num _, _ => by intro v hv; simp [operandVars] at hv
  | .text _ _, _ => by intro v hv; simp [operandVars] at hv
theorem itemsVars_wf (n lv : Nat) : ∀ (items : List (Item R)), wfItemVars n lv items = true →
    ∀ v ∈ itemsVars items, wfVar n lv v = true
  | [], _ => by intro v hv; simp [itemsVars] at hv
  | (x, _) :: rest, h => by
    simp only [wfItemVars, Bool.and_eq_true] at h
    intro v hv
    simp only [itemsVars, List.mem_append] at hv
    rcases hv with hv | hv
    · exact operandVars_wf n lv x h.1 v hv
    · exact itemsVars_wf n lv rest h.2 v hv
end

theorem tagsSize_sublist {l₁ l₂ : List (Tag R)} (h : l₁.Sublist l₂) : tagsSize l₁ ≤ tagsSize l₂ := by
  induction h with
  | slnil => exact Nat.le_refl _
  | cons t _ ih => simp only [tagsSize]; omega
  | cons_cons t _ ih => simp only [tagsSize]; omega

theorem casesSize_mem : ∀ (cases : List (IfCase R)) (cs : List (Item R)) (sub : List (Tag R)) (o e : Nat),
    IfCase.mk cs sub o e ∈ cases → tagsSize sub < casesSize cases := by
  intro cases
  induction cases with
  | nil => intro cs sub o e h; cases h
  | cons c r ih =>
    intro cs sub o e h
    obtain ⟨cs0, sub0, o0, e0⟩ := c
    rcases List.mem_cons.mp h with h | h
    · cases h; simp only [casesSize]; omega
    · have := ih cs sub o e h; simp only [casesSize]; omega

section
variable [RealLike R]

omit [RealLike R] in
theorem resolveVars_total (cx : RCtx R) (hg : cx.guardIndexRead = true) (st : RState) (lv : Nat)
    (hlv : lv ≤ st.items.length) : ∀ (vars : List VarRef),
    (∀ v ∈ vars, wfVar cx.content.length lv v = true) →
    Total (resolveVars cx st vars) (fun _ => True) := by
  intro vars
  induction vars with
  | nil => intro _; exact Total.ok _ trivial
  | cons v rest ih =>
    intro h
    simp only [resolveVars]
    apply Total.bind (getValue_total cx hg st lv hlv v (h v (List.mem_cons_self ..)))
    intro d _
    apply Total.bind (ih (fun w hw => h w (List.mem_cons_of_mem _ hw)))
    intro r _
    exact Total.ok _ trivial

theorem evalExprs_total (cx : RCtx R) (hg : cx.guardIndexRead = true) (st : RState) (lv : Nat)
    (hlv : lv ≤ st.items.length) (items : List (Item R))
    (hw : wfItemVars cx.content.length lv items = true) :
    Total (evalExprs cx st items) (fun _ => True) :=
  Total.ite (fun _ => Total.ok _ trivial) (fun _ =>
    Total.bind (resolveVars_total cx hg st lv hlv _ (itemsVars_wf _ _ items hw)) (fun _ _ => Total.ok _ trivial))

theorem renderMath_total (cx : RCtx R) (hg : cx.guardIndexRead = true) (st : RState) (lv : Nat)
    (hlv : lv ≤ st.items.length) (ex : List (Item R)) (off endOff offset s e : Nat)
    (hw : wfTag cx.content.length lv (Tag.math ex off endOff : Tag R) = some (s, e)) (ho : offset ≤ s) :
    Total (renderMath cx st ex off endOff offset) (fun r => r.2 = e ∧ r.1.items = st.items) := by
  obtain ⟨hx, h1, h2, rfl, rfl⟩ := wfTag_math.mp hw
  unfold renderMath
  apply Total.bind (slice_total cx.content _ _ ho (by omega))
  intro pre _
  apply Total.bind (evalExprs_total cx hg (emit st pre) lv hlv ex hx)
  intro r _
  split
  · exact Total.ok _ ⟨rfl, rfl⟩
  · exact Total.ok _ ⟨rfl, rfl⟩
  · exact Total.ok _ ⟨rfl, rfl⟩
  · exact Total.ok _ ⟨rfl, rfl⟩
  · exact Total.bind (slice_total cx.content _ _ h1 h2) (fun src _ => Total.ok _ ⟨rfl, rfl⟩)

theorem takeChk_total {α : Type} (l : List α) (k : Nat) (h : k ≤ l.length) :
    Total (takeChk l k) (fun r => r = l.take k) :=
  Total.of_eq (by simp [takeChk, h]) rfl

theorem dropChk_total {α : Type} (l : List α) (k : Nat) (h : k ≤ l.length) :
    Total (dropChk l k) (fun r => r = l.drop k) :=
  Total.of_eq (by simp [dropChk, h]) rfl

/-! ## one step of the two inner loops -/

/-- the loop item of iteration `idx` -/
def itemOf (set : Doc) (idx : Nat) (it : LoopItem) : LoopItem :=
  if set.isObject then
    match set with
    | .obj ms => (match ms[idx]? with
      | some (k, v) => if v.isUndefined then { it with value := none } else { value := some v, key := k }
      | none => { it with value := none })
    | _ => it
  else { value := set.getIdx idx, key := [] }

theorem loopIter_succ (cx : RCtx R) (g : Nat) (sub : List (Tag R)) (f : LoopFields) (set : Doc) (size idx : Nat)
    (st : RState) :
    loopIter cx (g + 1) sub f set size idx st =
      if idx < size then do
        let it ← itemAt st f.level
        let st := { st with items := st.items.set f.level (itemOf set idx it) }
        let st ← (if (itemOf set idx it).value.isSome then render cx g sub (f.off + f.contentOff) f.endOff st else pure st)
        loopIter cx g sub f set size (idx + 1) st
      else .ok st := by
  simp only [loopIter, itemOf]
  rfl

/-- the number the phrase loop reads from the unit after `{` -/
def idOf (d : Nat) : Nat := (d + 2 ^ sizeTBits - W1.digitZero) % 2 ^ sizeTBits

/-- what the phrase loop does with argument `t` -/
def renderArg (cx : RCtx R) (t : Option (Tag R)) (st : RState) : Except Fault RState :=
  match t with
  | some (.var v) => do
    let o ← subChk v.off W1.variablePrefixLength
    let (st, _) ← renderVariable cx st v o
    pure st
  | some (.raw v) => do
    let o ← subChk v.off W1.rawVariablePrefixLength
    let (st, _) ← renderRawVariable cx st v o
    pure st
  | some (.math ex off endOff) => do
    let (st, _) ← renderMath cx st ex off endOff off
    pure st
  | _ => pure st

theorem svarLoop_hit (cx : RCtx R) (fuel : Nat) (sub : List (Tag R)) (txt : List Nat) (index lastIdx : Nat) (st : RState)
    (h0 : index < txt.length) (h1 : txt[index]? = some 123) (h2 : index + 2 < txt.length)
    (h3 : txt[index + 2]? = some 125) (hid : idOf (txt.getD (index + 1) 0) < sub.length) :
    svarLoop cx (fuel + 1) sub txt index lastIdx st =
      (renderArg cx sub[idOf (txt.getD (index + 1) 0)]?
        (emit st (Qentem.Escape.escapeCfg cx.autoEscape ((txt.drop lastIdx).take (index - lastIdx))))).bind
        (fun st2 => svarLoop cx fuel sub txt (index + 3) (index + 3) st2) := by
  have hA : W1.inLineFirstChar = 123 := by decide
  have hB : W1.inLineLastChar = 125 := by decide
  have h3' : txt[index + 1 + 1]? = some 125 := h3
  have hid' : (txt.getD (index + 1) 0 + 2 ^ sizeTBits - W1.digitZero) % 2 ^ sizeTBits < sub.length := hid
  simp only [svarLoop, h0, if_true, h1, hA, hB, beq_self_eq_true, show index + 1 < txt.length by omega,
    show index + 1 + 1 < txt.length by omega, decide_true, h3', Bool.and_self, hid']
  simp only [idOf, renderArg]
  cases hs : sub[(txt.getD (index + 1) 0 + 2 ^ sizeTBits - W1.digitZero) % 2 ^ sizeTBits]? with
  | none => rfl
  | some t =>
    cases t <;> simp only [bind, Except.bind, pure, Except.pure] <;> first | rfl | (split <;> first | rfl | (split <;> rfl))

theorem svarLoop_rej (cx : RCtx R) (fuel : Nat) (sub : List (Tag R)) (txt : List Nat) (index lastIdx : Nat) (st : RState)
    (h0 : index < txt.length) (h1 : txt[index]? = some 123)
    (hno : ¬ (index + 2 < txt.length ∧ txt[index + 2]? = some 125 ∧ idOf (txt.getD (index + 1) 0) < sub.length)) :
    svarLoop cx (fuel + 1) sub txt index lastIdx st =
      svarLoop cx fuel sub txt (index + 1) index
        (emit st (Qentem.Escape.escapeCfg cx.autoEscape ((txt.drop lastIdx).take (index - lastIdx)))) := by
  have hA : W1.inLineFirstChar = 123 := by decide
  have hB : W1.inLineLastChar = 125 := by decide
  simp only [svarLoop, h0, if_true, h1, hA, hB, beq_self_eq_true]
  by_cases h2 : index + 1 < txt.length
  · simp only [h2, if_true]
    by_cases h3 : index + 1 + 1 < txt.length ∧ txt[index + 1 + 1]? = some 125
    · have h3b : (decide (index + 1 + 1 < txt.length) && (txt[index + 1 + 1]? == some 125)) = true := by
        rw [h3.2]; simp only [h3.1, decide_true, beq_self_eq_true, Bool.and_self]
      simp only [h3b, if_true]
      have hid : ¬ (txt.getD (index + 1) 0 + 2 ^ sizeTBits - W1.digitZero) % 2 ^ sizeTBits < sub.length := by
        intro h; exact hno ⟨h3.1, h3.2, h⟩
      simp only [hid, if_false]
    · have h3b : (decide (index + 1 + 1 < txt.length) && (txt[index + 1 + 1]? == some 125)) = false :=
        Bool.eq_false_iff.mpr fun h => h3 (by simpa using h)
      simp only [h3b, Bool.false_eq_true, if_false]
  · simp only [h2, if_false]

theorem svarLoop_other (cx : RCtx R) (fuel : Nat) (sub : List (Tag R)) (txt : List Nat) (index lastIdx : Nat) (st : RState)
    (h0 : index < txt.length) (h1 : txt[index]? ≠ some 123) :
    svarLoop cx (fuel + 1) sub txt index lastIdx st = svarLoop cx fuel sub txt (index + 1) lastIdx st := by
  have hA : W1.inLineFirstChar = 123 := by decide
  have : (txt[index]? == some 123) = false := by simpa using h1
  simp only [svarLoop, h0, if_true, hA, this, Bool.false_eq_true, if_false]

theorem svarLoop_end (cx : RCtx R) (fuel : Nat) (sub : List (Tag R)) (txt : List Nat) (index lastIdx : Nat) (st : RState)
    (h0 : ¬ index < txt.length) :
    svarLoop cx (fuel + 1) sub txt index lastIdx st =
      .ok (emit st (Qentem.Escape.escapeCfg cx.autoEscape ((txt.drop lastIdx).take (index - lastIdx)))) := by
  simp only [svarLoop, h0, if_false]

/-! ## the functions that take fuel -/

/-- rendering the tag list `sub` runs, from every state that has the loop items it needs -/
def RenderRuns (cx : RCtx R) (sub : List (Tag R)) : Prop :=
  ∀ (offset endO lv : Nat) (st : RState), wfTags cx.content.length lv offset endO sub = true →
    lv ≤ st.items.length →
    Runs (fun N => render cx N sub offset endO st) (fun st' => st.items.length ≤ st'.items.length)

theorem ifCases_runs (cx : RCtx R) (hg : cx.guardIndexRead = true) : ∀ (cases : List (IfCase R)),
    (∀ cs sub o e, IfCase.mk cs sub o e ∈ cases → RenderRuns cx sub) →
    ∀ (lv : Nat) (st : RState), wfCases cx.content.length lv cases = true → lv ≤ st.items.length →
      Runs (fun N => ifCases cx N cases st) (fun st' => st.items.length ≤ st'.items.length) := by
  intro cases
  induction cases with
  | nil =>
    intro _ lv st _ _
    exact Runs.succ (by simp only [ifCases]) (fun n => by rw [ifCases]) (Runs.const (Total.ok _ (Nat.le_refl _)))
  | cons cse rest ih =>
    obtain ⟨cs, sub, off, endOff⟩ := cse
    intro hsub lv st hw hlv
    simp only [wfCases, Bool.and_eq_true] at hw
    refine Runs.succ (by simp only [ifCases]) (fun n => by rw [ifCases]) ?_
    refine Runs.bind (P := fun _ => True) (Runs.const (Total.ite (fun _ => Total.ok _ trivial) (fun _ => ?_)))
      (fun hit _ => Runs.ite (fun _ => hsub cs sub off endOff (List.mem_cons_self ..) off endOff lv st hw.1.2 hlv)
        (fun _ => ih (fun cs' sub' o' e' hm => hsub cs' sub' o' e' (List.mem_cons_of_mem _ hm)) lv st hw.2 hlv))
    exact Total.bind (evalExprs_total cx hg st lv hlv cs hw.1.1) (fun r _ => Total.ok _ trivial)

theorem loopIter_runs (cx : RCtx R) (sub : List (Tag R)) (lf : LoopFields) (set : Doc) (size lv : Nat)
    (hsub : RenderRuns cx sub)
    (hw : wfTags cx.content.length lv (lf.off + lf.contentOff) lf.endOff sub = true) :
    ∀ (k idx : Nat) (st : RState), size - idx ≤ k → lv ≤ st.items.length → lf.level < st.items.length →
      Runs (fun N => loopIter cx N sub lf set size idx st) (fun st' => st.items.length ≤ st'.items.length) := by
  intro k
  induction k with
  | zero =>
    intro idx st hk _ _
    refine Runs.succ (by simp only [loopIter]) (fun n => by rw [loopIter_succ]) ?_
    simp only [show ¬ idx < size by omega, if_false]
    exact Runs.const (Total.ok _ (Nat.le_refl _))
  | succ k ih =>
    intro idx st hk hlv hlevel
    refine Runs.succ (by simp only [loopIter]) (fun n => by rw [loopIter_succ]) (Runs.ite (fun hlt => ?_)
      (fun _ => Runs.const (Total.ok _ (Nat.le_refl _))))
    refine Runs.bind (Runs.const (itemAt_total st lf.level hlevel)) (fun it _ => ?_)
    -- the loop writes its item at its own level: `loops_items_` keeps its length
    have hlen : ({ st with items := st.items.set lf.level (itemOf set idx it) } : RState).items.length =
        st.items.length := List.length_set
    refine Runs.bind (P := fun st' => st.items.length ≤ st'.items.length) (Runs.ite (fun _ => ?_) (fun _ => ?_))
      (fun st2 h2 => (ih (idx + 1) st2 (by omega) (by omega) (by omega)).mono (fun st' h => by omega))
    · exact (hsub _ _ lv _ hw (by rw [hlen]; exact hlv)).mono (fun st' h => by rw [hlen] at h; exact h)
    · exact Runs.const (Total.ok _ (by rw [hlen]; exact Nat.le_refl _))

theorem renderArg_total (cx : RCtx R) (hg : cx.guardIndexRead = true) (sub : List (Tag R)) (lv id : Nat)
    (st : RState) (hw : wfEach cx.content.length lv sub = true) (hlv : lv ≤ st.items.length) :
    Total (renderArg cx sub[id]? st) (fun st' => st'.items = st.items) := by
  cases hs : sub[id]? with
  | none => exact Total.ok _ rfl
  | some t =>
    have hv := wfEach_get _ lv sub id t hw hs
    cases t with
    | var v =>
      cases hwt : wfTag cx.content.length lv (Tag.var v : Tag R) with
      | none => simp [hwt] at hv
      | some p =>
        obtain ⟨s, e⟩ := p
        obtain ⟨_, h5, _, hs', _⟩ := wfTag_var.mp hwt
        refine Total.bind (subChk_total v.off W1.variablePrefixLength h5) (fun o ho => ?_)
        exact Total.bind (renderVariable_total cx hg st lv hlv v o s e hwt (by omega)) (fun r hr => Total.ok _ hr.2)
    | raw v =>
      cases hwt : wfTag cx.content.length lv (Tag.raw v : Tag R) with
      | none => simp [hwt] at hv
      | some p =>
        obtain ⟨s, e⟩ := p
        obtain ⟨_, h5, _, hs', _⟩ := wfTag_raw.mp hwt
        refine Total.bind (subChk_total v.off W1.rawVariablePrefixLength h5) (fun o ho => ?_)
        exact Total.bind (renderRawVariable_total cx hg st lv hlv v o s e hwt (by omega)) (fun r hr => Total.ok _ hr.2)
    | math ex off endOff =>
      cases hwt : wfTag cx.content.length lv (Tag.math ex off endOff : Tag R) with
      | none => simp [hwt] at hv
      | some p =>
        obtain ⟨s, e⟩ := p
        obtain ⟨_, _, _, hs', _⟩ := wfTag_math.mp hwt
        exact Total.bind (renderMath_total cx hg st lv hlv ex off endOff off s e hwt (by omega))
          (fun r hr => Total.ok _ hr.2)
    | _ => exact Total.ok _ rfl

theorem svarLoop_runs (cx : RCtx R) (hg : cx.guardIndexRead = true) (sub : List (Tag R)) (txt : List Nat) (lv : Nat)
    (hw : wfEach cx.content.length lv sub = true) : ∀ (k i l : Nat) (st : RState), txt.length - i ≤ k →
    lv ≤ st.items.length →
    Runs (fun N => svarLoop cx N sub txt i l st) (fun st' => st.items.length ≤ st'.items.length) := by
  intro k
  induction k with
  | zero =>
    intro i l st hk _
    exact Runs.succ (by simp only [svarLoop]) (fun n => svarLoop_end cx n sub txt i l st (by omega))
      (Runs.const (Total.ok _ (Nat.le_refl _)))
  | succ k ih =>
    intro i l st hk hlv
    by_cases h0 : i < txt.length
    · by_cases h1 : txt[i]? = some 123
      · by_cases hh : i + 2 < txt.length ∧ txt[i + 2]? = some 125 ∧ idOf (txt.getD (i + 1) 0) < sub.length
        · refine Runs.succ (by simp only [svarLoop])
            (fun n => svarLoop_hit cx n sub txt i l st h0 h1 hh.1 hh.2.1 hh.2.2) ?_
          refine Runs.bind (Runs.const (renderArg_total cx hg sub lv _ _ hw hlv)) (fun st2 h2 => ?_)
          exact (ih _ _ st2 (by omega) (by rw [h2]; exact hlv)).mono (fun st' h => by rw [h2] at h; exact h)
        · exact Runs.succ (by simp only [svarLoop]) (fun n => svarLoop_rej cx n sub txt i l st h0 h1 hh)
            (ih _ _ _ (by omega) hlv)
      · exact Runs.succ (by simp only [svarLoop]) (fun n => svarLoop_other cx n sub txt i l st h0 h1)
          (ih _ _ _ (by omega) hlv)
    · exact Runs.succ (by simp only [svarLoop]) (fun n => svarLoop_end cx n sub txt i l st h0)
        (Runs.const (Total.ok _ (Nat.le_refl _)))

theorem render_runs_of (cx : RCtx R) : ∀ (tags : List (Tag R)),
    (∀ t ∈ tags, ∀ (offset lv : Nat) (st : RState) (s e : Nat), wfTag cx.content.length lv t = some (s, e) →
      offset ≤ s → lv ≤ st.items.length →
      Runs (fun N => renderTag cx N t offset st) (fun r => r.2 = e ∧ st.items.length ≤ r.1.items.length)) →
    RenderRuns cx tags := by
  intro tags
  induction tags with
  | nil =>
    intro _ offset endO lv st hw hlv
    obtain ⟨h1, h2⟩ := wfTags_nil.mp hw
    refine Runs.succ (by simp only [render]) (fun n => by rw [render]) (Runs.const ?_)
    exact Total.bind (slice_total cx.content _ _ h1 h2) (fun x _ => Total.ok _ (Nat.le_refl _))
  | cons t rest ih =>
    intro hT offset endO lv st hw hlv
    obtain ⟨s, e, hwt, hs, hrest⟩ := wfTags_cons.mp hw
    refine Runs.succ (by simp only [render]) (fun n => by rw [render]) ?_
    refine Runs.bind (hT t (List.mem_cons_self ..) offset lv st s e hwt hs hlv) (fun r hr => ?_)
    obtain ⟨st1, off1⟩ := r
    obtain ⟨h1, h2⟩ := hr
    subst h1
    exact (ih (fun t' ht' => hT t' (List.mem_cons_of_mem _ ht')) _ endO lv st1 hrest (Nat.le_trans hlv h2)).mono
      (fun st' h => Nat.le_trans h2 h)

theorem renderTag_runs (cx : RCtx R) (hg : cx.guardIndexRead = true) (t : Tag R)
    (hsub : ∀ tags', tagsSize tags' < t.size → RenderRuns cx tags') :
    ∀ (offset lv : Nat) (st : RState) (s e : Nat), wfTag cx.content.length lv t = some (s, e) → offset ≤ s →
      lv ≤ st.items.length →
      Runs (fun N => renderTag cx N t offset st) (fun r => r.2 = e ∧ st.items.length ≤ r.1.items.length) := by
  intro offset lv st s e hw ho hlv
  cases t with
  | var v =>
    refine Runs.succ (by simp only [renderTag]) (fun n => by rw [renderTag]) (Runs.const ?_)
    exact Total.mono (renderVariable_total cx hg st lv hlv v offset s e hw ho)
      (fun r h => ⟨h.1, by rw [h.2]; exact Nat.le_refl _⟩)
  | raw v =>
    refine Runs.succ (by simp only [renderTag]) (fun n => by rw [renderTag]) (Runs.const ?_)
    exact Total.mono (renderRawVariable_total cx hg st lv hlv v offset s e hw ho)
      (fun r h => ⟨h.1, by rw [h.2]; exact Nat.le_refl _⟩)
  | math ex off endOff =>
    refine Runs.succ (by simp only [renderTag]) (fun n => by rw [renderTag]) (Runs.const ?_)
    exact Total.mono (renderMath_total cx hg st lv hlv ex off endOff offset s e hw ho)
      (fun r h => ⟨h.1, by rw [h.2]; exact Nat.le_refl _⟩)
  | svar sub v off endOff =>
    obtain ⟨hv, _, h1, h2, hsw, rfl, rfl⟩ := wfTag_svar.mp hw
    refine Runs.succ (by simp only [renderTag]) (fun n => by rw [renderTag]) ?_
    refine Runs.bind (Runs.const (getValue_total cx hg st lv hlv v hv)) (fun sVar _ => ?_)
    refine Runs.bind (Runs.const (slice_total cx.content _ _ ho (by omega))) (fun pre _ => ?_)
    dsimp only
    split
    · rename_i txt _
      exact Runs.bind (svarLoop_runs cx hg sub txt lv hsw _ 0 0 (emit st pre) (Nat.le_refl _) hlv)
        (fun st1 h1 => Runs.const (Total.ok _ ⟨rfl, h1⟩))
    · exact Runs.const (Total.bind (slice_total cx.content _ _ h1 h2) (fun src _ => Total.ok _ ⟨rfl, Nat.le_refl _⟩))
  | iif cs sub fl =>
    obtain ⟨hcs, hlen, hT, hF, rfl, rfl⟩ := wfTag_iif.mp hw
    refine Runs.succ (by simp only [renderTag]) (fun n => by rw [renderTag]) ?_
    refine Runs.bind (Runs.const (slice_total cx.content _ _ ho (by omega))) (fun pre _ => ?_)
    refine Runs.bind (Runs.const (evalExprs_total cx hg (emit st pre) lv hlv cs hcs)) (fun r _ => ?_)
    have hrr : ∀ tags', tagsSize tags' ≤ tagsSize sub → RenderRuns cx tags' :=
      fun tags' h => hsub tags' (by simp only [Tag.size]; omega)
    -- one of the two values: the sub tags selected for it are rendered inside it
    have hpart : ∀ (p : Prop) [Decidable p] (a b i j e : Nat),
        (if p then decide (i ≤ sub.length) && wfSel cx.content.length lv a b 0 i sub
         else decide (j ≤ sub.length) && wfSel cx.content.length lv a b j sub.length sub) = true →
        Runs (fun n => (if p then takeChk sub i else dropChk sub j) >>= fun tags =>
            render cx n tags a b (emit st pre) >>= fun st1 => Except.ok (st1, e))
          (fun r => r.2 = e ∧ st.items.length ≤ r.1.items.length) := by
      intro p _ a b i j e hsel
      by_cases hp : p
      · simp only [if_pos hp] at hsel ⊢
        rw [Bool.and_eq_true, decide_eq_true_eq, wfSel_eq, List.drop_zero] at hsel
        refine Runs.bind (Runs.const (takeChk_total sub _ hsel.1)) (fun tags ht => ?_)
        subst ht
        exact Runs.bind (hrr _ (tagsSize_sublist (List.take_sublist _ _)) _ _ lv (emit st pre) hsel.2 hlv)
          (fun st1 h1 => Runs.const (Total.ok _ ⟨rfl, h1⟩))
      · simp only [if_neg hp] at hsel ⊢
        rw [Bool.and_eq_true, decide_eq_true_eq, wfSel_eq, List.take_of_length_le (by simp)] at hsel
        refine Runs.bind (Runs.const (dropChk_total sub _ hsel.1)) (fun tags ht => ?_)
        subst ht
        exact Runs.bind (hrr _ (tagsSize_sublist (List.drop_sublist _ _)) _ _ lv (emit st pre) hsel.2 hlv)
          (fun st1 h1 => Runs.const (Total.ok _ ⟨rfl, h1⟩))
    dsimp only
    split
    · exact Runs.const (Total.ok _ ⟨rfl, Nat.le_refl _⟩)
    · rename_i pos _
      cases pos with
      | true => simp only [↓reduceIte]; exact hpart _ _ _ _ _ _ hT
      | false => simp only [Bool.false_eq_true, ↓reduceIte]; exact hpart _ _ _ _ _ _ hF
  | loop sub lf =>
    obtain ⟨hset, hgrp, h1, h2, hsw, rfl, rfl⟩ := wfTag_loop.mp hw
    refine Runs.succ (by simp only [renderTag]) (fun n => by rw [renderTag]) ?_
    refine Runs.bind (Runs.const (slice_total cx.content _ _ ho (by omega))) (fun pre _ => ?_)
    refine Runs.bind (P := fun _ => True) (Runs.const (Total.ite (fun hne => ?_) (fun _ => Total.ok _ trivial)))
      (fun loopSet _ => ?_)
    · rcases hset with h | h
      · exact absurd h hne
      · exact getValue_total cx hg (emit st pre) lv hlv lf.set h
    dsimp only
    split
    · exact Runs.const (Total.ok _ ⟨rfl, Nat.le_refl _⟩)
    · rename_i set0
      refine Runs.bind (P := fun _ => True) (Runs.const (Total.ite (fun _ => ?_) (fun _ => Total.ok _ trivial)))
        (fun grouped _ => ?_)
      · exact Total.bind (slice_total cx.content _ _ (by omega) hgrp) (fun key _ => Total.ok _ trivial)
      split
      · exact Runs.const (Total.ok _ ⟨rfl, Nat.le_refl _⟩)
      · rename_i set1
        -- `loops_items_` grows to `Level + 1`
        have hlen : (st.items ++ List.replicate (lf.level + 1 - st.items.length) ({} : LoopItem)).length =
            st.items.length + (lf.level + 1 - st.items.length) := by
          rw [List.length_append, List.length_replicate]
        refine Runs.bind (loopIter_runs cx sub lf _ _ (max lv (lf.level + 1))
          (hsub sub (by simp only [Tag.size]; omega)) hsw _ 0
          { emit st pre with items := st.items ++ List.replicate (lf.level + 1 - st.items.length) ({} : LoopItem) }
          (Nat.le_refl _) (by rw [hlen]; omega) (by rw [hlen]; omega)) (fun st1 h1 => Runs.const (Total.ok _ ⟨rfl, ?_⟩))
        rw [hlen] at h1
        show st.items.length ≤ st1.items.length
        omega
  | ifT cases off endOff =>
    obtain ⟨h1, h2, hc, rfl, rfl⟩ := wfTag_ifT.mp hw
    refine Runs.succ (by simp only [renderTag]) (fun n => by rw [renderTag]) ?_
    refine Runs.bind (Runs.const (slice_total cx.content _ _ ho (by omega))) (fun pre _ => ?_)
    dsimp only
    split
    · exact Runs.const (Total.ok _ ⟨rfl, Nat.le_refl _⟩)
    · refine Runs.ite (fun _ => Runs.const (Total.ok _ ⟨rfl, Nat.le_refl _⟩)) (fun _ => ?_)
      refine Runs.bind (ifCases_runs cx hg _ (fun cs' sub' o' e' hm => hsub sub' (by
        have := casesSize_mem _ cs' sub' o' e' hm
        simp only [Tag.size]; omega)) lv (emit st pre) hc hlv) (fun st1 h1 => Runs.const (Total.ok _ ⟨rfl, h1⟩))

theorem render_runs (cx : RCtx R) (hg : cx.guardIndexRead = true) : ∀ (n : Nat) (tags : List (Tag R)),
    tagsSize tags ≤ n → RenderRuns cx tags := by
  intro n
  induction n using Nat.strongRecOn with
  | _ n ih =>
    intro tags hn
    refine render_runs_of cx tags (fun t ht => renderTag_runs cx hg t (fun tags' hlt => ?_))
    have := tagsSize_sublist (List.singleton_sublist.2 ht)
    simp only [tagsSize] at this
    exact ih (tagsSize tags') (by omega) tags' (Nat.le_refl _)

theorem renderTop_runs (cx : RCtx R) (hg : cx.guardIndexRead = true) (tags : List (Tag R))
    (hw : wf cx.content.length tags = true) : Runs (renderTop cx tags) (fun _ => True) :=
  Runs.bind (render_runs cx hg _ tags (Nat.le_refl _) 0 cx.content.length 0 {} hw (Nat.zero_le _))
    (fun _ _ => Runs.const (Total.ok _ trivial))

theorem render_safe_of_wf (cx : RCtx R) (hg : cx.guardIndexRead = true) (tags : List (Tag R))
    (hw : wf cx.content.length tags = true) (fuel : Nat) :
    Safe (renderTop cx tags fuel) (fun _ => True) :=
  (renderTop_runs cx hg tags hw).safe fuel

end

end Qentem.Tmpl
