import Qentem.Proofs.TmplFinder
import Qentem.Proofs.ExprReloc
import Qentem.Model.Tmpl.Spec
/-!
# C02 — templates made of text, `{var:…}`, `{raw:…}` and `{math:…}`: the tags and the text the document implies

`Seg` is that fragment of `Tpl`; `tagsOf` is the tag list the document implies (one Variable /
RawVariable / Math tag per segment, at the offsets where the printer put them); `Seg.ok`: texts and
paths contain none of `{ < }`, paths have 1..255 units.  That `parse (printSegs segs)` is
`tagsOf 0 segs` is `parse_segs` in Proofs/TmplStages.lean.

`getValue_path`: for a path of the documented shape `name[k1][k2]…` (name non-empty, no bracket
inside the name or a key) the renderer's `getValue` finds exactly the value the document describes
(`resolve` = `splitPath` + `follow`).  Facts about related expression lists
(`relItems_mem`, `relItems_vars_back`) and resolved variables (`resolveVars_ok`, `find_resolved`) for
`evalExprs_env` in Proofs/TmplGenRenderBase.lean; the rendering of the tags is followed there.

Between the two: the reads of parser and renderer where a known word stands (`At.read`, `At.slice_ok`, `At.skip`, over
`skipW_run`), and an expression text inside the content as a relocation of the text alone (`reloc_after`, `reloc_math`).
At the end what both sides of C02 share: `SameCtx` / `specOf` (the reference interpreter is given the renderer's value
and parameters), `expSeg` (what the document says one segment prints at top level), `exprOk`, and a few equations of
`emit` and of the reference's list functions.
-/
namespace Qentem.Tmpl
open Qentem.Expr (Fault rd ScanCfg VarRef Item Num)
open Qentem.Generated.Tmpl

inductive Seg where
  | text (s : List Nat)
  | var (path : List Nat)
  | raw (path : List Nat)
  | math (e : List Nat)

def Seg.toTpl : Seg → Tpl
  | .text s => .text s | .var p => .var p | .raw p => .raw p | .math e => .math e

def segsTpl : List Seg → List Tpl
  | [] => []
  | s :: r => s.toTpl :: segsTpl r

def printSeg : Seg → List Nat
  | .text s => s
  | .var p => [123, 118, 97, 114, 58] ++ p ++ [125]
  | .raw p => [123, 114, 97, 119, 58] ++ p ++ [125]
  | .math e => [123, 109, 97, 116, 104, 58] ++ e ++ [125]

def printSegs : List Seg → List Nat
  | [] => []
  | s :: r => printSeg s ++ printSegs r

theorem printTpl_toTpl (s : Seg) : printTpl s.toTpl = printSeg s := by
  cases s <;> simp [Seg.toTpl, printTpl, printSeg, str] <;> rfl

theorem printSegs_eq : ∀ (segs : List Seg), printList (segsTpl segs) = printSegs segs
  | [] => rfl
  | s :: r => by simp only [segsTpl, printList, printSegs, printTpl_toTpl, printSegs_eq r]

theorem printSegs_append : ∀ (a b : List Seg), printSegs (a ++ b) = printSegs a ++ printSegs b := by
  intro a
  induction a with
  | nil => intro b; simp [printSegs]
  | cons s r ih => intro b; simp [printSegs, ih, List.append_assoc]

def plainL (l : List Nat) : Prop := ∀ x ∈ l, plainU x

theorem plainL_of_all (l : List Nat) (h : l.all (fun x => x != 123 && x != 60 && x != 125) = true) : plainL l := by
  intro x hx
  have := List.all_eq_true.mp h x hx
  simp only [Bool.and_eq_true, bne_iff_ne, ne_eq] at this
  exact ⟨this.1.1, this.1.2, this.2⟩

/-- the text of a `{math:}` expression as the finder sees it: plain stretches and `{var:path}`
operands -/
def printMP : List (List Nat × List Nat) → List Nat
  | [] => []
  | (t, p) :: r => t ++ ([123, 118, 97, 114, 58] ++ p ++ [125]) ++ printMP r

theorem printMP_len_ge : ∀ (parts : List (List Nat × List Nat)), parts.length ≤ (printMP parts).length := by
  intro parts
  induction parts with
  | nil => simp
  | cons tp r ih => obtain ⟨t, p⟩ := tp; simp [printMP] at ih ⊢; omega

/-- expression texts of `{math:}`: any text whose only `{ < }` are those of `{var:path}` operands -/
def MathOk (e : List Nat) : Prop :=
  ∃ (parts : List (List Nat × List Nat)) (last : List Nat), e = printMP parts ++ last ∧ plainL last ∧
    ∀ tp ∈ parts, plainL tp.1 ∧ plainL tp.2

theorem MathOk.of_plain (e : List Nat) (h : plainL e) : MathOk e :=
  ⟨[], e, by simp [printMP], h, by intro tp htp; cases htp⟩

def Seg.ok : Seg → Prop
  | .text s => plainL s
  | .var p => plainL p ∧ 0 < p.length ∧ p.length ≤ 255
  | .raw p => plainL p ∧ 0 < p.length ∧ p.length ≤ 255
  | .math e => MathOk e

variable {R : Type}

/-- the expression list `parse` stores for the text `[a, b)` of the content (top level) -/
def itemsAt (cfg : ScanCfg R) (c : List Nat) (a b : Nat) : List (Item R) :=
  match exprs cfg c [] a b with
  | .ok l => l
  | .error _ => []

def tagsOf (cfg : ScanCfg R) (c : List Nat) (p : Nat) : List Seg → List (Tag R)
  | [] => []
  | .text s :: r => tagsOf cfg c (p + s.length) r
  | .var pa :: r => .var ⟨p + 5, pa.length, 0, 0⟩ :: tagsOf cfg c (p + 5 + pa.length + 1) r
  | .raw pa :: r => .raw ⟨p + 5, pa.length, 0, 0⟩ :: tagsOf cfg c (p + 5 + pa.length + 1) r
  | .math e :: r =>
    .math (itemsAt cfg c (p + 6) (p + 6 + e.length)) p (p + 6 + e.length + 1) ::
      tagsOf cfg c (p + 6 + e.length + 1) r

/-- the finder state of `parse` at top level: Finder offset `o`, match id `m`, no open loop -/
def stAt (stk : List (Frame R)) (acc : List (Tag R)) (o m : Nat) : PState R :=
  { storage := acc, stack := stk, loopChain := [], isChild := false, off := o, mtch := m }

theorem isExpression_after (x : Nat) (h1 : ¬ x = Qentem.Expr.cSpace)
    (h2 : ¬ (x = Qentem.Expr.cPClose ∨ x = Qentem.Expr.cBClose))
    (h3 : decide (Qentem.Generated.Expr.W1.digitZero ≤ x ∧ x ≤ Qentem.Generated.Expr.W1.digitNine) = false)
    (A rest : List Nat) :
    Qentem.Expr.isExpression ((A ++ [x]) ++ rest) (A ++ [x]).length = .ok false := by
  have hrd : rd ((A ++ [x]) ++ rest) A.length = .ok x :=
    Qentem.Expr.rd_ok (At.of_eq (List.append_assoc A [x] rest)).head
  rw [List.length_append]
  simp only [Qentem.Expr.isExpression, List.length_singleton, hrd, bind, Except.bind, h1, h2, h3,
    if_false]

theorem reloc_after (x : Nat) (h1 : ¬ x = Qentem.Expr.cSpace)
    (h2 : ¬ (x = Qentem.Expr.cPClose ∨ x = Qentem.Expr.cBClose))
    (h3 : decide (Qentem.Generated.Expr.W1.digitZero ≤ x ∧ x ≤ Qentem.Generated.Expr.W1.digitNine) = false)
    {c ct : List Nat} {q : Nat} (h : At c q (x :: ct)) : Qentem.Expr.Reloc ct c (q + 1) := by
  obtain ⟨A, post, hc, rfl⟩ := h
  have h := Qentem.Expr.Reloc.of_append (A ++ [x]) ct post
    (by rw [List.append_assoc]; exact isExpression_after x h1 h2 h3 A (ct ++ post))
  rwa [show (A ++ [x]) ++ ct ++ post = c by rw [hc]; simp only [List.append_assoc, List.cons_append, List.nil_append],
    List.length_append] at h

theorem reloc_math {c e : List Nat} {q : Nat} (h : At c q ([123, 109, 97, 116, 104, 58] ++ e ++ [125])) :
    Qentem.Expr.Reloc (e ++ [125]) c (q + 6) :=
  reloc_after 58 (by decide) (by decide) (by decide)
    (show At c q ([123, 109, 97, 116, 104] ++ (58 :: (e ++ [125]))) from h).right

theorem printMP_cons_len (t p : List Nat) (r : List (List Nat × List Nat)) (last : List Nat) :
    (printMP ((t, p) :: r) ++ last).length = t.length + 5 + p.length + 1 + (printMP r ++ last).length := by
  simp [printMP]; omega

/-- number of `{var:}` / `{raw:}` / `{math:}` segments: the number of `step`s the main loop takes -/
def nTags : List Seg → Nat
  | [] => 0
  | .text _ :: rest => nTags rest
  | _ :: rest => nTags rest + 1

theorem nTags_append : ∀ (a b : List Seg), nTags (a ++ b) = nTags a + nTags b := by
  intro a
  induction a with
  | nil => intro b; simp [nTags]
  | cons s r ih => intro b; cases s <;> simp [nTags, ih] <;> omega

theorem nTags_le (segs : List Seg) : nTags segs ≤ (printSegs segs).length := by
  induction segs with
  | nil => simp [nTags]
  | cons sg rest ih =>
    cases sg <;> simp [nTags, printSegs, printSeg] <;> omega

open Qentem.Expr (Val Env RealLike)

/-- `[k1][k2]…` -/
def brk : List (List Nat) → List Nat
  | [] => []
  | k :: ks => [91] ++ k ++ [93] ++ brk ks

def noB (l : List Nat) : Prop := ∀ x ∈ l, x ≠ 91 ∧ x ≠ 93

/-- the documented path shape -/
def PathOk (p : List Nat) : Prop :=
  ∃ name keys, p = name ++ brk keys ∧ name ≠ [] ∧ noB name ∧ ∀ k ∈ keys, noB k

theorem skipWhile_run (c : List Nat) (endO : Nat) (p : Nat → Bool) :
    ∀ (k f off : Nat), k + 1 ≤ f →
      (∀ i, i < k → ∃ x, c[off + i]? = some x ∧ p x = true) → off + k ≤ endO →
      (off + k = endO ∨ ∃ x, c[off + k]? = some x ∧ p x = false) →
      skipWhile c endO p f off = .ok (off + k) := by
  intro k
  induction k with
  | zero =>
    intro f off hf _ _ hstop
    cases f with
    | zero => omega
    | succ f =>
      simp only [skipWhile, Nat.add_zero]
      rcases hstop with h | ⟨x, hx, hp⟩
      · simp only [Nat.add_zero] at h; simp [h]
      · simp only [Nat.add_zero] at hx
        by_cases h : off < endO
        · simp [h, rd, hx, hp, bind, Except.bind]
        · simp [h]
  | succ k ih =>
    intro f off hf hrun hle hstop
    cases f with
    | zero => omega
    | succ f =>
      obtain ⟨x, hx, hp⟩ := hrun 0 (by omega)
      simp only [Nat.add_zero] at hx
      simp only [skipWhile, show off < endO by omega, if_true, rd, hx, bind, Except.bind, hp]
      have := ih f (off + 1) (by omega)
        (fun i hi => by have := hrun (i + 1) (by omega); rwa [show off + (i + 1) = off + 1 + i by omega] at this)
        (by omega) (by rwa [show off + (k + 1) = off + 1 + k by omega] at hstop)
      rw [this]; congr 1; omega

theorem skipW_run (c : List Nat) (endO : Nat) (p : Nat → Bool) (k off : Nat)
    (hrun : ∀ i, i < k → ∃ x, c[off + i]? = some x ∧ p x = true) (hle : off + k ≤ endO)
    (hstop : off + k = endO ∨ ∃ x, c[off + k]? = some x ∧ p x = false) :
    skipW c endO p off = .ok (off + k) :=
  skipWhile_run c endO p k _ off (by omega) hrun hle hstop

theorem At.read {c w : List Nat} {p x : Nat} (h : At c p (x :: w)) : rd c p = .ok x := Qentem.Expr.rd_ok h.head

theorem At.slice_ok {c w : List Nat} {p : Nat} (h : At c p w) : Tmpl.slice c p (p + w.length) = .ok w := by
  rw [Tmpl.slice, if_pos ⟨Nat.le_add_right _ _, h.le⟩, Nat.add_sub_cancel_left, h.take_drop]

theorem At.skip {c t : List Nat} {p s endO : Nat} {pr : Nat → Bool} (h : At c p t) (ht : ∀ x ∈ t, pr x = true)
    (hstop : c[p + t.length]? = some s) (hs : pr s = false) (hle : p + t.length ≤ endO) :
    Tmpl.skipW c endO pr p = .ok (p + t.length) :=
  skipW_run c endO pr t.length p (fun i hi => h.all ht i hi) hle (Or.inr ⟨s, hstop, hs⟩)

theorem At.skip_end {c t : List Nat} {p : Nat} {pr : Nat → Bool} (h : At c p t) (ht : ∀ x ∈ t, pr x = true) :
    Tmpl.skipW c (p + t.length) pr p = .ok (p + t.length) :=
  skipW_run c _ pr t.length p (fun i hi => h.all ht i hi) (Nat.le_refl _) (Or.inl rfl)

theorem skipW_stop (c : List Nat) (endO p s : Nat) (pr : Nat → Bool) (hstop : c[p]? = some s) (hs : pr s = false)
    (hle : p ≤ endO) : skipW c endO pr p = .ok p :=
  skipW_run c endO pr 0 p (fun i hi => absurd hi (Nat.not_lt_zero i)) hle (Or.inr ⟨s, hstop, hs⟩)

theorem follow_none (ks : List (List Nat)) : follow none ks = none := by
  cases ks <;> rfl

theorem key_read (cx : RCtx R) (base len off : Nat) (k rest : List Nat)
    (h : At cx.content (base + off) (k ++ 93 :: rest)) (hl : base + off + k.length + 1 ≤ base + len) (hk : noB k) :
    skipW cx.content (base + len) (· != W1.variableIndexSuffix) (base + off) = .ok (base + off + k.length) ∧
    (if base + off + k.length - base = off then (pure [] : Except Fault (List Nat))
      else slice cx.content (base + off) (base + (base + off + k.length - base))) = .ok k := by
  refine ⟨h.left.skip (fun x hx => by simpa [show W1.variableIndexSuffix = 93 by decide] using (hk x hx).2)
    h.right.head (by decide) (by omega), ?_⟩
  by_cases hk0 : k.length = 0
  · have : k = [] := List.eq_nil_of_length_eq_zero hk0
    subst this; simp [pure, Except.pure]
  · rw [if_neg (by omega), show base + (base + off + k.length - base) = base + off + k.length by omega]
    exact h.left.slice_ok

theorem getValuePath_keys (cx : RCtx R) (hg : cx.guardIndexRead = true) (base len : Nat) :
    ∀ (ks : List (List Nat)) (k : List Nat) (v : Option Doc) (off fuel : Nat),
      At cx.content (base + off) (k ++ 93 :: brk ks) → len = off + (k ++ 93 :: brk ks).length →
      noB k → (∀ x ∈ ks, noB x) → ks.length + 1 ≤ fuel →
      getValuePath cx base len fuel v off off = .ok (follow v (k :: ks)) := by
  intro ks
  induction ks with
  | nil =>
    intro k v off fuel h hl hk _ hf
    cases fuel with
    | zero => omega
    | succ f =>
      cases v with
      | none => simp [getValuePath, follow]
      | some d =>
        simp only [brk, List.length_append, List.length_cons, List.length_nil] at hl
        obtain ⟨hsk, hkey⟩ := key_read cx base len off k _ h (by omega) hk
        have h2 : base + off + k.length - base + 1 ≥ len := by omega
        simp only [getValuePath, hsk, bind, Except.bind, hg, Bool.true_and, hkey]
        simp [h2, follow]
  | cons k2 ks ih =>
    intro k v off fuel h hl hk hks hf
    cases fuel with
    | zero => omega
    | succ f =>
      cases v with
      | none => simp [getValuePath, follow]
      | some d =>
        simp only [brk, List.length_append, List.length_cons, List.append_assoc,
          List.cons_append, List.nil_append] at hl h
        obtain ⟨hsk, hkey⟩ := key_read cx base len off k _ h (by omega) hk
        have h2 : ¬ (base + off + k.length - base + 1 ≥ len) := by omega
        -- behind the key and its `]`: the `[` of the next key, then that key
        have h91 : At cx.content (base + (base + off + k.length - base + 1)) (91 :: (k2 ++ 93 :: brk ks)) :=
          (h.right.tail).cast (by omega)
        simp only [getValuePath, hsk, bind, Except.bind, hg, Bool.true_and, hkey, h2, decide_false,
          Bool.false_eq_true, if_false, h91.read, show W1.variableIndexPrefix = 91 by decide, ne_eq, not_true_eq_false]
        rw [ih k2 (d.getKey k) (base + off + k.length - base + 1 + 1) f (h91.tail.cast (by omega))
          (by simp only [List.length_append, List.length_cons]; omega)
          (hks k2 (List.mem_cons_self ..)) (fun x hx => hks x (List.mem_cons_of_mem _ hx)) (by simp at hf; omega)]
        simp [follow]

theorem brk_length (ks : List (List Nat)) : ks.length ≤ (brk ks).length := by
  induction ks with
  | nil => simp [brk]
  | cons k ks ih => simp [brk]; omega

theorem splitKeys (ks : List (List Nat)) : ∀ (fuel : Nat) (acc : List (List Nat)),
    (∀ k ∈ ks, noB k) → ks.length ≤ fuel →
    splitPath.keys fuel (brk ks) acc = acc.reverse ++ ks := by
  induction ks with
  | nil =>
    intro fuel acc _ _
    cases fuel <;> simp [splitPath.keys, brk]
  | cons k ks ih =>
    intro fuel acc hk hf
    cases fuel with
    | zero => simp at hf
    | succ f =>
      have h1 := takeWhile_run (· != 93) k (93 :: brk ks)
        (fun y hy => by have := (hk k (List.mem_cons_self ..) y hy).2; simpa using this)
        (fun _ h => Option.some.inj h ▸ rfl)
      have : brk (k :: ks) = 91 :: (k ++ 93 :: brk ks) := by simp [brk]
      rw [this]
      simp only [splitPath.keys, h1.1, h1.2, List.drop_succ_cons, List.drop_zero]
      rw [ih f (k :: acc) (fun x hx => hk x (List.mem_cons_of_mem _ hx)) (by simp at hf; omega)]
      simp

theorem splitPath_ok (name : List Nat) (keys : List (List Nat)) (hn : noB name)
    (hk : ∀ k ∈ keys, noB k) : splitPath (name ++ brk keys) = (name, keys) := by
  have hp : ∀ y ∈ name, (fun x : Nat => x != 91) y = true := fun y hy => by
    have := (hn y hy).1; simpa using this
  cases keys with
  | nil =>
    have := takeWhile_all (· != 91) name hp
    simp only [splitPath, brk, List.append_nil, this.1, this.2]
    cases name <;> simp [splitPath.keys]
  | cons k ks =>
    have hb : brk (k :: ks) = 91 :: (k ++ 93 :: brk ks) := by simp [brk]
    have := takeWhile_run (· != 91) name (91 :: (k ++ 93 :: brk ks)) hp (fun _ h => Option.some.inj h ▸ rfl)
    simp only [splitPath, hb, this.1, this.2]
    rw [← hb, splitKeys (k :: ks) _ [] hk (by
      have := brk_length (k :: ks); simp only [List.length_append]; omega)]
    simp

theorem resolve_top (root : Doc) (name : List Nat) (keys : List (List Nat)) (hn : noB name)
    (hk : ∀ k ∈ keys, noB k) :
    resolve root [] (name ++ brk keys) = (follow (root.getKey name) keys, none) := by
  simp [resolve, splitPath_ok name keys hn hk]


theorem brk_last (k : List Nat) (ks : List (List Nat)) : ∃ ini, brk (k :: ks) = ini ++ [93] := by
  induction ks generalizing k with
  | nil => exact ⟨[91] ++ k, by simp [brk]⟩
  | cons k2 ks ih =>
    obtain ⟨ini, h⟩ := ih k2
    exact ⟨[91] ++ k ++ [93] ++ ini, by rw [show brk (k :: k2 :: ks) = [91] ++ k ++ [93] ++ brk (k2 :: ks) by rfl, h]; simp⟩

theorem name_last (cx : RCtx R) (a : Nat) (name : List Nat) (h : At cx.content a name)
    (hne : name ≠ []) (hn : noB name) :
    ∃ x, rd cx.content (a + name.length - 1) = .ok x ∧ (x == W1.variableIndexSuffix) = false := by
  have hnl : 0 < name.length := List.length_pos_iff.mpr hne
  refine ⟨name[name.length - 1], ?_, ?_⟩
  · rw [show a + name.length - 1 = a + (name.length - 1) by omega]
    exact Qentem.Expr.rd_ok (h.getElem _ (by omega))
  · have := (hn _ (List.getElem_mem (show name.length - 1 < name.length by omega))).2
    simp only [show W1.variableIndexSuffix = 93 by decide]; simpa using this

theorem path_keys (cx : RCtx R) (hg : cx.guardIndexRead = true) (a : Nat) (name k : List Nat) (ks : List (List Nat))
    (h : At cx.content a (name ++ brk (k :: ks))) (hk : ∀ x ∈ k :: ks, noB x) :
    rd cx.content (a + (name ++ brk (k :: ks)).length - 1) = .ok 93 ∧
    ∀ v, getValuePath cx a (name ++ brk (k :: ks)).length ((name ++ brk (k :: ks)).length + 2) v
      (name.length + 1) (name.length + 1) = .ok (follow v (k :: ks)) := by
  obtain ⟨ini, hini⟩ := brk_last k ks
  have hlen : (name ++ brk (k :: ks)).length = name.length + ini.length + 1 := by
    rw [hini]; simp; omega
  have hb : brk (k :: ks) = 91 :: (k ++ 93 :: brk ks) := by simp [brk]
  refine ⟨?_, fun v => ?_⟩
  · rw [hlen, show a + (name.length + ini.length + 1) - 1 = a + name.length + ini.length by omega]
    rw [hini] at h
    exact h.right.right.read
  · rw [hb] at h
    exact getValuePath_keys cx hg a (name ++ brk (k :: ks)).length ks k v (name.length + 1)
      ((name ++ brk (k :: ks)).length + 2) (h.right.tail.cast (by omega)) (by rw [hb]; simp; omega)
      (hk k (List.mem_cons_self ..)) (fun x hx => hk x (List.mem_cons_of_mem _ hx))
      (by have := brk_length (k :: ks); simp only [List.length_append, List.length_cons] at this ⊢; omega)

theorem getValue_top (cx : RCtx R) (hg : cx.guardIndexRead = true) (st : RState)
    (a : Nat) (name : List Nat) (keys : List (List Nat)) (h : At cx.content a (name ++ brk keys))
    (hne : name ≠ []) (hn : noB name) (hk : ∀ k ∈ keys, noB k) :
    getValue cx st ⟨a, (name ++ brk keys).length, 0, 0⟩ = .ok (follow (cx.root.getKey name) keys) := by
  have hnl : 0 < name.length := List.length_pos_iff.mpr hne
  cases keys with
  | nil =>
    simp only [brk, List.append_nil] at h ⊢
    obtain ⟨x, hlast, hne93⟩ := name_last cx a name h hne hn
    simp [getValue, hlast, hne93, h.slice_ok, bind, Except.bind, pure, Except.pure, follow,
      show name.length ≠ 0 by omega]
  | cons k ks =>
    obtain ⟨hlast, hp⟩ := path_keys cx hg a name k ks h hk
    have hb : brk (k :: ks) = 91 :: (k ++ 93 :: brk ks) := by simp [brk]
    have hsk : skipW cx.content (a + (name ++ brk (k :: ks)).length) (· != W1.variableIndexPrefix) a
        = .ok (a + name.length) := by
      rw [hb] at h
      exact h.left.skip (fun x hx => by simpa [show W1.variableIndexPrefix = 91 by decide] using (hn x hx).1)
        h.right.head (by decide) (by simp)
    simp only [getValue, hlast, bind, Except.bind, pure, Except.pure, hsk,
      show (name ++ brk (k :: ks)).length ≠ 0 by rw [List.length_append]; omega, ne_eq, not_false_eq_true, if_true,
      show ((93 : Nat) == W1.variableIndexSuffix) = true by decide, Bool.not_true, Bool.false_eq_true, if_false,
      show a + name.length - a = name.length by omega,
      show ¬ name.length = 0 by omega, h.left.slice_ok, hp]


/-- the reference interpreter's parameters taken from the renderer's -/
def specOf (cx : RCtx R) : SpecCtx R :=
  { root := cx.root, readNum := cx.readNum, realOfBits := cx.realOfBits, realBits := cx.realBits,
    fmtReal := cx.fmtReal, autoEscape := cx.autoEscape }

theorem getValue_path (cx : RCtx R) (hg : cx.guardIndexRead = true) (st : RState)
    (A post p : List Nat) (hc : cx.content = A ++ (p ++ post)) (hp : PathOk p) :
    getValue cx st ⟨A.length, p.length, 0, 0⟩ = .ok (resolve cx.root [] p).1 := by
  obtain ⟨name, keys, rfl, hne, hn, hk⟩ := hp
  rw [resolve_top cx.root name keys hn hk]
  exact getValue_top cx hg st A.length name keys (At.of_eq hc) hne hn hk

/-- the paths of the `{var:}` operands the scanner finds in an expression text (followed by its
terminator `t`) have the documented shape -/
def varsOk (rn : List Nat → Option (Num R)) (e : List Nat) (t : Nat) : Prop :=
  ∀ items : List (Item R),
    Qentem.Expr.parseTop ({ readNum := rn } : ScanCfg R) (e ++ [t]) 0 e.length = .ok items →
    ∀ v ∈ itemsVars items, PathOk (((e ++ [t]).drop v.off).take v.len)

def Seg.pathOk (rn : List Nat → Option (Num R)) : Seg → Prop
  | .text _ => True
  | .var p => PathOk p
  | .raw p => PathOk p
  | .math e => varsOk rn e 125

mutual
theorem relItems_noVars {k n : Nat} : ∀ {a b : List (Item R)}, Qentem.Expr.RelItems Qentem.Expr.NoV k n a b →
    itemsVars a = []
  | _, _, .nil => rfl
  | _, _, .cons x y o a b hxy hab => by
    simp only [itemsVars, relOperand_noVars hxy, relItems_noVars hab, List.append_nil]
theorem relOperand_noVars {k n : Nat} : ∀ {x y : Qentem.Expr.Operand R},
    Qentem.Expr.RelOperand Qentem.Expr.NoV k n x y → operandVars x = []
  | _, _, .num _ => rfl
  | _, _, .text _ _ _ => rfl
  | _, _, .var _ _ h => h.elim
  | _, _, .sub _ _ hab => relItems_noVars hab
end

mutual
theorem relItems_mem {Pv Q : VarRef → VarRef → Prop} {k n : Nat} : ∀ {a b : List (Item R)},
    Qentem.Expr.RelItems Pv k n a b →
    (∀ v v', Pv v v' → v ∈ itemsVars a → v' ∈ itemsVars b → Q v v') → Qentem.Expr.RelItems Q k n a b
  | _, _, .nil, _ => .nil
  | _, _, .cons _ _ _ _ _ hxy hab, hq =>
    .cons _ _ _ _ _
      (relOperand_mem hxy fun v v' h h1 h2 => hq v v' h (List.mem_append_left _ h1) (List.mem_append_left _ h2))
      (relItems_mem hab fun v v' h h1 h2 => hq v v' h (List.mem_append_right _ h1) (List.mem_append_right _ h2))
theorem relOperand_mem {Pv Q : VarRef → VarRef → Prop} {k n : Nat} : ∀ {x y : Qentem.Expr.Operand R},
    Qentem.Expr.RelOperand Pv k n x y →
    (∀ v v', Pv v v' → v ∈ operandVars x → v' ∈ operandVars y → Q v v') → Qentem.Expr.RelOperand Q k n x y
  | _, _, .num z, _ => .num z
  | _, _, .text o l h, _ => .text o l h
  | _, _, .var v v' h, hq => .var v v' (hq v v' h (List.mem_singleton_self _) (List.mem_singleton_self _))
  | _, _, .sub _ _ hab, hq => .sub _ _ (relItems_mem hab hq)
end

theorem resolveVars_ok (cx : RCtx R) (st : RState) (g : VarRef → Option Doc) :
    ∀ (vs : List VarRef), (∀ v ∈ vs, getValue cx st v = .ok (g v)) →
      resolveVars cx st vs = .ok (vs.map (fun v => (v, (g v).map (docToVarVal cx)))) := by
  intro vs
  induction vs with
  | nil => intro _; rfl
  | cons v rest ih =>
    intro h
    simp only [resolveVars, h v (List.mem_cons_self), bind, Except.bind,
      ih (fun w hw => h w (List.mem_cons_of_mem _ hw)), List.map_cons]

theorem find_resolved (f : VarRef → Option (Qentem.Expr.VarVal R)) : ∀ (vs : List VarRef) (v : VarRef), v ∈ vs →
    ((vs.map (fun w => (w, f w))).find? (fun p => p.1 == v)).bind (·.2) = f v := by
  intro vs
  induction vs with
  | nil => intro v hv; cases hv
  | cons w rest ih =>
    intro v hv
    simp only [List.map_cons, List.find?_cons]
    by_cases hwv : w = v
    · subst hwv; simp
    · have : (w == v) = false := by simpa using hwv
      simp only [this]
      rcases List.mem_cons.mp hv with h | h
      · exact absurd h.symm hwv
      · exact ih v h

mutual
theorem relItems_vars_back {Pv : VarRef → VarRef → Prop} {k n : Nat} : ∀ {a b : List (Item R)},
    Qentem.Expr.RelItems Pv k n a b → ∀ v' ∈ itemsVars b, ∃ v, v ∈ itemsVars a ∧ Pv v v'
  | _, _, .nil, _, hv' => (List.not_mem_nil hv').elim
  | _, _, .cons _ _ _ _ _ hxy hab, v', hv' =>
    (List.mem_append.mp hv').elim
      (fun h => let ⟨v, h1, h2⟩ := relOperand_vars_back hxy v' h; ⟨v, List.mem_append_left _ h1, h2⟩)
      (fun h => let ⟨v, h1, h2⟩ := relItems_vars_back hab v' h; ⟨v, List.mem_append_right _ h1, h2⟩)
theorem relOperand_vars_back {Pv : VarRef → VarRef → Prop} {k n : Nat} : ∀ {x y : Qentem.Expr.Operand R},
    Qentem.Expr.RelOperand Pv k n x y → ∀ v' ∈ operandVars y, ∃ v, v ∈ operandVars x ∧ Pv v v'
  | _, _, .num _, _, hv' => (List.not_mem_nil hv').elim
  | _, _, .text _ _ _, _, hv' => (List.not_mem_nil hv').elim
  | _, _, .var v _ h, _, hv' => by cases List.mem_singleton.mp hv'; exact ⟨v, List.mem_singleton_self _, h⟩
  | _, _, .sub _ _ hab, v', hv' => relItems_vars_back hab v' hv'
end

/-- the reference interpreter and the renderer are given the same value and parameters -/
structure SameCtx (cx : RCtx R) (sx : SpecCtx R) : Prop where
  root : sx.root = cx.root
  fmt : sx.fmtReal = cx.fmtReal
  esc : sx.autoEscape = cx.autoEscape
  readNum : sx.readNum = cx.readNum
  realOfBits : sx.realOfBits = cx.realOfBits
  realBits : sx.realBits = cx.realBits

theorem sameCtx_specOf (cx : RCtx R) : SameCtx cx (specOf cx) := ⟨rfl, rfl, rfl, rfl, rfl, rfl⟩

theorem SameCtx.eq {cx : RCtx R} {sx : SpecCtx R} (h : SameCtx cx sx) : sx = specOf cx := by
  cases sx
  simp only [specOf, SpecCtx.mk.injEq]
  exact ⟨h.root, h.readNum, h.realOfBits, h.realBits, h.fmt, h.esc⟩

theorem printable_eq (cx : RCtx R) (esc : Bool) (d : Doc) :
    printable (specOf cx) esc d = copyValue cx esc d := by
  cases d <;> simp [printable, copyValue, escapeS, specOf] <;> rfl

section
variable [RealLike R]

/-- what the document says one segment prints (top level: no enclosing loop) -/
def expSeg (cx : RCtx R) : Seg → List Nat
  | .text s => s
  | .var p =>
    match (resolve cx.root [] p).1.bind (copyValue cx true) with
    | some t => t
    | none => Qentem.Escape.escapeCfg cx.autoEscape (printSeg (.var p))
  | .raw p =>
    match (resolve cx.root [] p).1.bind (copyValue cx false) with
    | some t => t
    | none => printSeg (.raw p)
  | .math e =>
    match (evalText (specOf cx) [] e).bind (numText (specOf cx)) with
    | some t => t
    | none => printSeg (.math e)

def expSegs (cx : RCtx R) : List Seg → List Nat
  | [] => []
  | s :: r => expSeg cx s ++ expSegs cx r

theorem docToVarVal_eq (cx : RCtx R) (d : Doc) : docToVarVal cx d = docVarVal (specOf cx) d := by
  cases d <;> rfl

theorem resolve_nil_snd (root : Doc) (p : List Nat) : (resolve root [] p).2 = none := by
  simp [resolve]

theorem printList_append : ∀ (a b : List Tpl), printList (a ++ b) = printList a ++ printList b := by
  intro a
  induction a with
  | nil => intro b; simp [printList]
  | cons x xs ih => intro b; simp [printList, ih, List.append_assoc]

theorem RState.ext' (a b : RState) (h1 : a.out = b.out) (h2 : a.items = b.items) : a = b := by
  cases a; cases b; simp only [RState.mk.injEq]; exact ⟨h1, h2⟩

theorem expandList_nil (sx : SpecCtx R) (f : Nat) (sc : List Binding) : expandList sx f sc [] = [] := by
  cases f <;> simp [expandList]

/-- the case text scans to a non-empty list -/
def exprOk (rn : List Nat → Option (Num R)) (e : List Nat) : Prop :=
  ∀ items : List (Item R),
    Qentem.Expr.parseTop ({ readNum := rn } : ScanCfg R) (e ++ [34]) 0 e.length = .ok items → items ≠ []

theorem ifCases_cons (cx : RCtx R) (f : Nat) (cs : List (Item R)) (sub : List (Tag R)) (o e : Nat)
    (rest : List (IfCase R)) (st : RState) (v : Option (Val R)) (hne : cs.isEmpty = false)
    (hv : evalExprs cx st cs = .ok v) :
    ifCases cx (f + 1) (.mk cs sub o e :: rest) st =
      if (truth v == some true) = true then render cx f sub o e st else ifCases cx f rest st := by
  simp only [ifCases, hne, Bool.false_eq_true, if_false, hv, bind, Except.bind, pure, Except.pure]

theorem emit_nil (st : RState) : emit st [] = st := by
  apply RState.ext' <;> simp [emit]

theorem emit_emit (st : RState) (a b : List Nat) : emit (emit st a) b = emit st (a ++ b) := by
  apply RState.ext' <;> simp [emit, List.append_assoc]

theorem expandList_append (sx : SpecCtx R) (sc : List Binding) : ∀ (a b : List Tpl) (f : Nat),
    expandList sx f sc (a ++ b) = expandList sx f sc a ++ expandList sx (f - a.length) sc b := by
  intro a
  induction a with
  | nil => intro b f; simp [expandList_nil]
  | cons t a ih =>
    intro b f
    cases f with
    | zero => simp [expandList]
    | succ f =>
      simp only [List.cons_append, expandList, ih b f, List.length_cons, List.append_assoc]
      rw [show f + 1 - (a.length + 1) = f - a.length by omega]

theorem expandBranches_nil (sx : SpecCtx R) (f : Nat) (sc : List Binding) : expandBranches sx f sc [] = [] := by
  cases f <;> simp [expandBranches]

end

end Qentem.Tmpl
