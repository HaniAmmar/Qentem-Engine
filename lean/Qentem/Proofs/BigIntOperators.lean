import Qentem.Proofs.BigIntAddSub
/-! The operators that take an operand.  `=`, `+=`, `-=`, `|=`, `&=` with a number of `K` bits, for both overloads of `doOperation`:
the chunk loop by an invariant (`wideLoop_of_step`), `Chunked` for the word-wise operations, and one lemma per operator that says
what it leaves, whichever overload ran (`set_finish`, `or_finish`, `and_finish`); the one-word case is the chunk state after the
first chunk with nothing left.  And `=` between two objects of one instantiation. -/
namespace Qentem.BigInt

/-! ### One-word operands -/

/-- `&=` is excluded: its two overloads clear the upper words by different loops. -/
theorem opK_small {W K : Nat} {op : BOp} (hop : op ≠ .and) (hK : K ≤ W) (s : Big) {x : Nat} (hx : x < 2 ^ W) :
    opK W K op s x = opNarrow W op s x := by
  unfold opK
  by_cases hKW : K = W
  · rw [hKW, beq_self_eq_true, if_pos rfl]
  · have hdiv : ¬ K / W > 1 := by rw [Nat.div_eq_of_lt (by omega)]; decide
    rw [beq_false_of_ne hKW, if_neg Bool.false_ne_true]
    unfold opWide
    simp only [Nat.mod_eq_of_lt hx, hdiv, if_false]
    cases op with
    | and => exact absurd rfl hop
    | set => simp only [opNarrow, bind, Except.bind, pure, Except.pure]; cases wr s.words 0 x <;> rfl
    | or =>
      simp only [opNarrow, bind, Except.bind, pure, Except.pure]
      cases rd s.words 0 with
      | error e => rfl
      | ok w => cases wr s.words 0 (w ||| x) <;> rfl
    | add => simp only [opNarrow, bind, Except.bind, pure, Except.pure]; cases add W s x 0 <;> rfl
    | sub => simp only [opNarrow, bind, Except.bind, pure, Except.pure]; cases sub W s x 0 <;> rfl

/-! ### The chunk loop of the wide `doOperation` -/

theorem div_pow_lt {W number f : Nat} (hf : 0 < f) (h : number < 2 ^ (W * f)) :
    number / 2 ^ W < 2 ^ (W * (f - 1)) := by
  apply Nat.div_lt_of_lt_mul
  rwa [← pow_mul_succ, Nat.sub_add_cancel hf]

theorem fpos_of_ne_zero {W number f : Nat} (h : number < 2 ^ (W * f)) (h0 : number ≠ 0) : 0 < f := by
  apply Nat.pos_of_ne_zero
  rintro rfl
  rw [Nat.mul_zero, Nat.pow_zero] at h
  omega

/-- The chunk loop by an invariant `P s number index`: one iteration with `number ≠ 0` leads from `P` to `P` for the next
chunk; the loop ends with `number = 0`. -/
theorem wideLoop_of_step {W : Nat} {op : BOp} {chunks : Nat} {P : Big → Nat → Nat → Prop}
    (hstep : ∀ fuel s number index, P s number index → number ≠ 0 → ∃ s1, P s1 (number / 2 ^ W) (index + 1) ∧
      wideLoop W op chunks (fuel + 1) s number index = wideLoop W op chunks fuel s1 (number / 2 ^ W) (index + 1)) :
    ∀ (fuel f : Nat) (s : Big) (number index : Nat), f < fuel → number < 2 ^ (W * f) → P s number index →
      ∃ s' j, wideLoop W op chunks fuel s number index = .ok (s', j) ∧ P s' 0 j
  | 0, _, _, _, _, hf, _, _ => by omega
  | fuel + 1, f, s, number, index, hf, hnum, hP => by
    by_cases hz : number = 0
    · subst hz
      refine ⟨s, index, ?_, hP⟩
      rw [wideLoop, if_neg (fun ⟨_, _, h0⟩ => h0 rfl)]; rfl
    · obtain ⟨s1, hP1, he⟩ := hstep fuel s number index hP hz
      rw [he]
      exact wideLoop_of_step hstep fuel (f - 1) s1 _ _ (by have := fpos_of_ne_zero hnum hz; omega)
        (div_pow_lt (fpos_of_ne_zero hnum hz) hnum) hP1

/-- The storage before chunk `index` of a word-wise operation `F` with operand `x` on `ws0`: the words below
`index` are done, the others untouched, `number` is what is left of `x`; every chunk but the first was
entered with `number ≠ 0`. -/
structure Chunked (W : Nat) (F : Nat → Nat → Nat) (ws0 : List Nat) (x : Nat) (ws : List Nat) (number index : Nat) :
    Prop where
  len : ws.length = ws0.length
  num : number = x / 2 ^ (W * index)
  words : ∀ k, ws.getD k 0 = if k < index then F (ws0.getD k 0) (digit W x k) else ws0.getD k 0
  seen : 1 < index → 2 ^ (W * (index - 1)) ≤ x

namespace Chunked

variable {W : Nat} {F : Nat → Nat → Nat} {ws0 ws : List Nat} {x number index : Nat}

theorem start : Chunked W F ws0 x ws0 x 0 where
  len := rfl
  num := by rw [Nat.mul_zero, Nat.pow_zero, Nat.div_one]
  words _ := by rw [if_neg (Nat.not_lt_zero _)]
  seen h := absurd h (by decide)

theorem le_of_ne_zero (h : Chunked W F ws0 x ws number index) (h0 : number ≠ 0) : 2 ^ (W * index) ≤ x := by
  by_contra hc
  exact h0 (by rw [h.num, Nat.div_eq_of_lt (Nat.lt_of_not_le hc)])

theorem lt_of_ne_zero (h : Chunked W F ws0 x ws number index) (h0 : number ≠ 0) {m : Nat}
    (hx : x < 2 ^ (W * m)) : index < m :=
  lt_of_pow_le_of_lt (h.le_of_ne_zero h0) hx

/-- the last word entered lies in a storage that `x` fits -/
theorem pred_lt (h : Chunked W F ws0 x ws number index) {m : Nat} (hx : x < 2 ^ (W * m)) (hm : 0 < m) :
    index - 1 < m := by
  by_cases h1 : 1 < index
  · exact lt_of_pow_le_of_lt (h.seen h1) hx
  · omega

theorem lt_of_eq_zero (h : Chunked W F ws0 x ws 0 index) : x < 2 ^ (W * index) :=
  (Nat.div_eq_zero_iff.1 h.num.symm).resolve_left (Nat.pos_iff_ne_zero.1 (Nat.pow_pos (by decide)))

theorem getElem_eq (h : Chunked W F ws0 x ws number index) (hlt : index < ws.length) :
    ws[index] = ws0.getD index 0 := by
  rw [← getD_eq_getElem hlt, h.words, if_neg (Nat.lt_irrefl _)]

theorem step (h : Chunked W F ws0 x ws number index) (hlt : index < ws.length) (h0 : 0 < index → number ≠ 0) :
    Chunked W F ws0 x (ws.set index (F ws[index] (number % 2 ^ W))) (number / 2 ^ W) (index + 1) where
  len := by rw [List.length_set, h.len]
  num := by rw [h.num, div_pow_succ]
  words k := by
    by_cases hk : k = index
    · subst hk
      rw [getD_set_eq hlt, if_pos (Nat.lt_succ_self _), h.getElem_eq hlt, h.num]; rfl
    · rw [getD_set_ne (Ne.symm hk), h.words]
      by_cases hk2 : k < index
      · rw [if_pos hk2, if_pos (by omega)]
      · rw [if_neg hk2, if_neg (by omega)]
  seen hi := h.le_of_ne_zero (h0 (by omega))

/-- the storage after the first word -/
theorem first (hlt : 0 < ws0.length) : Chunked W F ws0 x (ws0.set 0 (F ws0[0] (x % 2 ^ W))) (x / 2 ^ W) 1 :=
  start.step hlt fun h => absurd h (by decide)

/-- a one-word operand: after the first word nothing is left, and the operand fits the storage -/
theorem one_word (hlt : 0 < ws0.length) (hx : x < 2 ^ W) :
    Chunked W F ws0 x (ws0.set 0 (F ws0[0] x)) 0 1 ∧ x < 2 ^ (W * ws0.length) := by
  have h := first (W := W) (F := F) (x := x) hlt
  rw [Nat.mod_eq_of_lt hx, Nat.div_eq_of_lt hx] at h
  exact ⟨h, Nat.lt_of_lt_of_le hx (Nat.pow_le_pow_right (by decide) (Nat.le_mul_of_pos_right _ hlt))⟩

theorem exact (h : Chunked W F ws0 x ws 0 index)
    (hF : ∀ a b k, digit W (F a b) k = F (digit W a k) (digit W b k)) (hb0 : Bounded W ws0)
    (hfit : F (valW W ws0) x < 2 ^ (W * ws0.length)) {ws' : List Nat} (hl : ws'.length = ws0.length)
    (hlo : ∀ k, k < index → ws'.getD k 0 = ws.getD k 0) (hhi : ∀ k, index ≤ k → ws'.getD k 0 = F (ws0.getD k 0) 0) :
    Bounded W ws' ∧ valW W ws' = F (valW W ws0) x := by
  have hd : ∀ k, k < ws'.length → ws'.getD k 0 = digit W (F (valW W ws0) x) k := fun k _ => by
    rw [hF, ← getD_eq_digit hb0]
    by_cases hk : k < index
    · rw [hlo k hk, h.words, if_pos hk]
    · rw [hhi k (Nat.le_of_not_lt hk), digit_eq_zero_of_lt (Nat.lt_of_lt_of_le h.lt_of_eq_zero
        (Nat.pow_le_pow_right (by decide) (Nat.mul_le_mul_left _ (Nat.le_of_not_lt hk))))]
  exact ⟨bounded_of_digits hd, valW_eq_of_digits (hl ▸ hfit) hd⟩

end Chunked

theorem wideLoop_set_spec {W chunks : Nat} {ws0 : List Nat} {x : Nat} (hxc : x < 2 ^ (W * chunks))
    (hxn : x < 2 ^ (W * ws0.length)) (fuel f : Nat) (s : Big) (number index : Nat) (hf : f < fuel)
    (hnum : number < 2 ^ (W * f)) (hc : Chunked W (fun _ d => d) ws0 x s.words number index) (hi : s.idx + 1 = index) :
    ∃ s' j, wideLoop W .set chunks fuel s number index = .ok (s', j) ∧
      Chunked W (fun _ d => d) ws0 x s'.words 0 j ∧ s'.idx + 1 = j :=
  wideLoop_of_step (P := fun s number index => Chunked W (fun _ d => d) ws0 x s.words number index ∧ s.idx + 1 = index)
    (fun fuel s number index ⟨hc, hi⟩ hz => by
      have h1 := hc.lt_of_ne_zero hz hxc
      have h2 : index < s.words.length := by rw [hc.len]; exact hc.lt_of_ne_zero hz hxn
      refine ⟨⟨s.words.set index (number % 2 ^ W), s.idx + 1⟩, ⟨hc.step h2 fun _ => hz, by simp only; omega⟩, ?_⟩
      rw [wideLoop, if_pos ⟨h1, by unfold maxIndex; omega, hz⟩]
      simp only [bind, Except.bind, wr_ok _ h2, Nat.shiftRight_eq_div_pow, pure, Except.pure])
    fuel f s number index hf hnum ⟨hc, hi⟩

theorem wide_pre {W K : Nat} (hW : 0 < W) (hdvd : W ∣ K) (hm : K / W > 1) {x : Nat} (hx : x < 2 ^ K) :
    (K == W) = false ∧ x < 2 ^ (W * (K / W)) ∧ x / 2 ^ W < 2 ^ (W * (K / W - 1)) := by
  have hx' : x < 2 ^ (W * (K / W)) := by rw [Nat.mul_div_cancel' hdvd]; exact hx
  refine ⟨beq_false_of_ne ?_, hx', div_pow_lt (by omega) hx'⟩
  rintro rfl
  rw [Nat.div_self hW] at hm; omega

/-! ### `=` -/

/-- What `operator=` leaves, whichever overload ran. -/
theorem set_finish {W : Nat} {s : Big} {x j idx2 : Nat} {ws2 ws' : List Nat} (h : Inv W s)
    (hfit : x < 2 ^ (W * s.words.length)) (hc : Chunked W (fun _ d => d) s.words x ws2 0 j) (hsj : idx2 + 1 = j)
    (hl : ws'.length = ws2.length) (hz : ∀ k, idx2 < k → k ≤ s.idx → ws'.getD k 0 = 0)
    (hfr : ∀ k, (k ≤ idx2 ∨ s.idx < k) → ws'.getD k 0 = ws2.getD k 0) :
    Inv W ⟨ws', idx2⟩ ∧ ws'.length = s.words.length ∧ valW W ws' = x := by
  have h0 : 0 < s.words.length := h.length_pos
  have hl2 := hc.len
  have hj := hc.pred_lt hfit h0
  have hhi : ∀ k, j ≤ k → ws'.getD k 0 = 0 := by
    intro k hk
    by_cases hk2 : k ≤ s.idx
    · exact hz k (by omega) hk2
    · rw [hfr k (Or.inr (by omega)), hc.words, if_neg (by omega)]; exact h.above k (by omega)
  obtain ⟨hbd, hval⟩ : Bounded W ws' ∧ valW W ws' = x :=
    hc.exact (fun _ _ _ => rfl) h.bound hfit (hl.trans hl2) (fun k hk => hfr k (Or.inl (by omega))) hhi
  refine ⟨inv_of_val h.wpos hbd (by simp only; omega) ?_ ?_, hl.trans hl2, hval⟩
  · show valW W ws' < _
    rw [hval, hsj]; exact hc.lt_of_eq_zero
  · intro hne
    show _ ≤ valW W ws'
    rw [hval]
    have := hc.seen (by have : idx2 ≠ 0 := hne; omega)
    rwa [← hsj, Nat.add_sub_cancel] at this

theorem assign_wide_spec {W K : Nat} (s : Big) (x : Nat) (h : Inv W s) (hdvd : W ∣ K) (hm : K / W > 1)
    (hx : x < 2 ^ K) (hfit : x < 2 ^ (W * s.words.length)) :
    ∃ s', assign W K s x = .ok s' ∧ Inv W s' ∧ s'.words.length = s.words.length ∧ s'.val W = x := by
  have h0 : 0 < s.words.length := h.length_pos
  obtain ⟨hKW, hxc, hnum⟩ := wide_pre h.wpos hdvd hm hx
  obtain ⟨s2, j, hrun, hc, hsj⟩ := wideLoop_set_spec hxc hfit (K / W + 1) (K / W - 1)
    ⟨s.words.set 0 (x % 2 ^ W), 0⟩ (x / 2 ^ W) 1 (by omega) hnum (Chunked.first h0) rfl
  obtain ⟨ws', hrun3, hl3, hz3, hfr3⟩ := zeroDownTo_spec s2.idx s.idx s2.words (by rw [hc.len]; exact h.idx_lt)
  refine ⟨⟨ws', s2.idx⟩, ?_, set_finish h hfit hc hsj hl3 hz3 hfr3⟩
  unfold assign opK opWide
  simp only [hKW, Bool.false_eq_true, if_false, bind, Except.bind, wr_ok _ h0, hm, if_true,
    Nat.shiftRight_eq_div_pow]
  simp only [show (BOp.set == BOp.and) = false by rfl, Bool.false_eq_true, if_false, pure, Except.pure]
  simp only [hrun, hrun3]

theorem assign_small_spec {W K : Nat} (s : Big) (x : Nat) (h : Inv W s) (hK : K ≤ W) (hx : x < 2 ^ K) :
    ∃ s', assign W K s x = .ok s' ∧ Inv W s' ∧ s'.words.length = s.words.length ∧ s'.val W = x := by
  have hxW : x < 2 ^ W := Nat.lt_of_lt_of_le hx (Nat.pow_le_pow_right (by decide) hK)
  have h0 : 0 < s.words.length := h.length_pos
  have hset : opK W K .set s x = .ok ⟨s.words.set 0 x, 0⟩ := by
    rw [opK_small (by decide) hK s hxW]
    simp only [opNarrow, wr_ok _ h0, bind, Except.bind, pure, Except.pure]
  obtain ⟨ws', hrun, hl, hz, hfr⟩ := zeroDownTo_spec 0 s.idx (s.words.set 0 x) (by simpa using h.idx_lt)
  obtain ⟨hc, hfit⟩ := Chunked.one_word (F := fun _ d => d) h0 hxW
  refine ⟨⟨ws', 0⟩, ?_, set_finish h hfit hc rfl hl hz hfr⟩
  unfold assign
  rw [hset]
  simp only [bind, Except.bind]
  rw [hrun]
  rfl

/-- The converting constructor is `operator=` on a value-initialised object (nothing to clear). -/
theorem assign_zero_eq (W K n x : Nat) : assign W K (zero n) x = opK W K .set (zero n) x := by
  unfold assign
  cases h : opK W K .set (zero n) x with
  | error e => rfl
  | ok s => simp [bind, Except.bind, zeroDownTo, zero, pure, Except.pure]

/-! ### `+=`, `-=` -/

theorem pow_mul_split (W index number : Nat) : 2 ^ (W * index) * number
    = number % 2 ^ W * 2 ^ (W * index) + 2 ^ (W * (index + 1)) * (number / 2 ^ W) := by
  conv_lhs => rw [← Nat.mod_add_div number (2 ^ W)]
  rw [pow_mul_succ]; ring

/-- one iteration of the wide `Add`: the part of the sum `T` not yet added is `2^(W·index)·number` -/
theorem wideLoop_add_step {W chunks n T : Nat} (hT : T < 2 ^ (W * n)) (fuel : Nat) {s : Big} {number index : Nat}
    (h : Inv W s) (hl : s.words.length = n) (hv : s.val W + 2 ^ (W * index) * number = T)
    (hroom : number < 2 ^ (W * (chunks - index))) (hz : number ≠ 0) :
    ∃ s1, (Inv W s1 ∧ s1.words.length = n ∧ s1.val W + 2 ^ (W * (index + 1)) * (number / 2 ^ W) = T ∧
        number / 2 ^ W < 2 ^ (W * (chunks - (index + 1)))) ∧
      wideLoop W .add chunks (fuel + 1) s number index = wideLoop W .add chunks fuel s1 (number / 2 ^ W) (index + 1) := by
  subst hl
  have h1 : index < chunks := by have := fpos_of_ne_zero hroom hz; omega
  have h2 : index < s.words.length := index_lt_of_pow_mul_lt (W := W) hz (by omega)
  have e := pow_mul_split W index number
  obtain ⟨s1, hadd, hinv1, hl1, hv1⟩ := addAt_spec s (number % 2 ^ W) index h
    (Nat.mod_lt _ (Nat.pow_pos (by decide))) (by omega)
  refine ⟨s1, ⟨hinv1, hl1, by omega, ?_⟩, ?_⟩
  · rw [← Nat.sub_sub]; exact div_pow_lt (by omega) hroom
  · rw [wideLoop, if_pos ⟨h1, by unfold maxIndex; omega, hz⟩]
    simp only [bind, Except.bind, hadd, Nat.shiftRight_eq_div_pow]

/-- one iteration of the wide `Subtract`: the value is the difference `T` plus what is still to subtract -/
theorem wideLoop_sub_step {W chunks n T : Nat} (fuel : Nat) {s : Big} {number index : Nat}
    (h : Inv W s) (hl : s.words.length = n) (hv : s.val W = T + 2 ^ (W * index) * number)
    (hroom : number < 2 ^ (W * (chunks - index))) (hz : number ≠ 0) :
    ∃ s1, (Inv W s1 ∧ s1.words.length = n ∧ s1.val W = T + 2 ^ (W * (index + 1)) * (number / 2 ^ W) ∧
        number / 2 ^ W < 2 ^ (W * (chunks - (index + 1)))) ∧
      wideLoop W .sub chunks (fuel + 1) s number index = wideLoop W .sub chunks fuel s1 (number / 2 ^ W) (index + 1) := by
  subst hl
  have h1 : index < chunks := by have := fpos_of_ne_zero hroom hz; omega
  have h2 : index < s.words.length :=
    index_lt_of_pow_mul_lt (W := W) hz (Nat.lt_of_le_of_lt (by omega) h.toWInv.val_lt_total)
  have e := pow_mul_split W index number
  have hle : number % 2 ^ W * 2 ^ (W * index) ≤ s.val W := by omega
  obtain ⟨s1, hsub, hinv1, hl1, hv1⟩ := subAt_spec s (number % 2 ^ W) index h
    (Nat.mod_lt _ (Nat.pow_pos (by decide))) hle
  refine ⟨s1, ⟨hinv1, hl1, by omega, ?_⟩, ?_⟩
  · rw [← Nat.sub_sub]; exact div_pow_lt (by omega) hroom
  · rw [wideLoop, if_pos ⟨h1, by unfold maxIndex; omega, hz⟩]
    simp only [bind, Except.bind, hsub, Nat.shiftRight_eq_div_pow]

theorem add_wide_spec {W K : Nat} (s : Big) (x : Nat) (h : Inv W s) (hdvd : W ∣ K) (hm : K / W > 1)
    (hx : x < 2 ^ K) (hfit : s.val W + x < 2 ^ (W * s.words.length)) :
    ∃ s', opK W K .add s x = .ok s' ∧ Inv W s' ∧ s'.words.length = s.words.length ∧ s'.val W = s.val W + x := by
  obtain ⟨hKW, _, hnum⟩ := wide_pre h.wpos hdvd hm hx
  have e := Nat.mod_add_div x (2 ^ W)
  obtain ⟨s1, hadd, hinv1, hl1, hv1⟩ := addAt_spec s (x % 2 ^ W) 0 h
    (Nat.mod_lt _ (Nat.pow_pos (by decide))) (by simp only [Nat.mul_zero, Nat.pow_zero, Nat.mul_one]; omega)
  simp only [Nat.mul_zero, Nat.pow_zero, Nat.mul_one] at hv1
  obtain ⟨s', j, hrun, hinv', hl', hv', _⟩ := wideLoop_of_step
    (P := fun s1 number index => Inv W s1 ∧ s1.words.length = s.words.length ∧
      s1.val W + 2 ^ (W * index) * number = s.val W + x ∧ number < 2 ^ (W * (K / W - index)))
    (fun fuel _ _ _ ⟨h, hl, hv, hr⟩ hz => wideLoop_add_step hfit fuel h hl hv hr hz)
    (K / W + 1) (K / W - 1) s1 (x / 2 ^ W) 1 (by omega) hnum
    ⟨hinv1, hl1, by rw [Nat.mul_one]; omega, hnum⟩
  refine ⟨s', ?_, hinv', hl', by simpa using hv'⟩
  unfold opK opWide
  simp only [hKW, Bool.false_eq_true, if_false, bind, Except.bind, hadd, hm, if_true, Nat.shiftRight_eq_div_pow]
  rw [hrun]
  rfl

theorem sub_wide_spec {W K : Nat} (s : Big) (x : Nat) (h : Inv W s) (hdvd : W ∣ K) (hm : K / W > 1)
    (hx : x < 2 ^ K) (hfit : x ≤ s.val W) :
    ∃ s', opK W K .sub s x = .ok s' ∧ Inv W s' ∧ s'.words.length = s.words.length ∧ s'.val W = s.val W - x := by
  obtain ⟨hKW, _, hnum⟩ := wide_pre h.wpos hdvd hm hx
  have e := Nat.mod_add_div x (2 ^ W)
  have hle : x % 2 ^ W * 2 ^ (W * 0) ≤ s.val W := by simp only [Nat.mul_zero, Nat.pow_zero, Nat.mul_one]; omega
  obtain ⟨s1, hsub, hinv1, hl1, hv1⟩ := subAt_spec s (x % 2 ^ W) 0 h (Nat.mod_lt _ (Nat.pow_pos (by decide))) hle
  simp only [Nat.mul_zero, Nat.pow_zero, Nat.mul_one] at hle
  simp only [Nat.mul_zero, Nat.pow_zero, Nat.mul_one] at hv1
  obtain ⟨s', j, hrun, hinv', hl', hv', _⟩ := wideLoop_of_step
    (P := fun s1 number index => Inv W s1 ∧ s1.words.length = s.words.length ∧
      s1.val W = s.val W - x + 2 ^ (W * index) * number ∧ number < 2 ^ (W * (K / W - index)))
    (fun fuel _ _ _ ⟨h, hl, hv, hr⟩ hz => wideLoop_sub_step fuel h hl hv hr hz)
    (K / W + 1) (K / W - 1) s1 (x / 2 ^ W) 1 (by omega) hnum
    ⟨hinv1, hl1, by rw [Nat.mul_one]; omega, hnum⟩
  refine ⟨s', ?_, hinv', hl', by simpa using hv'⟩
  unfold opK opWide
  simp only [hKW, Bool.false_eq_true, if_false, bind, Except.bind, hsub, hm, if_true, Nat.shiftRight_eq_div_pow]
  rw [hrun]
  rfl

theorem add_small_spec {W K : Nat} (s : Big) (x : Nat) (h : Inv W s) (hK : K ≤ W) (hx : x < 2 ^ K)
    (hfit : s.val W + x < 2 ^ (W * s.words.length)) :
    ∃ s', opK W K .add s x = .ok s' ∧ Inv W s' ∧ s'.words.length = s.words.length ∧ s'.val W = s.val W + x := by
  have hxW : x < 2 ^ W := Nat.lt_of_lt_of_le hx (Nat.pow_le_pow_right (by decide) hK)
  obtain ⟨s', hrun, hinv, hl, hv⟩ := addAt_spec s x 0 h hxW (by simpa using hfit)
  refine ⟨s', ?_, hinv, hl, by simpa using hv⟩
  rw [opK_small (by decide) hK s hxW]
  exact hrun

theorem sub_small_spec {W K : Nat} (s : Big) (x : Nat) (h : Inv W s) (hK : K ≤ W) (hx : x < 2 ^ K)
    (hfit : x ≤ s.val W) :
    ∃ s', opK W K .sub s x = .ok s' ∧ Inv W s' ∧ s'.words.length = s.words.length ∧ s'.val W = s.val W - x := by
  have hxW : x < 2 ^ W := Nat.lt_of_lt_of_le hx (Nat.pow_le_pow_right (by decide) hK)
  obtain ⟨s', hrun, hinv, hl, hv⟩ := subAt_spec s x 0 h hxW (by simpa using hfit)
  refine ⟨s', ?_, hinv, hl, by simpa using hv⟩
  rw [opK_small (by decide) hK s hxW]
  exact hrun

/-! ### `|=`, `&=` -/

/-- one iteration of the wide `Or`: `index_` is raised to the chunk's word -/
theorem wideLoop_or_step {W chunks idx0 : Nat} {ws0 : List Nat} {x : Nat} (hxc : x < 2 ^ (W * chunks))
    (hxn : x < 2 ^ (W * ws0.length)) (fuel : Nat) {s : Big} {number index : Nat}
    (hc : Chunked W (· ||| ·) ws0 x s.words number index) (hi : s.idx = max idx0 (index - 1)) (hz : number ≠ 0) :
    ∃ s1, (Chunked W (· ||| ·) ws0 x s1.words (number / 2 ^ W) (index + 1) ∧ s1.idx = max idx0 (index + 1 - 1)) ∧
      wideLoop W .or chunks (fuel + 1) s number index = wideLoop W .or chunks fuel s1 (number / 2 ^ W) (index + 1) := by
  have h1 := hc.lt_of_ne_zero hz hxc
  have h2 : index < s.words.length := by rw [hc.len]; exact hc.lt_of_ne_zero hz hxn
  refine ⟨⟨s.words.set index (s.words[index] ||| number % 2 ^ W), if index > s.idx then index else s.idx⟩,
    ⟨hc.step h2 fun _ => hz, by simp only; split <;> omega⟩, ?_⟩
  rw [wideLoop, if_pos ⟨h1, by unfold maxIndex; omega, hz⟩]
  simp only [bind, Except.bind, rd_ok h2, wr_ok _ h2, Nat.shiftRight_eq_div_pow, pure, Except.pure]

/-- What `|=` leaves, whichever overload ran. -/
theorem or_finish {W : Nat} {s : Big} {x j idx' : Nat} {ws' : List Nat} (h : Inv W s)
    (hfit : x < 2 ^ (W * s.words.length)) (hc : Chunked W (· ||| ·) s.words x ws' 0 j) (hidx : idx' = max s.idx (j - 1)) :
    Inv W ⟨ws', idx'⟩ ∧ ws'.length = s.words.length ∧ valW W ws' = s.val W ||| x := by
  have h0 : 0 < s.words.length := h.length_pos
  obtain ⟨hbd, hval⟩ := hc.exact (digit_or W) h.bound (Nat.or_lt_two_pow h.toWInv.val_lt_total hfit) hc.len
    (fun _ _ => rfl) (fun k hk => by rw [hc.words, if_neg (by omega), Nat.or_zero])
  have hxj := hc.lt_of_eq_zero
  have hj := hc.pred_lt hfit h0
  have hlt := h.idx_lt
  have hl' := hc.len
  refine ⟨inv_of_val h.wpos hbd (by simp only; omega) ?_ ?_, hl', hval⟩
  · show valW W ws' < _
    rw [hval]
    exact Nat.or_lt_two_pow
      (Nat.lt_of_lt_of_le h.toWInv.val_lt (Nat.pow_le_pow_right (by decide) (Nat.mul_le_mul_left _ (by simp only; omega))))
      (Nat.lt_of_lt_of_le hxj (Nat.pow_le_pow_right (by decide) (Nat.mul_le_mul_left _ (by simp only; omega))))
  · intro hne
    have hne' : idx' ≠ 0 := hne
    show 2 ^ (W * idx') ≤ valW W ws'
    rw [hval]
    by_cases hc2 : j - 1 ≤ s.idx
    · rw [show idx' = s.idx by omega]
      exact Nat.le_trans (h.le_val (by omega)) Nat.left_le_or
    · rw [show idx' = j - 1 by omega]
      exact Nat.le_trans (hc.seen (by omega)) Nat.right_le_or

theorem or_wide_spec {W K : Nat} (s : Big) (x : Nat) (h : Inv W s) (hdvd : W ∣ K) (hm : K / W > 1)
    (hx : x < 2 ^ K) (hfit : x < 2 ^ (W * s.words.length)) :
    ∃ s', opK W K .or s x = .ok s' ∧ Inv W s' ∧ s'.words.length = s.words.length ∧ s'.val W = s.val W ||| x := by
  have h0 : 0 < s.words.length := h.length_pos
  obtain ⟨hKW, hxc, hnum⟩ := wide_pre h.wpos hdvd hm hx
  obtain ⟨s', j, hrun, hc, hidx⟩ := wideLoop_of_step
    (P := fun s1 number index => Chunked W (· ||| ·) s.words x s1.words number index ∧ s1.idx = max s.idx (index - 1))
    (fun fuel _ _ _ ⟨hc, hi⟩ hz => wideLoop_or_step hxc hfit fuel hc hi hz)
    (K / W + 1) (K / W - 1) ⟨s.words.set 0 (s.words[0] ||| x % 2 ^ W), s.idx⟩ (x / 2 ^ W) 1 (by omega) hnum
    ⟨Chunked.first h0, by simp⟩
  refine ⟨s', ?_, or_finish h hfit hc hidx⟩
  unfold opK opWide
  simp only [hKW, Bool.false_eq_true, if_false, bind, Except.bind, rd_ok h0, wr_ok _ h0, hm, if_true,
    Nat.shiftRight_eq_div_pow, pure, Except.pure]
  rw [hrun]
  rfl

theorem or_small_spec {W K : Nat} (s : Big) (x : Nat) (h : Inv W s) (hK : K ≤ W) (hx : x < 2 ^ K) :
    ∃ s', opK W K .or s x = .ok s' ∧ Inv W s' ∧ s'.words.length = s.words.length ∧ s'.val W = s.val W ||| x := by
  have hxW : x < 2 ^ W := Nat.lt_of_lt_of_le hx (Nat.pow_le_pow_right (by decide) hK)
  have h0 : 0 < s.words.length := h.length_pos
  have hrun : opK W K .or s x = .ok ⟨s.words.set 0 (s.words[0] ||| x), s.idx⟩ := by
    rw [opK_small (by decide) hK s hxW]
    simp only [opNarrow, rd_ok h0, wr_ok _ h0, bind, Except.bind, pure, Except.pure]
  obtain ⟨hc, hfit⟩ := Chunked.one_word (F := (· ||| ·)) h0 hxW
  exact ⟨_, hrun, or_finish h hfit hc (by simp)⟩

/-- one iteration of the wide `And`: `index_` is the highest word below `index` that is not zero -/
theorem wideLoop_and_step {W chunks : Nat} {ws0 : List Nat} {x : Nat} (hxc : x < 2 ^ (W * chunks))
    (hxn : x < 2 ^ (W * ws0.length)) (fuel : Nat) {s : Big} {number index : Nat}
    (hc : Chunked W (· &&& ·) ws0 x s.words number index) (hsi : s.idx < index)
    (hzb : ∀ k, s.idx < k → k < index → s.words.getD k 0 = 0) (htop : s.idx ≠ 0 → s.words.getD s.idx 0 ≠ 0)
    (hz : number ≠ 0) :
    ∃ s1, (Chunked W (· &&& ·) ws0 x s1.words (number / 2 ^ W) (index + 1) ∧ s1.idx < index + 1 ∧
        (∀ k, s1.idx < k → k < index + 1 → s1.words.getD k 0 = 0) ∧ (s1.idx ≠ 0 → s1.words.getD s1.idx 0 ≠ 0)) ∧
      wideLoop W .and chunks (fuel + 1) s number index = wideLoop W .and chunks fuel s1 (number / 2 ^ W) (index + 1) := by
  have h1 := hc.lt_of_ne_zero hz hxc
  have h2 : index < s.words.length := by rw [hc.len]; exact hc.lt_of_ne_zero hz hxn
  refine ⟨⟨s.words.set index (s.words[index] &&& number % 2 ^ W),
      if (s.words[index] &&& number % 2 ^ W) != 0 then index else s.idx⟩, ⟨hc.step h2 fun _ => hz, ?_⟩, ?_⟩
  · by_cases hw : s.words[index] &&& number % 2 ^ W = 0
    · simp only [hw, bne_self_eq_false, Bool.false_eq_true, if_false]
      refine ⟨by omega, fun k hk1 hk2 => ?_, fun hne => ?_⟩
      · by_cases hk : k = index
        · rw [hk, getD_set_eq h2]
        · rw [getD_set_ne (Ne.symm hk)]; exact hzb k hk1 (by omega)
      · rw [getD_set_ne (by omega)]; exact htop hne
    · simp only [bne_iff_ne, ne_eq, hw, not_false_eq_true, if_true]
      exact ⟨Nat.lt_succ_self _, fun k hk1 hk2 => by omega, fun _ => by rw [getD_set_eq h2]; exact hw⟩
  · rw [wideLoop, if_pos ⟨h1, by unfold maxIndex; omega, hz⟩]
    simp only [bind, Except.bind, rd_ok h2, wr_ok _ h2, Nat.shiftRight_eq_div_pow, pure, Except.pure]

/-- What `&=` leaves, whichever overload ran. -/
theorem and_finish {W : Nat} {s : Big} {x j idx2 : Nat} {ws2 ws' : List Nat} (h : Inv W s)
    (hfit : x < 2 ^ (W * s.words.length)) (hc : Chunked W (· &&& ·) s.words x ws2 0 j) (hsj : idx2 < j)
    (hzj : ∀ k, idx2 < k → k < j → ws2.getD k 0 = 0) (htj : idx2 ≠ 0 → ws2.getD idx2 0 ≠ 0)
    (hl : ws'.length = ws2.length) (hz : ∀ k, j ≤ k → k ≤ s.idx → ws'.getD k 0 = 0)
    (hfr : ∀ k, (k < j ∨ s.idx < k) → ws'.getD k 0 = ws2.getD k 0) :
    Inv W ⟨ws', idx2⟩ ∧ ws'.length = s.words.length ∧ valW W ws' = s.val W &&& x := by
  have h0 : 0 < s.words.length := h.length_pos
  have hlo : ∀ k, k < j → ws'.getD k 0 = ws2.getD k 0 := fun k hk => hfr k (Or.inl hk)
  have hhi : ∀ k, j ≤ k → ws'.getD k 0 = 0 := by
    intro k hk
    by_cases hk2 : k ≤ s.idx
    · exact hz k hk hk2
    · rw [hfr k (Or.inr (by omega)), hc.words, if_neg (by omega)]; exact h.above k (by omega)
  have hl2 := hc.len
  obtain ⟨hbd, hval⟩ := hc.exact (digit_and W) h.bound
    (Nat.lt_of_le_of_lt Nat.and_le_left h.toWInv.val_lt_total) (hl.trans hl2) hlo
    (fun k hk => by rw [hhi k hk, Nat.and_zero])
  have hj := hc.pred_lt hfit h0
  refine ⟨⟨⟨h.wpos, hbd, by simp only; omega, fun k hk => ?_⟩, fun hne => ?_⟩, hl.trans hl2, hval⟩
  · show ws'.getD k 0 = 0
    have hk' : idx2 + 1 ≤ k := hk
    by_cases hkj : k < j
    · rw [hlo k hkj]; exact hzj k (by omega) hkj
    · exact hhi k (by omega)
  · show ws'.getD idx2 0 ≠ 0
    rw [hlo _ hsj]; exact htj hne

theorem and_wide_spec {W K : Nat} (s : Big) (x : Nat) (h : Inv W s) (hdvd : W ∣ K) (hm : K / W > 1)
    (hx : x < 2 ^ K) (hfit : x < 2 ^ (W * s.words.length)) :
    ∃ s', opK W K .and s x = .ok s' ∧ Inv W s' ∧ s'.words.length = s.words.length ∧ s'.val W = s.val W &&& x := by
  have h0 : 0 < s.words.length := h.length_pos
  obtain ⟨hKW, hxc, hnum⟩ := wide_pre h.wpos hdvd hm hx
  obtain ⟨s2, j, hrun, hc, hsj, hzj, htj⟩ := wideLoop_of_step
    (P := fun s1 number index => Chunked W (· &&& ·) s.words x s1.words number index ∧ s1.idx < index ∧
      (∀ k, s1.idx < k → k < index → s1.words.getD k 0 = 0) ∧ (s1.idx ≠ 0 → s1.words.getD s1.idx 0 ≠ 0))
    (fun fuel _ _ _ ⟨hc, hsi, hzb, htop⟩ hz => wideLoop_and_step hxc hfit fuel hc hsi hzb htop hz)
    (K / W + 1) (K / W - 1) ⟨s.words.set 0 (s.words[0] &&& x % 2 ^ W), 0⟩ (x / 2 ^ W) 1 (by omega) hnum
    ⟨Chunked.first h0, Nat.zero_lt_one, fun k h1 h2 => by simp only at h1; omega,
      fun hne => absurd rfl hne⟩
  have hlt := h.idx_lt
  obtain ⟨ws', hrun3, hl3, hz3, hfr3⟩ := zeroUpTo_spec s.idx (s.idx + 2) s2.words j (by rw [hc.len]; exact hlt) (by omega)
  refine ⟨⟨ws', s2.idx⟩, ?_, and_finish h hfit hc hsj hzj htj hl3 hz3 hfr3⟩
  unfold opK opWide
  simp only [hKW, Bool.false_eq_true, if_false, bind, Except.bind, rd_ok h0, wr_ok _ h0, hm, if_true,
    Nat.shiftRight_eq_div_pow, pure, Except.pure]
  rw [hrun]
  simp only [show (BOp.and == BOp.and) = true by rfl, if_true]
  rw [hrun3]

theorem and_small_spec {W K : Nat} (s : Big) (x : Nat) (h : Inv W s) (hK : K ≤ W) (hx : x < 2 ^ K) :
    ∃ s', opK W K .and s x = .ok s' ∧ Inv W s' ∧ s'.words.length = s.words.length ∧ s'.val W = s.val W &&& x := by
  have hxW : x < 2 ^ W := Nat.lt_of_lt_of_le hx (Nat.pow_le_pow_right (by decide) hK)
  have h0 : 0 < s.words.length := h.length_pos
  have hlen : s.idx < (s.words.set 0 (s.words[0] &&& x)).length := by rw [List.length_set]; exact h.idx_lt
  obtain ⟨hc, hfit⟩ := Chunked.one_word (F := (· &&& ·)) h0 hxW
  -- both overloads clear the words 1 .. index_ above the word `w0 & x`
  have hfin := fun ws' => and_finish (ws' := ws') (idx2 := 0) h hfit hc Nat.zero_lt_one
    (fun k h1 h2 => by omega) (fun hne => absurd rfl hne)
  by_cases hKW : K = W
  · obtain ⟨ws', hrun, hl, hz, hfr⟩ := zeroDownTo_spec 0 s.idx (s.words.set 0 (s.words[0] &&& x)) hlen
    refine ⟨⟨ws', 0⟩, ?_, hfin ws' hl (fun k hk => hz k (by omega)) fun k hk => hfr k (by omega)⟩
    unfold opK
    simp only [hKW, beq_self_eq_true, if_true, opNarrow, rd_ok h0, bind, Except.bind, wr_ok _ h0]
    subst hKW
    rw [zeroHigh_eq, hrun]; rfl
  · have hdiv : K / W = 0 := Nat.div_eq_of_lt (by omega)
    obtain ⟨ws', hrun, hl, hz, hfr⟩ := zeroUpTo_spec s.idx (s.idx + 2) (s.words.set 0 (s.words[0] &&& x)) 1
      hlen (by omega)
    refine ⟨⟨ws', 0⟩, ?_, hfin ws' hl hz hfr⟩
    unfold opK
    simp only [beq_false_of_ne hKW, Bool.false_eq_true, if_false, opWide, Nat.mod_eq_of_lt hxW, rd_ok h0, bind,
      Except.bind, wr_ok _ h0, hdiv]
    simp only [show ¬ (0 > 1) by omega, if_false, pure, Except.pure]
    simp only [show (BOp.and == BOp.and) = true by rfl, if_true]
    rw [hrun]

/-! ### Copy assignment -/

theorem copyLoop_spec (src : List Nat) (sidx : Nat) (hs : sidx < src.length) : ∀ (fuel : Nat) (ws : List Nat) (index : Nat),
    ws.length = src.length → index ≤ sidx + 1 → sidx + 1 - index < fuel →
    ∃ ws', copyLoop src sidx fuel ws index = .ok (ws', sidx + 1) ∧ ws'.length = src.length ∧
      (∀ k, index ≤ k → k ≤ sidx → ws'.getD k 0 = src.getD k 0) ∧
      (∀ k, (k < index ∨ sidx < k) → ws'.getD k 0 = ws.getD k 0)
  | 0, _, _, _, _, hf => by omega
  | fuel + 1, ws, index, hl, hi, hf => by
    unfold copyLoop
    by_cases hle : index ≤ sidx
    · simp only [if_pos hle, rd_ok (by omega : index < src.length), wr_ok _ (by omega : index < ws.length), bind, Except.bind]
      have hv : src[index]'(by omega) = src.getD index 0 := (getD_eq_getElem (by omega)).symm
      have hi : index < ws.length := by omega
      generalize src[index]'(by omega) = v at hv ⊢
      obtain ⟨ws', hrun, hl', h1, h2⟩ := copyLoop_spec src sidx hs fuel (ws.set index v) (index + 1)
        (by rw [List.length_set]; exact hl) (by omega) (by omega)
      refine ⟨ws', hrun, hl', fun k hk1 hk2 => ?_, fun k hk => by rw [h2 k (by omega)]; exact getD_set_ne (by omega)⟩
      by_cases hk : k = index
      · rw [hk, h2 index (Or.inl (by omega)), getD_set_eq hi, hv]
      · exact h1 k (by omega) hk2
    · rw [if_neg hle]
      have : index = sidx + 1 := by omega
      subst this
      exact ⟨ws, rfl, hl, fun k h1 h2 => by omega, fun _ _ => rfl⟩

theorem copy_spec {W : Nat} (dst src : Big) (hd : Inv W dst) (hs : Inv W src)
    (hl : dst.words.length = src.words.length) :
    ∃ d', copy dst src = .ok d' ∧ Inv W d' ∧ d'.words.length = dst.words.length ∧ d'.val W = src.val W := by
  obtain ⟨ws1, hrun1, hl1, ha1, hb1⟩ := copyLoop_spec src.words src.idx hs.idx_lt (src.idx + 2) dst.words 0 hl
    (by omega) (by omega)
  obtain ⟨ws2, hrun2, hl2, hz2, hfr2⟩ := zeroDownTo_spec src.idx dst.idx ws1 (by have := hd.idx_lt; omega)
  have hall : ∀ k, ws2.getD k 0 = src.words.getD k 0 := by
    intro k
    by_cases hk : k ≤ src.idx
    · rw [hfr2 k (Or.inl (by omega))]; exact ha1 k (Nat.zero_le _) hk
    · rw [hs.above k (by omega)]
      by_cases hk2 : k ≤ dst.idx
      · exact hz2 k (by omega) hk2
      · rw [hfr2 k (Or.inr (by omega)), hb1 k (Or.inr (by omega))]; exact hd.above k (by omega)
  have hbd : Bounded W ws2 := bounded_of_getD (fun k _ => by rw [hall k]; exact hs.bound.getD k)
  refine ⟨⟨ws2, src.idx⟩, ?_, ⟨⟨hs.wpos, hbd, by have := hs.idx_lt; simp; omega, ?_⟩, ?_⟩, by simp only; omega, ?_⟩
  · unfold copy
    rw [hrun1]
    simp only [bind, Except.bind]
    rw [zeroAbove_eq _ (Nat.succ_pos _), Nat.succ_sub_one, hrun2]; rfl
  · intro k hk
    show ws2.getD k 0 = 0
    rw [hall k]; exact hs.above k hk
  · intro hne
    show ws2.getD src.idx 0 ≠ 0
    rw [hall]; exact hs.top hne
  · exact valW_congr_getD W _ _ hall

end Qentem.BigInt
