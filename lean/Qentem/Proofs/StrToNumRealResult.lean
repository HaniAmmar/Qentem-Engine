import Qentem.Proofs.StrToNumNegTable
import Mathlib.Tactic.Positivity
/-! C09: what `realResult` returns for a scanned mantissa with its net decimal exponent, on either side of the
exponent: rejected only when the value is out of the double range, otherwise a `Real` within one ulp of the correctly
rounded value (`ClassOutcome`; for **every** mantissa `< 2^64` through `powerOfNegativeTen_close_all`; also on a
truncated mantissa), and exactly the correctly rounded pattern under the 1/32 margin (the three numerals `negExc` —
`1e-273`, `1e-286`, `1e-292` — excepted). -/
namespace Qentem.StrToNum
open Qentem.Round

/-- the range test of `realResult` on the negative side, `x > ep10 ∧ sub32 x ep10 > 324`, without the 32-bit
subtraction -/
theorem neg_guard_iff {k n : Nat} (hk : k < 2 ^ 31) : (k > n ∧ sub32 k n > 324) ↔ k > n + 324 := by
  constructor
  · intro ⟨h1, h2⟩
    rw [sub32_eq _ _ (by omega) (by omega)] at h2
    omega
  · intro h
    exact ⟨by omega, by rw [sub32_eq _ _ (by omega) (by omega)]; omega⟩

theorem maxFinite_lt_pow309 : (2 ^ 53 - 1) * 2 ^ 971 < 10 ^ 309 := by decide +kernel

theorem realResult_pos (neg : Bool) (v n k off : Nat) (hv0 : 0 < v) (hv : v < 2 ^ 64) (hvn : 10 ^ (n - 1) ≤ v)
    (hn : 1 ≤ n) (hk : k < 2 ^ 31) (hn19 : n ≤ 19) :
    (k + n > 309 ∧ realResult neg v n k false off = some ⟨.notANumber, v, off⟩ ∧ (2 ^ 53 - 1) * 2 ^ 971 < v * 10 ^ k) ∨
    (k + n ≤ 309 ∧ ∃ p, realResult neg v n k false off = some ⟨.real, p ||| (if neg then 0x8000000000000000 else 0), off⟩ ∧
        p < 2 ^ 63 ∧ ulpDist p (nearestMag (v * 10 ^ k) 1) ≤ 1 ∧
        ((2 ^ 53 - 1) * 2 ^ 971 ≤ v * 10 ^ k → p = maxFiniteBits ∨ p = infBits)) := by
  have hv0' : v ≠ 0 := by omega
  have hadd : add32 k n = k + n := add32_eq _ _ (by omega)
  by_cases hr : k + n > 309
  · left
    refine ⟨hr, realResult_pos_nan neg v n k off hv0' (by rw [hadd]; exact hr), ?_⟩
    have h1 : 10 ^ 309 ≤ 10 ^ (n - 1 + k) := Nat.pow_le_pow_right (by decide) (by omega)
    have h2 : 10 ^ (n - 1 + k) ≤ v * 10 ^ k := by
      rw [Nat.pow_add]; exact Nat.mul_le_mul_right _ hvn
    exact Nat.lt_of_lt_of_le maxFinite_lt_pow309 (Nat.le_trans h1 h2)
  · right
    have hk20 : k ≤ 2 ^ 20 := by omega
    obtain ⟨p, hp, hclose⟩ := powerOfPositiveTen_close v k hv0 hv hk20
    refine ⟨by omega, p, realResult_pos_real neg v n k off p hv0' (by rw [hadd]; exact hr) hp,
      powerOfPositiveTen_lt v k p hp, hclose, ?_⟩
    intro hov
    obtain ⟨p', hp', hcases⟩ := powerOfPositiveTen_overflow v k hv0 hv hk20 hov
    rw [hp] at hp'; cases hp'; exact hcases

theorem minSub_pow325 : 2 ^ 1074 ≤ 10 ^ 325 := by decide +kernel

theorem realResult_neg_reject (neg : Bool) (v n k off : Nat) (hv0 : 0 < v) (hvn : v < 10 ^ n)
    (hk : k < 2 ^ 31) (hr : k > n + 324) :
    realResult neg v n k true off = some ⟨.notANumber, v, off⟩ ∧ v * 2 ^ 1074 < 10 ^ k := by
  refine ⟨realResult_neg_nan neg v n k off (by omega) ((neg_guard_iff hk).2 hr), ?_⟩
  have h1 : 10 ^ (n + 325) ≤ 10 ^ k := Nat.pow_le_pow_right (by decide) (by omega)
  calc v * 2 ^ 1074 < 10 ^ n * 2 ^ 1074 := Nat.mul_lt_mul_of_pos_right hvn (by positivity)
    _ ≤ 10 ^ n * 10 ^ 325 := Nat.mul_le_mul_left _ minSub_pow325
    _ = 10 ^ (n + 325) := (Nat.pow_add _ _ _).symm
    _ ≤ 10 ^ k := h1

/-- **The C09 outcome for one numeral**: mantissa `v`, net decimal exponent `10^(∓X)` (`FLAG` =
negative), sign `neg`, expected end offset `fin`. Either rejected — and then the value really is out of
range (above every finite double, resp. below the smallest subnormal) — or a `Real` with the right
sign bit whose magnitude is within one ulp of the correctly rounded value. -/
def ClassOutcome (neg : Bool) (v X : Nat) (FLAG : Bool) (fin : Nat) (res : Option Res) : Prop :=
  ∃ r, res = some r ∧ r.offset = fin ∧
    ((r.kind = .notANumber ∧ (if FLAG then v * 2 ^ 1074 < 10 ^ X else (2 ^ 53 - 1) * 2 ^ 971 < v * 10 ^ X)) ∨
     (r.kind = .real ∧ r.bits / 2 ^ 63 = b2n neg ∧
        ulpDist (r.bits % 2 ^ 63) (if FLAG then nearestMag v (10 ^ X) else nearestMag (v * 10 ^ X) 1) ≤ 1 ∧
        ((if FLAG then (2 ^ 53 - 1) * 2 ^ 971 * 10 ^ X < v else (2 ^ 53 - 1) * 2 ^ 971 < v * 10 ^ X) →
          r.bits % 2 ^ 63 = maxFiniteBits ∨ infBits ≤ r.bits % 2 ^ 63)))

theorem no_overflow_small (v X : Nat) (hv : v < 2 ^ 64) : ¬ ((2 ^ 53 - 1) * 2 ^ 971 * 10 ^ X < v) := by
  intro h
  have h64 : 2 ^ 64 ≤ (2 ^ 53 - 1) * 2 ^ 971 * 10 ^ X :=
    calc 2 ^ 64 ≤ 2 ^ 971 := Nat.pow_le_pow_right (by decide) (by decide)
      _ = 1 * 2 ^ 971 * 1 := by rw [Nat.one_mul, Nat.mul_one]
      _ ≤ (2 ^ 53 - 1) * 2 ^ 971 * 10 ^ X :=
        Nat.mul_le_mul (Nat.mul_le_mul_right _ (by decide)) (Nat.pow_pos (by decide))
  exact absurd (Nat.lt_trans (Nat.lt_of_le_of_lt h64 h) hv) (Nat.lt_irrefl _)

theorem realResult_class_pos (neg : Bool) (v n X off : Nat) (hv0 : 0 < v) (hv : v < 2 ^ 64) (hlo : 10 ^ (n - 1) ≤ v)
    (hn1 : 1 ≤ n) (hn19 : n ≤ 19) (hX : X < 2 ^ 31) :
    ClassOutcome neg v X false off (realResult neg v n X false off) := by
  rcases realResult_pos neg v n X off hv0 hv hlo hn1 hX hn19 with ⟨_, h2, h3⟩ | ⟨_, p, h2, h3, h4, h5⟩
  · exact ⟨_, h2, rfl, Or.inl ⟨rfl, by simpa using h3⟩⟩
  · refine ⟨_, h2, rfl, Or.inr ⟨rfl, or_sign_div p neg h3, ?_, ?_⟩⟩
    · simp only [Bool.false_eq_true, if_false]
      rw [or_sign_mod p neg h3]; exact h4
    · simp only [Bool.false_eq_true, if_false]
      rw [or_sign_mod p neg h3]
      intro hov
      exact (h5 (Nat.le_of_lt hov)).imp id (fun h => Nat.le_of_eq h.symm)

theorem realResult_neg_all (neg : Bool) (v n k off : Nat) (hv0 : 0 < v)
    (hv : v < 2 ^ 64) (hvn : v < 10 ^ n) (hn19 : n ≤ 19) (hk : k < 2 ^ 31) :
    (k > n + 324 ∧ realResult neg v n k true off = some ⟨.notANumber, v, off⟩ ∧ v * 2 ^ 1074 < 10 ^ k) ∨
    (k ≤ n + 324 ∧ ∃ p, realResult neg v n k true off = some ⟨.real, p ||| (if neg then 0x8000000000000000 else 0), off⟩ ∧
        p < 2 ^ 63 ∧ ulpDist p (nearestMag v (10 ^ k)) ≤ 1) := by
  by_cases hr : k > n + 324
  · exact Or.inl ⟨hr, realResult_neg_reject neg v n k off hv0 hvn hk hr⟩
  · right
    obtain ⟨p, hp, hclose⟩ := powerOfNegativeTen_close_all v k hv0 hv (by omega)
    exact ⟨by omega, p, realResult_neg_real neg v n k off p (by omega) (mt (neg_guard_iff hk).1 hr) hp,
      powerOfNegativeTen_lt v k p hp, hclose⟩

theorem realResult_class_all (neg : Bool) (v n X : Nat) (FLAG : Bool) (off : Nat) (hv0 : 0 < v) (hv : v < 2 ^ 64)
    (hlo : 10 ^ (n - 1) ≤ v) (hhi : v < 10 ^ n) (hn1 : 1 ≤ n) (hn19 : n ≤ 19) (hX : X < 2 ^ 31) :
    ClassOutcome neg v X FLAG off (realResult neg v n X FLAG off) := by
  cases FLAG with
  | false => exact realResult_class_pos neg v n X off hv0 hv hlo hn1 hn19 hX
  | true =>
    rcases realResult_neg_all neg v n X off hv0 hv hhi hn19 hX with ⟨_, h2, h3⟩ | ⟨_, p, h2, h3, h4⟩
    · exact ⟨_, h2, rfl, Or.inl ⟨rfl, by simpa using h3⟩⟩
    · refine ⟨_, h2, rfl, Or.inr ⟨rfl, or_sign_div p neg h3, ?_, ?_⟩⟩
      · simp only [if_true]
        rw [or_sign_mod p neg h3]; exact h4
      · simp only [if_true]
        intro hov; exact absurd hov (no_overflow_small v X hv)

theorem out_of_range_big (v k : Nat) (FLAG : Bool) (hv0 : 0 < v) (hv : v < 10 ^ 19) (hk : 400 ≤ k) :
    (if FLAG then v * 2 ^ 1074 < 10 ^ k else (2 ^ 53 - 1) * 2 ^ 971 < v * 10 ^ k) := by
  have hpow : (10 : Nat) ^ 400 ≤ 10 ^ k := Nat.pow_le_pow_right (by decide) hk
  cases FLAG with
  | true =>
    simp only [if_true]
    calc v * 2 ^ 1074 < 10 ^ 19 * 2 ^ 1074 := Nat.mul_lt_mul_of_pos_right hv (Nat.pow_pos (by decide))
      _ ≤ 10 ^ 400 := by decide +kernel
      _ ≤ 10 ^ k := hpow
  | false =>
    simp only [Bool.false_eq_true, if_false]
    calc (2 ^ 53 - 1) * 2 ^ 971 < 1 * 10 ^ 400 := by decide +kernel
      _ ≤ v * 10 ^ 400 := Nat.mul_le_mul_right _ hv0
      _ ≤ v * 10 ^ k := Nat.mul_le_mul_left _ hpow

/-- the exact version of `realResult_class_all`: in range, under the margin (and, for a negative net
exponent, not one of the three `negExc` numerals), the result is `Real` with exactly the correctly rounded magnitude -/
theorem realResult_exact (neg : Bool) (v n X : Nat) (FLAG : Bool) (off : Nat) (hv0 : 0 < v) (hv : v < 2 ^ 64)
    (hn19 : n ≤ 19) (hX : X < 2 ^ 31)
    (hrange : if FLAG then X ≤ n + 324 else X + n ≤ 309)
    (hcond : FLAG = true → ¬ negExc v X)
    (hm : if FLAG then MarginPair (roundPair v (10 ^ X)).1 (roundPair v (10 ^ X)).2
          else MarginPair (roundPair (v * 10 ^ X) 1).1 (roundPair (v * 10 ^ X) 1).2) :
    realResult neg v n X FLAG off =
      some ⟨.real, (if FLAG then nearestMag v (10 ^ X) else nearestMag (v * 10 ^ X) 1) |||
        (if neg then 0x8000000000000000 else 0), off⟩ := by
  have hv0' : v ≠ 0 := by omega
  cases FLAG with
  | false =>
    simp only [Bool.false_eq_true, if_false] at hrange hm ⊢
    exact realResult_pos_real neg v n X off _ hv0' (by rw [add32_eq _ _ (by omega)]; omega)
      (powerOfPositiveTen_exact v X hv0 hv (by omega) hm)
  | true =>
    simp only [if_true] at hrange hm ⊢
    exact realResult_neg_real neg v n X off _ hv0' (mt (neg_guard_iff hX).1 (by omega))
      (powerOfNegativeTen_exact_all v X hv0 hv (by omega) (hcond rfl) hm)

/-- `realResult` on the negative side for a truncated mantissa: rejected only when the exact value is below the smallest
subnormal, otherwise a Real within one ulp of the correctly rounded **exact** value `vt / 10^(x+j)` -/
theorem realResult_neg_trunc (neg : Bool) (v n x off j vt : Nat) (hv16 : 10 ^ 16 ≤ v) (hv : v < 2 ^ 64)
    (hvn : v < 10 ^ n) (hn : n ≤ 20) (hx : x < 2 ^ 31) (ht1 : v * 10 ^ j ≤ vt)
    (ht2 : 10 ^ 17 * vt < (10 ^ 17 + 1) * (v * 10 ^ j)) :
    ClassOutcome neg vt (x + j) true off (realResult neg v n x true off) := by
  have hv0 : v ≠ 0 := by
    have : 0 < 10 ^ 16 := Nat.pow_pos (by decide)
    omega
  have h10j : 0 < 10 ^ j := Nat.pow_pos (by decide)
  have ht2w : vt < 2 * v * 10 ^ j := by
    have h1 : (10 ^ 17 + 1) * (v * 10 ^ j) ≤ 10 ^ 17 * (2 * v * 10 ^ j) := by
      have e2 : 10 ^ 17 * (2 * v * 10 ^ j) = (10 ^ 17 + 10 ^ 17) * (v * 10 ^ j) := by ring
      rw [e2]; exact Nat.mul_le_mul_right _ (by decide)
    exact Nat.lt_of_mul_lt_mul_left (Nat.lt_of_lt_of_le ht2 h1)
  by_cases hr : x > n + 324
  · refine ⟨_, realResult_neg_nan neg v n x off hv0 ((neg_guard_iff hx).2 hr), rfl, Or.inl ⟨rfl, ?_⟩⟩
    · simp only [if_true]
      have h1 : 10 ^ (n + 325) ≤ 10 ^ x := Nat.pow_le_pow_right (by decide) (by omega)
      have h2 : vt < 2 * 10 ^ n * 10 ^ j :=
        Nat.lt_of_lt_of_le ht2w (Nat.mul_le_mul_right _ (Nat.mul_le_mul_left _ (Nat.le_of_lt hvn)))
      have hm : 2 * 2 ^ 1074 ≤ 10 ^ 325 := by decide +kernel
      calc vt * 2 ^ 1074 < 2 * 10 ^ n * 10 ^ j * 2 ^ 1074 := Nat.mul_lt_mul_of_pos_right h2 (Nat.pow_pos (by decide))
        _ = 10 ^ n * 10 ^ j * (2 * 2 ^ 1074) := by ring
        _ ≤ 10 ^ n * 10 ^ j * 10 ^ 325 := Nat.mul_le_mul_left _ hm
        _ = 10 ^ (n + 325) * 10 ^ j := by rw [Nat.pow_add]; ring
        _ ≤ 10 ^ x * 10 ^ j := Nat.mul_le_mul_right _ h1
        _ = 10 ^ (x + j) := (Nat.pow_add _ _ _).symm
  · obtain ⟨p, hp, hclose⟩ := powerOfNegativeTen_close_trunc v x j vt hv16 hv (by omega) ht1 ht2
    have hp63 := powerOfNegativeTen_lt v x p hp
    refine ⟨_, realResult_neg_real neg v n x off p hv0 (mt (neg_guard_iff hx).1 hr) hp, rfl,
      Or.inr ⟨rfl, or_sign_div p neg hp63, ?_, ?_⟩⟩
    · simp only [if_true]
      rw [or_sign_mod p neg hp63]; exact hclose
    · simp only [if_true]
      intro hov
      exfalso
      have h1 : vt < 2 * 2 ^ 64 * 10 ^ j :=
        Nat.lt_of_lt_of_le ht2w (Nat.mul_le_mul_right _ (Nat.mul_le_mul_left _ (Nat.le_of_lt hv)))
      have h2 : 2 * (2 : Nat) ^ 64 * 10 ^ j ≤ (2 ^ 53 - 1) * 2 ^ 971 * 10 ^ (x + j) := by
        rw [Nat.pow_add, ← Nat.mul_assoc]
        apply Nat.mul_le_mul_right
        have h3 : 2 * (2 : Nat) ^ 64 ≤ (2 ^ 53 - 1) * 2 ^ 971 * 1 := by decide +kernel
        exact Nat.le_trans h3 (Nat.mul_le_mul_left _ (Nat.pow_pos (by decide)))
      omega

end Qentem.StrToNum
