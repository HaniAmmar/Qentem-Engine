import Qentem.Model.StrToNum
import Qentem.Proofs.Decimal
/-! Helper lemmas for C09: digit runs inside a buffer (`unitsAt`, `endsAt`), their value (`decVal`), one pass of each
fuel loop of the model (`skipZeros_read` … `tailLoop_read`), how the inner digit loop traverses a run, and the stages of
`iter1` and `afterSign` under names of their own (`afterDot`, `leadStep`, `afterLead`), so that a proof about one stage
never unfolds the others. The closing section (`namespace Qentem.Decimal`) is what `Proofs/Decimal.lean` points to: `decVal`
reads the formatter's numeral `digitsOf n` back. -/
namespace Qentem.StrToNum

/-- the units `l` sit at positions `off, off+1, …`, all inside `[0, e)` -/
def unitsAt (c : List Nat) (e : Nat) : Nat → List Nat → Prop
  | _, [] => True
  | off, x :: xs => rd c e off = some x ∧ unitsAt c e (off + 1) xs

def AllDigits (l : List Nat) : Prop := ∀ x ∈ l, isDigit x = true

/-- value of a run of digit units (no truncation) -/
def decVal (l : List Nat) : Nat := l.foldl (fun a d => a * 10 + (d - 48)) 0

/-- position `p` ends the numeral: it is `end_offset`, or it holds a unit that `cont` rejects -/
def endsAt (c : List Nat) (e p : Nat) (cont : Nat → Bool) : Prop :=
  p = e ∨ ∃ x, rd c e p = some x ∧ cont x = false

theorem rd_lt {c : List Nat} {e i x : Nat} (h : rd c e i = some x) : i < e := by
  unfold rd at h; split at h <;> simp_all

theorem endsAt_le {c : List Nat} {e p : Nat} {cont : Nat → Bool} (h : endsAt c e p cont) : p ≤ e := by
  rcases h with h | ⟨x, hx, _⟩
  · exact Nat.le_of_eq h
  · exact Nat.le_of_lt (rd_lt hx)

theorem endsAt_mono {c : List Nat} {e p : Nat} {cont cont' : Nat → Bool} (h : endsAt c e p cont)
    (hc : ∀ x, cont x = false → cont' x = false) : endsAt c e p cont' :=
  h.imp id fun ⟨x, hx, hcx⟩ => ⟨x, hx, hc x hcx⟩

theorem unitsAt_cast {c : List Nat} {e p q : Nat} {l : List Nat} (h : unitsAt c e p l) (hpq : p = q) : unitsAt c e q l :=
  hpq ▸ h

theorem endsAt_cast {c : List Nat} {e p q : Nat} {cont : Nat → Bool} (h : endsAt c e p cont) (hpq : p = q) :
    endsAt c e q cont := hpq ▸ h

theorem sub32_eq (a b : Nat) (h : b ≤ a) (ha : a < 2 ^ 32) : sub32 a b = a - b := by
  unfold sub32; omega

theorem sub32_sub32 (a b c : Nat) (h : b + c ≤ a) (ha : a < 2 ^ 32) : sub32 (sub32 a b) c = a - b - c := by
  rw [sub32_eq a b (by omega) ha, sub32_eq (a - b) c (by omega) (by omega)]

theorem add32_eq (a b : Nat) (h : a + b < 2 ^ 32) : add32 a b = a + b := by
  unfold add32; exact Nat.mod_eq_of_lt h

theorem unitsAt_append (c : List Nat) (e : Nat) : ∀ (l₁ l₂ : List Nat) (off : Nat),
    unitsAt c e off (l₁ ++ l₂) ↔ unitsAt c e off l₁ ∧ unitsAt c e (off + l₁.length) l₂
  | [], l₂, off => by simp [unitsAt]
  | x :: xs, l₂, off => by
    simp only [List.cons_append, unitsAt, List.length_cons, unitsAt_append c e xs l₂ (off + 1)]
    rw [show off + 1 + xs.length = off + (xs.length + 1) by omega]
    exact and_assoc.symm

theorem unitsAt_le (c : List Nat) (e : Nat) : ∀ (l : List Nat) (off : Nat), unitsAt c e off l → l ≠ [] → off + l.length ≤ e
  | [x], off, h, _ => by have := rd_lt h.1; simp; omega
  | x :: y :: ys, off, h, _ => by
    have := unitsAt_le c e (y :: ys) (off + 1) h.2 (by simp)
    simp at this ⊢; omega

theorem unitsAt_sep (c : List Nat) (e off d1 : Nat) (xs : List Nat) (u : Nat) (r : List Nat) :
    unitsAt c e off (d1 :: xs ++ [u] ++ r) ↔
      unitsAt c e off (d1 :: xs) ∧ rd c e (off + 1 + xs.length) = some u ∧ unitsAt c e (off + 1 + xs.length + 1) r := by
  have e1 : off + (d1 :: xs).length = off + 1 + xs.length := by simp only [List.length_cons]; omega
  have e2 : off + (d1 :: xs ++ [u]).length = off + 1 + xs.length + 1 := by
    simp only [List.length_append, List.length_cons, List.length_nil]; omega
  rw [unitsAt_append, unitsAt_append, e1, e2]
  simp only [unitsAt, and_true, and_assoc]

theorem unitsAt_zeroDot (c : List Nat) (e off : Nat) (zs r : List Nat) :
    unitsAt c e off ([48, 46] ++ zs ++ r) ↔
      rd c e off = some 48 ∧ rd c e (off + 1) = some 46 ∧ unitsAt c e (off + 2) zs ∧ unitsAt c e (off + 2 + zs.length) r := by
  have e2 : off + ([48, 46] ++ zs).length = off + 2 + zs.length := by
    simp only [List.length_append, List.length_cons, List.length_nil]; omega
  rw [unitsAt_append, unitsAt_append, e2]
  simp only [unitsAt, and_true, and_assoc, List.length_cons, List.length_nil]

theorem pushDigit_lt (n d : Nat) : pushDigit n d < 2 ^ 64 := Nat.mod_lt _ (by decide)

theorem decVal_append_singleton (l : List Nat) (d : Nat) : decVal (l ++ [d]) = decVal l * 10 + (d - 48) := by
  simp [decVal, List.foldl_append]

theorem foldl_dec (l : List Nat) : ∀ a, l.foldl (fun a d => a * 10 + (d - 48)) a = a * 10 ^ l.length + decVal l := by
  induction l with
  | nil => intro a; simp [decVal]
  | cons x xs ih =>
    intro a
    simp only [List.foldl_cons, List.length_cons, decVal]
    rw [ih, ih (0 * 10 + (x - 48))]
    simp [Nat.pow_succ, Nat.add_mul, Nat.mul_assoc, Nat.mul_comm 10]
    omega

theorem decVal_cons (x : Nat) (xs : List Nat) : decVal (x :: xs) = (x - 48) * 10 ^ xs.length + decVal xs := by
  have := foldl_dec xs (0 * 10 + (x - 48))
  simpa [decVal] using this

/-- folding `pushDigit` (64-bit truncation at every step) over a run whose total stays below `2^64`
never truncates -/
theorem foldl_pushDigit (l : List Nat) : ∀ a, a * 10 ^ l.length + decVal l < 2 ^ 64 →
    l.foldl pushDigit a = a * 10 ^ l.length + decVal l := by
  induction l with
  | nil => intro a _; simp [decVal]
  | cons x xs ih =>
    intro a h
    rw [decVal_cons] at h ⊢
    have hp : 0 < 10 ^ xs.length := Nat.pow_pos (by decide)
    have e1 : (a * 10 + (x - 48)) * 10 ^ xs.length = a * 10 ^ (xs.length + 1) + (x - 48) * 10 ^ xs.length := by
      rw [Nat.add_mul, Nat.pow_succ, Nat.mul_assoc, Nat.mul_comm 10]
    have hx : a * 10 + (x - 48) < 2 ^ 64 := by
      have : (a * 10 + (x - 48)) * 1 ≤ (a * 10 + (x - 48)) * 10 ^ xs.length := Nat.mul_le_mul_left _ hp
      simp only [List.length_cons] at h
      omega
    have hpd : pushDigit a x = a * 10 + (x - 48) := by unfold pushDigit; exact Nat.mod_eq_of_lt hx
    simp only [List.foldl_cons, List.length_cons, hpd]
    rw [ih (a * 10 + (x - 48)) (by simp only [List.length_cons] at h; omega)]
    omega

theorem decVal_append (l m : List Nat) : decVal (l ++ m) = decVal l * 10 ^ m.length + decVal m := by
  unfold decVal
  rw [List.foldl_append, foldl_dec m]
  rfl

theorem decVal_lt_pow : ∀ l : List Nat, AllDigits l → decVal l < 10 ^ l.length
  | [], _ => by simp [decVal]
  | y :: ys, hl => by
    rw [decVal_cons]
    have hy : isDigit y = true := hl y (by simp)
    have ih := decVal_lt_pow ys (fun z hz => hl z (by simp [hz]))
    simp [isDigit] at hy
    have h9 : (y - 48) * 10 ^ ys.length ≤ 9 * 10 ^ ys.length := Nat.mul_le_mul_right _ (by omega)
    simp only [List.length_cons, Nat.pow_succ]
    omega

theorem decVal_trunc (l m : List Nat) (hm : AllDigits m) :
    decVal l * 10 ^ m.length ≤ decVal (l ++ m) ∧ decVal (l ++ m) < (decVal l + 1) * 10 ^ m.length := by
  rw [decVal_append]
  have := decVal_lt_pow m hm
  constructor
  · omega
  · rw [Nat.add_mul, Nat.one_mul]; omega

theorem decVal_zero_cons (l : List Nat) : decVal (48 :: l) = decVal l := by
  rw [decVal_cons]; simp

theorem decVal_zeros (zs l : List Nat) (hz : ∀ z ∈ zs, z = 48) : decVal (zs ++ l) = decVal l := by
  induction zs with
  | nil => rfl
  | cons z zs ih =>
    have : z = 48 := hz z (by simp)
    subst this
    rw [List.cons_append, decVal_zero_cons, ih (fun y hy => hz y (by simp [hy]))]

theorem decVal_lt_two64 (l : List Nat) (hl : AllDigits l) (hlen : l.length ≤ 19) : decVal l < 2 ^ 64 :=
  Nat.lt_of_lt_of_le (decVal_lt_pow l hl)
    (Nat.le_trans (Nat.pow_le_pow_right (by decide) hlen) (by decide : (10 : Nat) ^ 19 ≤ 2 ^ 64))

theorem foldl_pushDigit_decVal (l m : List Nat) (h : decVal (l ++ m) < 2 ^ 64) :
    m.foldl pushDigit (decVal l) = decVal (l ++ m) := by
  rw [decVal_append] at h ⊢
  exact foldl_pushDigit m (decVal l) h

theorem foldl_pushDigit_zero (l : List Nat) (h : decVal l < 2 ^ 64) : l.foldl pushDigit 0 = decVal l :=
  foldl_pushDigit_decVal [] l h

/-- the scan enters its loop with the first digit already taken -/
theorem foldl_pushDigit_cons (d : Nat) (xs : List Nat) (h : decVal (d :: xs) < 2 ^ 64) :
    xs.foldl pushDigit (d - 48) = decVal (d :: xs) := by
  rw [decVal_cons] at h ⊢
  exact foldl_pushDigit xs (d - 48) h

theorem AllDigits.cons {d : Nat} {xs : List Nat} (hd : isDigit d = true) (hxs : AllDigits xs) : AllDigits (d :: xs) :=
  fun y hy => by
    rcases List.mem_cons.1 hy with h | h
    · rw [h]; exact hd
    · exact hxs y h

theorem AllDigits.append {xs ys : List Nat} (hxs : AllDigits xs) (hys : AllDigits ys) : AllDigits (xs ++ ys) :=
  fun y hy => (List.mem_append.1 hy).elim (hxs y) (hys y)

/-! ### One pass of each loop
With fuel left, a loop at a readable position is its body. The fuel is `e - off` (or what is left of it) at every use. -/

theorem skipZeros_read {c : List Nat} {e off x : Nat} (k dg : Nat) (h : rd c e off = some x) (hk : 0 < k) :
    skipZeros c e k off dg = if x = 48 then skipZeros c e (k - 1) (off + 1) x else some (off, x) := by
  obtain ⟨j, rfl⟩ : ∃ j, k = j + 1 := ⟨k - 1, by omega⟩
  rw [skipZeros, h]; rfl

theorem scanDigits_read {c : List Nat} {e off x : Nat} (k num dg : Nat) (h : rd c e off = some x) (hk : 0 < k) :
    scanDigits c e k off num dg =
      if isDigit x then scanDigits c e (k - 1) (off + 1) (pushDigit num x) x else some (off, num, x) := by
  obtain ⟨j, rfl⟩ : ∃ j, k = j + 1 := ⟨k - 1, by omega⟩
  rw [scanDigits, h]; rfl

theorem expDigits_read {c : List Nat} {e off x : Nat} (k a : Nat) (h : rd c e off = some x) (hk : 0 < k) :
    expDigits c e k off a =
      if isDigit x then expDigits c e (k - 1) (off + 1) (if a < 100000000 then (a * 10 + (x - 48)) % 2 ^ 32 else a)
      else some (a, off) := by
  obtain ⟨j, rfl⟩ : ∃ j, k = j + 1 := ⟨k - 1, by omega⟩
  rw [expDigits, h]; rfl

theorem tailLoop_read {c : List Nat} {e off x : Nat} (num k : Nat) (hasDot : Bool) (dotOff : Nat) (h : rd c e off = some x)
    (hk : 0 < k) :
    tailLoop c e num k off hasDot dotOff =
      if isDigit x then tailLoop c e num (k - 1) (off + 1) hasDot dotOff
      else if x = 46 then
        if !hasDot then tailLoop c e num (k - 1) (off + 1) true off else some (.inl ⟨.notANumber, num, off⟩)
      else if x = 101 ∨ x = 69 then
        match parseExponent c e (off + 1) with
        | none => none
        | some (ok, ex, neg, off1) =>
          if ok then some (.inr ⟨off1, hasDot, dotOff, off, ex, neg⟩) else some (.inl ⟨.notANumber, num, off1⟩)
      else some (.inr ⟨off, hasDot, dotOff, 0, 0, false⟩) := by
  obtain ⟨j, rfl⟩ : ∃ j, k = j + 1 := ⟨k - 1, by omega⟩
  rw [tailLoop, h]; rfl

theorem scanDigits_run (c : List Nat) (e : Nat) : ∀ (ds : List Nat) (k off num dg : Nat),
    AllDigits ds → unitsAt c e off ds → ds.length ≤ k →
    scanDigits c e k off num dg =
      scanDigits c e (k - ds.length) (off + ds.length) (ds.foldl pushDigit num) (ds.getLast?.getD dg)
  | [], k, off, num, dg, _, _, _ => by simp
  | x :: xs, 0, _, _, _, _, _, hk => by simp at hk
  | x :: xs, k + 1, off, num, dg, hd, hu, hk => by
    have hx : isDigit x = true := hd x (by simp)
    rw [scanDigits, hu.1]
    simp only [hx, if_true]
    rw [scanDigits_run c e xs k (off + 1) (pushDigit num x) x (fun y hy => hd y (by simp [hy])) hu.2
      (by simp at hk; omega)]
    simp only [List.length_cons, List.foldl_cons]
    rw [show k + 1 - (xs.length + 1) = k - xs.length by omega, show off + 1 + xs.length = off + (xs.length + 1) by omega]
    congr 1
    cases xs with
    | nil => simp
    | cons y ys =>
      have h1 := List.getLast?_eq_some_getLast (l := y :: ys) (by simp)
      simp [h1]

theorem getLast_digit (ds : List Nat) (dg : Nat) (hd : AllDigits ds) (hne : ds ≠ []) :
    isDigit (ds.getLast?.getD dg) = true := by
  have := List.getLast?_eq_some_getLast hne
  rw [this]; exact hd _ (List.getLast_mem hne)

/-- the outer loop once its first pass has stopped on a dot at `P` holding `num` (Digit.hpp 326-358):
a fraction digit (or `0` and then a digit) starts the second pass, anything else ends the scan after the dot -/
def afterDot (c : List Nat) (e W num P : Nat) : Option (Res ⊕ Scan) :=
  if P + 1 < W then
    match rd c e (P + 1) with
    | none => none
    | some d2 =>
      if isNonZeroDigit d2 then iter2 c e W num (P + 1) d2 P
      else if d2 = 48 ∧ P + 1 + 1 < W then
        match rd c e (P + 1 + 1) with
        | none => none
        | some d3 =>
          if isDigit d3 then iter2 c e W num (P + 1) d3 P
          else some (.inr ⟨num, P + 1, true, P, true⟩)
      else some (.inr ⟨num, P + 1, true, P, true⟩)
  else some (.inr ⟨num, P + 1, true, P, true⟩)

theorem iter1_noDot (c : List Nat) (e W num off dg dotOff : Nat) (isReal : Bool) (h : off < e) :
    iter1 c e W num off dg false dotOff isReal =
      match scanDigits c e (W - off) off num dg with
      | none => none
      | some (off1, num1, d1) =>
        if d1 = 46 then afterDot c e W num1 off1 else some (.inr ⟨num1, off1, false, dotOff, isReal⟩) := by
  rw [iter1]; simp only [Bool.false_eq_true, if_false, h, if_true]; rfl

theorem iter2_atEnd (c : List Nat) (e W num off dg dotOff : Nat) (h : ¬ off < e) :
    iter2 c e W num off dg dotOff = some (.inr ⟨num, off, true, dotOff, true⟩) := by
  rw [iter2, if_neg h]

theorem iter2_inside (c : List Nat) (e W num off dg dotOff : Nat) (h : off < e) :
    iter2 c e W num off dg dotOff =
      match scanDigits c e (W - off) off num dg with
      | none => none
      | some (off1, num1, d1) =>
        if d1 = 46 then some (.inl ⟨.notANumber, num1, off1⟩) else some (.inr ⟨num1, off1, true, dotOff, true⟩) := by
  rw [iter2, if_pos h]; rfl

theorem iter1_hasDot (c : List Nat) (e W num off dg dotOff : Nat) (isReal : Bool) :
    iter1 c e W num off dg true dotOff isReal = iter2 c e W num off dg dotOff := by
  rw [iter1, if_pos rfl]

theorem iter1_atEnd (c : List Nat) (e W num off dg dotOff : Nat) (isReal : Bool) (h : ¬ off < e) :
    iter1 c e W num off dg false dotOff isReal = some (.inr ⟨num, off, false, dotOff, isReal⟩) := by
  rw [iter1]; simp only [Bool.false_eq_true, if_false, h]

/-- `afterSign` on a leading `0` or `.` (Digit.hpp 252-283): the look at the unit after a leading zero — a hex
numeral, a rejected `0d`, or the place `(offset, digit)` where the scan goes on -/
def leadStep (c : List Nat) (e off d : Nat) : Option (Res ⊕ (Nat × Nat)) :=
  if d = 48 ∧ off + 1 < e then
    match rd c e (off + 1) with
    | none => none
    | some d1 =>
      if d1 = 120 ∨ d1 = 88 then
        match hexLoop c e (e - (off + 2)) (off + 2) 0 with
        | none => none
        | some (v, o) => some (.inl ⟨.natural, v, o⟩)
      else if isDigit d1 then some (.inl ⟨.notANumber, 0, off + 1⟩)
      else some (.inr (off + 1, d1))
  else some (.inr (off, d))

/-- `afterSign` from the place `leadStep` found (284-307): on a dot the fraction-only path with its zero
skipping, otherwise the scan of a numeral that starts with `0` (`start_offset` stays 0) -/
def afterLead (c : List Nat) (e : Nat) (neg : Bool) (off off1 dg : Nat) : Option Res :=
  if dg = 46 then
    match skipZeros c e (e - (off1 + 1)) (off1 + 1) dg with
    | none => none
    | some (off2, dg2) =>
      if off1 + 1 = off2 ∧ off1 = off ∧ !isDigit dg2 then some ⟨.notANumber, 0, off2⟩
      else thenScan (iter1 c e (windowEnd e off2) 0 off2 dg2 true off1 true) (afterScan c e neg off2 true)
  else thenScan (iter1 c e (windowEnd e off1) 0 off1 dg false 0 false) (afterScan c e neg 0 false)

theorem afterSign_noRead (c : List Nat) (e : Nat) (neg : Bool) (off : Nat) (h0 : rd c e off = none) :
    afterSign c e neg off = if off < e then none else some ⟨.notANumber, 0, off⟩ := by
  rw [afterSign, h0]

theorem afterSign_atEnd (c : List Nat) (e : Nat) (neg : Bool) (off : Nat) (h : ¬ off < e) :
    afterSign c e neg off = some ⟨.notANumber, 0, off⟩ := by
  rw [afterSign_noRead c e neg off (by unfold rd; rw [if_neg h]), if_neg h]

theorem afterSign_nonzero (c : List Nat) (e : Nat) (neg : Bool) (off d : Nat) (h0 : rd c e off = some d)
    (h1 : isNonZeroDigit d = true) :
    afterSign c e neg off =
      thenScan (iter1 c e (windowEnd e off) (d - 48) (off + 1) d false 0 false) (afterScan c e neg off false) := by
  rw [afterSign, if_pos (rd_lt h0), h0]; simp only [h1, if_true]

theorem afterSign_lead (c : List Nat) (e : Nat) (neg : Bool) (off d : Nat) (h0 : rd c e off = some d)
    (h1 : isNonZeroDigit d = false) (hd : d = 48 ∨ d = 46) :
    afterSign c e neg off =
      match leadStep c e off d with
      | none => none
      | some (.inl r) => some r
      | some (.inr (off1, dg)) => afterLead c e neg off off1 dg := by
  rw [afterSign, if_pos (rd_lt h0), h0]; simp only [h1, Bool.false_eq_true, if_false, hd, if_true]; rfl

theorem afterSign_other (c : List Nat) (e : Nat) (neg : Bool) (off d : Nat) (h0 : rd c e off = some d)
    (h1 : isNonZeroDigit d = false) (hd : ¬ (d = 48 ∨ d = 46)) :
    afterSign c e neg off = some ⟨.notANumber, 0, off⟩ := by
  rw [afterSign, if_pos (rd_lt h0), h0]; simp only [h1, Bool.false_eq_true, if_false, hd]

theorem rd_append (pre : List Nat) (x : Nat) (post : List Nat) (e : Nat) (h : pre.length < e) :
    rd (pre ++ x :: post) e pre.length = some x := by
  unfold rd; simp [h]

theorem unitsAt_mid (pre : List Nat) : ∀ (l post : List Nat) (e : Nat), pre.length + l.length ≤ e →
    unitsAt (pre ++ l ++ post) e pre.length l
  | [], _, _, _ => trivial
  | x :: xs, post, e, h => by
    refine ⟨?_, ?_⟩
    · rw [List.append_assoc, List.cons_append]
      exact rd_append pre x (xs ++ post) e (by simp at h; omega)
    · have := unitsAt_mid (pre ++ [x]) xs post e (by simp at h ⊢; omega)
      simpa [List.append_assoc] using this

theorem unitsAt_self (t : List Nat) : unitsAt t t.length 0 t := by
  have := unitsAt_mid [] t [] t.length (by simp)
  simpa using this

end Qentem.StrToNum

namespace Qentem.Decimal
open Qentem.FmtSpec (digitsOf)
open Qentem.StrToNum (decVal AllDigits isDigit isNonZeroDigit decVal_append_singleton)

theorem allDigits_digitsOf (n : Nat) : AllDigits (digitsOf n) := isDigit_digitsOf n

theorem decVal_digitsOf (n : Nat) : decVal (digitsOf n) = n :=
  digitsOf_induction (P := fun n l => decVal l = n)
    (fun n _ => by simp [decVal])
    (fun n _ ih => by rw [decVal_append_singleton, ih]; omega) n

theorem digitsOf_head {n : Nat} (hn : 0 < n) :
    ∃ d xs, digitsOf n = d :: xs ∧ isNonZeroDigit d = true ∧ AllDigits xs := by
  have key : ∀ n, 0 < n → ∃ d xs, digitsOf n = d :: xs ∧ isNonZeroDigit d = true :=
    digitsOf_induction (P := fun n l => 0 < n → ∃ d xs, l = d :: xs ∧ isNonZeroDigit d = true)
      (fun n h hn => ⟨48 + n, [], rfl, by simp only [isNonZeroDigit, Bool.and_eq_true, decide_eq_true_eq]; omega⟩)
      (fun n h ih _ => by
        obtain ⟨d, xs, hd, hz⟩ := ih (by omega)
        exact ⟨d, xs ++ [48 + n % 10], by rw [hd]; rfl, hz⟩)
  obtain ⟨d, xs, hd, hz⟩ := key n hn
  exact ⟨d, xs, hd, hz, fun x hx => allDigits_digitsOf n x (by rw [hd]; exact List.mem_cons_of_mem _ hx)⟩

end Qentem.Decimal
