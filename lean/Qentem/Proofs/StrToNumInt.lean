import Qentem.Proofs.StrToNumBasic
/-! C09 helper lemmas, the text given as lists of units (`unitsAt`): which units continue a numeral (`contInt`, `contZero`,
`contReal`) and small facts on digits and mantissas (`marker_sep`, `mantissa_*`, `zeros_split`); the windowed scan over
runs of digits (an integer run, the dot, the fraction digits) and the window itself (`windowEnd_*`); the 20th-digit stage;
the integer path of `afterSign` (`afterSign_int`); the stage behind a leading `0` or `.` (`leadStep_*`,
`afterSign_zero_next`, `skipZeros_zeros`, `afterSign_skipZeros`). -/
namespace Qentem.StrToNum

/-- units that would continue an integer numeral: a digit, `.`, `e`, `E` -/
def contInt (x : Nat) : Bool := isDigit x || isDotOrE x

/-- units that would continue a lone `0`: digit, `.`, `e`, `E`, `x`, `X` -/
def contZero (x : Nat) : Bool := contInt x || x == 120 || x == 88

/-- units that would continue a `digits . digits` mantissa: the same units as `contInt` (`contReal_eq`), spelled in the
order the tail loop tests them -/
def contReal (x : Nat) : Bool := isDigit x || x == 46 || isDotOrE x

theorem contReal_eq (x : Nat) : contReal x = contInt x := by
  unfold contReal contInt isDotOrE
  cases isDigit x <;> cases x == 46 <;> rfl

theorem contInt_stop {x : Nat} (hc : contInt x = false) : isDigit x = false ∧ x ≠ 46 := by
  simp only [contInt, Bool.or_eq_false_iff] at hc
  exact ⟨hc.1, fun h => by rw [h] at hc; exact absurd hc.2 (by decide)⟩

theorem contZero_contInt {x : Nat} (h : contZero x = false) : contInt x = false := by
  simp only [contZero, Bool.or_eq_false_iff] at h; exact h.1.1

theorem contZero_contReal {x : Nat} (h : contZero x = false) : contReal x = false :=
  contReal_eq x ▸ contZero_contInt h

theorem isDigit_ne_dot {x : Nat} (h : isDigit x = true) : x ≠ 46 := by
  intro hx; subst hx; simp [isDigit] at h

theorem isDigit_not_dotOrE {x : Nat} (h : isDigit x = true) : isDotOrE x = false := by
  simp [isDigit] at h
  simp [isDotOrE]; omega

theorem isNonZeroDigit_isDigit {d : Nat} (h : isNonZeroDigit d = true) : isDigit d = true := by
  simp [isNonZeroDigit] at h; simp [isDigit]; omega

theorem isDigit_cases {d : Nat} (h : isDigit d = true) : isNonZeroDigit d = true ∨ d = 48 := by
  simp [isDigit] at h; simp [isNonZeroDigit]; omega

theorem marker_sep {m : Nat} (hm : m = 101 ∨ m = 69) : isDigit m = false ∧ m ≠ 46 ∧ isDotOrE m = true := by
  rcases hm with h | h <;> subst h <;> decide

theorem decVal_ge (d1 : Nat) (xs : List Nat) (h1 : isNonZeroDigit d1 = true) :
    10 ^ xs.length ≤ decVal (d1 :: xs) := by
  rw [decVal_cons]
  simp [isNonZeroDigit] at h1
  have : 1 * 10 ^ xs.length ≤ (d1 - 48) * 10 ^ xs.length := Nat.mul_le_mul_right _ (by omega)
  omega

theorem mantissa_bounds (d1 : Nat) (xs : List Nat) (n : Nat) (h1 : isNonZeroDigit d1 = true) (hxs : AllDigits xs)
    (hn : xs.length + 1 = n) : 10 ^ (n - 1) ≤ decVal (d1 :: xs) ∧ decVal (d1 :: xs) < 10 ^ n := by
  subst hn
  rw [Nat.add_sub_cancel]
  exact ⟨decVal_ge d1 xs h1, decVal_lt_pow (d1 :: xs) (hxs.cons (isNonZeroDigit_isDigit h1))⟩

theorem mantissa_pos {v n : Nat} (h : 10 ^ (n - 1) ≤ v) : 0 < v := Nat.lt_of_lt_of_le (Nat.pow_pos (by decide)) h

theorem mantissa_lt {v n : Nat} (h : v < 10 ^ n) (hn19 : n ≤ 19) : v < 2 ^ 64 :=
  Nat.lt_of_lt_of_le h (Nat.le_trans (Nat.pow_le_pow_right (by decide) hn19) (by decide))

theorem zeros_split : ∀ (F : List Nat), AllDigits F →
    ∃ zs G, F = zs ++ G ∧ (∀ z ∈ zs, z = 48) ∧ (G = [] ∨ ∃ g1 gt, G = g1 :: gt ∧ isNonZeroDigit g1 = true)
  | [], _ => ⟨[], [], rfl, (by intro z hz; cases hz), Or.inl rfl⟩
  | a :: F, h => by
    have ha : isDigit a = true := h a (by simp)
    by_cases h48 : a = 48
    · obtain ⟨zs, G, h1, h2, h3⟩ := zeros_split F (fun y hy => h y (by simp [hy]))
      refine ⟨a :: zs, G, by rw [h1]; simp, ?_, h3⟩
      intro z hz
      rcases List.mem_cons.1 hz with h | h
      · rw [h]; exact h48
      · exact h2 z h
    · refine ⟨[], a :: F, rfl, (by intro z hz; cases hz), Or.inr ⟨a, F, rfl, ?_⟩⟩
      simp [isDigit] at ha
      simp [isNonZeroDigit]; omega

/-- position `p` holds a unit that ends a digit run without being a dot. The window lemmas below take
`window full ∨ runStop …`; a whole mantissa ends with `p = e ∨ runStop c e p`, which is what an `endsAt` gives
(`endsAt_runStop`) -/
abbrev runStop (c : List Nat) (e p : Nat) : Prop := ∃ x, rd c e p = some x ∧ isDigit x = false ∧ x ≠ 46

theorem endsAt_runStop {c : List Nat} {e p : Nat} (h : endsAt c e p contInt) : p = e ∨ runStop c e p :=
  h.imp id fun ⟨x, hx, hc⟩ => ⟨x, hx, contInt_stop hc⟩

theorem scanDigits_run_stop (c : List Nat) (e : Nat) (ds : List Nat) (k off num dg x : Nat) (hd : AllDigits ds)
    (hu : unitsAt c e off ds) (hk : ds.length < k) (hx : rd c e (off + ds.length) = some x) (hxd : isDigit x = false) :
    scanDigits c e k off num dg = some (off + ds.length, ds.foldl pushDigit num, x) := by
  rw [scanDigits_run c e ds k off num dg hd hu (Nat.le_of_lt hk), scanDigits_read _ _ _ hx (by omega)]
  simp only [hxd, Bool.false_eq_true, if_false]

theorem scanDigits_noDot (c : List Nat) (e : Nat) (ds : List Nat) (k off num dg : Nat) (hdg : k = 0 → dg ≠ 46)
    (hd : AllDigits ds) (hu : unitsAt c e off ds) (hk : ds.length ≤ k)
    (hs : k = ds.length ∨ runStop c e (off + ds.length)) :
    ∃ d', scanDigits c e k off num dg = some (off + ds.length, ds.foldl pushDigit num, d') ∧ d' ≠ 46 := by
  rcases Nat.eq_or_lt_of_le hk with h | h
  · subst h
    refine ⟨_, by rw [scanDigits_run c e ds ds.length off num dg hd hu (Nat.le_refl _), Nat.sub_self]; rfl, ?_⟩
    cases ds with
    | nil => exact hdg rfl
    | cons a as => exact isDigit_ne_dot (getLast_digit (a :: as) dg hd (List.cons_ne_nil _ _))
  · rcases hs with h' | ⟨x, hx, hxd, hx46⟩
    · omega
    · exact ⟨x, scanDigits_run_stop c e ds k off num dg x hd hu h hx hxd, hx46⟩

theorem iter1_digits (c : List Nat) (e maxEnd : Nat) (ds : List Nat) (off num dg dotOff : Nat) (isReal : Bool)
    (hdg : dg ≠ 46) (hd : AllDigits ds) (hu : unitsAt c e off ds) (hk : ds.length ≤ maxEnd - off)
    (hs : maxEnd - off = ds.length ∨ runStop c e (off + ds.length)) :
    iter1 c e maxEnd num off dg false dotOff isReal =
      some (.inr ⟨ds.foldl pushDigit num, off + ds.length, false, dotOff, isReal⟩) := by
  by_cases hoe : off < e
  · obtain ⟨d', hsc, hne⟩ := scanDigits_noDot c e ds (maxEnd - off) off num dg (fun _ => hdg) hd hu hk hs
    rw [iter1_noDot c e maxEnd num off dg dotOff isReal hoe, hsc]
    simp only [hne, if_false]
  · cases ds with
    | nil => rw [iter1_atEnd c e maxEnd num off dg dotOff isReal hoe]; rfl
    | cons x xs => exact absurd (rd_lt hu.1) hoe

theorem iter1_nondigit (c : List Nat) (e w num p x : Nat) (isReal : Bool) (hx : rd c e p = some x)
    (hd : isDigit x = false) (h46 : x ≠ 46) :
    iter1 c e w num p x false 0 isReal = some (.inr ⟨num, p, false, 0, isReal⟩) :=
  iter1_digits c e w [] p num x 0 isReal h46 nofun trivial (Nat.zero_le _) (.inr ⟨x, hx, hd, h46⟩)

theorem iter2_digits (c : List Nat) (e maxEnd : Nat) (ds : List Nat) (off num dg dotOff : Nat)
    (hdg : maxEnd ≤ off → dg ≠ 46) (hd : AllDigits ds) (hu : unitsAt c e off ds) (hk : ds.length ≤ maxEnd - off)
    (hs : maxEnd - off = ds.length ∨ runStop c e (off + ds.length)) :
    iter2 c e maxEnd num off dg dotOff = some (.inr ⟨ds.foldl pushDigit num, off + ds.length, true, dotOff, true⟩) := by
  by_cases hoe : off < e
  · obtain ⟨d', hsc, hne⟩ := scanDigits_noDot c e ds (maxEnd - off) off num dg (fun h => hdg (by omega)) hd hu hk hs
    rw [iter2_inside c e maxEnd num off dg dotOff hoe, hsc]
    simp only [hne, if_false]
  · cases ds with
    | nil => rw [iter2_atEnd c e maxEnd num off dg dotOff hoe]; rfl
    | cons x xs => exact absurd (rd_lt hu.1) hoe

theorem iter1_dot (c : List Nat) (e maxEnd : Nat) (ds : List Nat) (off num dg dotOff : Nat) (isReal : Bool)
    (hd : AllDigits ds) (hu : unitsAt c e off ds) (hP : rd c e (off + ds.length) = some 46)
    (hk : off + ds.length < maxEnd) :
    iter1 c e maxEnd num off dg false dotOff isReal = afterDot c e maxEnd (ds.foldl pushDigit num) (off + ds.length) := by
  have hoe : off < e := Nat.lt_of_le_of_lt (Nat.le_add_right _ _) (rd_lt hP)
  rw [iter1_noDot c e maxEnd num off dg dotOff isReal hoe,
    scanDigits_run_stop c e ds (maxEnd - off) off num dg 46 hd hu (by omega) hP (by decide)]
  simp only [if_true]

theorem afterDot_stay (c : List Nat) (e W num P : Nat)
    (h : ¬ P + 1 < W ∨ (∃ x, rd c e (P + 1) = some x ∧ isDigit x = false) ∨
      (rd c e (P + 1) = some 48 ∧ (¬ P + 1 + 1 < W ∨ ∃ x, rd c e (P + 1 + 1) = some x ∧ isDigit x = false))) :
    afterDot c e W num P = some (.inr ⟨num, P + 1, true, P, true⟩) := by
  rw [afterDot]
  by_cases hW : P + 1 < W
  · rw [if_pos hW]
    rcases h with h | ⟨x, hx, hxd⟩ | ⟨h48, h⟩
    · exact absurd hW h
    · have hnz : isNonZeroDigit x = false := by
        cases hn : isNonZeroDigit x with
        | false => rfl
        | true => rw [isNonZeroDigit_isDigit hn] at hxd; exact absurd hxd (by decide)
      have h48 : x ≠ 48 := fun h => by rw [h] at hxd; exact absurd hxd (by decide)
      rw [hx]; simp only [hnz, Bool.false_eq_true, if_false, h48, false_and]
    · rw [h48]; simp only [show isNonZeroDigit 48 = false by decide, Bool.false_eq_true, if_false, true_and]
      by_cases hW2 : P + 1 + 1 < W
      · rw [if_pos hW2]
        rcases h with h | ⟨x, hx, hxd⟩
        · exact absurd hW2 h
        · rw [hx]; simp only [hxd, Bool.false_eq_true, if_false]
      · rw [if_neg hW2]
  · rw [if_neg hW]

theorem afterDot_frac (c : List Nat) (e W num P : Nat) (ys : List Nat) (hys : AllDigits ys) (hy0 : ys ≠ [])
    (hy48 : ys ≠ [48]) (hu : unitsAt c e (P + 1) ys) (hW : P + 1 + ys.length ≤ W)
    (hs : W = P + 1 + ys.length ∨ runStop c e (P + 1 + ys.length)) :
    afterDot c e W num P = some (.inr ⟨ys.foldl pushDigit num, P + 1 + ys.length, true, P, true⟩) := by
  have hs' : W - (P + 1) = ys.length ∨ runStop c e (P + 1 + ys.length) :=
    hs.imp (fun h => by omega) id
  have pass : ∀ dg, iter2 c e W num (P + 1) dg P = some (.inr ⟨ys.foldl pushDigit num, P + 1 + ys.length, true, P, true⟩) :=
    fun dg => iter2_digits c e W ys (P + 1) num dg P
      (fun h => by cases ys with | nil => exact absurd rfl hy0 | cons a as => simp only [List.length_cons] at hW; omega)
      hys hu (by omega) hs'
  cases ys with
  | nil => exact absurd rfl hy0
  | cons y1 yt =>
    simp only [List.length_cons] at hW
    rw [afterDot, if_pos (by omega), hu.1]
    rcases isDigit_cases (hys y1 (List.mem_cons_self ..)) with hnz | h48
    · simp only [hnz, if_true]; exact pass y1
    · subst h48
      cases yt with
      | nil => exact absurd rfl hy48
      | cons y2 yt2 =>
        simp only [List.length_cons] at hW
        simp only [show isNonZeroDigit 48 = false by decide, Bool.false_eq_true, if_false, true_and]
        rw [if_pos (by omega), hu.2.1]
        simp only [hys y2 (List.mem_cons_of_mem _ (List.mem_cons_self ..)), if_true]; exact pass y2

theorem windowEnd_eq (e off : Nat) (he : e < 2 ^ 32) (h : off ≤ e) :
    windowEnd e off = if e - off < 19 then e else off + 19 := by
  rw [windowEnd, sub32_eq e off h he]
  split
  · rfl
  · rw [add32_eq off 19 (by omega)]

theorem windowEnd_bounds (e off : Nat) (he : e < 2 ^ 32) (h : off < e) : off < windowEnd e off ∧ windowEnd e off ≤ e := by
  rw [windowEnd_eq e off he (Nat.le_of_lt h)]; split <;> omega

theorem windowEnd_le19 (e off : Nat) (he : e < 2 ^ 32) (h : off < e) : windowEnd e off ≤ off + 19 := by
  rw [windowEnd_eq e off he (Nat.le_of_lt h)]; split <;> omega

theorem windowEnd_fit (e off Q : Nat) (he : e < 2 ^ 32) (h : off < e) (hQe : Q ≤ e) (hQ : Q ≤ off + 19) :
    Q ≤ windowEnd e off ∧ (Q = e ∨ Q = off + 19 → windowEnd e off = Q) := by
  rw [windowEnd_eq e off he (Nat.le_of_lt h)]; split <;> omega

theorem iter1_zero_last (c : List Nat) (e off : Nat) (he : e < 2 ^ 32) (h0 : rd c e off = some 48) (hl : ¬ (off + 1 < e)) :
    iter1 c e (windowEnd e off) 0 off 48 false 0 false = some (.inr ⟨0, off + 1, false, 0, false⟩) := by
  have hoff := rd_lt h0
  obtain ⟨hW1, hW2⟩ := windowEnd_fit e off (off + 1) he hoff hoff (by omega)
  exact iter1_digits c e _ [48] off 0 48 0 false (by decide) (fun y hy => by rw [List.mem_singleton.1 hy]; decide)
    ⟨h0, trivial⟩ (by show 1 ≤ _; omega) (Or.inl (by have := hW2 (Or.inl (by omega)); show _ = 1; omega))

theorem twentieth_real (c : List Nat) (e num p : Nat) : twentieth c e num p true = some (num, p, p, true) := by
  rw [twentieth, if_neg (fun h => absurd h.1 (by decide))]

theorem twentieth_atEnd (c : List Nat) (e num p : Nat) (isReal : Bool) (h : ¬ p < e) :
    twentieth c e num p isReal = some (num, p, p, isReal) := by
  rw [twentieth, if_neg (fun h' => h h'.2)]

theorem twentieth_stop (c : List Nat) (e num p : Nat) (h : endsAt c e p contInt) :
    twentieth c e num p false = some (num, p, p, false) := by
  rcases h with h | ⟨x, hx, hc⟩
  · exact twentieth_atEnd c e num p false (by omega)
  · unfold twentieth
    have hp := rd_lt hx
    simp only [contInt, Bool.or_eq_false_iff] at hc
    simp [hp, hx, hc.1, hc.2]

theorem twentieth_sep (c : List Nat) (e num p u : Nat) (hu : rd c e p = some u) (hsep : isDotOrE u = true) :
    twentieth c e num p false = some (num, p, p, true) := by
  unfold twentieth
  simp only [Bool.not_false, true_and, rd_lt hu, if_true, hu, hsep]

/-- a 20th digit that would overflow 64 bits: the real path, nothing consumed -/
theorem twentieth_over (c : List Nat) (e num p d : Nat) (hd : rd c e p = some d) (hdig : isDigit d = true)
    (hbig : num > 0x1999999999999999 ∨ (num = 0x1999999999999999 ∧ d > 53)) :
    twentieth c e num p false = some (num, p, p, true) := by
  unfold twentieth
  simp only [Bool.not_false, true_and, rd_lt hd, if_true, hd, isDigit_not_dotOrE hdig, Bool.false_eq_true, if_false, hdig,
    hbig]

theorem pushDigit_small (num d : Nat) (hdig : isDigit d = true)
    (hsmall : ¬ (num > 0x1999999999999999 ∨ (num = 0x1999999999999999 ∧ d > 53))) :
    pushDigit num d = num * 10 + (d - 48) := by
  unfold pushDigit
  simp [isDigit] at hdig
  exact Nat.mod_eq_of_lt (by omega)

theorem twentieth_take (c : List Nat) (e num p d u : Nat) (hd : rd c e p = some d) (hdig : isDigit d = true)
    (hsmall : ¬ (num > 0x1999999999999999 ∨ (num = 0x1999999999999999 ∧ d > 53))) (hu : rd c e (p + 1) = some u) :
    twentieth c e num p false = some (num * 10 + (d - 48), p + 1, p + 1, isDotOrE u || isDigit u) := by
  unfold twentieth
  simp only [Bool.not_false, true_and, rd_lt hd, if_true, hd, isDigit_not_dotOrE hdig, Bool.false_eq_true, if_false, hdig,
    hsmall, pushDigit_small num d hdig hsmall, rd_lt hu, hu]

theorem twentieth_take_last (c : List Nat) (e num p d : Nat) (hd : rd c e p = some d) (hdig : isDigit d = true)
    (hsmall : ¬ (num > 0x1999999999999999 ∨ (num = 0x1999999999999999 ∧ d > 53))) (hl : ¬ p + 1 < e) :
    twentieth c e num p false = some (num * 10 + (d - 48), p + 1, p + 1, false) := by
  unfold twentieth
  simp only [Bool.not_false, true_and, rd_lt hd, if_true, hd, isDigit_not_dotOrE hdig, Bool.false_eq_true, if_false, hdig,
    hsmall, pushDigit_small num d hdig hsmall, hl]

theorem twentieth_push (c : List Nat) (e num p d : Nat) (hd : rd c e p = some d) (hdig : isDigit d = true)
    (hno : num * 10 + (d - 48) < 2 ^ 64) (h : endsAt c e (p + 1) contInt) :
    twentieth c e num p false = some (num * 10 + (d - 48), p + 1, p + 1, false) := by
  have hov : ¬ (num > 0x1999999999999999 ∨ (num = 0x1999999999999999 ∧ d > 53)) := by
    simp [isDigit] at hdig; omega
  rcases h with h | ⟨x, hx, hc⟩
  · exact twentieth_take_last c e num p d hd hdig hov (by omega)
  · rw [twentieth_take c e num p d x hd hdig hov hx]
    simp only [contInt, Bool.or_eq_false_iff] at hc
    rw [hc.1, hc.2]; rfl

theorem thenScan_inr (s : Scan) (k : Scan → Option Res) : thenScan (some (.inr s)) k = k s := rfl

theorem afterScan_of_twentieth_real (c : List Nat) (e : Nat) (neg : Bool) (start : Nat) (fo : Bool) (s : Scan) (n o t : Nat)
    (h : twentieth c e s.num s.off s.isReal = some (n, o, t, true)) :
    afterScan c e neg start fo s = finishReal c e neg n o t start fo s.hasDot s.dotOff := by
  unfold afterScan
  rw [h]
  simp

theorem afterScan_real (c : List Nat) (e : Nat) (neg : Bool) (start : Nat) (fo : Bool) (s : Scan) (h : s.isReal = true) :
    afterScan c e neg start fo s = finishReal c e neg s.num s.off s.off start fo s.hasDot s.dotOff :=
  afterScan_of_twentieth_real c e neg start fo s _ _ _ (by rw [h]; exact twentieth_real c e _ _)

theorem afterScan_mk_real (c : List Nat) (e : Nat) (neg : Bool) (start : Nat) (fo : Bool) (num off : Nat) (hasDot : Bool)
    (dotOff : Nat) :
    afterScan c e neg start fo ⟨num, off, hasDot, dotOff, true⟩ = finishReal c e neg num off off start fo hasDot dotOff :=
  afterScan_real c e neg start fo _ rfl

theorem afterScan_int (c : List Nat) (e : Nat) (neg : Bool) (start : Nat) (fo : Bool) (s : Scan) (v p t : Nat)
    (h : twentieth c e s.num s.off s.isReal = some (v, p, t, false)) (hv : 0 < v) (hv64 : v < 2 ^ 64)
    (hneg : neg = true → v ≤ 2 ^ 63) :
    afterScan c e neg start fo s =
      some ⟨if neg then .integer else .natural, if neg then 2 ^ 64 - v else v, p⟩ := by
  unfold afterScan
  rw [h]
  cases neg with
  | false => simp
  | true =>
    have := hneg rfl
    have h0 : v ≠ 0 := by omega
    have h2 : (2 ^ 64 - v) % 2 ^ 64 = 2 ^ 64 - v := Nat.mod_eq_of_lt (by omega)
    simp [h0, this, h2]

theorem afterScan_negbig (c : List Nat) (e : Nat) (start : Nat) (fo : Bool) (s : Scan) (v p t : Nat)
    (h : twentieth c e s.num s.off s.isReal = some (v, p, t, false)) (hbig : 2 ^ 63 < v) :
    afterScan c e true start fo s = finishReal c e true v p t start fo s.hasDot s.dotOff := by
  unfold afterScan
  rw [h]
  have h0 : v ≠ 0 := by omega
  have h1 : ¬ (v ≤ 0x8000000000000000) := by
    have : (0x8000000000000000 : Nat) = 2 ^ 63 := by decide
    omega
  simp [h0, h1]

theorem afterSign_intRun (c : List Nat) (e : Nat) (neg : Bool) (off d1 : Nat) (xs : List Nat) (he : e < 2 ^ 32)
    (h1 : isNonZeroDigit d1 = true) (hxs : AllDigits xs) (hu : unitsAt c e off (d1 :: xs)) (hlen : xs.length ≤ 18)
    (hs : off + 1 + xs.length = e ∨ xs.length = 18 ∨
      runStop c e (off + 1 + xs.length)) :
    afterSign c e neg off = afterScan c e neg off false ⟨decVal (d1 :: xs), off + 1 + xs.length, false, 0, false⟩ := by
  have hoff : off < e := rd_lt hu.1
  have hle : off + (xs.length + 1) ≤ e := unitsAt_le c e (d1 :: xs) off hu (List.cons_ne_nil _ _)
  have hd1 := isNonZeroDigit_isDigit h1
  obtain ⟨hW1, hW2⟩ := windowEnd_fit e off (off + 1 + xs.length) he hoff (by omega) (by omega)
  rw [afterSign_nonzero c e neg off d1 hu.1 h1,
    iter1_digits c e _ xs (off + 1) (d1 - 48) d1 0 false (isDigit_ne_dot hd1) hxs hu.2 (by omega)
      (by
        rcases hs with h | h | h
        · left; have := hW2 (Or.inl h); omega
        · left; have := hW2 (Or.inr (by omega)); omega
        · exact Or.inr h),
    thenScan_inr, foldl_pushDigit_cons d1 xs (decVal_lt_two64 _ (hxs.cons hd1) (by simp only [List.length_cons]; omega))]

theorem afterSign_dotRun (c : List Nat) (e : Nat) (neg : Bool) (off d1 : Nat) (xs : List Nat) (he : e < 2 ^ 32)
    (h1 : isNonZeroDigit d1 = true) (hxs : AllDigits xs) (hu : unitsAt c e off (d1 :: xs))
    (hP : rd c e (off + 1 + xs.length) = some 46) (hlen : xs.length ≤ 17) :
    afterSign c e neg off =
      thenScan (afterDot c e (windowEnd e off) (decVal (d1 :: xs)) (off + 1 + xs.length)) (afterScan c e neg off false) := by
  have hoff : off < e := rd_lt hu.1
  have hPe := rd_lt hP
  have hd1 := isNonZeroDigit_isDigit h1
  rw [afterSign_nonzero c e neg off d1 hu.1 h1,
    iter1_dot c e _ xs (off + 1) (d1 - 48) d1 0 false hxs hu.2 hP
      (windowEnd_fit e off (off + 1 + xs.length + 1) he hoff hPe (by omega)).1,
    foldl_pushDigit_cons d1 xs (decVal_lt_two64 _ (hxs.cons hd1) (by simp only [List.length_cons]; omega))]

/-- an integer numeral `d₁ xs` that fits 64 bits (so has at most 20 digits) and that nothing continues: the scan
and the 20th-digit stage together take all of it and stay on the integer path -/
theorem afterSign_intEnd (c : List Nat) (e : Nat) (neg : Bool) (off d1 : Nat) (xs : List Nat) (he : e < 2 ^ 32)
    (h1 : isNonZeroDigit d1 = true) (hxs : AllDigits xs) (hu : unitsAt c e off (d1 :: xs))
    (hend : endsAt c e (off + 1 + xs.length) contInt) (hv : decVal (d1 :: xs) < 2 ^ 64) :
    ∃ s, afterSign c e neg off = afterScan c e neg off false s ∧ s.hasDot = false ∧ s.dotOff = 0 ∧
      twentieth c e s.num s.off s.isReal =
        some (decVal (d1 :: xs), off + 1 + xs.length, off + 1 + xs.length, false) := by
  have hlen : xs.length ≤ 19 := by
    have h20 : (2 : Nat) ^ 64 < 10 ^ 20 := by decide
    have := Nat.lt_of_le_of_lt (decVal_ge d1 xs h1) (Nat.lt_trans hv h20)
    have := (Nat.pow_lt_pow_iff_right (by decide : 1 < 10)).1 this
    omega
  by_cases h19 : xs.length ≤ 18
  · -- the whole numeral lies inside the 19-unit window
    refine ⟨_, afterSign_intRun c e neg off d1 xs he h1 hxs hu h19 ?_, rfl, rfl, twentieth_stop c e _ _ hend⟩
    exact (endsAt_runStop hend).imp id Or.inr
  · -- exactly 20 digits: 19 in the window, the 20th through the overflow test
    obtain ⟨ys, d20, rfl⟩ : ∃ ys d20, xs = ys ++ [d20] :=
      ⟨xs.dropLast, xs.getLast (by intro h; rw [h] at h19; exact h19 (Nat.zero_le _)),
        (List.dropLast_concat_getLast _).symm⟩
    have hys : ys.length = 18 := by simp only [List.length_append, List.length_singleton] at hlen h19; omega
    have hu2 := (unitsAt_append c e (d1 :: ys) [d20] off).1 hu
    have hval : decVal (d1 :: (ys ++ [d20])) = decVal (d1 :: ys) * 10 + (d20 - 48) := by
      rw [← List.cons_append, decVal_append_singleton]
    have hpos : off + 1 + (ys ++ [d20]).length = off + 1 + ys.length + 1 := by
      rw [List.length_append, List.length_singleton]; omega
    refine ⟨_, afterSign_intRun c e neg off d1 ys he h1 (fun y hy => hxs y (List.mem_append_left _ hy)) hu2.1
      (Nat.le_of_eq hys) (Or.inr (Or.inl hys)), rfl, rfl, ?_⟩
    rw [hval, hpos]
    exact twentieth_push c e (decVal (d1 :: ys)) (off + 1 + ys.length) d20
      (by have := hu2.2.1; rwa [List.length_cons, ← Nat.add_assoc, Nat.add_right_comm] at this)
      (hxs d20 (List.mem_append_right _ (List.mem_singleton_self _))) (by omega) (by rw [← hpos]; exact hend)

theorem afterSign_int (c : List Nat) (e : Nat) (neg : Bool) (off d1 : Nat) (xs : List Nat) (he : e < 2 ^ 32)
    (h1 : isNonZeroDigit d1 = true) (hxs : AllDigits xs) (hu : unitsAt c e off (d1 :: xs))
    (hend : endsAt c e (off + 1 + xs.length) contInt)
    (hv : decVal (d1 :: xs) < 2 ^ 64) (hneg : neg = true → decVal (d1 :: xs) ≤ 2 ^ 63) :
    afterSign c e neg off =
      some ⟨if neg then .integer else .natural,
            if neg then 2 ^ 64 - decVal (d1 :: xs) else decVal (d1 :: xs), off + 1 + xs.length⟩ := by
  obtain ⟨s, hsc, _, _, hp⟩ := afterSign_intEnd c e neg off d1 xs he h1 hxs hu hend hv
  rw [hsc]
  exact afterScan_int c e neg off false _ _ _ _ hp
    (Nat.lt_of_lt_of_le (Nat.pow_pos (by decide)) (decVal_ge d1 xs h1)) hv hneg

theorem leadStep_last (c : List Nat) (e off d : Nat) (h : ¬ off + 1 < e) : leadStep c e off d = some (.inr (off, d)) := by
  rw [leadStep, if_neg (fun h' => h h'.2)]

theorem leadStep_dot (c : List Nat) (e off : Nat) : leadStep c e off 46 = some (.inr (off, 46)) := by
  rw [leadStep, if_neg (fun h' => absurd h'.1 (by decide))]

theorem leadStep_next (c : List Nat) (e off x : Nat) (hx : rd c e (off + 1) = some x) (hxd : isDigit x = false)
    (h120 : x ≠ 120) (h88 : x ≠ 88) : leadStep c e off 48 = some (.inr (off + 1, x)) := by
  rw [leadStep, if_pos ⟨rfl, rd_lt hx⟩, hx]
  simp only [h120, h88, false_or, if_false, hxd, Bool.false_eq_true]

theorem afterSign_zero_next (c : List Nat) (e : Nat) (neg : Bool) (off x : Nat) (h0 : rd c e off = some 48)
    (hx : rd c e (off + 1) = some x) (hxd : isDigit x = false) (h120 : x ≠ 120) (h88 : x ≠ 88) :
    afterSign c e neg off = afterLead c e neg off (off + 1) x := by
  rw [afterSign_lead c e neg off 48 h0 (by decide) (Or.inl rfl), leadStep_next c e off x hx hxd h120 h88]

theorem afterSign_leadingZero (c : List Nat) (e : Nat) (neg : Bool) (off d : Nat)
    (h0 : rd c e off = some 48) (h1 : rd c e (off + 1) = some d) (hd : isDigit d = true) :
    afterSign c e neg off = some ⟨.notANumber, 0, off + 1⟩ := by
  have hx : ¬ (d = 120 ∨ d = 88) := by simp [isDigit] at hd; omega
  rw [afterSign_lead c e neg off 48 h0 (by decide) (Or.inl rfl), leadStep, if_pos ⟨rfl, rd_lt h1⟩, h1]
  simp only [hx, if_false, hd, if_true]

theorem afterLead_noDot (c : List Nat) (e : Nat) (neg : Bool) (off off1 dg : Nat) (h : dg ≠ 46) :
    afterLead c e neg off off1 dg =
      thenScan (iter1 c e (windowEnd e off1) 0 off1 dg false 0 false) (afterScan c e neg 0 false) := by
  rw [afterLead, if_neg h]

theorem skipZeros_zeros (c : List Nat) (e : Nat) : ∀ (zs : List Nat) (k off dg : Nat), (∀ z ∈ zs, z = 48) →
    unitsAt c e off zs → zs.length ≤ k →
    skipZeros c e k off dg = skipZeros c e (k - zs.length) (off + zs.length) (if zs = [] then dg else 48)
  | [], k, off, dg, _, _, _ => by simp
  | z :: zs, 0, _, _, _, _, hk => by simp at hk
  | z :: zs, k + 1, off, dg, hz, hu, hk => by
    have hz48 : z = 48 := hz z (by simp)
    subst hz48
    rw [skipZeros, hu.1]
    simp only [if_true]
    rw [skipZeros_zeros c e zs k (off + 1) 48 (fun y hy => hz y (by simp [hy])) hu.2 (by simp at hk; omega)]
    simp only [List.length_cons]
    rw [show k + 1 - (zs.length + 1) = k - zs.length by omega, show off + 1 + zs.length = off + (zs.length + 1) by omega]
    congr 1
    cases zs <;> simp

/-- the entry digit of the second pass does not matter: it is only looked at when the window is empty -/
theorem afterSign_skipZeros (c : List Nat) (e : Nat) (neg : Bool) (off : Nat) (zs : List Nat) (h48 : rd c e off = some 48)
    (h46 : rd c e (off + 1) = some 46) (hz : ∀ z ∈ zs, z = 48) (hu : unitsAt c e (off + 2) zs)
    (hstop : off + 2 + zs.length = e ∨ ∃ x, rd c e (off + 2 + zs.length) = some x ∧ x ≠ 48) :
    ∃ dg, afterSign c e neg off =
      thenScan (iter2 c e (windowEnd e (off + 2 + zs.length)) 0 (off + 2 + zs.length) dg (off + 1))
        (afterScan c e neg (off + 2 + zs.length) true) := by
  have hle : off + 2 + zs.length ≤ e := by
    rcases hstop with h | ⟨x, hx, _⟩
    · exact Nat.le_of_eq h
    · exact Nat.le_of_lt (rd_lt hx)
  have hskip : ∃ dg, skipZeros c e (e - (off + 1 + 1)) (off + 1 + 1) 46 = some (off + 2 + zs.length, dg) := by
    rw [skipZeros_zeros c e zs (e - (off + 1 + 1)) (off + 1 + 1) 46 hz hu (by omega)]
    rcases hstop with h | ⟨x, hx, hx48⟩
    · rw [show e - (off + 1 + 1) - zs.length = 0 by omega]; exact ⟨_, rfl⟩
    · rw [skipZeros_read _ _ hx (by have := rd_lt hx; omega)]; simp only [hx48, if_false]; exact ⟨_, rfl⟩
  obtain ⟨dg, hsk⟩ := hskip
  refine ⟨dg, ?_⟩
  rw [afterSign_zero_next c e neg off 46 h48 h46 (by decide) (by decide) (by decide), afterLead, if_pos rfl, hsk]
  simp only
  rw [if_neg (fun h => absurd h.2.1 (by omega)), iter1_hasDot]

end Qentem.StrToNum
