import Qentem.Proofs.JsonRoundTripInt
import Qentem.Props.C11Closed
/-! C08 round trip for all value trees with finite numbers, at precision 17: `parse (stringify₁₇ v) = normR v`.
The notions parallel the integer-only ones of `JsonRoundTripInt.lean`.  A real comes back as whatever `StringToNumber`
returns on its `%.17g` text alone (`readBack`); relocation (`numSpec_of_standalone`) carries that run into the document,
and C11 (`roundtrip17`) says the number read has the same value. -/
open Qentem.StrToNum

namespace Qentem.Json

/-- the reference `%.17g` text of a double pattern -/
def text17 (b : Nat) : List Nat := FmtSpec.format64 b 17 .default

/-- finite double pattern -/
def Finite64 (b : Nat) : Prop := b < 2 ^ 64 ∧ (b / 2 ^ 52) % 2 ^ 11 ≠ 2 ^ 11 - 1

/-- what `StringToNumber` returns on the text alone -/
def readBack (b : Nat) : Res := (strToNum (text17 b) 0 (text17 b).length).getD ⟨.notANumber, 0, 0⟩

theorem rfc_text17 (b : Nat) (hb : Finite64 b) : RfcNumeral (text17 b) := by
  have ht := Qentem.Props.C11.text17_format b hb
  unfold text17
  generalize FmtSpec.format64 b 17 .default = t at ht
  cases ht with
  | int neg ds hds hne hlead hlen =>
    refine ⟨sgOf neg, ds, [], [], by rw [signed_eq]; simp, sgOf_two neg, ?_, Or.inl rfl, Or.inl rfl⟩
    rcases hlead with h | h
    · exact Or.inl h
    · right
      cases ds with
      | nil => exact absurd rfl hne
      | cons d rest =>
        refine ⟨d, rest, rfl, ?_, fun x hx => hds x (by simp [hx])⟩
        have hd := hds d (by simp)
        simp at h
        simp [isDigit] at hd; simp [isNonZeroDigit]; omega
  | fixed neg d1 xs ys h1 hxs hys hy0 hy48 hlen =>
    exact ⟨sgOf neg, d1 :: xs, 46 :: ys, [], by rw [signed_eq]; simp, sgOf_two neg, Or.inr ⟨d1, xs, rfl, h1, hxs⟩,
      Or.inr ⟨ys, rfl, hy0, hys⟩, Or.inl rfl⟩
  | small neg zs d1 ys hz hzl h1 hys hlen =>
    refine ⟨sgOf neg, [48], 46 :: (zs ++ d1 :: ys), [], by rw [signed_eq]; simp, sgOf_two neg, Or.inl rfl,
      Or.inr ⟨zs ++ d1 :: ys, rfl, by simp, ?_⟩, Or.inl rfl⟩
    intro x hx
    rcases List.mem_append.1 hx with hx | hx
    · rw [hz x hx]; decide
    · rcases List.mem_cons.1 hx with hx | hx
      · subst hx; exact isNonZeroDigit_isDigit h1
      · exact hys x hx
  | sci neg d1 ys eneg ks h1 hys hy48 hlen hks hk0 hk8 hrange hcond =>
    refine ⟨sgOf neg, [d1], (if ys = [] then [] else 46 :: ys), 101 :: [if eneg then 45 else 43] ++ ks, by rw [signed_eq]; simp,
      sgOf_two neg,
      Or.inr ⟨d1, [], rfl, h1, fun x hx => by cases hx⟩, ?_,
      Or.inr ⟨101, [if eneg then 45 else 43], ks, rfl, Or.inl rfl, by cases eneg <;> simp, hk0, hks⟩⟩
    by_cases hy : ys = []
    · left; simp [hy]
    · right; exact ⟨ys, by simp [hy], hy, hys⟩

theorem readBack_run (b : Nat) (hb : Finite64 b) :
    strToNum (text17 b) 0 (text17 b).length = some ⟨(readBack b).kind, (readBack b).bits, (text17 b).length⟩ ∧
    (readBack b).kind ≠ .notANumber ∧
    (match (readBack b).kind with
      | .real => (readBack b).bits
      | .natural => Qentem.Round.nearestMag (readBack b).bits 1
      | .integer => 2 ^ 63 + Qentem.Round.nearestMag (2 ^ 64 - (readBack b).bits) 1
      | .notANumber => 0) = b := by
  obtain ⟨t, ht, hp⟩ := Qentem.Props.C11.roundtrip17 b hb
  have htt : t = text17 b := by
    have := Qentem.Props.C11.format17_is_reference b
    rw [ht] at this; injection this
  subst htt
  unfold readBack
  unfold Qentem.Props.C11P.parseDouble at hp
  revert hp
  generalize strToNum (text17 b) 0 (text17 b).length = r
  intro hp
  match r, hp with
  | some ⟨.real, bits, off⟩, hp =>
    simp only at hp
    split at hp
    · rename_i ho; subst ho; injection hp with hp; subst hp
      exact ⟨rfl, by simp, rfl⟩
    · cases hp
  | some ⟨.natural, bits, off⟩, hp =>
    simp only at hp
    split at hp
    · rename_i ho; subst ho; injection hp with hp
      exact ⟨rfl, by simp, hp⟩
    · cases hp
  | some ⟨.integer, bits, off⟩, hp =>
    simp only at hp
    split at hp
    · rename_i ho; subst ho; injection hp with hp
      exact ⟨rfl, by simp, hp⟩
    · cases hp

/-- the number a finite double comes back as: the kind and payload of the standalone run -/
def realLeaf (b : Nat) : JVal :=
  match (readBack b).kind with
  | .natural => .nat (readBack b).bits
  | .integer => .int (readBack b).bits
  | .real => .real (readBack b).bits
  | .notANumber => .undef

/-- the `double` a number leaf stands for (the callers' conversion: `double(natural)`, `double(integer)` are
round-to-nearest-even; a signed pattern below 2^63 is non-negative) -/
def asDouble : JVal → Option Nat
  | .real b => some b
  | .nat v => some (Qentem.Round.nearestMag v 1)
  | .int w => some (if w < 2 ^ 63 then Qentem.Round.nearestMag w 1 else 2 ^ 63 + Qentem.Round.nearestMag (2 ^ 64 - w) 1)
  | _ => none

theorem numSpec_text17 (w b : Nat) (hb : Finite64 b) :
    NumSpec (jsonDeps w) (text17 b) (kindOf (readBack b).kind) (readBack b).bits := by
  obtain ⟨hrun, hk, _⟩ := readBack_run b hb
  exact numSpec_of_standalone w (text17 b) _ _ (rfc_text17 b hb) hrun hk

theorem realLeaf_denote (b : Nat) (t : List Nat) :
    (JDoc.num t (kindOf (readBack b).kind) (readBack b).bits).denote = realLeaf b := by
  unfold realLeaf
  cases (readBack b).kind <;> simp [JDoc.denote, kindOf]

theorem realLeaf_value (b : Nat) (hb : Finite64 b) : asDouble (realLeaf b) = some b ∧ isUndefined (realLeaf b) = false := by
  obtain ⟨hrun, hk, hval⟩ := readBack_run b hb
  unfold realLeaf
  revert hk hval hrun
  generalize (readBack b).bits = bits
  cases hkind : (readBack b).kind with
  | notANumber => intro _ hk; exact absurd rfl hk
  | real => intro _ _ hval; simp only at hval; subst hval; exact ⟨rfl, rfl⟩
  | natural => intro _ _ hval; simp only at hval; subst hval; exact ⟨rfl, rfl⟩
  | integer =>
    intro hrun _ hval
    simp only at hval
    refine ⟨?_, rfl⟩
    -- an Integer result carries a two's-complement pattern at or above 2^63
    have hge : 2 ^ 63 ≤ bits := by
      exact (strToNum_integer _ _ _ _ hrun rfl).1
    simp only [asDouble, show ¬ (bits < 2 ^ 63) by omega, if_false, hval]

/-- The number formatter prints a finite double, at precision 17, as the reference `%.17g` text (what C10's
`format_eq_spec_double` proves of `NumberToString`). -/
structure FmtReal17 (f : Fmt) : Prop where
  real17 : ∀ b, Finite64 b → f.real b 17 = text17 b

mutual
/-- A tree whose integers fit 64 bits and whose reals are finite. -/
def NumTree : JVal → Prop
  | .real b => Finite64 b
  | .nat n => n < 2 ^ 64
  | .int b => b < 2 ^ 64
  | .arr xs => NumTreeList xs
  | .obj ms => NumTreeMembers ms
  | .ptr t => NumTree t
  | _ => True
def NumTreeList : List JVal → Prop
  | [] => True
  | v :: rest => NumTree v ∧ NumTreeList rest
def NumTreeMembers : List (List Nat × JVal) → Prop
  | [] => True
  | (_, v) :: rest => NumTree v ∧ NumTreeMembers rest
end

mutual
/-- The document a tree is printed as (no whitespace; Undefined members omitted, pointers looked through); a real is the
numeral `f.real b 17` denoting what `StringToNumber` reads back from it (`readBack`). -/
def toDocR (f : Fmt) : JVal → JDoc
  | .null => .null
  | .tru => .tru
  | .fals => .fals
  | .nat n => .num (f.nat n) .natural n
  | .int b => if b < 2 ^ 63 then .num (f.int b) .natural b else .num (f.int b) .integer b
  | .real b => .num (f.real b 17) (kindOf (readBack b).kind) (readBack b).bits
  | .str s => .str (escapeJson s) s
  | .arr xs => .arr [] (toItemsR f xs)
  | .obj ms => .obj [] (toMembersR f ms)
  | .ptr t => toDocR f t
  | .undef => .null
def toItemsR (f : Fmt) : List JVal → List (Ws × JDoc × Ws)
  | [] => []
  | v :: rest => if isUndefined v then toItemsR f rest else ([], toDocR f v, []) :: toItemsR f rest
def toMembersR (f : Fmt) : List (List Nat × JVal) → List (Ws × List Nat × List Nat × Ws × Ws × JDoc × Ws)
  | [] => []
  | (k, v) :: rest =>
    if isUndefined v then toMembersR f rest else ([], escapeJson k, k, [], [], toDocR f v, []) :: toMembersR f rest
end

mutual
theorem toDocR_print (f : Fmt) : ∀ (v : JVal), NumTree v → isUndefined v = false →
    (toDocR f v).print = specValue f 17 v
  | .null, _, _ => rfl
  | .tru, _, _ => rfl
  | .fals, _, _ => rfl
  | .nat n, _, _ => rfl
  | .int b, _, _ => by simp only [toDocR]; split <;> simp [JDoc.print, specValue]
  | .real b, _, _ => rfl
  | .str s, _, _ => by simp [toDocR, JDoc.print, specValue]
  | .arr xs, h, _ => by
    simp only [toDocR, JDoc.print, specValue, List.append_nil]
    rw [toItemsR_print f xs (by simpa [NumTree] using h) true]
  | .obj ms, h, _ => by
    simp only [toDocR, JDoc.print, specValue, List.append_nil]
    rw [toMembersR_print f ms (by simpa [NumTree] using h) true]
  | .ptr t, h, hu => by
    simp only [toDocR, specValue]
    exact toDocR_print f t (by simpa [NumTree] using h) (by simpa [isUndefined] using hu)
  | .undef, _, hu => by simp [isUndefined] at hu
theorem toItemsR_print (f : Fmt) : ∀ (xs : List JVal), NumTreeList xs → ∀ first,
    printItems (toItemsR f xs) first = specItems f 17 xs first
  | [], _, first => by simp [toItemsR, printItems, specItems]
  | v :: rest, h, first => by
    simp only [NumTreeList] at h
    simp only [toItemsR, specItems]
    split
    · exact toItemsR_print f rest h.2 first
    · rename_i hu
      simp only [printItems, List.append_nil]
      rw [toDocR_print f v h.1 (by simpa using hu), toItemsR_print f rest h.2 false]
theorem toMembersR_print (f : Fmt) : ∀ (ms : List (List Nat × JVal)), NumTreeMembers ms → ∀ first,
    printMembers (toMembersR f ms) first = specMembers f 17 ms first
  | [], _, first => by simp [toMembersR, printMembers, specMembers]
  | (k, v) :: rest, h, first => by
    simp only [NumTreeMembers] at h
    simp only [toMembersR, specMembers]
    split
    · exact toMembersR_print f rest h.2 first
    · rename_i hu
      simp only [printMembers, List.append_nil]
      rw [toDocR_print f v h.1 (by simpa using hu), toMembersR_print f rest h.2 false]
      cases first <;> simp
end

mutual
/-- What reading the text back gives: pointers looked through, Undefined members dropped, a
non-negative signed number comes back as the same number of the unsigned kind, a real as `realLeaf`. -/
def normR : JVal → JVal
  | .ptr t => normR t
  | .int b => if b < 2 ^ 63 then .nat b else .int b
  | .arr xs => .arr (normRList xs)
  | .obj ms => .obj (normRMembers ms)
  | .null => .null
  | .tru => .tru
  | .fals => .fals
  | .nat n => .nat n
  | .real b => realLeaf b
  | .str s => .str s
  | .undef => .undef
def normRList : List JVal → List JVal
  | [] => []
  | v :: rest => if isUndefined v then normRList rest else normR v :: normRList rest
def normRMembers : List (List Nat × JVal) → List (List Nat × JVal)
  | [] => []
  | (k, v) :: rest => if isUndefined v then normRMembers rest else (k, normR v) :: normRMembers rest
end

theorem normRMembers_keys (ms : List (List Nat × JVal)) (q : List Nat × JVal) (hq : q ∈ normRMembers ms) :
    ∃ p ∈ ms, isUndefined p.2 = false ∧ p.1 = q.1 := by
  induction ms with
  | nil => simp [normRMembers] at hq
  | cons kv rest ih =>
    obtain ⟨k, v⟩ := kv
    simp only [normRMembers] at hq
    split at hq
    · obtain ⟨p, hp, h1, h2⟩ := ih hq
      exact ⟨p, by simp [hp], h1, h2⟩
    · rename_i hu
      simp only [List.mem_cons] at hq
      rcases hq with rfl | hq
      · exact ⟨(k, v), by simp, by simpa using hu, rfl⟩
      · obtain ⟨p, hp, h1, h2⟩ := ih hq
        exact ⟨p, by simp [hp], h1, h2⟩

mutual
theorem toDocR_denote (f : Fmt) : ∀ (v : JVal), NumTree v → DistinctKeys v → isUndefined v = false →
    (toDocR f v).denote = normR v
  | .null, _, _, _ => rfl
  | .tru, _, _, _ => rfl
  | .fals, _, _, _ => rfl
  | .nat n, _, _, _ => rfl
  | .int b, _, _, _ => by simp only [toDocR, normR]; split <;> simp [JDoc.denote]
  | .real b, _, _, _ => by simp only [toDocR, normR]; exact realLeaf_denote b _
  | .str s, _, _, _ => rfl
  | .arr xs, h, hd, _ => by
    simp only [toDocR, JDoc.denote, normR]
    rw [toItemsR_denote f xs (by simpa [NumTree] using h) (by simpa [DistinctKeys] using hd)]
  | .obj ms, h, hd, _ => by
    simp only [toDocR, JDoc.denote, normR]
    rw [toMembersR_denote f ms [] (by simpa [NumTree] using h) (by simpa [DistinctKeys] using hd) (by simp)]
    simp
  | .ptr t, h, hd, hu => by
    simp only [toDocR, normR]
    exact toDocR_denote f t (by simpa [NumTree] using h) (by simpa [DistinctKeys] using hd) (by simpa [isUndefined] using hu)
  | .undef, _, _, hu => by simp [isUndefined] at hu
theorem toItemsR_denote (f : Fmt) : ∀ (xs : List JVal), NumTreeList xs → DKList xs →
    denoteItems (toItemsR f xs) = normRList xs
  | [], _, _ => by simp [toItemsR, denoteItems, normRList]
  | v :: rest, h, hd => by
    simp only [NumTreeList] at h
    simp only [DKList] at hd
    simp only [toItemsR, normRList]
    split
    · exact toItemsR_denote f rest h.2 hd.2
    · rename_i hu
      simp only [denoteItems]
      rw [toDocR_denote f v h.1 hd.1 (by simpa using hu), toItemsR_denote f rest h.2 hd.2]
theorem toMembersR_denote (f : Fmt) : ∀ (ms : List (List Nat × JVal)) (acc : List (List Nat × JVal)),
    NumTreeMembers ms → DKMembers ms →
    (∀ p ∈ acc, ∀ q ∈ ms, isUndefined q.2 = false → q.1 ≠ p.1) →
    denoteMembers (toMembersR f ms) acc = acc ++ normRMembers ms
  | [], acc, _, _, _ => by simp [toMembersR, denoteMembers, normRMembers]
  | (k, v) :: rest, acc, h, hd, hacc => by
    simp only [NumTreeMembers] at h
    simp only [DKMembers] at hd
    simp only [toMembersR, normRMembers]
    split
    · exact toMembersR_denote f rest acc h.2 hd.2.2 (fun p hp q hq hu => hacc p hp q (by simp [hq]) hu)
    · rename_i hu
      have hu' : isUndefined v = false := by simpa using hu
      simp only [denoteMembers]
      rw [toDocR_denote f v h.1 hd.1 hu']
      rw [objInsert_append_new acc k (normR v) (fun p hp => by
        have := hacc p hp (k, v) (by simp) hu'
        exact fun e => this e.symm)]
      rw [toMembersR_denote f rest (acc ++ [(k, normR v)]) h.2 hd.2.2 (by
        intro p hp q hq huq
        simp only [List.mem_append, List.mem_singleton] at hp
        rcases hp with hp | rfl
        · exact hacc p hp q (by simp [hq]) huq
        · exact hd.2.1 q hq huq)]
      simp
end

mutual
theorem toDocR_wf (w : Nat) (f : Fmt) (hf : FmtDecimal f) (hr : FmtReal17 f) : ∀ (v : JVal), NumTree v → WF (jsonDeps w) (toDocR f v)
  | .null, _ => trivial
  | .tru, _ => trivial
  | .fals, _ => trivial
  | .nat n, h => by
    simp only [toDocR, WF]
    rw [hf.nat n (by simpa [NumTree] using h)]
    exact numSpec_digits_natural w n (by simpa [NumTree] using h)
  | .int b, h => by
    have hb : b < 2 ^ 64 := by simpa [NumTree] using h
    simp only [toDocR]
    split
    · rename_i hlt
      simp only [WF]
      rw [hf.intNonNeg b hlt]
      exact numSpec_digits_natural w b hb
    · rename_i hge
      simp only [WF]
      rw [hf.intNeg b (by omega) hb]
      exact numSpec_digits_negative w b (by omega) hb
  | .real b, h => by
    have hb : Finite64 b := by simpa [NumTree] using h
    simp only [toDocR, WF]
    rw [hr.real17 b hb]
    exact numSpec_text17 w b hb
  | .str s, _ => by simp only [toDocR, WF]; exact strSpec_escaped w s
  | .arr xs, h => by
    simp only [toDocR, WF]
    exact ⟨AllWs.nil, toItemsR_wf w f hf hr xs (by simpa [NumTree] using h)⟩
  | .obj ms, h => by
    simp only [toDocR, WF]
    exact ⟨AllWs.nil, toMembersR_wf w f hf hr ms (by simpa [NumTree] using h)⟩
  | .ptr t, h => by simp only [toDocR]; exact toDocR_wf w f hf hr t (by simpa [NumTree] using h)
  | .undef, _ => trivial
theorem toItemsR_wf (w : Nat) (f : Fmt) (hf : FmtDecimal f) (hr : FmtReal17 f) : ∀ (xs : List JVal), NumTreeList xs →
    WFItems (jsonDeps w) (toItemsR f xs)
  | [], _ => by simp [toItemsR, WFItems]
  | v :: rest, h => by
    simp only [NumTreeList] at h
    simp only [toItemsR]
    split
    · exact toItemsR_wf w f hf hr rest h.2
    · simp only [WFItems]
      exact ⟨AllWs.nil, toDocR_wf w f hf hr v h.1, AllWs.nil, toItemsR_wf w f hf hr rest h.2⟩
theorem toMembersR_wf (w : Nat) (f : Fmt) (hf : FmtDecimal f) (hr : FmtReal17 f) : ∀ (ms : List (List Nat × JVal)), NumTreeMembers ms →
    WFMembers (jsonDeps w) (toMembersR f ms)
  | [], _ => by simp [toMembersR, WFMembers]
  | (k, v) :: rest, h => by
    simp only [NumTreeMembers] at h
    simp only [toMembersR]
    split
    · exact toMembersR_wf w f hf hr rest h.2
    · simp only [WFMembers]
      exact ⟨AllWs.nil, strSpec_escaped w k, AllWs.nil, AllWs.nil, toDocR_wf w f hf hr v h.1,
        AllWs.nil, toMembersR_wf w f hf hr rest h.2⟩
end

/-- The round trip for any formatter that prints integers in decimal and finite doubles as `%.17g`; what it claims is said
at `Props/C08.roundtrip_linked`. -/
theorem roundtrip_real (w : Nat) (f : Fmt) (hf : FmtDecimal f) (hr : FmtReal17 f) (v : JVal)
    (hv : NumTree v) (hd : DistinctKeys v) (hu : isUndefined v = false)
    (hsz : (strValue f 17 v []).length < 2 ^ 32) :
    parse (jsonDeps w) (strValue f 17 v []).toArray = .ok (normR v) := by
  have e1 : strValue f 17 v [] = (toDocR f v).print := by
    rw [strValue_eq, toDocR_print f v hv hu]; simp
  have := parse_print (jsonDeps w) (jsonDeps_safe w) (toDocR f v) (toDocR_wf w f hf hr v hv) [] [] AllWs.nil AllWs.nil
    (by simpa [e1] using hsz)
  rw [toDocR_denote f v hv hd hu] at this
  simpa [e1] using this

/-! ### `normR` = `normI`, then every real replaced by the number read back -/

mutual
def relabel : JVal → JVal
  | .real b => realLeaf b
  | .arr xs => .arr (relabelList xs)
  | .obj ms => .obj (relabelMembers ms)
  | .ptr t => .ptr (relabel t)
  | .null => .null
  | .tru => .tru
  | .fals => .fals
  | .nat n => .nat n
  | .int b => .int b
  | .str s => .str s
  | .undef => .undef
def relabelList : List JVal → List JVal
  | [] => []
  | v :: rest => relabel v :: relabelList rest
def relabelMembers : List (List Nat × JVal) → List (List Nat × JVal)
  | [] => []
  | (k, v) :: rest => (k, relabel v) :: relabelMembers rest
end

mutual
theorem normR_eq_relabel : ∀ (v : JVal), normR v = relabel (normI v)
  | .null => rfl
  | .tru => rfl
  | .fals => rfl
  | .nat n => rfl
  | .int b => by simp only [normR, normI]; split <;> simp [relabel]
  | .real b => rfl
  | .str s => rfl
  | .arr xs => by simp only [normR, normI, relabel]; rw [normRList_eq xs]
  | .obj ms => by simp only [normR, normI, relabel]; rw [normRMembers_eq ms]
  | .ptr t => by simp only [normR, normI]; exact normR_eq_relabel t
  | .undef => rfl
theorem normRList_eq : ∀ (xs : List JVal), normRList xs = relabelList (normIList xs)
  | [] => by simp [normRList, normIList, relabelList]
  | v :: rest => by
    simp only [normRList, normIList]
    split
    · exact normRList_eq rest
    · simp only [relabelList]; rw [normR_eq_relabel v, normRList_eq rest]
theorem normRMembers_eq : ∀ (ms : List (List Nat × JVal)), normRMembers ms = relabelMembers (normIMembers ms)
  | [] => by simp [normRMembers, normIMembers, relabelMembers]
  | (k, v) :: rest => by
    simp only [normRMembers, normIMembers]
    split
    · exact normRMembers_eq rest
    · simp only [relabelMembers]; rw [normR_eq_relabel v, normRMembers_eq rest]
end

/-- the serializer's number formatter as linked: the `Digit::NumberToString` model, reals in the Default format -/
def linkedFmt : Fmt :=
  numFmt (fun b p => match Qentem.NumToStr.realToString Qentem.NumToStr.f64 [] b p Qentem.Generated.NumToStr.fmtDefault with
    | .ok l => l | .error _ => [])

theorem linkedFmt_real17 : FmtReal17 linkedFmt := by
  refine ⟨fun b _ => ?_⟩
  show (match Qentem.NumToStr.format17 b with | .ok l => l | .error _ => []) = text17 b
  rw [Qentem.Props.C11.format17_is_reference]; rfl

theorem roundtrip_linked (w : Nat) (v : JVal) (hv : NumTree v) (hd : DistinctKeys v) (hu : isUndefined v = false)
    (hsz : (strValue linkedFmt 17 v []).length < 2 ^ 32) :
    parse (jsonDeps w) (strValue linkedFmt 17 v []).toArray = .ok (normR v) :=
  roundtrip_real w linkedFmt (numFmt_decimal _) linkedFmt_real17 v hv hd hu hsz

end Qentem.Json
