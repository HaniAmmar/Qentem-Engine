import Qentem.Proofs.StrToNumClosed
import Qentem.Proofs.StrToNumRatClose
/-! C09, the positive-exponent path.  The big-integer loop drops the low 64-bit word whenever the product reaches the
fourth word; `b·2^(64j)` then stays within a relative `j·2^-127` below the exact product (`PosInv`).
`posPath` puts the result in the units of the rounding theorem: denominator 1, the big integer shifted by 54 bits so
that it has at least 55.  Hence `powerOfPositiveTen num x` is within one ulp of the correctly rounded `num·10^x`
(overflow included: both sides are capped at infinity), and within one ulp of any exact value that exceeds `v·10^x` by
a relative `< 10^-17` (`Near.trunc` absorbs it): the case of a mantissa longer than the scan window. -/
namespace Qentem.StrToNum
open Qentem.Round Qentem.Generated.StrToNum

/-- `b` (held by the code after `j` word drops) against the exact product `N` -/
def PosInv (b N j : Nat) : Prop :=
  b * 2 ^ (64 * j) ≤ N ∧ N * 2 ^ 127 ≤ (2 ^ 127 + j) * (b * 2 ^ (64 * j)) ∧ (j = 0 ∨ 2 ^ 128 ≤ b)

theorem PosInv.mul {b N j : Nat} (h : PosInv b N j) (p : Nat) (hp : 0 < p) : PosInv (b * p) (N * p) j := by
  obtain ⟨h1, h2, h3⟩ := h
  refine ⟨?_, ?_, ?_⟩
  · calc b * p * 2 ^ (64 * j) = b * 2 ^ (64 * j) * p := by ring
      _ ≤ N * p := Nat.mul_le_mul_right _ h1
  · calc N * p * 2 ^ 127 = N * 2 ^ 127 * p := by ring
      _ ≤ (2 ^ 127 + j) * (b * 2 ^ (64 * j)) * p := Nat.mul_le_mul_right _ h2
      _ = (2 ^ 127 + j) * (b * p * 2 ^ (64 * j)) := by ring
  · rcases h3 with h | h
    · exact Or.inl h
    · exact Or.inr (Nat.le_trans h (Nat.le_mul_of_pos_right _ hp))

theorem PosInv.shift {A N j : Nat} (h : PosInv A N j) (hA : 2 ^ 192 ≤ A) (hj : j ≤ 2 ^ 20) :
    PosInv (A / 2 ^ 64) N (j + 1) := by
  obtain ⟨h1, h2, _⟩ := h
  have hq1 : A / 2 ^ 64 * 2 ^ 64 ≤ A := Nat.div_mul_le_self _ _
  have hq2 : A < (A / 2 ^ 64 + 1) * 2 ^ 64 := by
    have := Nat.lt_div_mul_add (a := A) (b := 2 ^ 64) (by decide)
    rw [Nat.add_mul, Nat.one_mul]; exact this
  have hq3 : 2 ^ 128 ≤ A / 2 ^ 64 := by
    rw [Nat.le_div_iff_mul_le (by decide)]; exact Nat.le_trans (by decide) hA
  have hM : 2 ^ (64 * (j + 1)) = 2 ^ (64 * j) * 2 ^ 64 := by rw [← Nat.pow_add]; congr 1
  generalize A / 2 ^ 64 = q at *
  generalize 2 ^ (64 * j) = M at *
  refine ⟨?_, ?_, Or.inr hq3⟩
  · rw [hM]
    calc q * (M * 2 ^ 64) = q * 2 ^ 64 * M := by ring
      _ ≤ A * M := Nat.mul_le_mul_right _ hq1
      _ ≤ N := h1
  · rw [hM]
    have e1 : (2 ^ 127 + j) * (q + 1) ≤ (2 ^ 127 + (j + 1)) * q := by
      have : 2 ^ 127 + j ≤ q := by
        have : (2 : Nat) ^ 127 + 2 ^ 20 ≤ 2 ^ 128 := by decide
        omega
      calc (2 ^ 127 + j) * (q + 1) = (2 ^ 127 + j) * q + (2 ^ 127 + j) := by ring
        _ ≤ (2 ^ 127 + j) * q + q := Nat.add_le_add_left this _
        _ = (2 ^ 127 + (j + 1)) * q := by ring
    calc N * 2 ^ 127 ≤ (2 ^ 127 + j) * (A * M) := h2
      _ ≤ (2 ^ 127 + j) * ((q + 1) * 2 ^ 64 * M) :=
          Nat.mul_le_mul_left _ (Nat.mul_le_mul_right _ (Nat.le_of_lt hq2))
      _ = (2 ^ 127 + j) * (q + 1) * (2 ^ 64 * M) := by ring
      _ ≤ (2 ^ 127 + (j + 1)) * q * (2 ^ 64 * M) := Nat.mul_le_mul_right _ e1
      _ = (2 ^ 127 + (j + 1)) * (q * (M * 2 ^ 64)) := by ring

theorem posIter_inv (p : Nat) (hp : 0 < p) (hp63 : p < 2 ^ 63) : ∀ (n b s N j : Nat), PosInv b N j →
    j + n ≤ 2 ^ 20 → s + 64 * n < 2 ^ 32 → b < 2 ^ 192 →
    ∃ j', PosInv (posIter p n b s).1 (N * p ^ n) j' ∧ j ≤ j' ∧ j' ≤ j + n ∧ (posIter p n b s).2 = s + 64 * (j' - j)
  | 0, b, s, N, j, h, _, _, _ => ⟨j, by simpa [posIter] using h, Nat.le_refl _, Nat.le_refl _, by simp [posIter]⟩
  | n + 1, b, s, N, j, h, hj, hs, hb => by
    have hmul := h.mul p hp
    have hpow : N * p ^ (n + 1) = N * p * p ^ n := by rw [Nat.pow_succ]; ring
    rw [posIter, hpow]
    split
    · rename_i hA
      have hsh := hmul.shift hA (by omega)
      have hlt : b * p / 2 ^ 64 < 2 ^ 192 := by
        have : b * p < 2 ^ 256 := Nat.lt_of_lt_of_le (mul_lt_pow b p 192 63 hb hp63) (by decide)
        exact Nat.div_lt_of_lt_mul (by rw [← Nat.pow_add]; exact this)
      have hadd := add32_eq s 64 (by omega)
      obtain ⟨j', k1, k2, k3, k4⟩ := posIter_inv p hp hp63 n _ (add32 s 64) (N * p) (j + 1) hsh (by omega) (by rw [hadd]; omega) hlt
      exact ⟨j', k1, by omega, by omega, by rw [k4, hadd]; omega⟩
    · rename_i hA
      obtain ⟨j', k1, k2, k3, k4⟩ := posIter_inv p hp hp63 n (b * p) s (N * p) j hmul (by omega) (by omega) (by omega)
      exact ⟨j', k1, k2, by omega, k4⟩

theorem pow5_get : ∀ i, i < 28 → powerOfFive[i]? = some (5 ^ i) := by decide

/-- the invariant in the units of the rounding theorem: the big integer shifted by 54 bits, within 1/8 of a quarter unit of
the exact `N·2^x·2^54`.  Inside: `b·2^s` (`s = x + 64·j`) is never above `V = N·2^x`, equal to it while `b` fits 53 bits,
otherwise short of it by less than 1/16 of half a unit. -/
theorem PosInv.near {b N j : Nat} (h : PosInv b N j) (x : Nat) (hN : 0 < N) (hj : j ≤ 2 ^ 20) :
    0 < b ∧ Near 8 (b * 2 ^ (x + 64 * j + 54)) (N * 2 ^ x * 2 ^ 54) 1 := by
  obtain ⟨h1, h2, h3⟩ := h
  have hM : 0 < 2 ^ (64 * j) := Nat.pow_pos (by decide)
  have hX : 0 < 2 ^ x := Nat.pow_pos (by decide)
  have hpow : 2 ^ (x + 64 * j) = 2 ^ (64 * j) * 2 ^ x := by rw [Nat.pow_add, Nat.mul_comm]
  have hb : 0 < b := by
    rcases Nat.eq_zero_or_pos b with h0 | h0
    · subst h0; simp at h2; omega
    · exact h0
  have hb0 : b ≠ 0 := by omega
  obtain ⟨hlo, hhi⟩ := log2_bounds b hb0
  have k4 : 52 < Nat.log2 b →
      16 * (N * 2 ^ x) < 16 * (b * 2 ^ (x + 64 * j)) + 2 ^ (Nat.log2 b - 53) * 2 ^ (x + 64 * j) := by
    intro hbit
    obtain ⟨t, ht⟩ : ∃ t, Nat.log2 b = 53 + t := ⟨Nat.log2 b - 53, by omega⟩
    rw [show Nat.log2 b - 53 = t by omega, hpow]
    have hhi' : b < 2 ^ 54 * 2 ^ t := by rw [← Nat.pow_add, show 54 + t = Nat.log2 b + 1 by omega]; exact hhi
    generalize 2 ^ (64 * j) = M at *
    generalize 2 ^ t = T at *
    -- linear in `b·M`, `T·M`, `j·(b·M)`
    have key : 16 * N < 16 * (b * M) + T * M := by
      have hXY : b * M < 2 ^ 54 * (T * M) := by
        calc b * M < 2 ^ 54 * T * M := Nat.mul_lt_mul_of_pos_right hhi' hM
          _ = 2 ^ 54 * (T * M) := by ring
      have hjX : j * (b * M) ≤ 2 ^ 20 * (b * M) := Nat.mul_le_mul_right _ hj
      rw [Nat.add_mul] at h2
      generalize b * M = X at *
      generalize T * M = Y at *
      generalize j * X = jX at *
      omega
    calc 16 * (N * 2 ^ x) = 16 * N * 2 ^ x := by ring
      _ < (16 * (b * M) + T * M) * 2 ^ x := Nat.mul_lt_mul_of_pos_right key hX
      _ = 16 * (b * (M * 2 ^ x)) + T * (M * 2 ^ x) := by ring
  have g1 : b * 2 ^ (x + 64 * j) ≤ N * 2 ^ x := by
    rw [hpow, ← Nat.mul_assoc]; exact Nat.mul_le_mul_right _ h1
  have g2 : Nat.log2 b ≤ 52 → N * 2 ^ x = b * 2 ^ (x + 64 * j) := by
    intro hbit
    have hb53 : b < 2 ^ 128 := Nat.lt_of_lt_of_le hhi (Nat.pow_le_pow_right (by decide) (by omega))
    have hj0 : j = 0 := by rcases h3 with h | h <;> omega
    subst hj0
    rw [Nat.mul_zero, Nat.pow_zero, Nat.mul_one] at h1 h2
    rw [Nat.add_zero, Nat.mul_comm] at h2
    have hNb : N ≤ b := Nat.le_of_mul_le_mul_left h2 (Nat.pow_pos (by decide))
    have : N = b := Nat.le_antisymm hNb h1
    rw [this, Nat.mul_zero, Nat.add_zero]
  refine ⟨hb, ?_⟩
  clear h1 h2 h3 hlo hhi hpow
  generalize x + 64 * j = s at *
  generalize N * 2 ^ x = V at *
  unfold Near
  have hB : b * 2 ^ (s + 54) = b * 2 ^ s * 2 ^ 54 := by rw [Nat.pow_add, Nat.mul_assoc]
  rw [log2_mul_pow b (s + 54) hb0, show Nat.log2 b + (s + 54) - 54 = Nat.log2 b + s by omega, Nat.mul_one, Nat.mul_one,
    hB]
  by_cases hbit : Nat.log2 b ≤ 52
  · rw [g2 hbit]
    have : 0 < 2 ^ (Nat.log2 b + s) := Nat.pow_pos (by decide)
    omega
  · have := k4 (by omega)
    have hG : 2 ^ (Nat.log2 b + s) = 2 ^ (Nat.log2 b - 53) * 2 ^ s * 2 ^ 53 := by
      rw [show Nat.log2 b + s = Nat.log2 b - 53 + s + 53 by omega, Nat.pow_add, Nat.pow_add]
    rw [hG]
    generalize 2 ^ (Nat.log2 b - 53) * 2 ^ s = u at *
    generalize b * 2 ^ s = X at *
    omega

/-- **Error bound of the positive pipeline.** For a 64-bit mantissa and `x ≤ 2^20`: `posScale num x = (b, x + 64·j)`
after `j` dropped words, with the invariant against the exact `num·5^x`. -/
theorem posScale_error (num x : Nat) (hn : num < 2 ^ 64) (hx : x ≤ 2 ^ 20) :
    ∃ b j, posScale num x = some (b, x + 64 * j) ∧ b < 2 ^ 256 ∧ j ≤ 2 ^ 20 ∧ PosInv b (num * 5 ^ x) j := by
  obtain ⟨p27, hp27e, hcases⟩ := posScale_closed num x hn
  have hp27 : p27 = 5 ^ 27 := Option.some.inj (hp27e.symm.trans (pow5_get 27 (by decide)))
  have hp27pos : 0 < p27 := by rw [hp27]; decide
  have hp27lt : p27 < 2 ^ 63 := by rw [hp27]; decide
  have hinit : PosInv num num 0 := by
    refine ⟨by simp, ?_, Or.inl rfl⟩
    rw [Nat.mul_zero, Nat.pow_zero, Nat.mul_one, Nat.add_zero, Nat.mul_comm]
  have hdiv := Nat.div_le_self x 27
  obtain ⟨j, hinv, _, hjn, hs⟩ := posIter_inv p27 hp27pos hp27lt (x / 27) num x num 0 hinit
    (by omega) (by omega) (Nat.lt_of_lt_of_le hn (by decide))
  obtain ⟨_, hlt192⟩ := posLoop_closed p27 hp27lt (x / 27) num x (Nat.lt_of_lt_of_le hn (by decide))
  have hx27 : x = 27 * (x / 27) + x % 27 := (Nat.div_add_mod x 27).symm
  -- the final `b` with the invariant, in both cases
  have final : ∃ b, posScale num x = some (b, x + 64 * j) ∧ b < 2 ^ 256 ∧ PosInv b (num * 5 ^ x) j := by
    rw [Nat.sub_zero] at hs
    rcases hcases with ⟨h0, hps⟩ | ⟨h0, pj, hpje, hps, hlt⟩
    · refine ⟨_, by rw [hps, ← hs], Nat.lt_of_lt_of_le hlt192 (by decide), ?_⟩
      have : num * p27 ^ (x / 27) = num * 5 ^ x := by
        rw [hp27, ← Nat.pow_mul]; congr 2; omega
      rw [← this]; exact hinv
    · have hpj : pj = 5 ^ (x % 27) := Option.some.inj (hpje.symm.trans (pow5_get (x % 27) (by omega)))
      refine ⟨_, by rw [hps, ← hs], Nat.lt_of_lt_of_le hlt (by decide), ?_⟩
      have : num * p27 ^ (x / 27) * pj = num * 5 ^ x := by
        rw [hp27, hpj, ← Nat.pow_mul, Nat.mul_assoc, ← Nat.pow_add]; congr 2; omega
      rw [← this]
      exact hinv.mul pj (by rw [hpj]; exact Nat.pow_pos (by decide))
  obtain ⟨b, hps, hb256, hfin⟩ := final
  exact ⟨b, j, hps, hb256, by omega, hfin⟩

/-- **The positive path in the units of the rounding theorem.** `powerOfPositiveTen num x` returns the capped pattern
of `B·2^-54` for a big integer `B` of at least 55 bits (the pipeline's, shifted by 54 bits) within 1/8 of a quarter unit
of the exact `num·10^x·2^54`. -/
theorem posPath (num x : Nat) (hn0 : 0 < num) (hn : num < 2 ^ 64) (hx : x ≤ 2 ^ 20) :
    ∃ B, 2 ^ 54 ≤ B ∧ powerOfPositiveTen num x = some (cap (codeRawNeg B 54)) ∧
      Near 8 B (num * 10 ^ x * 2 ^ 54) 1 := by
  obtain ⟨b, j, hps, hb256, hj20, hinv⟩ := posScale_error num x hn hx
  obtain ⟨hb, hnear⟩ := hinv.near x (Nat.mul_pos hn0 (Nat.pow_pos (by decide))) hj20
  rw [show num * 5 ^ x * 2 ^ x = num * 10 ^ x by
    rw [Nat.mul_assoc, ← Nat.mul_pow]] at hnear
  refine ⟨b * 2 ^ (x + 64 * j + 54),
    Nat.le_trans (Nat.pow_le_pow_right (by decide) (by omega)) (Nat.le_mul_of_pos_left _ hb), ?_, hnear⟩
  rw [← codeRaw_eq_neg b _ hb]
  exact powerOfPositiveTen_code num x b _ hps hb hb256 (by omega)

theorem powerOfPositiveTen_close (num x : Nat) (hn0 : 0 < num) (hn : num < 2 ^ 64) (hx : x ≤ 2 ^ 20) :
    ∃ p, powerOfPositiveTen num x = some p ∧ ulpDist p (nearestMag (num * 10 ^ x) 1) ≤ 1 := by
  obtain ⟨B, hB54, hcode, hnear⟩ := posPath num x hn0 hn hx
  exact ⟨_, hcode, round_close B 54 (num * 10 ^ x) 1 (Nat.mul_pos hn0 (Nat.pow_pos (by decide))) Nat.one_pos hB54
    (hnear.weaken (by decide))⟩

/-- **Overflow is reported** by the positive-exponent scaling: a value above the largest finite
double comes back as the largest finite double (only possible when that is within rounding reach)
or as infinity — never as a smaller or wrapped finite pattern. -/
theorem powerOfPositiveTen_overflow (num x : Nat) (hn0 : 0 < num) (hn : num < 2 ^ 64) (hx : x ≤ 2 ^ 20)
    (hov : (2 ^ 53 - 1) * 2 ^ 971 ≤ num * 10 ^ x) :
    ∃ p, powerOfPositiveTen num x = some p ∧ (p = maxFiniteBits ∨ p = infBits) := by
  obtain ⟨B, hB54, hcode, hnear⟩ := posPath num x hn0 hn hx
  have hge := round_overflow B 54 (num * 10 ^ x) 1 (by decide) hB54 (hnear.weaken (by decide))
    (Nat.le_trans (Nat.le_of_eq (Nat.mul_one _)) hov)
  exact ⟨_, hcode, cap_overflow hge⟩

theorem powerOfPositiveTen_close_trunc_rat (v x N D : Nat) (hv0 : 0 < v) (hv : v < 2 ^ 64) (hx : x ≤ 2 ^ 20)
    (hD : 0 < D) (ht1 : v * 10 ^ x * D ≤ N) (ht2 : 10 ^ 17 * N < (10 ^ 17 + 1) * (v * 10 ^ x * D)) :
    ∃ p, powerOfPositiveTen v x = some p ∧ ulpDist p (nearestMag N D) ≤ 1 ∧
      ((2 ^ 53 - 1) * 2 ^ 971 * D ≤ N → maxFiniteBits ≤ p) := by
  obtain ⟨B, hB54, hcode, hq⟩ := posPath v x hv0 hv hx
  have hN0 : 0 < N := Nat.lt_of_lt_of_le (Nat.mul_pos (Nat.mul_pos hv0 (Nat.pow_pos (by decide))) hD) ht1
  have hP : 0 < 2 ^ 54 := Nat.pow_pos (by decide)
  have hnear : Near 1 B (N * 2 ^ 54) (1 * D) :=
    (hq.scale D hD).trunc hB54 (by omega)
      (by rw [Nat.mul_right_comm]; exact Nat.mul_le_mul_right _ ht1)
      (by rw [Nat.mul_right_comm _ _ D, ← Nat.mul_assoc, ← Nat.mul_assoc]; exact Nat.mul_lt_mul_of_pos_right ht2 hP)
  rw [Nat.one_mul] at hnear
  exact ⟨_, hcode, round_close B 54 N D hN0 hD hB54 hnear, round_overflow B 54 N D (by decide) hB54 hnear⟩

end Qentem.StrToNum
