import Qentem.Proofs.HashTableOps
/-!
Refinement of the operations on one key.  Each finds the key's item through the chain of its bucket (`find_some`,
`find_none`) and then stores a value or appends a new item (insert, get-or-create, assignment), only reads (the lookups),
unlinks the item and leaves a tombstone (`remove`, by key and by index), or — `Rename(from, to)` — unlinks it from the
chain of its old hash and appends it to the chain of the new one (possibly the same chain), keeping its slot and value.
-/
namespace Qentem.HashTable
variable {V : Type}

theorem absSlots_setLink (s : HT V) (l : Link) (v : Nat) : absSlots (setLink s l v) = absSlots s := by
  rw [absSlots_eq, stats_setLink, ← absSlots_eq]

theorem absSlots_pushItem (t : HT V) (x : Item V) :
    absSlots (pushItem t x) = absSlots t ++ [if x.hash = 0 then none else some (x.key, x.val)] := by
  rw [absSlots_eq, stats_pushItem, List.map_append, ← absSlots_eq]; rfl

@[simp] theorem pushItem_cap (t : HT V) (x : Item V) : (pushItem t x).cap = t.cap := rfl

theorem growIfFull_spec {H : List Nat → Nat} {s : HT V} (hI : Inv H s) :
    ∃ s1, growIfFull s = some s1 ∧ Inv H s1 ∧ abs s1 = Spec.growIfFull (abs s) ∧ s1.items.size < s1.cap := by
  have hle : s.size ≤ s.cap := hI.size_le
  unfold Spec.growIfFull growIfFull expand
  rw [show (abs s).slots.length = s.size from absSlots_length s, show (abs s).cap = s.cap from rfl]
  have hn : s.cap < ((if s.cap = 0 then 1 else 0) + s.cap) * 2 := by split <;> omega
  generalize ((if s.cap = 0 then 1 else 0) + s.cap) * 2 = n at hn ⊢
  obtain ⟨s1, hrun, hI1, habs, hyes, hno⟩ := resize_if hI (s.size = s.cap) n fun _ => fit_of_le (by unfold HT.size at hle; omega)
  refine ⟨s1, hrun, hI1, habs, ?_⟩
  by_cases h : s.size = s.cap
  · have := allocCap_ge n
    have := hyes h
    unfold HT.size at h; omega
  · rw [hno h]; exact Nat.lt_of_le_of_ne hle h

theorem lookup_abs_some {H : List Nat → Nat} {s : HT V} (hI : Inv H s) {j : Nat} {it : Item V}
    (hit : s.items[j]? = some it) (hl : it.hash ≠ 0) : Spec.lookup (abs s) it.key = some (j, it.val) := by
  simp only [Spec.lookup, abs, findKey_abs_some hI hit hl, absSlots_getElem?, hit, Option.map_some, hl, if_false]

theorem lookup_abs_none {s : HT V} {key : List Nat}
    (hno : ∀ (j : Nat) (it : Item V), s.items[j]? = some it → it.hash ≠ 0 → it.key ≠ key) :
    Spec.lookup (abs s) key = none := by
  simp only [Spec.lookup, abs, findKey_abs_none hno]

/-- The store `Insert` and both `operator+=` do after `find`, in a table with room: in place when the key is
present, else appended through the link `find` stopped at. -/
theorem put_spec {H : List Nat → Nat} {s : HT V} (hI : Inv H s) (hH : ∀ k, H k ≠ 0)
    (hroom : s.items.size < s.cap) (key : List Nat) (v : V) :
    ∃ s', (match find s key (H key) with
        | none => none
        | some (_, some i) => some (setVal s i v)
        | some (l, none) => insertAt s l key (H key) v) = some s' ∧
      Inv H s' ∧ s'.cap = s.cap ∧ s'.items.size ≤ s.items.size + 1 ∧
      absSlots s' = Spec.put (absSlots s) key v := by
  obtain ⟨ch, hc⟩ := hI.chains
  rcases key_cases s key with ⟨j, it, hit, hl, rfl⟩ | hno
  · obtain ⟨pre, post, _, hfind, _⟩ := find_some hI hc hH hit hl
    refine ⟨_, by rw [hfind], inv_setVal hI hit v, rfl, by simp [setVal], ?_⟩
    simp only [Spec.put, findKey_abs_some hI hit hl, absSlots_setVal v hit hl]
  · refine ⟨_, by rw [find_none hc hH (hI.cap_pow_of_ne (Nat.ne_of_gt (Nat.zero_lt_of_lt hroom))) hno]; exact insertAt_eq hroom,
      insertAt_inv hI hc hH hroom hno, setLink_cap, by simp [pushItem, HT.size], ?_⟩
    simp only [Spec.put, findKey_abs_none hno, absSlots_pushItem, absSlots_setLink, hH key, if_false]

theorem lookup_abs_empty {s : HT V} (h0 : s.size = 0) (key : List Nat) : Spec.lookup (abs s) key = none :=
  lookup_abs_none fun j it hit => by
    have := (Array.getElem?_eq_some_iff.mp hit).1
    simp only [HT.size] at h0; omega

theorem insert_spec {H : List Nat → Nat} {s : HT V} (hI : Inv H s) (hH : ∀ k, H k ≠ 0) (key : List Nat) (v : V) :
    ∃ s', insert H s key v = some s' ∧ Inv H s' ∧ abs s' = Spec.insert (abs s) key v := by
  obtain ⟨s1, hgrow, hI1, habs1, hroom⟩ := growIfFull_spec hI
  obtain ⟨s', hrun, hI', hcap, _, habs⟩ := put_spec hI1 hH hroom key v
  refine ⟨s', by simp only [insert, hgrow]; exact hrun, hI', ?_⟩
  simp only [Spec.insert]
  rw [← habs1]
  simp only [abs, hcap, habs]

theorem getOrCreate_spec [Inhabited V] {H : List Nat → Nat} {s : HT V} (hI : Inv H s) (hH : ∀ k, H k ≠ 0)
    (key : List Nat) :
    ∃ s' i it, getOrCreate H s key = some (s', i) ∧ Inv H s' ∧ abs s' = (Spec.get (abs s) key).1 ∧
      s'.items[i]? = some it ∧ it.hash ≠ 0 ∧ it.key = key ∧ it.val = (Spec.get (abs s) key).2 := by
  obtain ⟨s1, hgrow, hI1, habs1, hroom⟩ := growIfFull_spec hI
  obtain ⟨ch, hc⟩ := hI1.chains
  simp only [getOrCreate, hgrow]
  rcases key_cases s1 key with ⟨j, it, hit, hl, rfl⟩ | hno
  · obtain ⟨pre, post, _, hfind, _⟩ := find_some hI1 hc hH hit hl
    simp only [hfind]
    have hget : Spec.get (abs s) it.key = (abs s1, it.val) := by
      simp only [Spec.get, ← habs1, lookup_abs_some hI1 hit hl]
    exact ⟨s1, j, it, rfl, hI1, by rw [hget], hit, hl, rfl, by rw [hget]⟩
  · have hfind := find_none hc hH (hI1.cap_pow_of_ne (Nat.ne_of_gt (Nat.zero_lt_of_lt hroom))) hno
    simp only [hfind, insertAt_eq (show s1.size < s1.cap from hroom)]
    have hget : Spec.get (abs s) key = (⟨s1.cap, absSlots s1 ++ [some (key, default)]⟩, default) := by
      simp only [Spec.get, ← habs1, lookup_abs_none hno]
      rfl
    refine ⟨_, s1.size, ⟨key, H key, 0, default⟩, rfl,
      insertAt_inv hI1 hc hH hroom hno, ?_, ?_, hH key, rfl, by rw [hget]⟩
    · rw [hget]
      simp only [abs, absSlots_pushItem, absSlots_setLink, hH key, if_false, pushItem_cap, setLink_cap]
    · unfold pushItem; rw [Array.getElem?_push, setLink_size]; exact if_pos rfl

theorem assign_spec [Inhabited V] {H : List Nat → Nat} {s : HT V} (hI : Inv H s) (hH : ∀ k, H k ≠ 0)
    (key : List Nat) (v : V) :
    ∃ s', assign H s key v = some s' ∧ Inv H s' ∧
      abs s' = ⟨(Spec.get (abs s) key).1.cap, Spec.put (Spec.get (abs s) key).1.slots key v⟩ := by
  obtain ⟨s1, i, it, hrun, hI1, habs, hit, hl, hk, _⟩ := getOrCreate_spec hI hH key
  subst hk
  simp only [assign, hrun]
  refine ⟨_, rfl, inv_setVal hI1 hit v, ?_⟩
  rw [← habs]
  simp only [abs, Spec.put, findKey_abs_some hI1 hit hl, absSlots_setVal v hit hl]
  rfl

theorem lookup_spec {H : List Nat → Nat} {s : HT V} (hI : Inv H s) (hH : ∀ k, H k ≠ 0) (key : List Nat) :
    lookup H s key = some (Spec.lookup (abs s) key) := by
  obtain ⟨ch, hc⟩ := hI.chains
  unfold lookup
  by_cases h0 : s.size = 0
  · simp only [h0, if_true, lookup_abs_empty h0]
  · simp only [h0, if_false]
    have hcap := hI.cap_pow_of_size h0
    rcases key_cases s key with ⟨j, it, hit, hl, rfl⟩ | hno
    · obtain ⟨pre, post, _, hfind, _⟩ := find_some hI hc hH hit hl
      simp only [hfind, hit, lookup_abs_some hI hit hl]
    · simp only [find_none hc hH hcap hno, lookup_abs_none hno]

theorem lookupIdx_spec (s : HT V) (i : Nat) : lookupIdx s i = Spec.lookupIdx (abs s) i := by
  simp only [lookupIdx, Spec.lookupIdx, abs, absSlots_getElem?]
  cases s.items[i]? with
  | none => rfl
  | some it => simp only [Option.map_some, Option.join_some]; split <;> simp_all

theorem removeH_found [Inhabited V] {H : List Nat → Nat} {s : HT V} (hI : Inv H s) (hH : ∀ k, H k ≠ 0)
    {j : Nat} {it : Item V} (hit : s.items[j]? = some it) (hl : it.hash ≠ 0) :
    ∃ s', removeH s it.key (H it.key) = some s' ∧ Inv H s' ∧ s'.cap = s.cap ∧
      absSlots s' = (absSlots s).set j none := by
  obtain ⟨ch, hc⟩ := hI.chains
  obtain ⟨pre, post, hsplit, hfind, hlj⟩ := find_some hI hc hH hit hl
  have hj : j < s.items.size := (Array.getElem?_eq_some_iff.mp hit).1
  obtain ⟨k, hk⟩ := hI.cap_pow_of_size (Nat.ne_of_gt (Nat.zero_lt_of_lt hj))
  have hb : H it.key &&& (s.cap - 1) < s.cap := bucket_lt _ hk
  have hC := chainsOK_iff.mp hc
  have hnd := hC.links_nodup hb
  rw [hsplit, links_append] at hnd
  have hlm := lastLink_mem (.head (H it.key &&& (s.cap - 1))) pre
  have hC' := fun g' hs' => hC.remove (g' := g') (hs' := hs') (w := it.next) hb hsplit (by rw [getLink, hit]; rfl)
  generalize lastLink (.head (H it.key &&& (s.cap - 1))) pre = l at hfind hlm hlj hC'
  have hln : l ≠ .next j := (List.nodup_append.mp hnd).2.2 l hlm (.next j) (by simp)
  have hst : stats (modItem (setLink s l it.next) j (fun _ => ⟨[], 0, 0, default⟩)) =
      (stats s).set j ([], 0, default) := by
    rw [stats_modItem (fun _ => ([], 0, default)) (fun _ => rfl)
      (by rw [stats_setLink, stats_getElem?, hit]; rfl), stats_setLink]
  -- the link that pointed to `j` holds `j`'s successor; item `j` is a tombstone
  refine ⟨modItem (setLink s l it.next) j (fun _ => ⟨[], 0, 0, default⟩), ?_, ?_, setLink_cap, ?_⟩
  · simp only [removeH, show s.size ≠ 0 from Nat.ne_of_gt (Nat.zero_lt_of_lt hj), if_false, hfind, hit]; rfl
  · refine inv_of_stat (Or.inr ⟨k, setLink_cap.trans hk⟩) (setLink_heads_size.trans (hI.heads_size.trans setLink_cap.symm))
      ?_ ?_ ⟨_, chainsOK_of setLink_cap (hC' (getLink _) (hashAt _) ?_ ?_ ?_ ?_)⟩
    · rw [modItem_size, setLink_size]; exact le_of_le_of_eq hI.size_le setLink_cap.symm
    · rw [hst]; exact hI.statOK.set (fun h => absurd rfl h) (fun _ => rfl) (fun h => absurd rfl h)
    · intro x hx; rw [hashAt_modItem, if_neg hx, hashAt_setLink]
    · intro h e hne
      rw [hashAt_modItem, if_pos rfl] at e
      obtain ⟨_, _, rfl⟩ := Option.map_eq_some_iff.mp e
      exact hne rfl
    · rw [getLink_modItem, if_neg hln, getLink_setLink, if_pos rfl, hlj]; rfl
    · intro l' h1 h2; rw [getLink_modItem, if_neg h2, getLink_setLink, if_neg h1]
  · rw [absSlots_eq, hst, List.map_set, ← absSlots_eq]; rfl

theorem removeH_absent [Inhabited V] {H : List Nat → Nat} {s : HT V} (hI : Inv H s) (hH : ∀ k, H k ≠ 0)
    {key : List Nat} (hno : ∀ (j : Nat) (it : Item V), s.items[j]? = some it → it.hash ≠ 0 → it.key ≠ key) :
    removeH s key (H key) = some s := by
  obtain ⟨ch, hc⟩ := hI.chains
  unfold removeH
  by_cases h0 : s.size = 0
  · simp [h0]
  · have hcap := hI.cap_pow_of_size h0
    simp only [h0, if_false, find_none hc hH hcap hno]

theorem remove_spec [Inhabited V] {H : List Nat → Nat} {s : HT V} (hI : Inv H s) (hH : ∀ k, H k ≠ 0)
    (key : List Nat) :
    ∃ s', remove H s key = some s' ∧ Inv H s' ∧ abs s' = Spec.remove (abs s) key := by
  unfold remove
  rcases key_cases s key with ⟨j, it, hit, hl, rfl⟩ | hno
  · obtain ⟨s', hrun, hI', hcap, habs⟩ := removeH_found hI hH hit hl
    refine ⟨s', hrun, hI', ?_⟩
    simp only [Spec.remove, abs, findKey_abs_some hI hit hl, hcap, habs]
  · refine ⟨s, removeH_absent hI hH hno, hI, ?_⟩
    simp only [Spec.remove, abs, findKey_abs_none hno]

theorem removeIdx_spec [Inhabited V] {H : List Nat → Nat} {s : HT V} (hI : Inv H s) (hH : ∀ k, H k ≠ 0)
    (i : Nat) :
    ∃ s', removeIdx s i = some s' ∧ Inv H s' ∧ abs s' = Spec.removeIdx (abs s) i := by
  unfold removeIdx
  cases hit : s.items[i]? with
  | none =>
    refine ⟨s, rfl, hI, ?_⟩
    simp [Spec.removeIdx, Spec.lookupIdx, abs, absSlots_getElem?, hit]
  | some it =>
    by_cases hl : it.hash = 0
    · refine ⟨s, by simp [hl], hI, ?_⟩
      simp [Spec.removeIdx, Spec.lookupIdx, abs, absSlots_getElem?, hit, hl]
    · obtain ⟨s', hrun, hI', hcap, habs⟩ := removeH_found hI hH hit hl
      rw [← hI.hash_ok i it hit hl] at hrun
      refine ⟨s', by simp only [hl, ne_eq, not_false_eq_true, if_true]; exact hrun, hI', ?_⟩
      simp [Spec.removeIdx, Spec.lookupIdx, abs, absSlots_getElem?, hit, hl, hcap, habs]

/-- The state `Rename` produces when `from` is at item `j` (reached through `li`), `to` is absent (its
chain ends at `ri`) and the second store writes `nx`. -/
def renamed (H : List Nat → Nat) (s : HT V) (li ri : Link) (j : Nat) (tk : List Nat) (nx : Nat) : HT V :=
  modItem (setLink (setLink s ri (j + 1)) li nx) j (fun it => { it with next := 0, hash := H tk, key := tk })

/-- `Rename` accepted.  The old and the new bucket may be the same chain, and `j` may have been its last item. -/
theorem rename_accepted {H : List Nat → Nat} {s : HT V} (hI : Inv H s) (hH : ∀ k, H k ≠ 0)
    {j : Nat} {it : Item V} (hit : s.items[j]? = some it) (hl : it.hash ≠ 0) {tk : List Nat}
    (hno : ∀ (x : Nat) (it0 : Item V), s.items[x]? = some it0 → it0.hash ≠ 0 → it0.key ≠ tk) :
    ∃ s', rename H s it.key tk = some (s', true) ∧ Inv H s' ∧ s'.cap = s.cap ∧
      absSlots s' = (absSlots s).set j (some (tk, it.val)) := by
  obtain ⟨ch, hc⟩ := hI.chains
  obtain ⟨pre, post, hsplit, hfindA, gli⟩ := find_some hI hc hH hit hl
  have hj : j < s.items.size := (Array.getElem?_eq_some_iff.mp hit).1
  have hcapk := hI.cap_pow_of_size (Nat.ne_of_gt (Nat.zero_lt_of_lt hj))
  have hfindB := find_none hc hH hcapk hno
  obtain ⟨k, hk⟩ := hcapk
  have hC := chainsOK_iff.mp hc
  have hbt : H tk &&& (s.cap - 1) < s.cap := bucket_lt _ hk
  generalize hbtdef : H tk &&& (s.cap - 1) = bt at hfindB hbt
  have hbf : H it.key &&& (s.cap - 1) < s.cap := bucket_lt _ hk
  generalize H it.key &&& (s.cap - 1) = bf at hsplit hfindA gli hbf
  have hndF := hC.links_nodup hbf
  rw [hsplit, links_append] at hndF
  have gj : getLink s (.next j) = some it.next := by rw [getLink, hit]; rfl
  have gri := chain_last (hc.chain bt hbt)
  have hlim := lastLink_mem (.head bf) pre
  -- on link stores only: `j` is unlinked from the chain of its old bucket
  have hmid := hC.remove (g' := fun l' => if l' = lastLink (.head bf) pre then some it.next else getLink s l')
    (hs' := fun x => if x = j then none else hashAt s x) hbf hsplit gj (fun x hx => if_neg hx)
    (fun h e => by rw [if_pos rfl] at e; cases e) (if_pos rfl) (fun l' h1 _ => if_neg h1)
  -- where the chain of the new bucket ends after that: at the same link `ri` as before, unless `j`
  -- was the last item of that very chain (`ri` is `j`'s own link); then it ends at `li`
  have hAB : (lastLink (.head bt) (ch bt) ≠ .next j ∧
        lastLink (.head bt) (if bt = bf then pre ++ post else ch bt) = lastLink (.head bt) (ch bt)) ∨
      (lastLink (.head bt) (ch bt) = .next j ∧
        lastLink (.head bt) (if bt = bf then pre ++ post else ch bt) = lastLink (.head bf) pre ∧ it.next = 0) := by
    by_cases hbb : bt = bf
    · rw [if_pos hbb, hbb, hsplit, lastLink_append, lastLink_append, lastLink_cons]
      cases post with
      | nil =>
        have h0 := chain_last (hsplit ▸ hc.chain bf hbf)
        rw [lastLink_snoc, gj] at h0
        exact Or.inr ⟨rfl, rfl, Option.some.inj h0⟩
      | cons p post' =>
        rw [lastLink_cons, lastLink_cons]
        exact Or.inl ⟨fun e => (List.nodup_cons.mp (List.nodup_append.mp hndF).2.1).1 (e ▸ lastLink_mem _ post'), rfl⟩
    · rw [if_neg hbb]
      refine Or.inl ⟨fun e => ?_, rfl⟩
      rcases mem_links.mp (e ▸ lastLink_mem (.head bt) (ch bt)) with e' | ⟨y, hy, e'⟩
      · cases e'
      · injection e' with e'
        exact hbb (hC.bucket_unique hbf hbt (by rw [hsplit]; simp) (e' ▸ hy))
  have hsn := fun g' hs' => hmid.snoc (g' := g') (hs' := hs') (n := j) (h := H tk) hbt (if_pos rfl)
  generalize lastLink (.head bf) pre = li at hfindA gli hlim hAB hsn
  generalize lastLink (.head bt) (ch bt) = ri at hfindB gri hAB
  generalize lastLink (.head bt) (if bt = bf then pre ++ post else ch bt) = rmid at hAB hsn
  have hli_ne_j : li ≠ .next j := (List.nodup_append.mp hndF).2.2 li hlim (.next j) (by simp)
  have hli_ne_ri : li ≠ ri := fun e => by rw [e, gri] at gli; cases gli
  -- the value the second store reads from item `j` after the first store
  obtain ⟨nx, it1, hit1, hnx, hnxA, hnxB⟩ : ∃ nx it1, (setLink s ri (j + 1)).items[j]? = some it1 ∧ it1.next = nx ∧
      (ri ≠ .next j → nx = it.next) ∧ (ri = .next j → nx = j + 1) := by
    have h1 : getLink (setLink s ri (j + 1)) (.next j) =
        some (if Link.next j = ri then j + 1 else it.next) := by
      rw [getLink_setLink, gri, gj]; split <;> rfl
    obtain ⟨it1, hit1, hnx⟩ := Option.map_eq_some_iff.mp h1
    exact ⟨_, it1, hit1, hnx, fun h => if_neg (Ne.symm h), fun h => if_pos h.symm⟩
  obtain ⟨it2, hit2⟩ : ∃ it2, (setLink (setLink s ri (j + 1)) li nx).items[j]? = some it2 := by
    have : (stats (setLink (setLink s ri (j + 1)) li nx))[j]? = some (stat it) := by
      rw [stats_setLink, stats_setLink, stats_getElem?, hit]; rfl
    rw [stats_getElem?] at this
    obtain ⟨it2, h2, _⟩ := Option.map_eq_some_iff.mp this
    exact ⟨it2, h2⟩
  have hst : stats (renamed H s li ri j tk nx) = (stats s).set j (tk, H tk, it.val) := by
    rw [renamed, stats_modItem (fun x => (tk, H tk, x.2.2)) (fun _ => rfl)
      (by rw [stats_setLink, stats_setLink, stats_getElem?, hit]; rfl), stats_setLink, stats_setLink]
    rfl
  have g3 : ∀ l', getLink (renamed H s li ri j tk nx) l' =
      if l' = .next j then some 0 else if l' = li then some nx else if l' = ri then some (j + 1) else getLink s l' := by
    intro l'
    rw [renamed, getLink_modItem, hit2, getLink_setLink, getLink_setLink, getLink_setLink, if_neg hli_ne_ri, gli, gri]
    rfl
  refine ⟨renamed H s li ri j tk nx, ?_, ?_, setLink_cap.trans setLink_cap, ?_⟩
  · simp only [rename, show s.size ≠ 0 from Nat.ne_of_gt (Nat.zero_lt_of_lt hj), if_false, hfindA, hfindB, gli, gri,
      hit1, hnx]
    rfl
  · refine inv_of_stat (Or.inr ⟨k, (setLink_cap.trans setLink_cap).trans hk⟩)
      ((setLink_heads_size.trans setLink_heads_size).trans (hI.heads_size.trans (setLink_cap.trans setLink_cap).symm))
      ?_ ?_ ⟨_, chainsOK_of (setLink_cap.trans setLink_cap) (hsn (getLink _) (hashAt _) ?_ hbtdef ?_ ?_ ?_ ?_)⟩
    · rw [renamed, modItem_size, setLink_size, setLink_size]
      exact le_of_le_of_eq hI.size_le (setLink_cap.trans setLink_cap).symm
    · have hno' : ∀ y ∈ stats s, y.2.1 ≠ 0 → y.1 ≠ tk := forall_mem_stats.mpr hno
      rw [hst]
      exact hI.statOK.set (fun _ => rfl) (fun e => absurd e (hH tk))
        (fun _ i y _ hy hly => hno' y (List.mem_of_getElem? hy) hly)
    · rw [renamed, hashAt_modItem, if_pos rfl, hit2]; rfl
    · intro x hx; rw [renamed, hashAt_modItem, if_neg hx, hashAt_setLink, hashAt_setLink, if_neg hx]
    · rcases hAB with ⟨h1, h2⟩ | ⟨h1, h2, _⟩
      · rw [h2, g3, if_neg h1, if_neg (Ne.symm hli_ne_ri), if_pos rfl]
      · rw [h2, g3, if_neg hli_ne_j, if_pos rfl, hnxB h1]
    · rw [g3, if_pos rfl]
    · intro l' h1 h2
      rw [g3, if_neg h2]
      rcases hAB with ⟨a1, a2⟩ | ⟨a1, a2, _⟩
      · rw [a2] at h1; rw [if_neg h1, hnxA a1]
      · rw [a2] at h1; rw [if_neg h1, if_neg h1, if_neg (a1 ▸ h2)]
  · rw [absSlots_eq, hst, List.map_set, ← absSlots_eq]
    simp [slotOf, hH tk]

theorem rename_spec {H : List Nat → Nat} {s : HT V} (hI : Inv H s) (hH : ∀ k, H k ≠ 0) (a b : List Nat) :
    ∃ s' r, rename H s a b = some (s', r) ∧ Inv H s' ∧ (abs s', r) = Spec.rename (abs s) a b := by
  obtain ⟨ch, hc⟩ := hI.chains
  by_cases h0 : s.size = 0
  · refine ⟨s, false, by simp [rename, h0], hI, ?_⟩
    simp [Spec.rename, lookup_abs_empty h0]
  · obtain ⟨k, hk⟩ := hI.cap_pow_of_size h0
    rcases key_cases s a with ⟨j, it, hit, hl, rfl⟩ | hnoA
    · rcases key_cases s b with ⟨j', it', hit', hl', rfl⟩ | hnoB
      · -- both present: refused
        obtain ⟨pre, post, _, hfindA, gA⟩ := find_some hI hc hH hit hl
        obtain ⟨pre', post', _, hfindB, gB⟩ := find_some hI hc hH hit' hl'
        refine ⟨s, false, ?_, hI, ?_⟩
        · simp only [rename, h0, if_false, hfindA, hfindB, gA, gB]
        · have h1 := lookup_abs_some hI hit hl
          have h2 : Spec.findKey (abs s).slots it'.key = some j' := findKey_abs_some hI hit' hl'
          simp only [Spec.rename, h1, h2]
      · obtain ⟨s', hrun, hI', hcap', habs⟩ := rename_accepted hI hH hit hl hnoB
        refine ⟨s', true, hrun, hI', ?_⟩
        have h1 := lookup_abs_some hI hit hl
        have h2 : Spec.findKey (abs s).slots b = none := findKey_abs_none hnoB
        simp only [Spec.rename, h1, h2]
        simp [abs, hcap', habs]
    · have hfindA := find_none hc hH ⟨k, hk⟩ hnoA
      have gA : getLink s (lastLink (Link.head (H a &&& (s.cap - 1))) (ch (H a &&& (s.cap - 1)))) = some 0 :=
        chain_last (hc.chain _ (bucket_lt (H a) hk))
      refine ⟨s, false, ?_, hI, ?_⟩
      · simp only [rename, h0, if_false, hfindA, gA]
      · simp [Spec.rename, lookup_abs_none hnoA]

end Qentem.HashTable
