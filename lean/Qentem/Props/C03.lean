import Qentem.Model.Escape
import Qentem.Generated.Escape
/-! C03 — `{var:}` output is HTML-safe for every string; `{raw:}` is verbatim. -/
namespace Qentem.Props.C03
open Qentem.Escape

/-! The four laws go by the routine's own case analysis (`fun_induction escape`): five entities kept,
a lone `&` (case 6), the four other specials, an ordinary unit (case 11, which comes with the
facts that the unit is none of the specials), the end. -/

/-- No raw `< > " '` in the escaped text, for every string over every code unit. -/
theorem escape_no_raw_special (s : List Nat) : ∀ c ∈ escape s, isSpecialNoAmp c = false := by
  fun_induction escape s
  case case11 c rest _ _ _ _ _ _ h7 h8 h9 h10 ih =>
    refine List.forall_mem_cons.2 ⟨?_, ih⟩
    simp only [isSpecialNoAmp, Bool.or_eq_false_iff, beq_eq_false_iff_ne, ne_eq]
    exact ⟨⟨⟨h7, h8⟩, h9⟩, h10⟩
  case case12 => exact fun _ h => nomatch h
  all_goals
    simp only [List.forall_mem_cons, isSpecialNoAmp, Nat.reduceBEq, Bool.or_self, true_and]
    assumption

theorem escape_amp_only_entities (s : List Nat) : ampOnlyEntities (escape s) = true := by
  fun_induction escape s
  case case11 c rest _ _ _ _ _ h6 _ _ _ _ ih => rw [ampOnlyEntities, ih, bne_iff_ne.2 h6]; rfl
  case case12 => rfl
  all_goals
    simp only [ampOnlyEntities, *, Bool.and_true]
    rfl

theorem decode_cons_ne {c : Nat} (h : c ≠ 38) (rest : List Nat) : decode (c :: rest) = c :: decode rest :=
  decode.eq_6 c rest (fun _ e => absurd e h) (fun _ e => absurd e h) (fun _ e => absurd e h) (fun _ e => absurd e h)
    (fun _ e => absurd e h)

theorem decode_escape (s : List Nat) : decode (escape s) = decode s := by
  fun_induction escape s
  case case6 rest h1 h2 h3 h4 h5 ih =>
    rw [decode, ih, decode.eq_6 38 rest (fun r _ => h1 r) (fun r _ => h2 r) (fun r _ => h3 r) (fun r _ => h4 r)
      (fun r _ => h5 r)]
  case case11 c rest _ _ _ _ _ h6 _ _ _ _ ih => rw [decode_cons_ne h6, decode_cons_ne h6, ih]
  all_goals simp only [decode, *]

theorem escape_idem (s : List Nat) : escape (escape s) = escape s := by
  fun_induction escape s
  case case11 c rest _ _ _ _ _ h6 h7 h8 h9 h10 ih =>
    rw [escape.eq_11 c (escape rest) (fun _ e => absurd e h6) (fun _ e => absurd e h6) (fun _ e => absurd e h6)
      (fun _ e => absurd e h6) (fun _ e => absurd e h6) h6 h7 h8 h9 h10, ih]
  case case12 => rfl
  all_goals simp only [escape, *]

theorem escape_off (s : List Nat) : escapeCfg false s = s := rfl

/-! ### T1: the entity tables compiled from the current headers are the five standard entities,
for every character width (a changed literal breaks these). -/
open Qentem.Generated.Escape in
theorem tables_are_the_five_entities :
    [W1.htmlAnd, W1.htmlLess, W1.htmlGreater, W1.htmlQuote, W1.htmlSingleQuote] = entities ∧
    [W2.htmlAnd, W2.htmlLess, W2.htmlGreater, W2.htmlQuote, W2.htmlSingleQuote] = entities ∧
    [W4.htmlAnd, W4.htmlLess, W4.htmlGreater, W4.htmlQuote, W4.htmlSingleQuote] = entities ∧
    [WW.htmlAnd, WW.htmlLess, WW.htmlGreater, WW.htmlQuote, WW.htmlSingleQuote] = entities ∧
    [W1.semicolon, W2.semicolon, W4.semicolon, WW.semicolon] = [59, 59, 59, 59] ∧
    autoEscapeDefault = true := by decide

/-- What the model emits for one special is the model's entity; these equal the generated tables by
`tables_are_the_five_entities`. -/
theorem escape_single_special :
    escape [38] = entAmp ∧ escape [60] = entLt ∧ escape [62] = entGt ∧ escape [34] = entQuot ∧ escape [39] = entApos := by
  decide

/-! Non-vacuity: the theorems have no hypotheses; a concrete non-trivial instance. -/
example : escape [38, 97, 109, 60, 38, 108, 116, 59] = [38, 97, 109, 112, 59, 97, 109, 38, 108, 116, 59, 38, 108, 116, 59] := by decide

end Qentem.Props.C03
