import Qentem.Model.Seq
/-! C14, trimming (`String::Trim`, `StringUtils::Trim/TrimLeft/TrimRight`): white space is exactly
{space, \t, \n, \r} as code-unit *values* — for every character width, signed or not — and trimming
removes exactly the maximal runs of such units at the two ends. -/
namespace Qentem.Props.C14
open Qentem.Seq

/-- White space is the four units 32, 9, 10, 13 and nothing else (no unit ≥ 0x80, no unit that agrees with
one of them modulo 64, 0x100, 0x10000 or in its low bits only). -/
theorem isWs_iff (c : Nat) : isWs c = true ↔ c = 32 ∨ c = 10 ∨ c = 9 ∨ c = 13 := by
  simp [isWs, or_assoc]

theorem isWs_lt_33 (c : Nat) (h : isWs c = true) : c < 33 := by
  rcases (isWs_iff c).1 h with h | h | h | h <;> omega

/-! List facts about `takeWhile` / `dropWhile` and `reverse`, used by the two statements at the end only. -/

theorem drop_length_takeWhile (p : Nat → Bool) (l : List Nat) : l.drop (l.takeWhile p).length = l.dropWhile p := by
  induction l with
  | nil => rfl
  | cons a t ih =>
    simp only [List.takeWhile_cons, List.dropWhile_cons]
    split <;> simp [ih]

theorem mem_takeWhile_true (p : Nat → Bool) (l : List Nat) (x : Nat) (hx : x ∈ l.takeWhile p) : p x = true :=
  List.all_eq_true.1 List.all_takeWhile x hx

theorem head?_dropWhile_false (p : Nat → Bool) (l : List Nat) (x : Nat) (hx : (l.dropWhile p).head? = some x) :
    p x = false := by
  have := List.head?_dropWhile_not p l
  rwa [hx] at this

theorem head?_of_prefix (a b : List Nat) (x : Nat) (h : a <+: b) (hx : a.head? = some x) : b.head? = some x := by
  obtain ⟨r, rfl⟩ := h
  cases a with
  | nil => simp at hx
  | cons k ks => simpa using hx

theorem split_reverse (p : Nat → Bool) (l : List Nat) :
    l = (l.reverse.dropWhile p).reverse ++ (l.reverse.takeWhile p).reverse := by
  have h := List.takeWhile_append_dropWhile (p := p) (l := l.reverse)
  have := congrArg List.reverse h
  rw [List.reverse_append, List.reverse_reverse] at this
  exact this.symm

theorem reverse_dropWhile_reverse (p : Nat → Bool) (l : List Nat) :
    (l.reverse.dropWhile p).reverse = l.take (l.length - (l.reverse.takeWhile p).length) := by
  have h2 := split_reverse p l
  have hl : (l.reverse.dropWhile p).reverse.length + (l.reverse.takeWhile p).length = l.length := by
    have := congrArg List.length h2
    simp only [List.length_append, List.length_reverse] at this ⊢
    omega
  have hA : ((l.reverse.dropWhile p).reverse).length = l.length - (l.reverse.takeWhile p).length := by omega
  calc (l.reverse.dropWhile p).reverse
      = ((l.reverse.dropWhile p).reverse ++ (l.reverse.takeWhile p).reverse).take ((l.reverse.dropWhile p).reverse).length :=
        (List.take_left).symm
    _ = l.take ((l.reverse.dropWhile p).reverse).length := by rw [← h2]
    _ = l.take (l.length - (l.reverse.takeWhile p).length) := by rw [hA]

/-- **What trimming keeps**: the text is `a ++ trimList u ++ b` with `a`, `b` made of white space only, and the
kept part neither starts nor ends with white space — so a unit that is not one of the four values is never
removed, wherever it stands. -/
theorem trimList_spec (u : List Nat) :
    ∃ a b, u = a ++ trimList u ++ b ∧ (∀ x ∈ a, isWs x = true) ∧ (∀ x ∈ b, isWs x = true) ∧
      (∀ x, (trimList u).head? = some x → isWs x = false) ∧
      (∀ x, (trimList u).getLast? = some x → isWs x = false) := by
  have h1 : u = u.takeWhile isWs ++ u.dropWhile isWs := (List.takeWhile_append_dropWhile).symm
  have h3 := split_reverse isWs (u.dropWhile isWs)
  refine ⟨u.takeWhile isWs, ((u.dropWhile isWs).reverse.takeWhile isWs).reverse, ?_, ?_, ?_, ?_, ?_⟩
  · show u = u.takeWhile isWs ++ ((u.dropWhile isWs).reverse.dropWhile isWs).reverse ++ _
    rw [List.append_assoc, ← h3]; exact h1
  · intro x hx; exact mem_takeWhile_true isWs _ x hx
  · intro x hx; rw [List.mem_reverse] at hx; exact mem_takeWhile_true isWs _ x hx
  · intro x hx
    have hpre : trimList u <+: u.dropWhile isWs := ⟨_, h3.symm⟩
    exact head?_dropWhile_false isWs u x (head?_of_prefix _ _ x hpre hx)
  · intro x hx
    have hx' : (((u.dropWhile isWs).reverse.dropWhile isWs).reverse).getLast? = some x := hx
    rw [List.getLast?_reverse] at hx'
    exact head?_dropWhile_false isWs _ x hx'

/-- The cursor routine and the list reading agree: `Trim(str, 0, n)` returns exactly the window that
`trimList` keeps. -/
theorem trimOffLen_eq_trimList (u : List Nat) :
    trimList u = (u.drop (trimOffLen u 0 u.length).1).take (trimOffLen u 0 u.length).2 := by
  unfold trimOffLen
  by_cases hn : u.length = 0
  · have : u = [] := List.eq_nil_of_length_eq_zero hn
    subst this; simp [trimList]
  · simp only [hn, ne_eq, not_false_eq_true, if_true, Nat.add_zero]
    unfold trimLeftOff trimRightEnd trimList
    simp only [List.take_length, List.drop_zero, Nat.zero_add]
    rw [drop_length_takeWhile, reverse_dropWhile_reverse]
    have hlen : (u.dropWhile isWs).length = u.length - (u.takeWhile isWs).length := by
      rw [← drop_length_takeWhile]; simp
    have ht : ((u.dropWhile isWs).reverse.takeWhile isWs).length ≤ (u.dropWhile isWs).length := by
      have := (List.takeWhile_sublist isWs (l := (u.dropWhile isWs).reverse)).length_le
      simp only [List.length_reverse] at this; exact this
    congr 1
    omega

/-! Tests by evaluation: the units a branch-free "≤ ' ' and bit test modulo 64" classifier gets wrong. -/
example : [0x89, 0x8A, 0x8D, 0xA0, 0xC9, 0xCA, 0xCD, 0xE0, 73, 74, 77, 96, 0x120, 0x10020, 0x80000020].map isWs =
    List.replicate 15 false := by decide
example : trimList [32, 0xA0, 118, 111, 105, 108, 0xC3, 0xA0, 9] = [0xA0, 118, 111, 105, 108, 0xC3, 0xA0] := by decide

end Qentem.Props.C14
