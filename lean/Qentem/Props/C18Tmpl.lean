import Qentem.Model.GroupTmpl
import Qentem.Proofs.Group
import Qentem.Props.C18
/-!
C18, last clause — "a loop's group= attribute iterates the same partition".

`renderLoop` (Template.hpp:1262-1332; render model `Qentem.Tmpl.render`, case `.loop`,
Model/Tmpl/Render.lean) evaluates `cx.groupBy set0 key`, renders nothing when it is `none`, and otherwise
iterates the members of the returned object in slot order, skipping undefined values (`loopIter`), the loop
key being the member name.  `groupByTmpl` is the instance of `cx.groupBy` given by the GroupBy model.  The
theorem: for every set that is a non-empty array of objects each holding the key, that instance returns an
object whose iterated members (`tmplGroupView`) are exactly the groups of `groupBySpec`, in the same order,
each group listing its elements' members (copies) in input order.
-/
namespace Qentem.Props.C18
open Qentem.Value Qentem.Value.Doc

theorem isUndefined_ofValue (v : Doc) : (ofValue v).isUndefined = v.isUndef := by
  cases v <;> simp [ofValue, Qentem.Tmpl.Doc.isUndefined, isUndef]

theorem ofValueItems_eq_map (l : List Doc) : ofValueItems l = l.map ofValue := by
  induction l with
  | nil => simp [ofValueItems]
  | cons a t ih => simp [ofValueItems, ih]

theorem toValueItems_eq_map (l : List Qentem.Tmpl.Doc) : toValueItems l = l.map toValue := by
  induction l with
  | nil => simp [toValueItems]
  | cons a t ih => simp [toValueItems, ih]

def kvOf (kv : Key × Doc) : List Nat × Qentem.Tmpl.Doc := (kv.1, ofValue kv.2)

/-- translate the leaves of a group view. -/
def viewOfValue (g : List (Key × List (List (Key × Doc)))) :
    List (List Nat × List (List (List Nat × Qentem.Tmpl.Doc))) :=
  g.map (fun e => (e.1, e.2.map (fun m => m.map kvOf)))

def valueView (v : Doc) : List (List (Key × Doc)) :=
  match v with
  | arr items => items.map itemMembers
  | _ => []

theorem groupView_eq (c : Nat) (s : List Slot) :
    groupView (obj c s) = (members s).map (fun g => (g.1, valueView g.2)) := by
  simp only [groupView]
  apply List.map_congr_left
  intro g _
  cases g.2 <;> rfl

theorem tmplMembers_ofValueSlots (s : List Slot) : tmplMembers (ofValueSlots s) = (members s).map kvOf := by
  induction s with
  | nil => simp [ofValueSlots, tmplMembers, members]
  | cons a t ih =>
    cases a with
    | none => simpa [ofValueSlots, members] using ih
    | some e =>
      obtain ⟨k, v⟩ := e
      simp only [tmplMembers] at ih
      by_cases hv : v.isUndef = true
      · simp [ofValueSlots, tmplMembers, members, isUndefined_ofValue, hv, ih]
      · simp [ofValueSlots, tmplMembers, members, isUndefined_ofValue, hv, ih, kvOf]

theorem itemView_ofValue (it : Doc) : tmplItemView (ofValue it) = (itemMembers it).map kvOf := by
  cases it <;> simp [ofValue, tmplItemView, itemMembers, tmplMembers_ofValueSlots]

theorem valueView_ofValue (v : Doc) : tmplValueView (ofValue v) = (valueView v).map (fun m => m.map kvOf) := by
  cases v with
  | arr items =>
    simp only [ofValue, tmplValueView, valueView, ofValueItems_eq_map, List.map_map]
    apply List.map_congr_left
    intro it _
    exact itemView_ofValue it
  | _ => simp [ofValue, tmplValueView, valueView]

theorem tmplGroupView_ofValue (d : Doc) : tmplGroupView (ofValue d) = viewOfValue (groupView d) := by
  cases d with
  | obj c s =>
    rw [groupView_eq]
    simp only [ofValue, tmplGroupView, viewOfValue, tmplMembers_ofValueSlots, List.map_map]
    apply List.map_congr_left
    intro g _
    simp only [Function.comp, kvOf]
    rw [valueView_ofValue g.2]
  | _ => simp [ofValue, tmplGroupView, groupView, viewOfValue]

theorem loop_group_same_partition (fmtReal : Nat → List Nat) (key : Key) (it : Qentem.Tmpl.Doc)
    (rest : List Qentem.Tmpl.Doc)
    (hgood : ∀ x ∈ it :: rest, GoodItem fmtReal [] key (toValue x)) :
    ∃ grouped g, groupByTmpl fmtReal (.arr (it :: rest)) key = some grouped ∧
      groupBySpec (groupText fmtReal []) key ((it :: rest).map (fun x => itemMembers (toValue x))) [] = some g ∧
      tmplGroupView grouped = viewOfValue (copyView g) := by
  have hitems : toValue (.arr (it :: rest)) = arr (toValue it :: rest.map toValue) := by
    simp [toValue, toValueItems, toValueItems_eq_map]
  obtain ⟨g, h1, h2, h3⟩ := groupBy_eq_spec fmtReal [] key (toValue it) (rest.map toValue) undef
    (by
      intro x hx
      simp only [List.mem_cons, List.mem_map] at hx
      rcases hx with rfl | ⟨y, hy, rfl⟩
      · exact hgood it List.mem_cons_self
      · exact hgood y (List.mem_cons_of_mem _ hy))
  refine ⟨ofValue (groupByA fmtReal [] (arr (toValue it :: rest.map toValue)) key undef).2, g, ?_, ?_, ?_⟩
  · simp [groupByTmpl, hitems, h2]
  · simpa [List.map_map, Function.comp_def] using h1
  · rw [tmplGroupView_ofValue, h3]

/-! non-vacuity: a template-side object with a removed member (`undefined` value) is a `GoodItem`. -/
example : GoodItem (fun _ => []) [] [121] (toValue (.obj [([109], .undefined), ([121], .nat 1)])) :=
  ⟨2, [none, some ([121], nat 1)], by simp [toValue, toValueMembers],
   by simp [keysNodup, keysOf, liveEntries], by simp [allDefined, isUndef], nat 1, by simp [slotFind],
   by simp [groupText, setCharAndLength, copyValueTo, deref, derefF]⟩

end Qentem.Props.C18
