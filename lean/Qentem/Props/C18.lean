import Qentem.Model.Value
import Qentem.Model.Group
import Qentem.Model.ValueOps
import Qentem.Proofs.ValueWF
import Qentem.Proofs.Group
/-!
C18 — grouping partitions an array of objects by key value, wherever the key sits.

`groupByA` is the loop of `Value::GroupBy` (with the repair 04169f1: removed items are skipped);
`groupBySpec` is the fold "find the member by name, take the text of its value, append the object
minus that member to that group, groups in order of first appearance".  `GoodItem` is the property's
quantifier: an object (distinct live keys — the invariant of every object, see C12 — any number of
removed members, no never-assigned member) that holds the grouping key with a value that has a text
(string, number, boolean, null).  The grouped objects are copies (`copyView`).
-/
namespace Qentem.Props.C18
open Qentem.Value Qentem.Value.Doc

/-- `GroupBy` is a `const` member: in the forest only the destination root changes. -/
theorem groupBy_source_unchanged (fmtReal : Nat → List Nat) (dest : Nat) (s : Loc) (k : Key)
    (env : Env) (r : Nat) (h : r ≠ dest) :
    envGet (step fmtReal (Op.groupBy dest s k) env).1 r = envGet env r :=
  step_frame fmtReal _ env r (fun hm => h (List.mem_singleton.mp hm))

/-- **model = specification**: for every non-empty array of objects that each contain the key — at any
member position, with removed members anywhere — `GroupBy` succeeds and the groups it builds are exactly
the specification's, whatever the destination held before. -/
theorem groupBy_eq_spec (fmtReal : Nat → List Nat) (env : Env) (key : Key) (it : Doc) (rest : List Doc) (dest : Doc)
    (hgood : ∀ x ∈ it :: rest, GoodItem fmtReal env key x) :
    ∃ g, groupBySpec (groupText fmtReal env) key ((it :: rest).map itemMembers) [] = some g ∧
      (groupByA fmtReal env (arr (it :: rest)) key dest).1 = true ∧
      groupView (groupByA fmtReal env (arr (it :: rest)) key dest).2 = copyView g := by
  obtain ⟨c, s, hit, _, _, v, hfind, _⟩ := hgood it List.mem_cons_self
  subst hit
  obtain ⟨res', g, h1, h2, h3, _⟩ := groupLoop_spec fmtReal env key (obj c s :: rest) [] (0, []) [] hgood
    (by simp [allArr]) (by simp [viewSlots, members, copyView])
  have hd : deref env (arr (obj c s :: rest)) = arr (obj c s :: rest) := rfl
  refine ⟨g, h2, ?_, ?_⟩
  · simp [groupByA, hd, hfind, h1]
  · simp [groupByA, hd, hfind, h1, groupView_obj, h3]

/-- the empty array: no group (the call answers `false` and leaves an empty object). -/
theorem groupBy_empty (fmtReal : Nat → List Nat) (env : Env) (key : Key) (dest : Doc) :
    groupByA fmtReal env (arr []) key dest = (false, obj 0 []) ∧
    groupBySpec (groupText fmtReal env) key [] [] = some [] := by
  simp [groupByA, deref, derefF, groupBySpec]

/-! ### the specification is a partition -/

def groupOf (t : Key) (g : List (Key × List α)) : List α :=
  match assocFind t g with
  | some l => l
  | none => []

theorem groupOf_groupInsert (t t' : Key) (x : α) (acc : List (Key × List α)) :
    groupOf t (groupInsert t' x acc) = if t' = t then groupOf t acc ++ [x] else groupOf t acc := by
  induction acc with
  | nil => by_cases h : t' = t <;> simp [groupInsert, groupOf, assocFind, h]
  | cons a r ih =>
    obtain ⟨t2, xs⟩ := a
    by_cases h2 : t2 = t'
    · subst h2
      by_cases h : t2 = t <;> simp [groupInsert, groupOf, assocFind, h]
    · by_cases h3 : t2 = t
      · subst h3
        have : ¬ t' = t2 := fun e => h2 e.symm
        simp [groupInsert, groupOf, assocFind, h2, this]
      · simp only [groupOf] at ih
        simp [groupInsert, groupOf, assocFind, h2, h3, ih]

theorem groupBySpec_cons {text : Doc → Option Key} {key : Key} {o : List (Key × Doc)} {rest : List (List (Key × Doc))}
    {acc g : List (Key × List (List (Key × Doc)))} (h : groupBySpec text key (o :: rest) acc = some g) :
    ∃ t' o', groupEntry text key o = some (t', o') ∧ groupBySpec text key rest (groupInsert t' o' acc) = some g := by
  simp only [groupBySpec] at h
  cases he : groupEntry text key o with
  | none => simp [he] at h
  | some p => exact ⟨p.1, p.2, rfl, by simpa only [he] using h⟩

/-- what an input object contributes to group `t`. -/
def contribution (text : Doc → Option Key) (key t : Key) (o : List (Key × Doc)) : List (List (Key × Doc)) :=
  match groupEntry text key o with
  | some (t', o') => if t' = t then [o'] else []
  | none => []

/-- **each group is exactly the input objects carrying that value, in input order, without the key**:
group `t` of the result is the accumulator's group followed by the contributions of the inputs. -/
theorem group_members (text : Doc → Option Key) (key t : Key) (objs : List (List (Key × Doc)))
    (acc g : List (Key × List (List (Key × Doc)))) (h : groupBySpec text key objs acc = some g) :
    groupOf t g = groupOf t acc ++ objs.flatMap (contribution text key t) := by
  induction objs generalizing acc with
  | nil => simp [groupBySpec] at h; subst h; simp
  | cons o rest ih =>
    obtain ⟨t', o', he, h⟩ := groupBySpec_cons h
    rw [ih _ h, groupOf_groupInsert]
    by_cases ht : t' = t <;> simp [contribution, he, ht]

theorem total_groupInsert (t : Key) (x : α) (acc : List (Key × List α)) :
    ((groupInsert t x acc).map (fun e => e.2.length)).sum = (acc.map (fun e => e.2.length)).sum + 1 := by
  induction acc with
  | nil => rfl
  | cons a r ih =>
    obtain ⟨t2, xs⟩ := a
    rw [groupInsert]
    split
    · simp only [List.map_cons, List.sum_cons, List.length_append, List.length_singleton]; omega
    · simp only [List.map_cons, List.sum_cons, ih]; omega

/-- **the group sizes add up to the number of inputs**; with `group_members` (each group is exactly the inputs carrying its
value) every input object lands in exactly one group. -/
theorem groupBy_partition (text : Doc → Option Key) (key : Key) (objs : List (List (Key × Doc)))
    (acc g : List (Key × List (List (Key × Doc)))) (h : groupBySpec text key objs acc = some g) :
    (g.map (fun e => e.2.length)).sum = (acc.map (fun e => e.2.length)).sum + objs.length := by
  induction objs generalizing acc with
  | nil => simp [groupBySpec] at h; subst h; simp
  | cons o rest ih =>
    obtain ⟨t', o', _, h⟩ := groupBySpec_cons h
    rw [ih _ h, total_groupInsert]
    simp; omega

/-- group names in order of first appearance. -/
def firstAppear (seen : List Key) : List Key → List Key
  | [] => seen
  | t :: r => firstAppear (if t ∈ seen then seen else seen ++ [t]) r

theorem names_groupInsert (t : Key) (x : α) (acc : List (Key × List α)) :
    (groupInsert t x acc).map (·.1) = if t ∈ acc.map (·.1) then acc.map (·.1) else acc.map (·.1) ++ [t] := by
  induction acc with
  | nil => rfl
  | cons a r ih =>
    obtain ⟨t2, xs⟩ := a
    rw [groupInsert]
    split
    · rename_i h
      rw [if_pos (h ▸ List.mem_cons_self)]
      rfl
    · rename_i h
      rw [List.map_cons, ih, List.map_cons]
      by_cases hm : t ∈ r.map (·.1)
      · rw [if_pos hm, if_pos (List.mem_cons_of_mem _ hm)]
      · rw [if_neg hm, if_neg (fun hc => (List.mem_cons.mp hc).elim (fun e => h e.symm) hm)]
        rfl

/-- the text every input contributes (inputs outside the domain make the fold answer `none`). -/
def entryTexts (text : Doc → Option Key) (key : Key) (objs : List (List (Key × Doc))) : List Key :=
  objs.filterMap (fun o => (groupEntry text key o).map (·.1))

theorem group_names_first_appearance (text : Doc → Option Key) (key : Key) (objs : List (List (Key × Doc)))
    (acc g : List (Key × List (List (Key × Doc)))) (h : groupBySpec text key objs acc = some g) :
    g.map (·.1) = firstAppear (acc.map (·.1)) (entryTexts text key objs) := by
  induction objs generalizing acc with
  | nil => simp [groupBySpec] at h; subst h; simp [entryTexts, firstAppear]
  | cons o rest ih =>
    obtain ⟨t', o', he, h⟩ := groupBySpec_cons h
    rw [ih _ h, names_groupInsert]
    simp [entryTexts, he, firstAppear]

/-! ### non-vacuity: `[{y:1,m:2},{m:5,<removed>,y:1}]` grouped by `y` (key at two positions, a removed member) -/

example : GoodItem (fun _ => []) [] [121] (obj 4 [some ([109], nat 5), none, some ([121], nat 1)]) :=
  ⟨4, _, rfl, by simp [keysNodup, keysOf, liveEntries], by simp [allDefined, isUndef], nat 1, by simp [slotFind],
   by simp [groupText, setCharAndLength, copyValueTo, deref, derefF]⟩

example : GoodItem (fun _ => []) [] [121] (obj 2 [some ([121], nat 1), some ([109], nat 2)]) :=
  ⟨2, _, rfl, by simp [keysNodup, keysOf, liveEntries], by simp [allDefined, isUndef], nat 1, by simp [slotFind],
   by simp [groupText, setCharAndLength, copyValueTo, deref, derefF]⟩

theorem natText_one : natText 1 = [49] := by decide

/-- the specification on that input: one group "1" holding `{m:2}` and `{m:5}`. -/
example : groupBySpec (groupText (fun _ => []) []) [121]
      [[([121], nat 1), ([109], nat 2)], [([109], nat 5), ([121], nat 1)]] [] =
    some [([49], [[([109], nat 2)], [([109], nat 5)]])] := by
  simp [groupBySpec, groupEntry, assocFind, groupText, setCharAndLength, copyValueTo, deref, derefF, natText_one,
    groupInsert]

end Qentem.Props.C18
