import Qentem.Model.Tmpl.Interleave
import Qentem.Model.Tmpl.Render
/-!
# C17 — rendering is pure: cached, repeated and concurrent renders are identical

* `cached_eq_fresh` / `cached_other_value`: in the model the renderer is a function of
  `(content, tags, value)`; it returns text and nothing else, so `tags` and the value are the same
  before and after by construction, a render through a cached tag list equals a fresh one, and a
  repeated render gives the same text, any number of times.
* `interleave_independent`: for every schedule of any number of threads whose steps read the shared
  state and write only their own private state, each thread ends in the state of its sequential run.
That a C++ render step writes only per-call state is what `checks/c17.py` validates (fresh vs cached
vs repeated on pre-filled streams, tag dump and `Stringify` of the value before and after); in the
model it is the type `step : S → P → P` of a thread's step, not a hypothesis of `interleave_independent`.
-/
namespace Qentem.Props.C17
open Qentem.Tmpl Qentem.Expr Qentem.Interleave

theorem cached_eq_fresh {R : Type} [RealLike R] (cx : RCtx R) (cfg : ScanCfg R)
    (cache : List (Tag R)) (h : parse cfg cx.content = .ok cache) (fuel : Nat) :
    (parse cfg cx.content).bind (fun tags => renderTop cx tags fuel) = renderTop cx cache fuel := by
  rw [h]; rfl

theorem cached_other_value {R : Type} [RealLike R] (cx : RCtx R) (cfg : ScanCfg R) (root' : Doc)
    (cache : List (Tag R)) (h : parse cfg cx.content = .ok cache) (fuel : Nat) :
    (parse cfg ({ cx with root := root' } : RCtx R).content).bind
        (fun tags => renderTop { cx with root := root' } tags fuel) =
      renderTop { cx with root := root' } cache fuel :=
  cached_eq_fresh { cx with root := root' } cfg cache h fuel

theorem update_same {P : Type} (st : Nat → P) (i : Nat) (p : P) : update st i p i = p := by
  simp [update]

theorem update_other {P : Type} (st : Nat → P) (i j : Nat) (p : P) (h : j ≠ i) :
    update st i p j = st j := by
  simp [update, h]

theorem interleave_independent {S P : Type} (step : S → P → P) (s : S) (sched : List Nat) :
    ∀ (st : Nat → P) (i : Nat),
      runSched step s sched st i = iter step s (sched.count i) (st i) := by
  induction sched with
  | nil => intro st i; rfl
  | cons j rest ih =>
    intro st i
    simp only [runSched, ih]
    by_cases h : i = j
    · subst h
      simp [update_same, List.count_cons_self, iter]
    · have hne : (j == i) = false := by simp; exact fun e => h e.symm
      simp [update_other _ _ _ _ h, List.count_cons, hne]

example : runSched (fun (s : Nat) (p : Nat) => p + s) 3 [0, 1, 0, 2, 1, 0] (fun _ => 0) 0 = 9 := by
  decide

end Qentem.Props.C17
