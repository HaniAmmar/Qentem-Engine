import Qentem.Model.HashLedger
import Qentem.Proofs.HashLedger
/-!
C16 for the hash containers — every block is released exactly once (no release of a block that is not
live, no reuse of a live id), net allocation zero.  The trace consists of `alloc` and `free` events only.

`HashLedger.lifetime cfg ops` is the allocation trace of one `HArray` / `HList` lifetime as the
library produces it (tied to the real trace, event by event, by `checks/_hash_ledger.py`): the
object is default-constructed, `ops` are applied (Insert, Get/operator[], assignment, lookups, Remove,
RemoveIndex, Rename, Reserve, Resize, Expect, Compress, Clear, Reset, Sort, copy-construct + move-assign,
move, both `operator+=` with an operand built and destroyed inside the operation, self-merge), and it
is destroyed.  Temporaries (key / value objects built by the caller, the merge operand) are part of
the trace.
-/
namespace Qentem.Props.C16Hash
open Qentem.Ledger Qentem.HashLedger

/-- Any operation sequence followed by destruction gives a balanced trace (no double free, no free of a
foreign pointer, no reuse of a live id, nothing left allocated), for every configuration (with or without
values, any item size, any value sizes, any key order). -/
theorem lifetime_balanced (cfg : Cfg) (ops : List LOp) : Balanced (lifetime cfg ops) :=
  ((runOps_ok cfg ops Tab.empty 1 WF_empty).run.append (destroy_ok _ _)).balanced

/-- The same statement at any point of the lifetime: after any prefix of operations the live blocks
are exactly the blocks the table owns. -/
theorem prefix_owned (cfg : Cfg) (ops : List LOp) :
    ∃ h, Ledger.run (runOps cfg ops Tab.empty 1).1 [] = some h ∧
      (h.map Prod.fst).Perm (owned (runOps cfg ops Tab.empty 1).2.1) :=
  (runOps_ok cfg ops Tab.empty 1 WF_empty).run.prefix.imp fun _ h => ⟨h.1, h.2.1⟩

/-! Non-vacuity: a concrete lifetime with growth, overwrite, removal, failed lookup, copy, moving
merge onto existing keys and a self-merge; its trace has 38 events and is balanced by evaluation too. -/
def exCfg : Cfg := ⟨true, 44, fun n => 32 + n, id⟩
def exOps : List LOp :=
  [.insert [1] 5, .insert [2] 6, .insert [1] 7, .lookup [9], .remove [2], .get [3], .copy,
   .merge true [([1], 8), ([4], 9)] [[4]], .selfMerge, .move]

example : (lifetime exCfg exOps).length = 38 := by decide
example : Ledger.run (lifetime exCfg exOps) [] = some [] := by decide

end Qentem.Props.C16Hash
