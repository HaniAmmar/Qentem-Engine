import Qentem.Props.C09Outcome
/-! C09 — mantissas with more fraction digits than the 19-unit window holds (no exponent, or an exponent that leaves the
net decimal exponent negative): `0.000ddd…` with 19 or more significant digits and `ddd.ddd…` with 18 digits in the
window and any number of further fraction digits. The code keeps the first 19 resp. 18 significant digits and ignores
the rest; the statements are about the **exact** value of the whole numeral (`ClassOutcome` with the full mantissa):
consumed, rejected only below the smallest subnormal, otherwise within one ulp of the correctly rounded exact value.
Then the integer regime: 19 or more integer digits with any continuation (`good_int_long`, through `good_intRegime`), of which
the plain long integers are the instance. -/
namespace Qentem.Props.C09
open Qentem.StrToNum Qentem.Round Qentem.Generated.StrToNum

/-- `[+-]? 0 . zs d₁ ys rest`: `zs` zeros, `d₁ ys` the first 19 significant digits, `rest` any further digits -/
theorem real_within_one_ulp_small_long_end (c : List Nat) (o e : Nat) (sign zs : List Nat) (d1 : Nat) (ys rest : List Nat)
    (he : e < 2 ^ 32) (hs : sign = [] ∨ sign = [43] ∨ sign = [45]) (hz : ∀ z ∈ zs, z = 48) (hzl : zs.length < 2 ^ 30)
    (h1 : isNonZeroDigit d1 = true) (hys : AllDigits ys) (hlen : ys.length = 18) (hrest : AllDigits rest)
    (hu : unitsAt c e o (sign ++ (([48, 46] ++ zs ++ d1 :: ys) ++ rest)))
    (hend : endsAt c e (o + sign.length + 2 + zs.length + 19 + rest.length) contReal) :
    ClassOutcome (decide (sign = [45])) (decVal (d1 :: ys ++ rest)) (zs.length + 19 + rest.length) true
      (o + sign.length + 2 + zs.length + 19 + rest.length) (strToNum c o e) := by
  have hne : netExp true (decVal []) (decide (([] : List Nat) = [45])) (19 + zs.length) = (19 + zs.length, true) := by
    rw [netExp_nil, if_neg (by omega)]
  obtain ⟨heq, hv⟩ := strToNum_small_cut c o e sign zs d1 ys rest [] [] [] he hs hz hzl h1 hys hlen hrest expPart_nil
    (unitsAt_end hu) hend
  have h17 : 10 ^ 17 ≤ decVal (d1 :: ys) := Nat.le_trans (by decide) hv.lo
  have h := class_expResult_trunc heq hv h17 (by decide) (by rw [hne]) (trunc_bounds (d1 :: ys) rest hrest h17)
  rw [hne] at h
  rwa [show zs.length + 19 + rest.length = 19 + zs.length + rest.length by omega]

/-- `[+-]? d₁ xs . ys rest`: `d₁ xs . ys` fills the 19-unit window (18 digits), `rest` any further fraction digits -/
theorem real_within_one_ulp_frac_long_end (c : List Nat) (o e : Nat) (sign : List Nat) (d1 : Nat) (xs ys rest : List Nat)
    (he : e < 2 ^ 32) (hs : sign = [] ∨ sign = [43] ∨ sign = [45]) (h1 : isNonZeroDigit d1 = true)
    (hxs : AllDigits xs) (hys : AllDigits ys) (hy0 : ys ≠ []) (hy48 : ys ≠ [48]) (hlen : xs.length + ys.length = 17)
    (hrest : AllDigits rest)
    (hu : unitsAt c e o (sign ++ ((d1 :: xs ++ [46] ++ ys) ++ rest)))
    (hend : endsAt c e (o + sign.length + 19 + rest.length) contReal) :
    ClassOutcome (decide (sign = [45])) (decVal (d1 :: xs ++ ys ++ rest)) (ys.length + rest.length) true
      (o + sign.length + 19 + rest.length) (strToNum c o e) := by
  have hne : netExp false (decVal []) (decide (([] : List Nat) = [45])) ys.length = (ys.length, true) := by
    rw [netExp_nil, if_neg (Nat.ne_of_gt (List.length_pos_iff.2 hy0))]
  obtain ⟨heq, hv⟩ := strToNum_frac_cut c o e sign d1 xs ys rest [] [] [] he hs h1 hxs hys hy0 hy48 hlen hrest
    expPart_nil (unitsAt_end hu) hend
  have h := class_expResult_trunc heq hv hv.lo (by decide) (by rw [hne]) (trunc_bounds (d1 :: (xs ++ ys)) rest hrest hv.lo)
  rwa [hne] at h

/-- `[+-]? 0 . zs d₁ ys rest (e|E) [+-]? ks` with a negative net exponent (`10^(±ks − zeros − 19)`, always negative
for `e-…`, and for `e+k` with `k < zeros + 19`), exponent value below `10^8` (any number of digits) -/
theorem real_within_one_ulp_small_long_exp (c : List Nat) (o e : Nat) (sign zs : List Nat) (d1 : Nat) (ys rest : List Nat)
    (m : Nat) (es ks : List Nat)
    (he : e < 2 ^ 32) (hs : sign = [] ∨ sign = [43] ∨ sign = [45]) (hz : ∀ z ∈ zs, z = 48) (hzl : zs.length < 2 ^ 30)
    (h1 : isNonZeroDigit d1 = true) (hys : AllDigits ys) (hlen : ys.length = 18) (hrest : AllDigits rest)
    (hm : m = 101 ∨ m = 69) (hes : es = [] ∨ es = [43] ∨ es = [45]) (hks : AllDigits ks) (hk0 : ks ≠ [])
    (hsmall : decVal ks < 100000000)
    (hflag : (netExp true (decVal ks) (decide (es = [45])) (19 + zs.length)).2 = true)
    (hu : unitsAt c e o (sign ++ (([48, 46] ++ zs ++ d1 :: ys) ++ rest) ++ [m] ++ (es ++ ks)))
    (hend : endsAt c e (o + sign.length + 2 + zs.length + 19 + rest.length + 1 + es.length + ks.length) isDigit) :
    ClassOutcome (decide (sign = [45])) (decVal (d1 :: ys ++ rest))
      ((netExp true (decVal ks) (decide (es = [45])) (19 + zs.length)).1 + rest.length) true
      (o + sign.length + 2 + zs.length + 19 + rest.length + 1 + es.length + ks.length) (strToNum c o e) := by
  obtain ⟨heq, hv⟩ := strToNum_small_cut c o e sign zs d1 ys rest (m :: (es ++ ks)) es ks he hs hz hzl h1 hys hlen
    hrest (expPart_cons hm hes hks hk0) (unitsAt_exp hu) (endsAt_exp hend)
  have h17 : 10 ^ 17 ≤ decVal (d1 :: ys) := Nat.le_trans (by decide) hv.lo
  have h := class_expResult_trunc heq hv h17 hsmall hflag (trunc_bounds (d1 :: ys) rest hrest h17)
  rwa [fin_exp] at h

/-- `[+-]? d₁ xs . ys rest (e|E) [+-]? ks` with a negative net exponent, exponent value below `10^8` -/
theorem real_within_one_ulp_frac_long_exp (c : List Nat) (o e : Nat) (sign : List Nat) (d1 : Nat) (xs ys rest : List Nat)
    (m : Nat) (es ks : List Nat)
    (he : e < 2 ^ 32) (hs : sign = [] ∨ sign = [43] ∨ sign = [45]) (h1 : isNonZeroDigit d1 = true)
    (hxs : AllDigits xs) (hys : AllDigits ys) (hy0 : ys ≠ []) (hy48 : ys ≠ [48]) (hlen : xs.length + ys.length = 17)
    (hrest : AllDigits rest)
    (hm : m = 101 ∨ m = 69) (hes : es = [] ∨ es = [43] ∨ es = [45]) (hks : AllDigits ks) (hk0 : ks ≠ [])
    (hsmall : decVal ks < 100000000)
    (hflag : (netExp false (decVal ks) (decide (es = [45])) ys.length).2 = true)
    (hu : unitsAt c e o (sign ++ ((d1 :: xs ++ [46] ++ ys) ++ rest) ++ [m] ++ (es ++ ks)))
    (hend : endsAt c e (o + sign.length + 19 + rest.length + 1 + es.length + ks.length) isDigit) :
    ClassOutcome (decide (sign = [45])) (decVal (d1 :: xs ++ ys ++ rest))
      ((netExp false (decVal ks) (decide (es = [45])) ys.length).1 + rest.length) true
      (o + sign.length + 19 + rest.length + 1 + es.length + ks.length) (strToNum c o e) := by
  obtain ⟨heq, hv⟩ := strToNum_frac_cut c o e sign d1 xs ys rest (m :: (es ++ ks)) es ks he hs h1 hxs hys hy0 hy48
    hlen hrest (expPart_cons hm hes hks hk0) (unitsAt_exp hu) (endsAt_exp hend)
  have h := class_expResult_trunc heq hv hv.lo hsmall hflag (trunc_bounds (d1 :: (xs ++ ys)) rest hrest hv.lo)
  rwa [fin_exp] at h

/-! ### 19 or more integer digits -/

/-- `[+-]? d₁ x₁₈ rest [. F] [exp]` — 19 or more integer digits on the real path, the numeral ending at `end_offset` or at
a unit that cannot continue it -/
theorem good_int_long (c : List Nat) (o e : Nat) (sign : List Nat) (d1 : Nat) (x18 rest F DF EP es ks : List Nat)
    (he : e < 2 ^ 32) (hr31 : rest.length < 2 ^ 31) (hbound : EP ≠ [] → e ≤ 99999000)
    (hs : sign = [] ∨ sign = [43] ∨ sign = [45]) (h1 : isNonZeroDigit d1 = true)
    (hx18 : AllDigits x18) (hl : x18.length = 18) (hrest : AllDigits rest) (hF : AllDigits F)
    (hDF : (DF = [] ∧ F = []) ∨ (DF = 46 :: F ∧ F ≠ [])) (hEP : ExpPart EP es ks)
    (hu : unitsAt c e o (sign ++ (d1 :: x18 ++ rest) ++ DF ++ EP))
    (hend : endsAt c e (o + sign.length + 19 + rest.length + DF.length + EP.length)
      (realEnd EP))
    (hreal : DF ≠ [] ∨ EP ≠ [] ∨ 2 ≤ rest.length ∨
      (∃ d20, rest = [d20] ∧ (decVal (d1 :: x18) > 0x1999999999999999 ∨ (decVal (d1 :: x18) = 0x1999999999999999 ∧ d20 > 53)))) :
    Good (decide (sign = [45])) (valFrac (decVal (d1 :: x18 ++ rest ++ F)) (decVal ks) (decide (es = [45])) F.length).1
      (valFrac (decVal (d1 :: x18 ++ rest ++ F)) (decVal ks) (decide (es = [45])) F.length).2
      (o + sign.length + 19 + rest.length + DF.length + EP.length) (strToNum c o e) := by
  have hA := (unitsAt_append c e (sign ++ (d1 :: x18 ++ rest) ++ DF) EP o).1 hu
  have hB := (unitsAt_append c e (sign ++ (d1 :: x18 ++ rest)) DF o).1 hA.1
  obtain ⟨hsg, hM⟩ := strToNum_signed c o e sign d1 _ hs (digit_not_sign (isNonZeroDigit_isDigit h1)) rfl hB.1
  have hDFu : unitsAt c e (o + sign.length + 19 + rest.length) DF :=
    unitsAt_cast hB.2 (by simp only [List.length_append, List.length_cons]; omega)
  have hEPu : unitsAt c e (o + sign.length + 19 + rest.length + DF.length) EP :=
    unitsAt_cast hA.2 (by simp only [List.length_append, List.length_cons]; omega)
  have hall : AllDigits (d1 :: x18 ++ rest) := (AllDigits.cons (isNonZeroDigit_isDigit h1) hx18).append hrest
  -- when the integer digits end with the ones the scan keeps, `hreal` says that a dot or an exponent follows
  have hne0 : (∀ d20 rt, rest = d20 :: rt → rt = [] ∧
      ¬ (decVal (d1 :: x18) > 0x1999999999999999 ∨ (decVal (d1 :: x18) = 0x1999999999999999 ∧ d20 > 53))) →
      DF ≠ [] ∨ EP ≠ [] := by
    intro hr
    rcases hreal with h | h | h | ⟨d, h, hb⟩
    · exact Or.inl h
    · exact Or.inr h
    · match rest, h, hr with
      | a :: b :: t, _, hr => exact absurd (hr a (b :: t) rfl).1 (List.cons_ne_nil _ _)
    · exact absurd hb (hr d [] h).2
  obtain ⟨kt, R, hsplit, hkt, hktd, hv, hR, heq⟩ := afterSign_longInt c e (decide (sign = [45])) (o + sign.length) d1 x18 rest
    he h1 hx18 hl hrest hM (fun hr => by
      rcases hDF with ⟨rfl, _⟩ | ⟨rfl, _⟩
      · rcases hEP with ⟨rfl, _, _⟩ | ⟨m, hmE, rfl, _, _, _⟩
        · rcases hne0 hr with h | h <;> exact absurd rfl h
        · exact ⟨m, hEPu.1, (marker_sep hmE).2.2⟩
      · exact ⟨46, hDFu.1, by decide⟩)
  have hlen := congrArg List.length hsplit
  simp only [List.length_append, List.length_cons] at hlen
  have hpos : o + sign.length + 19 + rest.length = o + sign.length + 1 + kt.length + R.length := by omega
  rw [hpos] at hDFu hEPu hend ⊢
  have hfin := endsAt_le hend
  rw [hsplit] at hM hall ⊢
  have hsp := (unitsAt_append c e (d1 :: kt) R (o + sign.length)).1 hM
  rw [hsg, heq]
  exact good_intRegime c e (decide (sign = [45])) (o + sign.length + 1 + kt.length) (o + sign.length) (d1 :: kt) d1 kt R F DF EP
    es ks (kt.length + 1) he (by omega) hbound rfl h1 (fun y hy => hall y (List.mem_append_left _ hy)) rfl (by omega) (by omega)
    hv (by omega) (fun y hy => hall y (List.mem_append_right _ hy)) hF
    (unitsAt_cast hsp.2 (by simp only [List.length_cons]; omega)) hDF hDFu hEP hEPu hend
    (if hRn : R = [] then Or.inr (hne0 (hR hRn)) else Or.inl hRn) (int_count _ _ _ (by omega) (by omega))

/-- `[+-]? d₁ xs d₂₀ rest` — 20 + |rest| digits, no dot, no exponent, that do not fit 64 bits as a whole (the 20th
digit overflows, or more digits follow): the result is within one ulp of the correctly rounded exact integer;
the instance without dot and exponent of the integer regime -/
theorem real_within_one_ulp_long_int (c : List Nat) (o e : Nat) (sign : List Nat) (d1 : Nat) (xs : List Nat) (d20 : Nat)
    (rest : List Nat)
    (he : e < 2 ^ 32) (hs : sign = [] ∨ sign = [43] ∨ sign = [45]) (h1 : isNonZeroDigit d1 = true)
    (hxs : AllDigits xs) (hlen : xs.length = 18) (hd20 : isDigit d20 = true) (hrest : AllDigits rest) (hrl31 : rest.length + 1 < 2 ^ 31)
    (hcase : (decVal (d1 :: xs) > 0x1999999999999999 ∨ (decVal (d1 :: xs) = 0x1999999999999999 ∧ d20 > 53)) ∨ rest ≠ [])
    (hu : unitsAt c e o (sign ++ (d1 :: xs ++ d20 :: rest)))
    (hend : endsAt c e (o + sign.length + 20 + rest.length) contReal) :
    ClassOutcome (decide (sign = [45])) (decVal (d1 :: xs ++ d20 :: rest)) 0 false
      (o + sign.length + 20 + rest.length) (strToNum c o e) := by
  have h := good_int_long c o e sign d1 xs (d20 :: rest) [] [] [] [] [] he hrl31 (fun h => absurd rfl h) hs h1 hxs hlen
    (AllDigits.cons hd20 hrest) (fun _ h => nomatch h) (Or.inl ⟨rfl, rfl⟩) expPart_nil
    (by rw [List.append_nil, List.append_nil]; exact hu)
    (by rw [realEnd_nil, List.length_cons, List.length_nil, Nat.add_zero, Nat.add_zero,
          show o + sign.length + 19 + (rest.length + 1) = o + sign.length + 20 + rest.length by omega]; exact hend)
    (Or.inr (Or.inr (hcase.elim (fun hb => by
        cases rest with
        | nil => exact Or.inr ⟨d20, rfl, hb⟩
        | cons a b => exact Or.inl (by simp only [List.length_cons]; omega))
      (fun hr => Or.inl (by
        have := List.length_pos_iff.2 hr
        simp only [List.length_cons]; omega)))))
  rw [List.append_nil, valFrac_plain, List.length_cons,
    show o + sign.length + 19 + (rest.length + 1) + ([] : List Nat).length + ([] : List Nat).length =
      o + sign.length + 20 + rest.length by simp only [List.length_nil]; omega] at h
  exact class_of_good_int (Nat.lt_of_lt_of_le (Nat.pow_pos (by decide)) (decVal_ge d1 (xs ++ d20 :: rest) h1)) h

end Qentem.Props.C09
