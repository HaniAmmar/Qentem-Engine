import Qentem.Props.C09
import Qentem.Props.C09More
import Qentem.Props.C09Long
/-! C09 — the regime theorems on whole texts (`good_dot_short`, `good_int_short_exp`, `good_int_only`, `good_zero_lead`;
`good_int_long` is in `Props/C09Long.lean`): every numeral text in a buffer of at most 99 999 000 units, ending at
`end_offset` or at a unit that cannot continue it, falls under one of them, and each concludes `Good`
(Proofs/StrToNumGood.lean) — or an exact integer kind, `NumGood` — on the exact value of the whole numeral. The dot
regimes split by where the 19-unit scan window cuts the mantissa and use the equations of `Props/C09Outcome.lean`. -/
namespace Qentem.Props.C09
open Qentem.StrToNum Qentem.Round Qentem.Generated.StrToNum

/-- `[+-]? d₁ xs . F [exp]` with at most 18 integer digits: the dot is inside the scan window (`F` may be empty: `12.`) -/
theorem good_dot_short (c : List Nat) (o e : Nat) (sign : List Nat) (d1 : Nat) (xs F EP es ks : List Nat)
    (hs : sign = [] ∨ sign = [43] ∨ sign = [45]) (h1 : isNonZeroDigit d1 = true)
    (hxs : AllDigits xs) (hF : AllDigits F) (hlen : xs.length ≤ 17) (hEP : ExpPart EP es ks)
    (hu : unitsAt c e o (sign ++ (d1 :: xs ++ 46 :: F) ++ EP))
    (hend : endsAt c e (o + sign.length + 1 + xs.length + 1 + F.length + EP.length)
      (realEnd EP)) (hbound : e ≤ 99999000) :
    Good (decide (sign = [45])) (valFrac (decVal (d1 :: xs ++ F)) (decVal ks) (decide (es = [45])) F.length).1
      (valFrac (decVal (d1 :: xs ++ F)) (decVal ks) (decide (es = [45])) F.length).2
      (o + sign.length + 1 + xs.length + 1 + F.length + EP.length) (strToNum c o e) := by
  have he : e < 2 ^ 32 := by omega
  have hfin := endsAt_le hend
  obtain ⟨ys, R, rfl, hk⟩ := fracKept_total (xs.length + 1) F (by omega)
  have hys : AllDigits ys := fun y hy => hF y (List.mem_append_left _ hy)
  have hR : AllDigits R := fun y hy => hF y (List.mem_append_right _ hy)
  rw [List.length_append, ← Nat.add_assoc] at hend hfin
  obtain ⟨heq, hv⟩ := strToNum_dot c o e sign d1 xs ys R EP es ks he hs h1 hxs hys hR hlen hk hEP hu hend
  have hn19 := hv.n19
  refine good_cast (fin := o + sign.length + 1 + xs.length + 1 + ys.length + R.length + EP.length) ?_
    (by rw [List.length_append]; omega)
  rw [← List.append_assoc, List.length_append]
  by_cases hR0 : R = []
  · -- nothing dropped
    subst hR0
    have h := good_of_class_netExp (class_expResult heq hv (fun _ => by omega))
    rwa [List.append_nil, List.length_nil, Nat.add_zero]
  · -- the kept digits give the value to one part in `10^17`
    have trunc : 10 ^ 16 ≤ decVal (d1 :: xs ++ ys) →
        10 ^ 17 * decVal (d1 :: xs ++ ys ++ R) < (10 ^ 17 + 1) * (decVal (d1 :: xs ++ ys) * 10 ^ R.length) →
        Good (decide (sign = [45]))
          (valFrac (decVal (d1 :: xs ++ ys ++ R)) (decVal ks) (decide (es = [45])) (ys.length + R.length)).1
          (valFrac (decVal (d1 :: xs ++ ys ++ R)) (decVal ks) (decide (es = [45])) (ys.length + R.length)).2
          (o + sign.length + 1 + xs.length + 1 + ys.length + R.length + EP.length) (strToNum c o e) :=
      fun h16 hrel => good_expResult_trunc heq hv h16 (fun _ => by omega) (decVal_trunc _ R hR) hrel
    have h18 : xs.length + 1 + ys.length = 18 → 10 ^ 17 ≤ decVal (d1 :: xs ++ ys) := fun h => by
      have := hv.lo; rwa [h] at this
    rcases hk with ⟨rfl, hk⟩ | ⟨_, _, _, hk⟩
    · rw [List.append_nil] at trunc h18 hv heq ⊢
      rw [List.length_nil, Nat.add_zero] at h18 hv heq
      rcases hk with h | rfl | ⟨h, h17⟩ | h
      · exact absurd h hR0
      · -- a lone `0` behind the dot does not change the value
        have h := good_valFrac_zeros (j := 1) (mantissa_pos hv.lo)
          (good_of_class_netExp (class_expResult heq hv (fun _ => by decide)))
        rw [decVal_append_singleton]
        rwa [Nat.pow_one] at h
      · by_cases ha : xs.length + 1 = 18
        · exact trunc (Nat.le_trans (by decide) (h18 ha)) (trunc_bounds _ R hR (h18 ha)).2
        · -- 17 integer digits and a fraction that starts with `0`
          have h16 : 10 ^ 16 ≤ decVal (d1 :: xs) :=
            Nat.le_trans (Nat.pow_le_pow_right (by decide) (by omega)) hv.lo
          match R, h, hR with
          | r :: b, h, hR =>
            cases h
            exact trunc h16 (trunc_rel_zero (d1 :: xs) b (fun y hy => hR y (List.mem_cons_of_mem _ hy)) h16)
      · have h17 := h18 (by omega)
        exact trunc (Nat.le_trans (by decide) h17) (trunc_bounds _ R hR h17).2
    · have h17 := h18 (hk.resolve_left hR0)
      exact trunc (Nat.le_trans (by decide) h17) (trunc_bounds _ R hR h17).2

/-- `Good`, or an exact integer kind (then the value is below `2^64`) -/
def NumGood (neg : Bool) (n d fin : Nat) (res : Option Res) : Prop :=
  Good neg n d fin res ∨ (∃ r, res = some r ∧ (r.kind = .natural ∨ r.kind = .integer) ∧ n < 2 ^ 64 * d)

/-- `[+-]? 0 [. F] [exp]` — a leading zero digit: zero values and the fraction-only path -/
theorem good_zero_lead (c : List Nat) (o e : Nat) (sign zs G F DF EP es ks : List Nat)
    (hs : sign = [] ∨ sign = [43] ∨ sign = [45]) (hz : ∀ z ∈ zs, z = 48) (hG : AllDigits G)
    (hGh : G = [] ∨ ∃ g1 gt, G = g1 :: gt ∧ isNonZeroDigit g1 = true) (hFeq : F = zs ++ G)
    (hDF : (DF = [] ∧ F = []) ∨ (DF = 46 :: F ∧ F ≠ [])) (hEP : ExpPart EP es ks)
    (hu : unitsAt c e o (sign ++ [48] ++ DF ++ EP))
    (hend : endsAt c e (o + sign.length + 1 + DF.length + EP.length) (numEnd EP)) (hbound : e ≤ 99999000) :
    NumGood (decide (sign = [45])) (valFrac (decVal (48 :: F)) (decVal ks) (decide (es = [45])) F.length).1
      (valFrac (decVal (48 :: F)) (decVal ks) (decide (es = [45])) F.length).2
      (o + sign.length + 1 + DF.length + EP.length) (strToNum c o e) := by
  have he : e < 2 ^ 32 := by omega
  have hfin := endsAt_le hend
  have hendR := numEnd_real hend
  have hzero : decVal (48 :: F) = decVal G := by
    rw [hFeq, ← List.cons_append]
    exact decVal_zeros (48 :: zs) G (fun y hy => (List.mem_cons.1 hy).elim id (hz y))
  have hzv : G = [] → ∀ fin, Good (decide (sign = [45]))
      (valFrac (decVal (48 :: F)) (decVal ks) (decide (es = [45])) F.length).1
      (valFrac (decVal (48 :: F)) (decVal ks) (decide (es = [45])) F.length).2 fin
      (some ⟨.real, if decide (sign = [45]) then 0x8000000000000000 else 0, fin⟩) := by
    intro hG0 fin
    rw [hzero, hG0, show decVal [] = 0 from rfl, valFrac_zero]
    exact good_zero _ _ fin
  rcases hDF with ⟨rfl, rfl⟩ | ⟨rfl, _⟩
  · have hG0 : G = [] := (List.append_eq_nil_iff.1 hFeq.symm).2
    rw [List.append_nil] at hu
    rw [List.length_nil, Nat.add_zero] at hend hendR hfin ⊢
    rcases hEP with ⟨rfl, rfl, rfl⟩ | ⟨m, hmE, rfl, hes, hks, hk0⟩
    · -- the numeral `0`
      rw [List.append_nil] at hu
      rw [numEnd_nil, List.length_nil, Nat.add_zero] at hend
      rw [List.length_nil, Nat.add_zero]
      obtain ⟨z1, z2, z3⟩ := int_exact_zero c o e he
      rcases hs with rfl | rfl | rfl
      · exact Or.inr ⟨_, z1 hu.1 hend, Or.inl rfl, by rw [hzero, hG0]; decide⟩
      · exact Or.inr ⟨_, z2 hu hend, Or.inl rfl, by rw [hzero, hG0]; decide⟩
      · rw [z3 hu hend]
        exact Or.inl (hzv hG0 (o + 2))
    · rw [realEnd_cons, fin_exp] at hendR
      rw [zero_exp c o e sign m es ks hs hmE hes hks hk0
        (by rw [List.append_assoc sign [48, m]]; rw [List.append_assoc sign] at hu; exact hu)
        (endsAt_cast hendR (by omega))]
      exact Or.inl (good_cast (hzv hG0 (o + sign.length + 2 + es.length + ks.length)) (by rw [fin_exp]))
  · left
    rw [List.length_cons] at hend hendR hfin ⊢
    rw [List.append_assoc sign] at hu
    rcases hGh with hG0 | ⟨g1, gt, rfl, hg1⟩
    · -- `0.000…`
      rw [hG0, List.append_nil] at hFeq
      rw [zero_dot_zeros c o e sign F EP es ks he hs (hFeq ▸ hz) hEP hu (endsAt_cast hendR (by omega))]
      exact good_cast (hzv hG0 _) (by omega)
    · -- fraction-only path with the significant digits `g1 :: gt`
      have hgt : AllDigits gt := fun y hy => hG y (List.mem_cons_of_mem _ hy)
      subst hFeq
      rw [hzero]
      by_cases hshort : gt.length ≤ 17
      · have hfin' : o + sign.length + 2 + zs.length + 1 + gt.length + EP.length =
            o + sign.length + 1 + ((zs ++ g1 :: gt).length + 1) + EP.length := by
          rw [List.length_append, List.length_cons]; omega
        obtain ⟨heq, hv⟩ := strToNum_small c o e sign zs g1 gt EP es ks he hs hz (by omega) hg1 hgt hshort hEP hu
          (endsAt_cast hendR hfin'.symm)
        have h := good_of_class_netExp (class_expResult heq hv (fun _ => by omega))
        rw [List.length_append, List.length_cons, show zs.length + (gt.length + 1) = zs.length + 1 + gt.length by omega]
        exact good_cast h (by omega)
      · obtain ⟨ys, R, rfl, hyl⟩ := split_at gt 18 (Nat.lt_of_not_le hshort)
        have hys : AllDigits ys := fun y hy => hgt y (List.mem_append_left _ hy)
        have hR : AllDigits R := fun y hy => hgt y (List.mem_append_right _ hy)
        have hfin' : o + sign.length + 2 + zs.length + 19 + R.length + EP.length =
            o + sign.length + 1 + ((zs ++ g1 :: (ys ++ R)).length + 1) + EP.length := by
          rw [List.length_append, List.length_cons, List.length_append]; omega
        obtain ⟨heq, hK⟩ := strToNum_small_cut c o e sign zs g1 ys R EP es ks he hs hz (by omega) hg1 hys hyl hR hEP
          (by rw [List.append_assoc ([48, 46] ++ zs), List.cons_append]; exact hu) (endsAt_cast hendR hfin'.symm)
        have h17 : 10 ^ 17 ≤ decVal (g1 :: ys) := Nat.le_trans (by decide) hK.lo
        have hg := good_expResult_trunc heq hK (Nat.le_trans (by decide) h17) (fun _ => by omega)
          (decVal_trunc (g1 :: ys) R hR) (trunc_bounds _ R hR h17).2
        rw [List.length_append, List.length_cons, List.length_append,
          show zs.length + (ys.length + R.length + 1) = 19 + zs.length + R.length by omega]
        exact good_cast hg (by omega)

/-- `[+-]? d₁ xs (e|E) [+-]? ks`, at most 19 digits -/
theorem good_int_short_exp (c : List Nat) (o e : Nat) (sign : List Nat) (d1 : Nat) (xs EP es ks : List Nat)
    (hs : sign = [] ∨ sign = [43] ∨ sign = [45]) (h1 : isNonZeroDigit d1 = true)
    (hxs : AllDigits xs) (hlen : xs.length ≤ 18) (hEP : ExpPart EP es ks) (hEP0 : EP ≠ [])
    (hu : unitsAt c e o (sign ++ (d1 :: xs) ++ EP))
    (hend : endsAt c e (o + sign.length + 1 + xs.length + EP.length) (realEnd EP))
    (hbound : e ≤ 99999000) :
    Good (decide (sign = [45])) (valFrac (decVal (d1 :: xs)) (decVal ks) (decide (es = [45])) 0).1
      (valFrac (decVal (d1 :: xs)) (decVal ks) (decide (es = [45])) 0).2
      (o + sign.length + 1 + xs.length + EP.length) (strToNum c o e) := by
  rcases hEP with ⟨h, _, _⟩ | ⟨m, hmE, rfl, hes, hks, hk0⟩
  · exact absurd h hEP0
  · rw [realEnd_cons, fin_exp] at hend
    rw [fin_exp]
    exact good_of_class_netExp (real_within_one_ulp_int_exp c o e sign d1 xs m es ks (by omega) hs h1 hxs hlen hmE hes
      hks hk0 (by rw [List.append_assoc (sign ++ (d1 :: xs)) [m], List.singleton_append]; exact hu) hend)

/-- digits only: an exact integer kind, or (beyond 64 bits, or below `-2^63`) a `Real` -/
theorem good_int_only (c : List Nat) (o e : Nat) (sign : List Nat) (d1 : Nat) (xs : List Nat)
    (hs : sign = [] ∨ sign = [43] ∨ sign = [45]) (h1 : isNonZeroDigit d1 = true) (hxs : AllDigits xs)
    (hu : unitsAt c e o (sign ++ (d1 :: xs))) (hend : endsAt c e (o + sign.length + 1 + xs.length) contZero)
    (hbound : e ≤ 99999000) :
    NumGood (decide (sign = [45])) (decVal (d1 :: xs)) 1 (o + sign.length + 1 + xs.length) (strToNum c o e) := by
  have he : e < 2 ^ 32 := by omega
  have hfin := endsAt_le hend
  obtain ⟨hsg, hM⟩ := strToNum_signed c o e sign d1 _ hs (digit_not_sign (isNonZeroDigit_isDigit h1)) rfl hu
  have hv := mantissa_bounds d1 xs _ h1 hxs rfl
  rw [Nat.add_sub_cancel] at hv
  have hendI : endsAt c e (o + sign.length + 1 + xs.length) contInt := endsAt_mono hend fun _ => contZero_contInt
  have hendR : endsAt c e (o + sign.length + 1 + xs.length) contReal := endsAt_mono hend fun _ => contZero_contReal
  by_cases hfit : decVal (d1 :: xs) < 2 ^ 64
  · by_cases hneg : decide (sign = [45]) = true → decVal (d1 :: xs) ≤ 2 ^ 63
    · rw [hsg, afterSign_int c e _ (o + sign.length) d1 xs he h1 hxs hM hendI hfit hneg]
      exact Or.inr ⟨_, rfl, by cases decide (sign = [45]) <;> simp, by omega⟩
    · left
      have hn : decide (sign = [45]) = true := by
        by_contra hc; exact hneg (fun h => absurd h hc)
      have hbig : 2 ^ 63 < decVal (d1 :: xs) := by
        by_contra hc; exact hneg (fun _ => by omega)
      rw [hsg, hn, afterSign_negbig c e (o + sign.length) d1 xs he h1 hxs hM hendI hfit hbig,
        finishReal_end_skip c e true _ _ _ _ false false _ _ (fun k h1 h2 => by omega) (Nat.le_refl _) hendR (Or.inl rfl)
          (xs.length + 1) 0
          (int_count _ _ _ (by omega) (by omega)) rfl (by decide), netExp_end, if_pos rfl]
      have h16 : 10 ^ 16 ≤ decVal (d1 :: xs) := Nat.le_trans (by decide : 10 ^ 16 ≤ 2 ^ 63) (Nat.le_of_lt hbig)
      have hlen20 : xs.length < 20 :=
        (Nat.pow_lt_pow_iff_right (by decide : 1 < 10)).1 (Nat.lt_of_le_of_lt hv.1 (Nat.lt_trans hfit (by decide)))
      have := realResult_trunc true (decVal (d1 :: xs)) (xs.length + 1) 0 false (o + sign.length + 1 + xs.length) 0
        (decVal (d1 :: xs)) h16 hfit
        hv.1 hv.2 (by omega) (by omega) (by decide) (by rw [Nat.pow_zero, Nat.mul_one])
        (by rw [Nat.pow_zero, Nat.mul_one]; exact Nat.mul_lt_mul_of_pos_right (by decide) (Nat.lt_trans (by decide) hbig))
      simpa [valFrac] using this
  · have hlen19 : 19 < xs.length + 1 :=
      (Nat.pow_lt_pow_iff_right (by decide : 1 < 10)).1
        (Nat.lt_of_le_of_lt (Nat.le_trans (by decide : 10 ^ 19 ≤ 2 ^ 64) (Nat.le_of_not_lt hfit)) hv.2)
    obtain ⟨x18, rest, rfl, hl18⟩ := split_at xs 18 (Nat.le_of_lt_succ (Nat.lt_of_succ_lt hlen19))
    have hx18 : AllDigits x18 := fun y hy => hxs y (List.mem_append_left _ hy)
    have hrest : AllDigits rest := fun y hy => hxs y (List.mem_append_right _ hy)
    rw [List.length_append] at hlen19 hend hendR hfin ⊢
    have hreal : ([] : List Nat) ≠ [] ∨ ([] : List Nat) ≠ [] ∨ 2 ≤ rest.length ∨
        (∃ d20, rest = [d20] ∧ (decVal (d1 :: x18) > 0x1999999999999999 ∨
          (decVal (d1 :: x18) = 0x1999999999999999 ∧ d20 > 53))) := by
      by_cases h2 : 2 ≤ rest.length
      · exact Or.inr (Or.inr (Or.inl h2))
      · right; right; right
        obtain ⟨d20, rfl⟩ : ∃ d20, rest = [d20] := by
          match rest, h2, (show 1 ≤ rest.length by omega) with
          | [a], _, _ => exact ⟨a, rfl⟩
          | [], _, h => exact absurd h (by decide)
          | _ :: _ :: _, h, _ => exact absurd (Nat.le_add_left 2 _) h
        refine ⟨d20, rfl, ?_⟩
        have hd20 : isDigit d20 = true := hrest d20 (List.mem_singleton_self _)
        rw [← List.cons_append, decVal_append_singleton] at hfit
        simp only [isDigit, Bool.and_eq_true, decide_eq_true_eq] at hd20
        omega
    have := good_int_long c o e sign d1 x18 rest [] [] [] [] [] he (by omega) (fun h => absurd rfl h) hs h1 hx18 hl18 hrest
      (fun _ h => nomatch h) (Or.inl ⟨rfl, rfl⟩) expPart_nil (by rw [List.append_nil, List.append_nil]; exact hu)
      (by rw [realEnd_nil, List.length_nil, Nat.add_zero, Nat.add_zero]; exact endsAt_cast hendR (by omega)) hreal
    rw [List.append_nil, valFrac_plain, List.length_nil, Nat.add_zero, Nat.add_zero] at this
    exact Or.inl (good_cast this (by omega))

end Qentem.Props.C09
