import Qentem.Proofs.ExprEval
import Qentem.Proofs.ExprScanPrint
import Qentem.Proofs.ExprArithExact
/-!
# C04 — expression evaluation equals exact arithmetic with the documented precedence

`R` is any real carrier (`Rat`: exact arithmetic).  The `evaluate` recursion is the C++ one as repaired in
a8ed3a9; the scanner is covered inside a tag (`endO < length`).

No single theorem states the title; the parts compose like this.  `rank_respects_doc` ties the code's ranks to the
documented groups.  `evaluate_eq_tree`: evaluation of a flat list is evaluation of its precedence tree by code rank,
with the same typed arithmetic on both sides.  The `*_exact` theorems: on integer kinds that typed arithmetic
(`+ - *`, comparisons, `^` with a non-negative exponent) is integer arithmetic when nothing overflows.  `scan_*`: what
the scanner returns is such a flat list.  Real-kind operands, `/` and negative exponents are the carrier's operations;
those, and the property as a whole on the real code, are what the exact-ℚ oracle of checks/c04.py checks.
-/
namespace Qentem.Props.C04
open Qentem.Expr Qentem.Generated.Expr

/-! ### T1 -/

/-- Documentation/Template.md "Evaluation Order": parentheses; exponent, remainder;
multiplication, division; addition, subtraction; bitwise and, or; comparisons; and, or.
`docGroup` is that table (higher = binds tighter). -/
def docGroup : Op → Nat
  | .exp => 6 | .rem => 6
  | .mul => 5 | .div => 5
  | .add => 4 | .sub => 4
  | .bitAnd => 3 | .bitOr => 3
  | .equal => 2 | .notEqual => 2 | .less => 2 | .greater => 2 | .lessOrEqual => 2
  | .greaterOrEqual => 2
  | .and => 1 | .or => 1
  | .noOp => 0 | .error => 7

def allOps : List Op :=
  [.noOp, .or, .and, .equal, .notEqual, .greaterOrEqual, .lessOrEqual, .greater, .less, .bitOr,
   .bitAnd, .add, .sub, .mul, .div, .rem, .exp, .error]

theorem allOps_complete (o : Op) : o ∈ allOps := by cases o <;> decide

/-- A higher documented group has a higher rank in the enum compiled from the current headers;
`NoOp` is the unique minimum (it terminates the loop) and ranks are pairwise distinct.  A
reordered enum breaks this theorem. -/
theorem rank_respects_doc :
    (∀ a ∈ allOps, ∀ b ∈ allOps, docGroup a < docGroup b → a.rank < b.rank) ∧
    (∀ a ∈ allOps, a ≠ .noOp → Op.noOp.rank < a.rank) ∧
    (∀ a ∈ allOps, ∀ b ∈ allOps, a.rank = b.rank → a = b) ∧
    -- two-unit operators are exactly those below `Greater` (the scanner's `oper < Greater` test)
    (∀ a ∈ allOps, a ≠ .noOp → a ≠ .error → ((a.symbol.length = 2) ↔ a.rank < Op.greater.rank)) := by
  decide

/-- inside a documented group the code's order is strict: the later-listed operator binds tighter
(`/` over `*`, `-` over `+`, `^` over `%`, `&` over `|`, `<` `>` over `<=` `>=` over `!=` `==`,
`&&` over `||`).  For `+ -` and `* /` this does not change exact results; `&` over `|` and `&&` over `||` are
the C reading; `<` `>` over `<=` `>=` over `!=` `==` and `^` over `%` are the code's own (`0 <= 1 < 1` is 1 here,
0 in C; `7 % 2 ^ 3` is `7 % 8`). -/
theorem rank_inside_groups :
    Op.rem.rank < Op.exp.rank ∧ Op.mul.rank < Op.div.rank ∧ Op.add.rank < Op.sub.rank ∧
    Op.bitOr.rank < Op.bitAnd.rank ∧ Op.or.rank < Op.and.rank ∧
    Op.equal.rank < Op.notEqual.rank ∧ Op.notEqual.rank < Op.greaterOrEqual.rank ∧
    Op.greaterOrEqual.rank < Op.lessOrEqual.rank ∧ Op.lessOrEqual.rank < Op.greater.rank ∧
    Op.greater.rank < Op.less.rank := by decide

/-- the four character widths use the same operator symbols -/
theorem symbols_width_independent :
    [W2.symRemainder, W2.symMultiple, W2.symDivide, W2.symAdd, W2.symSubtract, W2.symEqual,
     W2.symNot, W2.symLess, W2.symGreater, W2.symAnd, W2.symOr, W2.symParenStart, W2.symParenEnd,
     W2.symBracketStart, W2.symBracketEnd, W2.symExponent, W2.symSpace, W2.digitZero,
     W2.digitNine] =
    [cRem, cMul, cDiv, cAdd, cSub, cEq, cNot, cLess, cGreater, cAnd, cOr, cPOpen, cPClose, cBOpen,
     cBClose, cExp, cSpace, W1.digitZero, W1.digitNine] ∧
    [W4.symRemainder, W4.symMultiple, W4.symDivide, W4.symAdd, W4.symSubtract, W4.symEqual,
     W4.symNot, W4.symLess, W4.symGreater, W4.symAnd, W4.symOr, W4.symParenStart, W4.symParenEnd,
     W4.symBracketStart, W4.symBracketEnd, W4.symExponent, W4.symSpace, W4.digitZero,
     W4.digitNine] =
    [cRem, cMul, cDiv, cAdd, cSub, cEq, cNot, cLess, cGreater, cAnd, cOr, cPOpen, cPClose, cBOpen,
     cBClose, cExp, cSpace, W1.digitZero, W1.digitNine] ∧
    [WW.symRemainder, WW.symMultiple, WW.symDivide, WW.symAdd, WW.symSubtract, WW.symEqual,
     WW.symNot, WW.symLess, WW.symGreater, WW.symAnd, WW.symOr, WW.symParenStart, WW.symParenEnd,
     WW.symBracketStart, WW.symBracketEnd, WW.symExponent, WW.symSpace, WW.digitZero,
     WW.digitNine] =
    [cRem, cMul, cDiv, cAdd, cSub, cEq, cNot, cLess, cGreater, cAnd, cOr, cPOpen, cPClose, cBOpen,
     cBClose, cExp, cSpace, W1.digitZero, W1.digitNine] ∧
    [cRem, cMul, cDiv, cAdd, cSub, cEq, cNot, cLess, cGreater, cAnd, cOr, cPOpen, cPClose, cBOpen,
     cBClose, cExp, cSpace, W1.digitZero, W1.digitNine] =
    [37, 42, 47, 43, 45, 61, 33, 60, 62, 38, 124, 40, 41, 123, 125, 94, 32, 48, 57] := by
  decide

/-! ### Main theorem -/

/-- For every well-formed flat list — any length, any nesting of sub-lists, any variable
environment, any number reader — and every real carrier (`Rat`: exact arithmetic), the value
computed by the `evaluate` recursion over the flat list equals ordinary recursive evaluation of the
precedence tree `climb items`. -/
theorem evaluate_eq_tree {R : Type} [RealLike R] (env : Env R) (items : List (Item R))
    (hwf : wfItems items = true) :
    evaluateTop env true items = evalTop env (climb items) :=
  evaluateTop_eq_tree env items hwf

/-- the same at exact arithmetic (`R := Rat`) -/
theorem evaluate_eq_tree_rat (env : Env Rat) (items : List (Item Rat)) (hwf : wfItems items = true) :
    evaluateTop env true items = evalTop env (climb items) :=
  evaluate_eq_tree env items hwf

def envNone : Env Rat := { content := [], lookup := fun _ => none, readNum := fun _ => none }

def lit (n : Nat) (o : Op) : Item Rat := (.num (.nat n), o)

/-- `10 - 2 * 3 ^ 1 + 4` -/
def witness : List (Item Rat) := [lit 10 .sub, lit 2 .mul, lit 3 .exp, lit 1 .add, lit 4 .noOp]

/-- non-vacuity of `evaluate_eq_tree`: a well-formed list with a three-level descent; value 8 -/
example : wfItems witness = true ∧
    (match evaluateTop envNone true witness with | some (.num (.nat n)) => n | _ => 0) = 8 ∧
    (match evalTop envNone (climb witness) with | some (.num (.nat n)) => n | _ => 0) = 8 := by
  decide

/-- The recursion as it was before a8ed3a9 (no re-check of `previous_oper` after the recursive
branch) is NOT tree evaluation: on `10 - 2 * 3 ^ 1 + 4` it answers 0 (the `+ 4` is absorbed into the
subtrahend), the tree value is 8.  Reproduced on the real code (`{math:10 - 2 * 3 ^ 1 + 4}` rendered
`0`). -/
theorem evaluate_as_coded_before_fix_differs :
    (match evaluateTop envNone false witness with | some (.num (.nat n)) => n | _ => 99) = 0 ∧
    (match evalTop envNone (climb witness) with | some (.num (.nat n)) => n | _ => 99) = 8 := by
  decide

/-! ### No trap, and when there is no value -/

section
variable {R : Type} [RealLike R]

/-- `case Remainder` in closed form: the checked `idiv` is only reached with a divisor that is
neither 0 nor -1, so it never faults. -/
theorem remChk_spec (l r : Num R) : Num.remChk l r = .ok (
    if wrap r.intBits = 0 then none
    else if wrap r.intBits = W64 - 1 then some (.int 0)
    else some (.int (ofInt (Int.tmod (toInt (wrap l.intBits)) (toInt (wrap r.intBits)))))) := by
  unfold Num.remChk
  by_cases h0 : wrap r.intBits = 0
  · simp only [if_pos h0]
  by_cases h1 : wrap r.intBits = W64 - 1
  · simp only [if_neg h0, if_pos h1]
  simp only [if_neg h0, if_neg h1, sremChk_ok _ (wrap_lt _) h0 h1]

theorem applyNumChk_no_fault (op : Op) (l r : Num R) : ∃ x, applyNumChk op l r = .ok x := by
  cases op <;> simp only [applyNumChk] <;> try exact ⟨_, rfl⟩
  exact ⟨_, remChk_spec l r⟩

/-- Every operator application is fault-free — the only trapping machine operation
(signed `%`) is reached only behind the `divisor == 0` / `divisor == -1` guards.  (Totality of the
evaluator itself is Lean totality: `evaluateTop` is a function.) -/
theorem no_trap (env : Env R) (op : Op) (l r : Val R) : ∃ x, applyChk env op l r = .ok x := by
  unfold applyChk
  split
  · exact ⟨_, rfl⟩
  · exact ⟨_, rfl⟩
  · next op _ _ _ l r _ _ =>
    obtain ⟨x, hx⟩ := applyNumChk_no_fault op l r
    rw [hx]; exact ⟨_, rfl⟩
  · exact ⟨_, rfl⟩

/-- the causes of "no value" for an arithmetic/comparison/logic operator on two numbers:
division by zero, remainder by zero, a power whose base or exponent lies strictly between 0 and 1
in magnitude (as coded: "no power of fraction"), or a non-operator. -/
def NoValueCause (op : Op) (l r : Num R) : Prop :=
  (op = .div ∧ r.nonZero = false) ∨ (op = .rem ∧ wrap r.intBits = 0) ∨
  (op = .exp ∧ (l.signMag = none ∨ r.signMag = none)) ∨ op = .noOp ∨ op = .error

theorem exp_none_iff (l r : Num R) : Num.exp l r = none ↔ (l.signMag = none ∨ r.signMag = none) := by
  unfold Num.exp
  rcases l.signMag with _ | ⟨lneg, base⟩
  · exact ⟨fun _ => Or.inl rfl, fun _ => rfl⟩
  rcases r.signMag with _ | ⟨rneg, n⟩
  · exact ⟨fun _ => Or.inr rfl, fun _ => rfl⟩
  refine ⟨fun h => ?_, fun h => by rcases h with h | h <;> cases h⟩
  -- every branch of the conditional that remains is a value
  have hs := congrArg Option.isSome h
  simp only [apply_ite Option.isSome, Option.isSome_some, ite_self] at hs
  cases hs

theorem no_value_iff (env : Env R) (op : Op) (l r : Num R) (hne : op.isEq = false) :
    applyOp env op (.num l) (.num r) = none ↔ NoValueCause op l r := by
  cases op with
  | equal => simp [Op.isEq] at hne
  | notEqual => simp [Op.isEq] at hne
  | rem =>
    simp only [applyOp, applyChk, applyNumChk, NoValueCause, remChk_spec]
    by_cases h0 : wrap r.intBits = 0
    · simp [h0]
    · by_cases h1 : wrap r.intBits = W64 - 1
      · simp [h1]
      · have h1' : ¬ wrap r.intBits = 18446744073709551615 := h1
        simp [h0, h1']
  | _ => simp [applyOp, applyChk, NoValueCause, applyNumChk, exp_none_iff]

/-! ### comparisons and logic yield 1 or 0; truth is `> 0` -/

def isCmpLogic : Op → Bool
  | .less | .lessOrEqual | .greater | .greaterOrEqual | .and | .or | .equal | .notEqual => true
  | _ => false

theorem applyNumChk_cmpLogic {op : Op} (hop : isCmpLogic op = true) {l r n : Num R}
    (h : applyNumChk op l r = .ok (some n)) : ∃ b, n = boolNum b := by
  cases op <;> cases hop <;> cases h <;> exact ⟨_, rfl⟩

theorem cmp_logic_01 (env : Env R) (op : Op) (l r v : Val R) (hop : isCmpLogic op = true)
    (h : applyOp env op l r = some v) : v = .num (.nat 0) ∨ v = .num (.nat 1) := by
  have hb : ∀ b : Bool, (Val.num (boolNum b) : Val R) = .num (.nat 0) ∨
      (Val.num (boolNum b) : Val R) = .num (.nat 1) := fun b => by
    cases b
    · exact Or.inl rfl
    · exact Or.inr rfl
  rcases applyOp_some env op l r v h with ⟨b, rfl⟩ | ⟨_, _, n, _, _, hn, rfl⟩
  · exact hb b
  · obtain ⟨b, rfl⟩ := applyNumChk_cmpLogic hop hn
    exact hb b

/-- `&&` / `||` read each operand as "greater than zero" -/
theorem truth_is_positive (env : Env R) (l r : Num R) :
    applyOp env .and (.num l) (.num r) = some (.num (boolNum (l.positive && r.positive))) ∧
    applyOp env .or (.num l) (.num r) = some (.num (boolNum (l.positive || r.positive))) ∧
    (Num.positive (.nat 1 : Num R) = true) ∧ (Num.positive (.nat 0 : Num R) = false) := by
  refine ⟨rfl, rfl, ?_, ?_⟩ <;> simp [Num.positive]

/-! ### `==` / `!=` -/

/-- textual when neither side is a number: two text literals compare as code-unit strings -/
theorem equality_rule_text (env : Env R) (o1 l1 o2 l2 : Nat) :
    isEqual env (.text o1 l1) (.text o2 l2) =
      some (decide ((env.content.drop o1).take l1 = (env.content.drop o2).take l2)) := by
  simp [isEqual, eqSide]

/-- numeric when either side is a number: the other side is converted (`SetNumber`: numeric
strings are parsed, true = 1, false = null = 0) or there is no value -/
theorem equality_rule_numeric (env : Env R) (a : Num R) (v : VarRef) (x : VarVal R)
    (hx : env.lookup v = some x) :
    isEqual env (.num a) (.var v) = (x.setNumber env).map (fun b => Num.eq' a b) ∧
    isEqual env (.var v) (.num a) = (x.setNumber env).map (fun b => Num.eq' b a) := by
  constructor <;>
  · simp only [isEqual, eqSide, hx]
    cases hn : x.isNumber
    · cases hc : x.chars <;> cases hs : x.setNumber env <;>
        simp [EqSide.forceNumber, hs] <;> cases x <;> simp_all [VarVal.chars, VarVal.setNumber, VarVal.isNumber]
    · cases hs : x.setNumber env <;> simp [EqSide.forceNumber]

/-- a number against a bare text literal has no value (the condition is then not satisfied) -/
theorem equality_rule_number_vs_text (env : Env R) (a : Num R) (o l : Nat) :
    isEqual env (.num a) (.text o l) = none ∧ isEqual env (.text o l) (.num a) = none := by
  constructor <;> simp [isEqual, eqSide, EqSide.forceNumber]

/-- two variables neither of which holds a number compare as text (strings, `true`, `false`,
`null`) -/
theorem equality_rule_vars_textual (env : Env R) (v w : VarRef) (x y : VarVal R) (s u : List Nat)
    (hx : env.lookup v = some x) (hy : env.lookup w = some y)
    (hnx : x.isNumber = false) (hny : y.isNumber = false)
    (hs : x.chars = some s) (hu : y.chars = some u) :
    isEqual env (.var v) (.var w) = some (decide (s = u)) := by
  simp [isEqual, eqSide, hx, hy, hnx, hny, hs, hu]

end

/-! ### The typed integer arithmetic is ordinary arithmetic when nothing overflows

`Num.ival` reads an integer-kind operand as the integer it denotes (`Natural` below 2^63 so that
the signed reading of the union agrees, `Integer` by two's complement).  Real-kind operations are
the field operations of the carrier by definition (`Num.add … = .real (l.toReal + r.toReal)`), so
at `R := Rat` they are exact arithmetic; a negative exponent gives the real `1 / p`. -/

section
variable {R : Type} [RealLike R]

def Num.ival : Num R → Option Int
  | .nat a => if a < H64 then some (a : Int) else none
  | .int a => if a < W64 then some (toInt a) else none
  | .real _ => none

omit [RealLike R] in
theorem ival_cases {n : Num R} {a : Int} (h : Num.ival n = some a) :
    ∃ x, x < W64 ∧ toInt x = a ∧ (n = .int x ∨ (n = .nat x ∧ x < H64)) := by
  have hW := W64_eq
  cases n with
  | real x => cases h
  | int x =>
    by_cases hx : x < W64
    · exact ⟨x, hx, Option.some.inj ((if_pos hx).symm.trans h), Or.inl rfl⟩
    · cases (if_neg hx).symm.trans h
  | nat x =>
    by_cases hx : x < H64
    · exact ⟨x, by omega, (toInt_of_lt hx).trans (Option.some.inj ((if_pos hx).symm.trans h)),
        Or.inr ⟨rfl, hx⟩⟩
    · cases (if_neg hx).symm.trans h

omit [RealLike R] in
theorem ival_int {z : Nat} {v : Int} (hz : z < W64) (h : toInt z = v) :
    Num.ival (.int z : Num R) = some v :=
  (if_pos hz).trans (congrArg some h)

omit [RealLike R] in
theorem ival_nat {z : Nat} {v : Int} (hw : z < W64) (h : toInt z = v) (h0 : 0 ≤ v) :
    Num.ival (.nat z : Num R) = some v := by
  have hz : z < H64 := Decidable.byContradiction fun hge => by
    have := toInt_of_ge hge; omega
  exact (if_pos hz).trans (congrArg some ((toInt_of_lt hz).symm.trans h))

theorem add_exact (l r : Num R) (a b : Int) (hl : Num.ival l = some a) (hr : Num.ival r = some b)
    (hlo : -(H64 : Int) ≤ a + b) (hhi : a + b < (H64 : Int)) :
    Num.ival (Num.add l r) = some (a + b) := by
  obtain ⟨x, hx, rfl, rfl | ⟨rfl, hx'⟩⟩ := ival_cases hl <;>
    obtain ⟨y, hy, rfl, rfl | ⟨rfl, hy'⟩⟩ := ival_cases hr
  iterate 3 exact ival_int (wrap_lt _) (toInt_add x y hlo hhi)
  exact ival_nat (wrap_lt _) (toInt_add x y hlo hhi) (by rw [toInt_of_lt hx', toInt_of_lt hy']; omega)

theorem sub_exact (l r : Num R) (a b : Int) (hl : Num.ival l = some a) (hr : Num.ival r = some b)
    (hlo : -(H64 : Int) ≤ a - b) (hhi : a - b < (H64 : Int)) :
    Num.ival (Num.sub l r) = some (a - b) := by
  obtain ⟨x, hx, rfl, rfl | ⟨rfl, hx'⟩⟩ := ival_cases hl <;>
    obtain ⟨y, hy, rfl, rfl | ⟨rfl, hy'⟩⟩ := ival_cases hr
  iterate 3 exact ival_int (wrap_lt _) (toInt_sub x y hy hlo hhi)
  -- `Natural - Natural` is a `Natural` unless it is negative
  rw [Num.sub]
  split
  · exact ival_int (wrap_lt _) (toInt_sub x y hy hlo hhi)
  · exact ival_nat (wrap_lt _) (toInt_sub x y hy hlo hhi) (by rw [toInt_of_lt hx', toInt_of_lt hy']; omega)

theorem mul_exact_nat (x y : Nat) (h : x * y < H64) :
    Num.ival (Num.mul (Num.nat x : Num R) (Num.nat y)) = some ((x : Int) * (y : Int)) := by
  have hW := W64_eq
  rw [Num.mul, wrap_of_lt (by omega)]
  exact (if_pos h).trans (congrArg some (Int.natCast_mul x y))

theorem cmp_exact (l r : Num R) (a b : Int) (hl : Num.ival l = some a) (hr : Num.ival r = some b) :
    Num.lt' l r = decide (a < b) ∧ Num.le' l r = decide (a ≤ b) ∧ Num.gt' l r = decide (b < a) ∧
    Num.ge' l r = decide (b ≤ a) ∧ Num.eq' l r = decide (a = b) := by
  obtain ⟨x, hx, rfl, rfl | ⟨rfl, hx'⟩⟩ := ival_cases hl <;>
    obtain ⟨y, hy, rfl, rfl | ⟨rfl, hy'⟩⟩ := ival_cases hr <;>
    exact ⟨rfl, rfl, rfl, rfl, rfl⟩

/-- multiplication of integer-kind operands is integer multiplication when the product fits -/
theorem mul_exact (l r : Num R) (a b : Int) (hl : Num.ival l = some a) (hr : Num.ival r = some b)
    (hlo : -(H64 : Int) ≤ a * b) (hhi : a * b < (H64 : Int)) :
    Num.ival (Num.mul l r) = some (a * b) := by
  obtain ⟨x, hx, rfl, rfl | ⟨rfl, hx'⟩⟩ := ival_cases hl <;>
    obtain ⟨y, hy, rfl, rfl | ⟨rfl, hy'⟩⟩ := ival_cases hr
  iterate 3 exact ival_int (wrap_lt _) (toInt_mul x y hlo hhi)
  exact ival_nat (wrap_lt _) (toInt_mul x y hlo hhi)
    (by rw [toInt_of_lt hx', toInt_of_lt hy']; exact Int.mul_nonneg (by omega) (by omega))

theorem signMag_ival (n : Num R) (a : Int) (h : Num.ival n = some a) :
    Num.signMag n = some (decide (a < 0), a.natAbs) ∧ a.natAbs < W64 := by
  have hW := W64_eq
  obtain ⟨x, hx, rfl, rfl | ⟨rfl, hx'⟩⟩ := ival_cases h
  · obtain ⟨hlo, _⟩ := toInt_range x hx
    refine ⟨?_, by omega⟩
    rw [Num.signMag]
    by_cases hneg : toInt x < 0
    · rw [if_pos hneg, negBits_of_neg hx hneg, decide_eq_true hneg]
    · have hlt : x < H64 := Decidable.byContradiction fun hge => by
        have := toInt_of_ge hge; omega
      rw [if_neg hneg, decide_eq_false hneg, toInt_of_lt hlt, Int.natAbs_natCast]
  · rw [toInt_of_lt hx', Int.natAbs_natCast, decide_eq_false (Int.not_lt.mpr (Int.natCast_nonneg x))]
    exact ⟨rfl, hx⟩

/-- `^` with integer-kind operands and a non-negative exponent is the integer power when the
magnitude fits 63 bits; `0 ^ 0` is excluded (the code gives 0) -/
theorem exp_exact (l r : Num R) (a b : Int) (hl : Num.ival l = some a) (hr : Num.ival r = some b)
    (hb : 0 ≤ b) (hne : a ≠ 0 ∨ b ≠ 0) (hfit : a.natAbs ^ b.toNat < H64) :
    ∃ v, Num.exp l r = some v ∧ Num.ival v = some (a ^ b.toNat) := by
  have hW := W64_eq
  obtain ⟨hsl, hla⟩ := signMag_ival l a hl
  obtain ⟨hsr, hrb⟩ := signMag_ival r b hr
  obtain ⟨n, rfl⟩ : ∃ n : Nat, b = n := ⟨b.toNat, by omega⟩
  rw [Int.toNat_natCast] at hfit ⊢
  rw [Int.natAbs_natCast] at hsr hrb
  rw [decide_eq_false (Int.not_lt.mpr hb)] at hsr
  simp only [Num.exp, hsl, hsr]
  by_cases hbase : a.natAbs = 0
  · have ha : a = 0 := by omega
    obtain ⟨k, rfl⟩ : ∃ k, n = k + 1 := ⟨n - 1, by omega⟩
    rw [if_neg (fun h => h hbase), ha, Int.pow_succ, Int.mul_zero]
    exact ⟨_, rfl, rfl⟩
  rw [if_pos hbase]
  by_cases hn : n = 0
  · rw [if_neg (fun h => h hn), hn, Int.pow_zero]
    exact ⟨_, rfl, rfl⟩
  have hp : powerOf a.natAbs n = a.natAbs ^ n := powerOf_eq _ _ hla (by omega) hrb (by omega)
  have hcond : ((decide (a < 0) && decide (n % 2 = 1)) = true) ↔ (a < 0 ∧ n % 2 = 1) := by
    rw [Bool.and_eq_true, decide_eq_true_eq, decide_eq_true_eq]
  rw [if_pos hn, if_neg Bool.false_ne_true, hp, pow_natAbs a n, ← Int.natCast_pow]
  by_cases hodd : a < 0 ∧ n % 2 = 1
  · rw [if_pos (hcond.2 hodd), if_pos hodd]
    have hn := toInt_negBits _ (Nat.pow_pos (by omega)) hfit
    exact ⟨_, rfl, ival_int hn.1 hn.2⟩
  · rw [if_neg (mt hcond.1 hodd), if_neg hodd]
    exact ⟨_, rfl, ival_nat (by omega) (toInt_of_lt hfit) (Int.natCast_nonneg _)⟩

end

/-! ### From text to value: the scanner's output satisfies the hypothesis of the main theorem -/

/-- Inside a tag (`endO < length`) the scanner performs no out-of-range read and returns
either nothing or a well-formed flat list (with the `last_oper == NoOp` test of 72d4ed6). -/
theorem scan_wf {R : Type} (cfg : ScanCfg R) (c : List Nat) (off endO : Nat) (he : endO < c.length) :
    Safe (parseTop cfg c off endO) (fun items => items = [] ∨ wfItems items = true) :=
  parseTop_wf cfg c off endO he

/-- End to end for every expression text inside a tag: whatever the scanner returns is evaluated by
the flat-list recursion to the value of its precedence tree. -/
theorem scan_then_evaluate {R : Type} [RealLike R] (cfg : ScanCfg R) (env : Env R) (c : List Nat)
    (off endO : Nat) (he : endO < c.length) :
    Safe (parseTop cfg c off endO)
      (fun items => items = [] ∨ evaluateTop env true items = evalTop env (climb items)) := by
  apply Safe.mono (parseTop_wf cfg c off endO he)
  intro items h
  rcases h with h | h
  · exact Or.inl h
  · exact Or.inr (evaluate_eq_tree env items h)

/-- the scanner model is total on every expression text inside a tag: it returns a list (possibly
empty = "not an expression"), never a failed read, never exhausted fuel. -/
theorem scan_total {R : Type} (cfg : ScanCfg R) (c : List Nat) (off endO : Nat) (he : endO < c.length) :
    ∃ items, parseTop cfg c off endO = .ok items :=
  parseTop_total cfg c off endO he

/-- hence, unconditionally: the scanner's list evaluates to the value of its precedence tree -/
theorem scan_then_evaluate_total {R : Type} [RealLike R] (cfg : ScanCfg R) (env : Env R) (c : List Nat)
    (off endO : Nat) (he : endO < c.length) :
    ∃ items, parseTop cfg c off endO = .ok items ∧
      (items = [] ∨ evaluateTop env true items = evalTop env (climb items)) := by
  obtain ⟨items, h⟩ := parseTop_total cfg c off endO he
  have := scan_then_evaluate cfg env c off endO he
  rw [h] at this
  exact ⟨items, h, this⟩

/-! ### Scanner ∘ printer -/

/-- `ScanPrint`, general form kept as a statement: scanning the printed form of a tree gives its
flat list, for a printer with arbitrary spacing and all leaf kinds.  `scan_print` below proves it
for the canonical printer over numeric leaves; the correspondence streams run the C++ scanner, the
model scanner and the generator's own structure against each other for the rest. -/
def ScanPrint {R : Type} (cfg : ScanCfg R) (printer : Tree R → List Nat) (sameItems : List (Item R) → List (Item R) → Prop) : Prop :=
  ∀ t : Tree R, ∃ items, parseTop cfg (printer t) 0 (printer t).length = .ok items ∧
    sameItems items (flatten t)

/-- scanner ∘ printer = identity on flat lists.  `printItems lit`: the operands in order, one space,
the operator's spelling, one space between them, `(`…`)` around sub-lists, literals written by `lit`.
Class `pokItems Pn`: every leaf is a number `n` with `Pn n` whose printed literal is read back by
the number reader, consists of units the operator scan steps over and ends in a digit (`LitOk`:
unsigned decimal literals); between two operands stands one of the sixteen binary operators; the
last operand carries `NoOp`; no list (top or nested) is a single parenthesised group (`lonePar`:
the scanner unwraps `((e))` and a lone `(e)` — observation in notes/design-expr.md).  For every such
list, every terminator unit after the text: `parseTop` returns exactly the list. -/
theorem scan_print_items {R : Type} (cfg : ScanCfg R) (lit : Num R → List Nat) (Pn : Num R → Prop)
    (hlit : ∀ n, Pn n → LitOk cfg.readNum (lit n) n) (items : List (Item R)) (hp : pokItems Pn items)
    (hl : ¬ lonePar items) (t : Nat) :
    parseTop cfg (printItems lit items ++ [t]) 0 (printItems lit items).length = .ok items :=
  scan_printItems cfg lit Pn hlit items hp hl t

/-- `ScanPrint` for trees: the printed in-order text of a tree (numeric leaves, binary operators,
parenthesis nodes that do not directly contain another parenthesis node, the tree itself not a
parenthesis node) scans to `flatten t`; with `evaluate_eq_tree` the value of the scanned list is the
tree value of `climb (flatten t)`. -/
theorem scan_print {R : Type} (cfg : ScanCfg R) (lit : Num R → List Nat) (Pn : Num R → Prop)
    (hlit : ∀ n, Pn n → LitOk cfg.readNum (lit n) n) (t : Tree R) (ht : t.pok Pn) (hnp : ∀ t', t ≠ .paren t')
    (term : Nat) :
    parseTop cfg (printItems lit (flatten t) ++ [term]) 0 (printItems lit (flatten t)).length = .ok (flatten t) :=
  scan_print_tree cfg lit Pn hlit t ht hnp term

/-- non-vacuity: `1 + (2 * 3)` with a reader for the three literals -/
def rd123 {R : Type} : List Nat → Option (Num R) := fun s =>
  if s = [49] then some (.nat 1) else if s = [50] then some (.nat 2) else if s = [51] then some (.nat 3) else none
def lit123 {R : Type} : Num R → List Nat
  | .nat 1 => [49] | .nat 2 => [50] | .nat 3 => [51] | _ => [48]
def P123 {R : Type} : Num R → Prop := fun n => n = .nat 1 ∨ n = .nat 2 ∨ n = .nat 3
theorem lit123_ok {R : Type} : ∀ n : Num R, P123 n → LitOk rd123 (lit123 n) n := by
  intro n hn
  rcases hn with h | h | h <;> subst h <;>
    exact ⟨by simp [lit123], by intro x hx; simp [lit123] at hx; subst hx; exact ⟨rfl, rfl, by decide⟩,
      by intro x hx; simp [lit123] at hx; subst hx; decide, rfl⟩
example {R : Type} :
    let t : Tree R := .bin .add (.leaf (.num (.nat 1))) (.paren (.bin .mul (.leaf (.num (.nat 2))) (.leaf (.num (.nat 3)))))
    t.pok P123 ∧ (∀ t', t ≠ .paren t') ∧ printItems lit123 (flatten t) = [49, 32, 43, 32, 40, 50, 32, 42, 32, 51, 41] := by
  refine ⟨?_, ?_, ?_⟩
  · simp only [Tree.pok, P123, isBinOp]
    simp
  · intro t' h; cases h
  · simp [flatten, flattenGo, printItems, Operand.print, lit123, Op.symbol]; decide

end Qentem.Props.C04
