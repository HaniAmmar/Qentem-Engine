import Qentem.Proofs.TmplText
import Qentem.Proofs.TmplParseAll
/-!
# C01 — rendering any template text with any value is memory-safe and terminates

Proved here (for every content, every character width — code units are `Nat`).  The complete
statements are `parse_wf` / `render_safe` (safety) and `parse_total` / `render_total` (termination);
what each theorem claims in the terms of the C++ stands above it, except for
* `tables_width_independent` (T1) the Finder word table / tag-pattern constants compiled from the
  current headers are the same for the four widths and are the documented tag words.
* `finder_safe_total`  `Finder::Next` never reads at or beyond `length`, returns an offset
  `≤ length`, reports "no match" only at the end of the content, and every match moves forward.
* `finder_facts`  what a Finder result says about the content (where the match lies, no `}` skipped).
* `parse_text`, `render_text`  content without `{` and `<` parses to no tags without a failing read
  and renders to itself for every value.
`ParseSafe` / `RenderSafe` below are the unconditioned forms of `parse_total` / `render_total`.
-/
namespace Qentem.Props.C01
open Qentem.Tmpl Qentem.Generated.Tmpl Qentem.Expr

theorem tables_width_independent :
    W1.words = [[], [118, 97, 114, 58], [114, 97, 119, 58], [109, 97, 116, 104, 58],
      [115, 118, 97, 114, 58], [105, 102], [108, 111, 111, 112], [47, 108, 111, 111, 112, 62],
      [105, 102], [47, 105, 102, 62], [101, 108, 115, 101]] ∧
    W2.words = W1.words ∧ W4.words = W1.words ∧ WW.words = W1.words ∧
    W1.wordLengths = [1, 3, 3, 4, 4, 1, 3, 5, 1, 3, 3] ∧
    W2.wordLengths = W1.wordLengths ∧ W4.wordLengths = W1.wordLengths ∧ WW.wordLengths = W1.wordLengths ∧
    W1.groups = [[1, 2, 3, 4, 5], [6, 7, 8, 9, 10]] ∧
    W2.groups = W1.groups ∧ W4.groups = W1.groups ∧ WW.groups = W1.groups ∧
    -- every word is one unit longer than its table length (the unit compared first)
    (∀ i, i < 11 → i ≠ 0 → (W1.words.getD i []).length = W1.wordLengths.getD i 0 + 1) ∧
    [W1.inLineFirstChar, W1.multiLineFirstChar, W1.singleChar, W1.multiLineLastChar,
     W1.variableIndexPrefix, W1.variableIndexSuffix, W1.equalChar, W1.spaceChar,
     W1.variablesSeparatorChar] = [123, 60, 125, 62, 91, 93, 61, 32, 44] ∧
    [W2.inLineFirstChar, W2.multiLineFirstChar, W2.singleChar, W2.multiLineLastChar] = [123, 60, 125, 62] ∧
    [W4.inLineFirstChar, W4.multiLineFirstChar, W4.singleChar, W4.multiLineLastChar] = [123, 60, 125, 62] ∧
    [WW.inLineFirstChar, WW.multiLineFirstChar, WW.singleChar, WW.multiLineLastChar] = [123, 60, 125, 62] ∧
    -- match ids are word index + 1
    [W1.lineEndID, W1.variableID, W1.rawVariableID, W1.mathID, W1.superVariableID, W1.inLineIfID,
     W1.loopID, W1.loopEndID, W1.ifID, W1.ifEndID, W1.elseID] = [1, 2, 3, 4, 5, 6, 7, 8, 9, 10, 11] ∧
    -- prefix lengths used for the offset arithmetic
    [W1.variablePrefixLength, W1.rawVariablePrefixLength, W1.mathPrefixLength,
     W1.superVariablePrefixLength, W1.inLineIfPrefixLength, W1.loopPrefixLength,
     W1.loopSuffixLength, W1.ifPrefixLength, W1.ifSuffixLength, W1.elsePrefixLength] =
      [5, 5, 6, 6, 3, 5, 7, 3, 5, 5] := by
  decide +kernel

theorem finder_safe_total (c : List Nat) (off : Nat) (h : off ≤ c.length) :
    ∃ o m, next c off = .ok (o, m) ∧ o ≤ c.length ∧ off ≤ o ∧ (m ≠ 0 → off < o) ∧
      (m = 0 → o = c.length) :=
  next_total c off h

example : next [120, 123, 118, 97, 114, 58, 97, 125] 0 = .ok (6, 2) := by rfl

theorem finder_facts (c : List Nat) (hn : c.length + 16 < 4294967296) (off o m : Nat)
    (hoff : off ≤ c.length) (h : next c off = .ok (o, m)) : NextFacts c off o m :=
  next_facts c hn off o m hoff h

theorem parse_text {R : Type} (cfg : ScanCfg R) (c : List Nat) (h : NoTagStart c) :
    parse cfg c = .ok [] :=
  Qentem.Tmpl.parse_text cfg c h

theorem render_text {R : Type} [RealLike R] (cx : RCtx R) (cfg : ScanCfg R)
    (h : NoTagStart cx.content) (fuel : Nat) :
    (parse cfg cx.content).bind (fun tags => renderTop cx tags (fuel + 1)) = .ok cx.content :=
  Qentem.Tmpl.render_text cx cfg h fuel

example : NoTagStart [104, 105, 32, 125, 62, 38] := by
  intro x hx; simp at hx; rcases hx with h | h | h | h | h | h <;> subst h <;> decide

/-- `expr_scan_safe`: scanning an expression that lies inside a tag (`endO < length`: the unit at
`endO` is the tag's own `}` or closing quote) performs no out-of-range read — every content, every
range, every nesting of parentheses, every number reader. -/
theorem expr_scan_safe {R : Type} (cfg : ScanCfg R) (c : List Nat) (off endO : Nat)
    (he : endO < c.length) : Safe (parseTop cfg c off endO) (fun _ => True) :=
  parseTop_safe cfg c off endO he

/-- `expr_scan_total`: under the same hypothesis the scanner model returns a list — neither a
failed read nor an exhausted fuel; so `expr_scan_safe` and the `Safe` statements built on it are
not vacuous through the model's fuel. -/
theorem expr_scan_total {R : Type} (cfg : ScanCfg R) (c : List Nat) (off endO : Nat)
    (he : endO < c.length) : ∃ items, parseTop cfg c off endO = .ok items :=
  parseTop_total cfg c off endO he

/-- the hypothesis is needed: the public `ParseExpressions("1<", 2)` looks one unit past the
buffer (out of contract: no terminator).  Observed on the real code as an ASan report. -/
example : getOperation [49, 60] 2 10 0 = .error (.oobRead 2 2) := by rfl

/-- `checkLoopVariable` compares the variable text with every enclosing loop's value name by
`IsEqual(var, value, ValueLength)` without looking at the variable's own length.  No read leaves
the content when (a) every value text of the chain lies inside the content and contains neither
`}` nor `>` and (b) a `}` or `>` follows the variable text inside the content — both hold at every
call site (the value text lies in a `<loop …>` tag interior delimited by the Finder and the `>`
search; every variable text is closed by its tag's `}` / `>`); (a) is an invariant of `parse`'s main loop
(`Qentem.Tmpl.GInv.chainOk`). -/
theorem checkLoopVariable_safe (c : List Nat) (varOff : Nat) (chain : List LoopRef)
    (hch : ChainOk c chain) (hstop : ∃ j x, varOff ≤ j ∧ c[j]? = some x ∧ isStop x) :
    Safe (checkLoopVariable c varOff chain) (fun _ => True) :=
  Qentem.Tmpl.checkLoopVariable_safe c varOff chain hch hstop

/-- `render_safe_of_wf`: rendering a well-formed tag tree (`wf`, `Model/Tmpl/WF.lean`: siblings
ordered and disjoint inside their parent's range, every range inside the content, variable names
followed by a unit of the content, loop-bound variables referring to an enclosing loop's level,
inline-if start ids inside the sub-tag list) performs no out-of-range access — no content read past
the end, no negative-length write, no `loops_items_[Level]` or `s_tag + id` beyond the arrays — for
every value, every fuel, every formatter/group/sort, given the bound check of 487b090. -/
theorem render_safe_of_wf {R : Type} [RealLike R] (cx : RCtx R) (hg : cx.guardIndexRead = true)
    (tags : List (Tag R)) (hw : wf cx.content.length tags = true) (fuel : Nat) :
    Safe (renderTop cx tags fuel) (fun _ => True) :=
  Qentem.Tmpl.render_safe_of_wf cx hg tags hw fuel

/-- non-vacuity: the tag tree of `x{var:a}` is well-formed -/
example : wf 8 ([Tag.var ⟨6, 1, 0, 0⟩] : List (Tag Rat)) = true := by decide

/-- the one side condition the code really has: offsets are `SizeT` = 32 bits.  The head room is for the Finder's
`start + wordLength`, computed modulo 2^32 (`tryWords`; consumed by `nextF_eq`, Proofs/TmplFinder.lean): `start` is
at most the content length and a word has at most 5 units after its first, so 6 would do; 16 is a round number.
The Proofs files write the bound out. -/
def FitsSizeT (c : List Nat) : Prop := c.length + 16 < 4294967296

/-- T1 gives the start-id fields of the inline-if record 32 bits: enough for any content -/
theorem FitsSizeT.startIds {c : List Nat} (hn : FitsSizeT c) :
    c.length < 2 ^ bits_InLineIfTag_TrueTagsStartID ∧ c.length < 2 ^ bits_InLineIfTag_FalseTagsStartID := by
  have hT : (2 : Nat) ^ bits_InLineIfTag_TrueTagsStartID = 4294967296 := by decide
  have hF : (2 : Nat) ^ bits_InLineIfTag_FalseTagsStartID = 4294967296 := by decide
  rw [hT, hF]
  have : c.length + 16 < 4294967296 := hn
  omega

/-- **`parse_wf`, complete.**  For EVERY content that fits `SizeT` — any sequence of code units, all
seven tag kinds in any nesting and malformation — and every number reader: the tag scanner (Finder,
attribute scans, `checkLoopVariable`, the expression scanner) makes no out-of-range read, and the
tag tree it returns is well-formed.  Proved against the code with the repairs 0a7719b / bce4ef4
(inline-if start ids not truncated, role-aware sub-tag check): without them the statement is false
(corpus/C01/witnesses-iif-startid.txt).  The general form `Qentem.Tmpl.parse_wf_all` carries the width of
the start-id fields as a hypothesis (`c.length < 2 ^ bits`), discharged here from T1 (32 bits). -/
theorem parse_wf {R : Type} (cfg : ScanCfg R) (c : List Nat) (hn : FitsSizeT c) :
    Safe (parse cfg c) (fun tags => wf c.length tags = true) :=
  Qentem.Tmpl.parse_wf_all cfg c hn hn.startIds.1 hn.startIds.2

theorem parse_wf_ok {R : Type} (cfg : ScanCfg R) (c : List Nat) (hn : FitsSizeT c) (tags : List (Tag R))
    (h : parse cfg c = .ok tags) : wf c.length tags = true := by
  have := parse_wf cfg c hn
  rw [h] at this
  exact this

/-- **`parse` is total** (`ParseSafe` with the size condition): for every
content that fits `SizeT` and every number reader the tag scanner model returns a tag list — no
failed read and no exhausted fuel — and the list is well-formed.  Proofs/TmplParseAll.lean: under the
invariant of the main loop every function of the scanner returns (`Total`: every read is in range,
the inner loops return at fuel 0, the expression scanner inside a tag never exhausts its fuel), and
every step of the main loop moves the Finder forward or ends the scan (`Step`), so `2·n + 4`
iterations suffice. -/
theorem parse_total {R : Type} (cfg : ScanCfg R) (c : List Nat) (hn : FitsSizeT c) :
    ∃ tags, parse cfg c = .ok tags ∧ wf c.length tags = true :=
  Qentem.Tmpl.parse_total cfg c hn hn.startIds.1 hn.startIds.2

/-- Statement without the size condition (`parse_total` is the
proved form: contents that do not fit `SizeT` are outside the code's contract). -/
def ParseSafe : Prop :=
  ∀ (R : Type) (cfg : ScanCfg R) (c : List Nat), ∃ tags, parse cfg c = .ok tags

/-- **C01's safety statement, complete**: parsing any content that fits `SizeT` and rendering the
result with any value, formatter, escape switch, sort and group function makes no out-of-range
access (content reads, tag-array indexing, loop-item indexing).  (`guardIndexRead`: the repair
487b090 of `getValue`.) -/
theorem render_safe {R : Type} [RealLike R] (cx : RCtx R) (hg : cx.guardIndexRead = true)
    (cfg : ScanCfg R) (hn : FitsSizeT cx.content) (fuel : Nat) :
    Safe ((parse cfg cx.content).bind (fun tags => renderTop cx tags fuel)) (fun _ => True) :=
  Qentem.Tmpl.render_safe_all cx hg cfg hn hn.startIds.1 hn.startIds.2 fuel

/-- non-vacuity of the side condition -/
example : FitsSizeT ("{if case=\"1\" true=\"{var:a}\"}{svar:s, {raw:b}}<loop value='v'>{math:{var:v}}".toList.map Char.toNat) := by
  -- the literal read as `String.ofList […]`: spares the kernel the UTF-8 decoding behind `toList`
  rw [String.toList_ofList]; unfold FitsSizeT; decide +kernel

/-- **rendering is total** (`RenderSafe` with the two conditions of
`render_safe`): for every content that fits `SizeT`, every value, formatter, sort and group function
`parse` returns a tag list and some fuel makes `renderTop` return a text.  Proofs/TmplRenderSafe.lean:
`renderTop_runs` (for a well-formed tag list there is one text that `renderTop` returns with every
amount of fuel that does not run out, and it fails in no other way: induction on the size of the
list, over the items of each loop, the units of each phrase, the cases of each `<if>`). -/
theorem render_total {R : Type} [RealLike R] (cx : RCtx R) (hg : cx.guardIndexRead = true)
    (cfg : ScanCfg R) (hn : FitsSizeT cx.content) :
    ∃ tags fuel out, parse cfg cx.content = .ok tags ∧ renderTop cx tags fuel = .ok out := by
  obtain ⟨tags, hp, hw⟩ := parse_total cfg cx.content hn
  obtain ⟨fuel, out, ho, _⟩ := (Qentem.Tmpl.renderTop_runs cx hg tags hw).total
  exact ⟨tags, fuel, out, hp, ho⟩

/-- `render_total` without its conditions.  Not open but refuted: without the bound check of 487b090
(`guardIndexRead = true`) a member name like `a]` in `{var:a]}` makes `getValuePath` read past the end, for every
fuel (see the head of Proofs/TmplRenderSafe.lean). -/
def RenderSafe : Prop :=
  ∀ (R : Type) [RealLike R] (cx : RCtx R) (cfg : ScanCfg R) (tags : List (Tag R)),
    parse cfg cx.content = .ok tags → ∃ fuel out, renderTop cx tags fuel = .ok out

/-! ## Sub-languages

`parse_wf` / `parse_total` / `render_safe` restated for four classes of contents in which the Finder reports
only some of the tag kinds.  They are corollaries: the class hypothesis is not used, the general theorems hold of
every content.  The hypotheses have decidable forms (`onlyVarRawB`, `onlyUpToB`, `onlyLoopsB`, `onlyBlocksB`),
evaluated below on one content each. -/

/-- `parse_total` restated for var / raw contents (`OnlyVarRaw`: from no offset the Finder reports anything but `}`,
`{var:` or `{raw:`); the hypothesis names the class and is not used. -/
theorem parse_wf_varraw {R : Type} (cfg : ScanCfg R) (c : List Nat)
    (hn : c.length + 16 < 4294967296) (h : OnlyVarRaw c) :
    ∃ tags, parse cfg c = .ok tags ∧ wf c.length tags = true :=
  parse_total cfg c hn

/-- `render_safe` restated for the same class; the hypothesis names the class and is not used. -/
theorem render_safe_varraw {R : Type} [RealLike R] (cx : RCtx R) (hg : cx.guardIndexRead = true)
    (cfg : ScanCfg R) (hn : cx.content.length + 16 < 4294967296) (h : OnlyVarRaw cx.content)
    (fuel : Nat) :
    Safe ((parse cfg cx.content).bind (fun tags => renderTop cx tags fuel)) (fun _ => True) :=
  render_safe cx hg cfg hn fuel

/-- non-vacuity: `x{var:a}}{raw:b[0]}` satisfies the hypothesis -/
example : OnlyVarRaw ("x{var:a}}{raw:b[0]}".toList.map Char.toNat) :=
  onlyVarRaw_of_check _ (by rw [String.toList_ofList]; decide +kernel)

/-- `parse_wf` restated for var / raw / math contents (`OnlyUpTo 4`: from no offset the Finder reports a match
above `{math:`); the hypothesis names the class and is not used. -/
theorem parse_wf_inline {R : Type} (cfg : ScanCfg R) (c : List Nat)
    (hn : c.length + 16 < 4294967296) (h : OnlyUpTo 4 c) :
    Safe (parse cfg c) (fun tags => wf c.length tags = true) :=
  parse_wf cfg c hn

/-- `render_safe` restated for the same class; the hypothesis names the class and is not used. -/
theorem render_safe_inline {R : Type} [RealLike R] (cx : RCtx R) (hg : cx.guardIndexRead = true)
    (cfg : ScanCfg R) (hn : cx.content.length + 16 < 4294967296) (h : OnlyUpTo 4 cx.content)
    (fuel : Nat) :
    Safe ((parse cfg cx.content).bind (fun tags => renderTop cx tags fuel)) (fun _ => True) :=
  render_safe cx hg cfg hn fuel

/-- non-vacuity: `{math:({var:a}+1)*2}}{var:b}` satisfies the hypothesis -/
example : OnlyUpTo 4 ("{math:({var:a}+1)*2}}{var:b}".toList.map Char.toNat) :=
  onlyUpTo_of_check 4 _ (by rw [String.toList_ofList]; decide +kernel)

/-- `parse_wf` restated for contents with loops (`OnlyLoops`: from no offset the Finder reports anything but `}`,
`{var:`, `{raw:`, `{math:`, `<loop`, `</loop>`); the hypothesis names the class and is not used. -/
theorem parse_wf_loops {R : Type} (cfg : ScanCfg R) (c : List Nat)
    (hn : c.length + 16 < 4294967296) (h : OnlyLoops c) :
    Safe (parse cfg c) (fun tags => wf c.length tags = true) :=
  parse_wf cfg c hn

/-- `render_safe` restated for the same class; the hypothesis names the class and is not used. -/
theorem render_safe_loops {R : Type} [RealLike R] (cx : RCtx R) (hg : cx.guardIndexRead = true)
    (cfg : ScanCfg R) (hn : cx.content.length + 16 < 4294967296) (h : OnlyLoops cx.content)
    (fuel : Nat) :
    Safe ((parse cfg cx.content).bind (fun tags => renderTop cx tags fuel)) (fun _ => True) :=
  render_safe cx hg cfg hn fuel

set_option maxRecDepth 20000 in
/-- non-vacuity: a loop with a loop-bound variable, a stray `</loop>` and an unclosed loop -/
example : OnlyLoops ("<loop value='v'>{var:v}</loop></loop><loop>{math:1}".toList.map Char.toNat) :=
  onlyLoops_of_check _ (by rw [String.toList_ofList]; decide +kernel)

/-- `parse_wf` restated for contents with loops and multi-line if (`OnlyBlocks`: from no offset the Finder reports
`{svar:` or the inline `{if`); the hypothesis names the class and is not used. -/
theorem parse_wf_blocks {R : Type} (cfg : ScanCfg R) (c : List Nat)
    (hn : c.length + 16 < 4294967296) (h : OnlyBlocks c) :
    Safe (parse cfg c) (fun tags => wf c.length tags = true) :=
  parse_wf cfg c hn

/-- `render_safe` restated for the same class; the hypothesis names the class and is not used. -/
theorem render_safe_blocks {R : Type} [RealLike R] (cx : RCtx R) (hg : cx.guardIndexRead = true)
    (cfg : ScanCfg R) (hn : cx.content.length + 16 < 4294967296) (h : OnlyBlocks cx.content)
    (fuel : Nat) :
    Safe ((parse cfg cx.content).bind (fun tags => renderTop cx tags fuel)) (fun _ => True) :=
  render_safe cx hg cfg hn fuel

set_option maxRecDepth 20000 in
/-- non-vacuity: if / elseif / else inside a loop, a stray `<else>` -/
example : OnlyBlocks ("<loop value='v'><if case='{var:v}'>a<elseif case='1'>b<else>c</if></loop><else>".toList.map Char.toNat) :=
  onlyBlocks_of_check _ (by rw [String.toList_ofList]; decide +kernel)

end Qentem.Props.C01
