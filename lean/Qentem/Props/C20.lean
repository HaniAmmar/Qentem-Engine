import Qentem.Proofs.UnicodeEncode
import Qentem.Proofs.UnicodeUnEscape
import Qentem.Generated.Unicode
/-!
C20 — code points encode to standard UTF-8/16/32 and `\u` escapes decode to them.

Every theorem quantifies over all Unicode scalar values (`isScalar cp`: `cp < 0x110000` and not
in D800..DFFF) and is proved symbolically (range split + `omega`), not by enumeration.
-/
namespace Qentem.Props.C20
open Qentem.Unicode

/-- The standard decoder reads back the code point from what `ToUTF<char>` emitted, whatever
follows.  Because `utf8Decode` accepts only the well-formed sequences of Table 3-7, this also
says the output is never overlong, never a surrogate encoding. -/
theorem utf8_decode_encode_append (cp : Nat) (h : isScalar cp) (r : List Nat) :
    utf8Decode (toUTF8 cp ++ r) = (utf8Decode r).map (cp :: ·) := by
  obtain ⟨h1, h2⟩ := h
  rw [toUTF8_arith cp (by omega)]
  by_cases c1 : cp < 0x80
  · rw [if_pos c1, List.singleton_append, utf8Decode_1 _ _ c1]
  rw [if_neg c1]
  by_cases c2 : cp < 0x800
  · rw [if_pos c2, List.cons_append, List.singleton_append, utf8Decode_2 _ _ _ (by omega) (by omega),
      Nat.add_sub_cancel_left, Nat.add_sub_cancel_left, base64_2]
  rw [if_neg c2]
  by_cases c3 : cp < 0x10000
  · rw [if_pos c3, List.cons_append, List.cons_append, List.singleton_append,
      utf8Decode_3 _ _ _ _ (by omega) (by omega) (by omega) (by omega) (by omega),
      Nat.add_sub_cancel_left, Nat.add_sub_cancel_left, Nat.add_sub_cancel_left, base64_3]
  · rw [if_neg c3, List.cons_append, List.cons_append, List.cons_append, List.singleton_append,
      utf8Decode_4 _ _ _ _ _ (by omega) (by omega) (by omega) (by omega) (by omega) (by omega),
      Nat.add_sub_cancel_left, Nat.add_sub_cancel_left, Nat.add_sub_cancel_left, Nat.add_sub_cancel_left, base64_4]

/-- Shortest form: the number of bytes is the one the standard assigns to the range of `cp`. -/
theorem utf8_shortest_form (cp : Nat) :
    (toUTF8 cp).length = if cp < 0x80 then 1 else if cp < 0x800 then 2 else if cp < 0x10000 then 3 else 4 := by
  simp only [toUTF8, apply_ite List.length, List.length_cons, List.length_nil]

/-- `ToUTF<char>` agrees with Lean core's own UTF-8 encoder on every `Char` (= every scalar value). -/
theorem toUTF8_eq_core (c : Char) : toUTF8 c.toNat = (String.utf8EncodeChar c).map UInt8.toNat := by
  have hv : c.toNat < 0xd800 ∨ (0xdfff < c.toNat ∧ c.toNat < 0x110000) := c.valid
  rw [toUTF8_arith _ (by omega)]
  unfold String.utf8EncodeChar
  have e : c.val.toNat = c.toNat := rfl
  simp only [e]
  generalize c.toNat = u at hv
  by_cases c1 : u < 0x80
  · rw [if_pos c1, if_pos (show u ≤ 127 by omega), List.map_cons, List.map_nil, toNat_ofNat_of_lt _ (by omega)]
  rw [if_neg c1, if_neg (show ¬ u ≤ 127 by omega)]
  by_cases c2 : u < 0x800
  · rw [if_pos c2, if_pos (show u ≤ 2047 by omega), List.map_cons, List.map_cons, List.map_nil, toNat_ofNat_of_lt _ (by omega),
      toNat_ofNat_of_lt _ (by omega), Nat.mod_eq_of_lt (by omega : u / 64 < 0x20), Nat.add_comm, Nat.add_comm (u % 64)]
  rw [if_neg c2, if_neg (show ¬ u ≤ 2047 by omega)]
  by_cases c3 : u < 0x10000
  · rw [if_pos c3, if_pos (show u ≤ 65535 by omega), List.map_cons, List.map_cons, List.map_cons, List.map_nil,
      toNat_ofNat_of_lt _ (by omega), toNat_ofNat_of_lt _ (by omega), toNat_ofNat_of_lt _ (by omega),
      Nat.mod_eq_of_lt (by omega : u / 4096 < 0x10), Nat.add_comm, Nat.add_comm (u / 64 % 64), Nat.add_comm (u % 64)]
  · rw [if_neg c3, if_neg (show ¬ u ≤ 65535 by omega), List.map_cons, List.map_cons, List.map_cons, List.map_cons, List.map_nil,
      toNat_ofNat_of_lt _ (by omega), toNat_ofNat_of_lt _ (by omega), toNat_ofNat_of_lt _ (by omega),
      toNat_ofNat_of_lt _ (by omega),
      Nat.mod_eq_of_lt (by omega : u / 262144 < 0x08), Nat.add_comm, Nat.add_comm (u / 4096 % 64),
      Nat.add_comm (u / 64 % 64), Nat.add_comm (u % 64)]

theorem toUTF8_eq_core_nat (cp : Nat) (h : isScalar cp) :
    toUTF8 cp = (String.utf8EncodeChar (Char.ofNat cp)).map UInt8.toNat := by
  have hv : cp.isValidChar := by unfold Nat.isValidChar; unfold isScalar at h; omega
  rw [← toUTF8_eq_core, char_ofNat_toNat cp hv]

theorem utf16_decode_encode_append (cp : Nat) (h : isScalar cp) (r : List Nat) :
    utf16Decode (toUTF16 cp ++ r) = (utf16Decode r).map (cp :: ·) := by
  obtain ⟨h1, h2⟩ := h
  rw [toUTF16_arith cp h1]
  by_cases c : cp < 0x10000
  · rw [if_pos c, List.singleton_append, utf16Decode_1 _ _ (by omega)]
  · rw [if_neg c, List.cons_append, List.singleton_append, utf16Decode_2 _ _ _ (by omega) (by omega)]
    exact map_cons_congr _ _ (by omega) _

theorem utf16_length (cp : Nat) : (toUTF16 cp).length = if cp < 0x10000 then 1 else 2 := by
  simp only [toUTF16, apply_ite List.length, List.length_cons, List.length_nil]

/-- UTF-32: the unit is the code point (for every 32-bit value, scalar or not). -/
theorem utf32_encode (cp : Nat) (h : cp < 2 ^ 32) : toUTF32 cp = [cp] := by
  rw [toUTF32, Nat.mod_eq_of_lt h]

theorem utf32_decode_encode_append (cp : Nat) (h : isScalar cp) (r : List Nat) :
    utf32Decode (toUTF32 cp ++ r) = (utf32Decode r).map (cp :: ·) := by
  rw [utf32_encode cp (by unfold isScalar at h; omega), List.singleton_append, utf32Decode, if_pos h]

theorem toUTF_decode_append (w cp : Nat) (h : isScalar cp) (r : List Nat) :
    utfDecode w (toUTF w cp ++ r) = (utfDecode w r).map (cp :: ·) := by
  unfold utfDecode toUTF
  by_cases h1 : w = 1
  · rw [if_pos h1, if_pos h1, if_pos h1]; exact utf8_decode_encode_append cp h r
  rw [if_neg h1, if_neg h1, if_neg h1]
  by_cases h2 : w = 2
  · rw [if_pos h2, if_pos h2, if_pos h2]; exact utf16_decode_encode_append cp h r
  · rw [if_neg h2, if_neg h2, if_neg h2]; exact utf32_decode_encode_append cp h r

/-- A decoder that reads one encoded scalar back in front of anything reads a whole text back. -/
theorem decode_flatMap (dec : List Nat → Option (List Nat)) (enc : Nat → List Nat) (hnil : dec [] = some [])
    (happ : ∀ cp, isScalar cp → ∀ r, dec (enc cp ++ r) = (dec r).map (cp :: ·))
    (l : List Nat) (h : ∀ cp ∈ l, isScalar cp) : dec (l.flatMap enc) = some l := by
  induction l with
  | nil => exact hnil
  | cons a t ih =>
    rw [List.flatMap_cons, happ a (h a List.mem_cons_self), ih (fun cp hc => h cp (List.mem_cons_of_mem _ hc))]
    rfl

theorem utfDecode_nil (w : Nat) : utfDecode w [] = some [] := by
  unfold utfDecode
  by_cases h1 : w = 1
  · rw [if_pos h1]; rfl
  rw [if_neg h1]
  by_cases h2 : w = 2
  · rw [if_pos h2]; rfl
  · rw [if_neg h2]; rfl

theorem utf8_decode_encode (cp : Nat) (h : isScalar cp) : utf8Decode (toUTF8 cp) = some [cp] := by
  have := utf8_decode_encode_append cp h []
  rwa [List.append_nil] at this

theorem utf16_decode_encode (cp : Nat) (h : isScalar cp) : utf16Decode (toUTF16 cp) = some [cp] := by
  have := utf16_decode_encode_append cp h []
  rwa [List.append_nil] at this

theorem utf32_decode_encode (cp : Nat) (h : isScalar cp) : utf32Decode (toUTF32 cp) = some [cp] := by
  have := utf32_decode_encode_append cp h []
  rwa [List.append_nil] at this

theorem toUTF_decode (w : Nat) (cp : Nat) (h : isScalar cp) : utfDecode w (toUTF w cp) = some [cp] := by
  have := toUTF_decode_append w cp h []
  rwa [List.append_nil, utfDecode_nil] at this

theorem utf8_decode_encode_list (l : List Nat) (h : ∀ cp ∈ l, isScalar cp) :
    utf8Decode (l.flatMap toUTF8) = some l :=
  decode_flatMap utf8Decode toUTF8 rfl utf8_decode_encode_append l h

theorem utf16_decode_encode_list (l : List Nat) (h : ∀ cp ∈ l, isScalar cp) :
    utf16Decode (l.flatMap toUTF16) = some l :=
  decode_flatMap utf16Decode toUTF16 rfl utf16_decode_encode_append l h

theorem utf32_decode_encode_list (l : List Nat) (h : ∀ cp ∈ l, isScalar cp) :
    utf32Decode (l.flatMap toUTF32) = some l :=
  decode_flatMap utf32Decode toUTF32 rfl utf32_decode_encode_append l h

theorem toUTF_decode_list (w : Nat) (l : List Nat) (h : ∀ cp ∈ l, isScalar cp) :
    utfDecode w (l.flatMap (toUTF w)) = some l :=
  decode_flatMap (utfDecode w) (toUTF w) (utfDecode_nil w) (toUTF_decode_append w) l h

/-! Non-vacuity: U+1F600, U+20AC, U+00E9 and the boundaries are scalar; their encodings. -/
example : isScalar 0x1F600 ∧ toUTF8 0x1F600 = [0xF0, 0x9F, 0x98, 0x80] ∧ toUTF16 0x1F600 = [0xD83D, 0xDE00] := by decide
example : isScalar 0x20AC ∧ toUTF8 0x20AC = [0xE2, 0x82, 0xAC] ∧ isScalar 0xE9 ∧ toUTF8 0xE9 = [0xC3, 0xA9] := by decide
example : isScalar 0xD7FF ∧ isScalar 0xE000 ∧ isScalar 0x10FFFF ∧ ¬ isScalar 0xD800 ∧ ¬ isScalar 0xDFFF ∧ ¬ isScalar 0x110000 := by decide
/-- The decoders are strict (so the theorems above are not satisfied by a permissive decoder):
overlong, surrogate, out-of-range and truncated sequences are rejected. -/
example : utf8Decode [0xC0, 0x80] = none ∧ utf8Decode [0xE0, 0x80, 0x80] = none ∧ utf8Decode [0xED, 0xA0, 0x80] = none ∧
    utf8Decode [0xF4, 0x90, 0x80, 0x80] = none ∧ utf8Decode [0xE2, 0x82] = none ∧ utf16Decode [0xD800] = none ∧
    utf16Decode [0xDC00, 0xD800] = none := by decide

/-- Four hex digits, each in either case (`hexVal?` accepts `0-9`, `A-F`, `a-f`), have the
positional value Σ 16^i·dᵢ under the fold `HexStringToNumber` performs. -/
theorem hex4_value (a b x d va vb vx vd : Nat) (ha : hexVal? a = some va) (hb : hexVal? b = some vb)
    (hx : hexVal? x = some vx) (hd : hexVal? d = some vd) :
    hexFold [a, b, x, d] 0 = va * 4096 + vb * 256 + vx * 16 + vd :=
  hexFold_four a b x d va vb vx vd ha hb hx hd

/-- Writing `v` as four upper-case or four lower-case digits and reading it back gives `v`. -/
theorem hex4_roundtrip (up : Bool) (v : Nat) (h : v < 0x10000) : hexFold (hex4 up v) 0 = v :=
  hexFold_hex4 up v h

/-- The cursor routine (checked reads) on a buffer that holds the four digits at `pre.length`. -/
theorem hexToNumber_hex4 (up : Bool) (v : Nat) (h : v < 0x10000) (pre post : List Nat) :
    hexToNumber (pre ++ hex4 up v ++ post) pre.length = some v := by
  have e : ((pre ++ hex4 up v ++ post).take (pre ++ hex4 up v ++ post).length).drop pre.length =
      hexChar up (v / 4096 % 16) :: hexChar up (v / 256 % 16) :: hexChar up (v / 16 % 16) :: hexChar up (v % 16) :: post := by
    rw [List.take_length]; simp [hex4]
  rw [hexToNumber_eq _ _ _ _ _ _ _ _ e]
  exact congrArg some (hexFold_hex4 up v h)

/-- The 32-bit loop used by `UnEscape` is the width-generic loop at `2^32`. -/
theorem hexLoopW_is_hexLoop (c : List Nat) (n off num : Nat) : hexLoopW 4294967296 c n off num = hexLoop c n off num :=
  hexLoopW_eq_hexLoop c n off num

/-- `HexStringToNumber<Number_T>(value, offset&, end)` for a `Number_T` of `k` bits: on a run of hex
digits (any case mixture) that fits (`16^|ds| ≤ 2^k`) inside a buffer, the result is the positional
value and the cursor ends behind the run. -/
theorem hex_value_any_width (k : Nat) (c ds : List Nat) (off : Nat)
    (hbuf : ∀ i, i < ds.length → c[off + i]? = ds[i]?) (hd : ∀ d ∈ ds, (hexVal? d).isSome) (hfit : 16 ^ ds.length ≤ 2 ^ k) :
    hexLoopW (2 ^ k) c ds.length off 0 = some (hexValue ds 0, off + ds.length) :=
  hexLoopW_value k c ds off 0 hbuf hd (by simpa using hfit)

example : hexLoopW (2 ^ 64) [48, 120, 70, 102, 49, 71] 4 2 0 = some (0xFF1, 5) ∧ hexValue [70, 102, 49] 0 = 0xFF1 := by decide

/-- The combination the routine computes for a pair is the standard one. -/
theorem surrogate_pair (hi lo : Nat) (hh : 0xD800 ≤ hi ∧ hi ≤ 0xDBFF) (hl : 0xDC00 ≤ lo ∧ lo ≤ 0xDFFF) :
    (((((hi ^^^ 0xD800) <<< 10) % 4294967296 + (lo &&& 0x3FF)) % 4294967296) + 0x10000) % 4294967296 =
      0x10000 + (hi - 0xD800) * 0x400 + (lo - 0xDC00) :=
  pair_arith hi lo hh hl

/-- The routine's surrogate test selects exactly D800..DBFF among 16-bit values. -/
theorem high_surrogate_test (x : Nat) (h : x < 0x10000) : x &&& 0xFC00 = 0xD800 ↔ (0xD800 ≤ x ∧ x ≤ 0xDBFF) :=
  isHigh_iff x h

/-- Memory safety and termination of the cursor model: with `length ≤ |buffer|` no read is out
of range and the fuel `length + 1` is never exhausted. -/
theorem unEscape_never_faults (w : Nat) (c : List Nat) (len : Nat) (st : List Nat) (hlen : len ≤ c.length) :
    unEscapeA w c len st ≠ none := by
  rw [unEscapeA_eq_B w c len st hlen]; simp

/-- The returned count never exceeds the length argument. -/
theorem unEscape_ret_le (w : Nat) (c : List Nat) (len : Nat) (st s : List Nat) (r : Nat)
    (hlen : len ≤ c.length) (h : unEscapeA w c len st = some (s, r)) : r ≤ len :=
  unEscapeA_ret_le w c len st s r hlen h

/-- The cursor model (what the driver runs against the C++) is the suffix recursion. -/
theorem unEscapeA_eq_suffix_model (w : Nat) (c : List Nat) (len : Nat) (st : List Nat) (hlen : len ≤ c.length) :
    unEscapeA w c len st = some (unEscapeB w (c.take len) [] st 0) :=
  unEscapeA_eq_B w c len st hlen

/-- One `\uXXXX` / `\UXXXX` with digits in any mixture of cases, naming a value that is not a
high surrogate, between plain text: the text comes out with the encoded value in its place and
the whole input (closing quote included) is consumed. -/
theorem unescape_u_digits_in_context (w e a b x d va vb vx vd : Nat) (pre post : List Nat)
    (hpre : ∀ c ∈ pre, isPlain c = true) (hpost : ∀ c ∈ post, isPlain c = true) (he : e = 85 ∨ e = 117)
    (ha : hexVal? a = some va) (hb : hexVal? b = some vb) (hx : hexVal? x = some vx) (hd : hexVal? d = some vd)
    (hnh : ¬ (0xD800 ≤ va * 4096 + vb * 256 + vx * 16 + vd ∧ va * 4096 + vb * 256 + vx * 16 + vd ≤ 0xDBFF)) :
    unEscape (pre ++ [92, e, a, b, x, d] ++ post ++ [34]) w =
      some (pre ++ toUTF w (va * 4096 + vb * 256 + vx * 16 + vd) ++ post, pre.length + 6 + post.length + 1) := by
  have hv := hexFold_four a b x d va vb vx vd ha hb hx hd
  have la := hexVal?_lt ha; have lb := hexVal?_lt hb; have lx := hexVal?_lt hx; have ld := hexVal?_lt hd
  have hc : hexFold [a, b, x, d] 0 &&& 0xFC00 ≠ 0xD800 := by
    rw [hv]; intro h; exact hnh ((isHigh_iff _ (by omega)).1 h)
  have : unEscapeB w (pre ++ ([92, e, a, b, x, d] ++ (post ++ [34]))) [] [] 0 =
      (pre ++ toUTF w (hexFold [a, b, x, d] 0) ++ post, pre.length + 6 + post.length + 1) :=
    unEscapeB_ctx w (.u e a b x d) (by simp [Tok.ok, he, hc]) rfl pre post hpre hpost
  rw [unEscape_eq_B, List.append_assoc, List.append_assoc, this, hv]

/-- A surrogate pair, digits in any mixture of cases. -/
theorem unescape_pair_digits_in_context (w e e2 a b x d a2 b2 x2 d2 va vb vx vd va2 vb2 vx2 vd2 : Nat)
    (pre post : List Nat) (hpre : ∀ c ∈ pre, isPlain c = true) (hpost : ∀ c ∈ post, isPlain c = true)
    (he : e = 85 ∨ e = 117)
    (ha : hexVal? a = some va) (hb : hexVal? b = some vb) (hx : hexVal? x = some vx) (hd : hexVal? d = some vd)
    (ha2 : hexVal? a2 = some va2) (hb2 : hexVal? b2 = some vb2) (hx2 : hexVal? x2 = some vx2) (hd2 : hexVal? d2 = some vd2)
    (hh : 0xD800 ≤ va * 4096 + vb * 256 + vx * 16 + vd ∧ va * 4096 + vb * 256 + vx * 16 + vd ≤ 0xDBFF)
    (hl : 0xDC00 ≤ va2 * 4096 + vb2 * 256 + vx2 * 16 + vd2 ∧ va2 * 4096 + vb2 * 256 + vx2 * 16 + vd2 ≤ 0xDFFF) :
    unEscape (pre ++ [92, e, a, b, x, d] ++ [92, e2, a2, b2, x2, d2] ++ post ++ [34]) w =
      some (pre ++ toUTF w (0x10000 + (va * 4096 + vb * 256 + vx * 16 + vd - 0xD800) * 0x400 +
              (va2 * 4096 + vb2 * 256 + vx2 * 16 + vd2 - 0xDC00)) ++ post,
            pre.length + 12 + post.length + 1) := by
  have hv := hexFold_four a b x d va vb vx vd ha hb hx hd
  have hv2 := hexFold_four a2 b2 x2 d2 va2 vb2 vx2 vd2 ha2 hb2 hx2 hd2
  have hc : hexFold [a, b, x, d] 0 &&& 0xFC00 = 0xD800 := by
    rw [hv]; exact (isHigh_iff _ (by omega)).2 hh
  have : unEscapeB w (pre ++ ([92, e, a, b, x, d] ++ ([92, e2, a2, b2, x2, d2] ++ (post ++ [34])))) [] [] 0 =
      (pre ++ toUTF w (pairCode (hexFold [a, b, x, d] 0) (hexFold [a2, b2, x2, d2] 0)) ++ post,
        pre.length + 12 + post.length + 1) :=
    unEscapeB_ctx w (.pair e a b x d 92 e2 a2 b2 x2 d2) (by simp [Tok.ok, he, hc]) rfl pre post hpre hpost
  rw [unEscape_eq_B, List.append_assoc, List.append_assoc, List.append_assoc, this, hv, hv2, pairCode, pair_arith _ _ hh hl]

/-- For every scalar value `cp`, written per RFC 8259 §7 as one
escape (BMP) or as its surrogate pair (supplementary planes), with `\u` or `\U`, upper- or
lower-case digits, between any plain text `pre` / `post` and closed by a quote: the routine
returns `pre ++ toUTF w cp ++ post` and consumes the whole input. -/
theorem unescape_u_in_context (w : Nat) (pre post : List Nat) (hpre : ∀ c ∈ pre, isPlain c = true)
    (hpost : ∀ c ∈ post, isPlain c = true) (cp : Nat) (h : isScalar cp) (bigU up : Bool) :
    unEscape (pre ++ jsonEscape bigU up cp ++ post ++ [34]) w =
      some (pre ++ toUTF w cp ++ post, (pre ++ jsonEscape bigU up cp ++ post ++ [34]).length) := by
  have ht := Item.toTok_ok_out w (.esc cp bigU up) h
  have := unEscapeB_ctx w _ ht.1 (Item.toTok_plain (.esc cp bigU up)) pre post hpre hpost
  rw [ht.2, Item.toTok_src] at this
  rw [unEscape_eq_B, List.append_assoc, List.append_assoc, show jsonEscape bigU up cp = (Item.esc cp bigU up).src from rfl, this]
  simp only [Item.out, List.length_append, List.length_cons, List.length_nil, Nat.add_assoc]

/-- …and the standard decoder reads `cp` back from the un-escaped escape itself. -/
theorem unescape_u_decodes (w : Nat) (cp : Nat) (h : isScalar cp) (bigU up : Bool) :
    ∃ out n, unEscape (jsonEscape bigU up cp ++ [34]) w = some (out, n) ∧ utfDecode w out = some [cp] := by
  have := unescape_u_in_context w [] [] (by simp) (by simp) cp h bigU up
  simp only [List.nil_append, List.append_nil] at this
  exact ⟨_, _, this, toUTF_decode w cp h⟩

/-- **Whole strings (as the routine accepts them).** For every sequence of accepted tokens —
plain units, the eight two-character escapes, `\u`/`\U` + four units whose value is not a high
surrogate, or a high surrogate escape + two ignored units + four units — followed by a quote
and anything else: each token is replaced by its output and `|body| + 1` units are consumed.
When no escape occurs the (empty) stream is left empty: the caller uses the input span. -/
theorem unescape_tokens (w : Nat) (ts : List Tok) (h : ∀ t ∈ ts, t.ok = true) (rest : List Nat) :
    unEscape (ts.flatMap Tok.src ++ 34 :: rest) w =
      some (if ts.all Tok.isPlainTok then [] else ts.flatMap (Tok.out w), (ts.flatMap Tok.src).length + 1) := by
  rw [unEscape_eq_B, unEscapeB_string w ts h rest]

theorem unescape_tokens_eoi (w : Nat) (ts : List Tok) (h : ∀ t ∈ ts, t.ok = true) :
    unEscape (ts.flatMap Tok.src) w =
      some (if ts.all Tok.isPlainTok then [] else ts.flatMap (Tok.out w), (ts.flatMap Tok.src).length) := by
  rw [unEscape_eq_B, unEscapeB_string_eoi w ts h]

/-- **Any text with any number of escapes.** `items` is a text whose elements are plain units or
scalar values to be written as RFC 8259 `\u` escapes (surrogate pairs above U+FFFF; `\u`/`\U`
and the hex case chosen per item).  Un-escaping the written string gives the text with every
escaped scalar replaced by its UTF-`8w` encoding. -/
theorem unescape_text (w : Nat) (items : List Item) (h : ∀ i ∈ items, i.ok) (rest : List Nat) :
    unEscape (items.flatMap Item.src ++ 34 :: rest) w =
      some (if items.all Item.isUnit then [] else items.flatMap (Item.out w), (items.flatMap Item.src).length + 1) := by
  have hok : ∀ t ∈ items.map Item.toTok, t.ok = true := by
    intro t ht
    obtain ⟨i, hi, rfl⟩ := List.mem_map.1 ht
    exact (Item.toTok_ok_out w i (h i hi)).1
  have := unescape_tokens w (items.map Item.toTok) hok rest
  rw [flatMap_toTok_src, flatMap_toTok_out w items h, all_toTok_plain] at this
  exact this

/-- The code point an item stands for. -/
def itemCp : Item → Nat
  | .unit c => c
  | .esc cp _ _ => cp

/-- **End to end.** A text of ASCII plain units and escaped scalar values (at least one escape),
written as a JSON string body, un-escaped by the routine and then read by the standard
decoder of the target width, is the text. -/
theorem unescape_text_decodes (w : Nat) (items : List Item) (rest : List Nat)
    (h : ∀ i ∈ items, match i with | .unit c => isPlain c = true ∧ c < 0x80 | .esc cp _ _ => isScalar cp)
    (hesc : items.all Item.isUnit = false) :
    ∃ out n, unEscape (items.flatMap Item.src ++ 34 :: rest) w = some (out, n) ∧
      utfDecode w out = some (items.map itemCp) := by
  have hok : ∀ i ∈ items, i.ok := by
    intro i hi; have := h i hi
    cases i with
    | unit c => exact this.1
    | esc cp b u => exact this
  refine ⟨_, _, unescape_text w items hok rest, ?_⟩
  rw [hesc]
  have hout : ∀ i ∈ items, Item.out w i = toUTF w (itemCp i) := by
    intro i hi; have := h i hi
    cases i with
    | unit c =>
      obtain ⟨_, hc⟩ := this
      show [c] = toUTF w c
      exact (toUTF_ascii w c hc).symm
    | esc cp b u => rfl
  have hsc : ∀ cp ∈ items.map itemCp, isScalar cp := by
    intro cp hcp
    obtain ⟨i, hi, rfl⟩ := List.mem_map.1 hcp
    have := h i hi
    cases i with
    | unit c => unfold isScalar; simp only [itemCp]; omega
    | esc cp b u => exact this
  have e : items.flatMap (Item.out w) = (items.map itemCp).flatMap (toUTF w) := by
    rw [List.flatMap_map]
    exact flatMap_congr_mem _ _ _ hout
  simp only [Bool.false_eq_true, if_false]
  rw [e]
  exact toUTF_decode_list w _ hsc

example : unEscape ((([Item.unit 97, .esc 0x1F600 false true, .unit 98, .esc 0xE9 true false] : List Item).flatMap Item.src) ++ [34, 120]) 1 =
    some ([97, 0xF0, 0x9F, 0x98, 0x80, 98, 0xC3, 0xA9], 21) := by decide

/-! Non-vacuity and concrete runs of the cursor model (the closed terms are evaluated by the kernel). -/
example : unEscape ([97] ++ jsonEscape false true 0x20AC ++ [98] ++ [34]) 1 = some ([97, 0xE2, 0x82, 0xAC, 98], 9) := by decide
example : jsonEscape false false 0x1F600 = [92, 117, 100, 56, 51, 100, 92, 117, 100, 101, 48, 48] := by decide
example : unEscape (jsonEscape true true 0x1F600 ++ [34]) 2 = some ([0xD83D, 0xDE00], 13) := by decide
example : hexVal? 70 = some 15 ∧ hexVal? 102 = some 15 ∧ hexVal? 57 = some 9 ∧ hexVal? 71 = none := by decide
/-- As coded (lenient, outside the property's domain): a lone low surrogate escape is encoded as
is; a high surrogate that is not followed by six more units is rejected with return value 0. -/
example : unEscape [92, 117, 68, 67, 48, 48, 34] 1 = some ([0xED, 0xB0, 0x80], 7) ∧
    unEscape [92, 117, 68, 56, 48, 48, 34] 1 = some ([], 0) := by decide

/-! ## T1: the constants compiled from the current headers are the ones the model is written with -/
open Qentem.Generated.Unicode in
theorem constants_match :
    [W1.quote, W2.quote, W4.quote, WW.quote] = [34, 34, 34, 34] ∧
    [W1.bslash, W2.bslash, W4.bslash, WW.bslash] = [92, 92, 92, 92] ∧
    [W1.slash, W2.slash, W4.slash, WW.slash] = [47, 47, 47, 47] ∧
    [W1.letters, W2.letters, W4.letters, WW.letters] = List.replicate 4 [98, 116, 110, 102, 114, 117, 85] ∧
    [W1.controls, W2.controls, W4.controls, WW.controls] = List.replicate 4 [8, 9, 10, 12, 13] ∧
    hexRanges = [48, 57, 65, 70, 97, 102, 55, 87] ∧ sizeofSizeT32 = 4 ∧ sizeofWchar = 4 := by decide

end Qentem.Props.C20
