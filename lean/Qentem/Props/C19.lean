import Qentem.Proofs.BigIntQuery
import Qentem.Proofs.BigIntMulDiv
import Qentem.Proofs.BigIntShift
import Qentem.Proofs.BigIntOperators
import Qentem.Proofs.BigIntDoubleSize
/-! C19 — BigInt holds the exact mathematical integer after every operation that fits.

`Inv W s` (Proofs/BigIntBasic) is the representation invariant: n ≥ 1 words below 2^W, the words above
`index_` are zero, `index_` is the highest non-zero word (0 for zero).  `specStep W n a op` (Model) is
the exact-integer meaning of an operation on the held value `a` (`none` = the exact result does not fit
n·W bits or the operation's precondition fails).  `step` runs the checked model: `.ok` means that no
`storage_[i]` access was out of range. -/
namespace Qentem.Props.C19
open Qentem.BigInt

/-- One operation is exact, in bounds and invariant-preserving whenever the specification is defined. -/
def StepExact (c : Cfg) (op : Op) : Prop :=
  ∀ (s : Big) (a' : Nat) (r : Ret), Inv c.W s →
    specStep c.W s.words.length (s.val c.W) op = some (a', r) →
    ∃ s', step c s op = .ok (s', r) ∧ Inv c.W s' ∧ s'.words.length = s.words.length ∧ s'.val c.W = a'

/-- The exact-integer meaning of an operation sequence. -/
def specRun (W n : Nat) : Nat → List Op → Option (Nat × List Ret)
  | a, [] => some (a, [])
  | a, o :: os =>
    match specStep W n a o with
    | none => none
    | some (a1, r) =>
      match specRun W n a1 os with
      | none => none
      | some (a2, rs) => some (a2, r :: rs)

/-- A configuration the C++ can instantiate: at least one bit per word; the half-word helper needs an
even word width. -/
def GoodCfg (c : Cfg) : Prop := 0 < c.W ∧ (c.hand = true → c.W % 2 = 0)

/-- An operand / target type of `K` bits that exists next to `W`-bit words: not wider than a word, or a
whole number (≥ 2) of words — `(sizeof(N_Number_T) * 8) / TypeWidth() > 1` in the C++. -/
def TypeOK (W K : Nat) : Prop := K ≤ W ∨ (W ∣ K ∧ K / W > 1)

/-- The operation's operand/target type is realisable for `W`-bit words. -/
def Typed (W : Nat) : Op → Prop
  | .assign K _ => TypeOK W K
  | .bop _ K _ => TypeOK W K
  | .narrow K => TypeOK W K
  | .construct K _ => TypeOK W K
  | _ => True

/-- Every operation of every configuration is exact. -/
def C19_full : Prop := ∀ c : Cfg, GoodCfg c → ∀ op : Op, Typed c.W op → StepExact c op

theorem exact_update {W n : Nat} {m : M Big} {a' : Nat}
    (h : ∃ s', m = .ok s' ∧ Inv W s' ∧ s'.words.length = n ∧ s'.val W = a') :
    ∃ s', (do let s ← m; pure (s, Ret.none) : M (Big × Ret)) = .ok (s', .none) ∧ Inv W s' ∧
      s'.words.length = n ∧ s'.val W = a' := by
  obtain ⟨s', rfl, h⟩ := h
  exact ⟨s', rfl, h⟩

theorem exact_query {W : Nat} {s : Big} {α : Type} {m : M α} {v : α} (ret : α → Ret) (h : Inv W s) (hm : m = .ok v) :
    ∃ s', (do let b ← m; pure (s, ret b) : M (Big × Ret)) = .ok (s', ret v) ∧ Inv W s' ∧
      s'.words.length = s.words.length ∧ s'.val W = s.val W := by
  subst hm
  exact ⟨s, rfl, h, rfl, rfl⟩

theorem divide_exact {c : Cfg} (hd : DivOK c) (s : Big) (d : Nat) (h : Inv c.W s) (hd0 : 0 < d) (hdB : d < 2 ^ c.W) :
    ∃ s', divide c s d = .ok (s', s.val c.W % d) ∧ Inv c.W s' ∧ s'.words.length = s.words.length ∧
      s'.val c.W = s.val c.W / d := by
  obtain ⟨s', r', hrun, hinv, hl, hv, hr⟩ := divide_spec hd s d h hd0 hdB
  rw [Nat.add_comm] at hv
  obtain ⟨hq, hr'⟩ := (Nat.div_mod_unique hd0).2 ⟨hv.symm, hr⟩
  exact ⟨s', by rw [hrun, hr'], hinv, hl, hq.symm⟩

theorem assign_spec {W K : Nat} (s : Big) (x : Nat) (h : Inv W s) (ht : TypeOK W K) (hx : x < 2 ^ K)
    (hfit : x < 2 ^ (W * s.words.length)) :
    ∃ s', assign W K s x = .ok s' ∧ Inv W s' ∧ s'.words.length = s.words.length ∧ s'.val W = x :=
  ht.elim (fun hc => assign_small_spec s x h hc hx) fun hc => assign_wide_spec s x h hc.1 hc.2 hx hfit

theorem step_exact (c : Cfg) (hm : MulOK c) (hd : DivOK c) (op : Op) (hc : Typed c.W op) :
    StepExact c op := by
  intro s a' r h hspec
  -- in every case: read the guard and the result off the specification, then apply the operation's theorem
  cases op <;>
    simp only [specStep, Option.ite_none_right_eq_some, Option.some.injEq, Prod.mk.injEq, reduceCtorEq] at hspec
  case assign K x =>
    obtain ⟨hx, rfl, rfl⟩ := hspec
    exact exact_update (assign_spec s x h hc hx.1 (by rw [Nat.mul_comm]; exact hx.2))
  case bop o K x =>
    obtain ⟨hx, hspec⟩ := hspec
    cases o <;>
      simp only [Option.ite_none_right_eq_some, Option.some.injEq, Prod.mk.injEq, reduceCtorEq] at hspec
    case add =>
      obtain ⟨hfit, rfl, rfl⟩ := hspec
      rw [Nat.mul_comm] at hfit
      exact exact_update (hc.elim (fun hc => add_small_spec s x h hc hx hfit)
        fun hc => add_wide_spec s x h hc.1 hc.2 hx hfit)
    case sub =>
      obtain ⟨hfit, rfl, rfl⟩ := hspec
      exact exact_update (hc.elim (fun hc => sub_small_spec s x h hc hx hfit)
        fun hc => sub_wide_spec s x h hc.1 hc.2 hx hfit)
    case or =>
      obtain ⟨hfit, rfl, rfl⟩ := hspec
      rw [Nat.mul_comm] at hfit
      exact exact_update (hc.elim (fun hc => or_small_spec s x h hc hx)
        fun hc => or_wide_spec s x h hc.1 hc.2 hx hfit)
    case and =>
      obtain ⟨hfit, rfl, rfl⟩ := hspec
      rw [Nat.mul_comm] at hfit
      exact exact_update (hc.elim (fun hc => and_small_spec s x h hc hx)
        fun hc => and_wide_spec s x h hc.1 hc.2 hx hfit)
  case mul x =>
    obtain ⟨hx, rfl, rfl⟩ := hspec
    exact exact_update (multiply_spec hm s x h hx.1 (by rw [Nat.mul_comm c.W]; exact hx.2))
  case div d | divq d =>
    obtain ⟨hx, rfl, rfl⟩ := hspec
    obtain ⟨s', hrun, hrest⟩ := divide_exact hd s d h hx.1 hx.2
    exact ⟨s', by simp only [step, hrun, bind, Except.bind, pure, Except.pure], hrest⟩
  case shl k =>
    obtain ⟨hfit, rfl, rfl⟩ := hspec
    exact exact_update (shiftLeft_spec s k h (by rw [Nat.mul_comm c.W]; exact hfit))
  case shr k =>
    obtain ⟨rfl, rfl⟩ := hspec
    exact exact_update (shiftRight_spec s k h)
  case ffb =>
    obtain ⟨hx, rfl, rfl⟩ := hspec
    exact exact_query .nat h (findFirstBit_spec s h hx)
  case cmp rel x =>
    obtain ⟨hx, rfl, rfl⟩ := hspec
    exact exact_query .bool h (cmpWord_spec s rel x h hx)
  case rcmp rel x =>
    obtain ⟨hx, rfl, rfl⟩ := hspec
    exact exact_query .bool h (rcmpWord_spec s rel x h hx)
  case isBig =>
    obtain ⟨rfl, rfl⟩ := hspec
    exact ⟨s, by rw [← isBig_spec s h]; rfl, h, rfl, rfl⟩
  case notZero =>
    obtain ⟨rfl, rfl⟩ := hspec
    exact exact_query .bool h (cmpWord_spec s .ne 0 h (Nat.pow_pos (by decide)))
  case isZero =>
    obtain ⟨rfl, rfl⟩ := hspec
    exact exact_query .bool h (cmpWord_spec s .eq 0 h (Nat.pow_pos (by decide)))
  case number =>
    obtain ⟨rfl, rfl⟩ := hspec
    exact exact_query .nat h (number_spec s h)
  case narrow K =>
    obtain ⟨rfl, rfl⟩ := hspec
    exact exact_query .nat h (hc.elim (narrow_small_spec s h) fun hc => narrow_wide_spec s h hc.1 hc.2)
  case flb =>
    obtain ⟨hx, rfl, rfl⟩ := hspec
    exact exact_query .nat h (findLastBit_spec s h hx)
  case clear =>
    obtain ⟨rfl, rfl⟩ := hspec
    exact exact_update (clear_spec s h)
  case construct K x =>
    obtain ⟨hx, rfl, rfl⟩ := hspec
    have hn : 0 < s.words.length := h.length_pos
    have hlz := length_zero s.words.length
    have := assign_spec (zero s.words.length) x (inv_zero h.wpos hn) hc hx.1
      (by rw [hlz, Nat.mul_comm]; exact hx.2)
    rw [assign_zero_eq, hlz] at this
    exact exact_update this
  case addAt x i =>
    obtain ⟨hx, rfl, rfl⟩ := hspec
    exact exact_update (addAt_spec s x i h hx.1 (by rw [Nat.mul_comm c.W s.words.length]; exact hx.2))
  case subAt x i =>
    obtain ⟨hx, rfl, rfl⟩ := hspec
    exact exact_update (subAt_spec s x i h hx.1 hx.2)
  case self k =>
    -- the operand is the low word, read before the object changes
    have hw : s.val c.W % 2 ^ c.W < 2 ^ c.W := Nat.mod_lt _ (Nat.pow_pos (by decide))
    simp only [step, number_spec s h, bind, Except.bind]
    cases k <;>
      simp only [Option.ite_none_right_eq_some, Option.some.injEq, Prod.mk.injEq] at hspec
    case add =>
      obtain ⟨hfit, rfl, rfl⟩ := hspec
      exact exact_update (add_small_spec s _ h (Nat.le_refl c.W) hw (by rw [Nat.mul_comm]; exact hfit))
    case sub =>
      obtain ⟨rfl, rfl⟩ := hspec
      exact exact_update (sub_small_spec s _ h (Nat.le_refl c.W) hw (Nat.mod_le _ _))
    case or =>
      obtain ⟨rfl, rfl⟩ := hspec
      exact exact_update (or_small_spec s _ h (Nat.le_refl c.W) hw)
    case and =>
      obtain ⟨rfl, rfl⟩ := hspec
      exact exact_update (and_small_spec s _ h (Nat.le_refl c.W) hw)
    case mul =>
      obtain ⟨hfit, rfl, rfl⟩ := hspec
      exact exact_update (multiply_spec hm s _ h hw (by rw [Nat.mul_comm c.W]; exact hfit))
    case div =>
      obtain ⟨hpos, rfl, rfl⟩ := hspec
      obtain ⟨s', hrun, hrest⟩ := divide_exact hd s _ h hpos hw
      exact ⟨s', by simp only [hrun]; rfl, hrest⟩
  all_goals
    obtain ⟨rfl, rfl⟩ := hspec
    exact ⟨s, rfl, h, rfl, rfl⟩

/-- Whenever the exact-integer run is defined (everything fits), the checked run does not fault, returns the same values
and ends in an invariant state holding exactly the specified integer. -/
theorem run_exact (c : Cfg) : ∀ (ops : List Op) (s : Big) (a' : Nat) (rs : List Ret),
    (∀ op ∈ ops, StepExact c op) → Inv c.W s →
    specRun c.W s.words.length (s.val c.W) ops = some (a', rs) →
    ∃ s', run c s ops = .ok (s', rs) ∧ Inv c.W s' ∧ s'.words.length = s.words.length ∧ s'.val c.W = a'
  | [], s, a', rs, _, h, hspec => by
    simp only [specRun, Option.some.injEq, Prod.mk.injEq] at hspec
    obtain ⟨rfl, rfl⟩ := hspec
    exact ⟨s, rfl, h, rfl, rfl⟩
  | o :: os, s, a', rs, hall, h, hspec => by
    simp only [specRun] at hspec
    split at hspec
    · exact absurd hspec (by simp)
    · rename_i a1 r1 hs1
      split at hspec
      · exact absurd hspec (by simp)
      · rename_i a2 rs2 hs2
        simp only [Option.some.injEq, Prod.mk.injEq] at hspec
        obtain ⟨rfl, rfl⟩ := hspec
        obtain ⟨s1, hstep, hinv1, hl1, hv1⟩ := hall o (by simp) s a1 r1 h hs1
        obtain ⟨s2, hrun, hinv2, hl2, hv2⟩ := run_exact c os s1 a2 rs2 (fun op hop => hall op (by simp [hop])) hinv1
          (by rw [hl1, hv1]; exact hs2)
        refine ⟨s2, ?_, hinv2, by omega, hv2⟩
        simp [run, hstep, hrun, bind, Except.bind, pure, Except.pure]

theorem run_exact_zero (c : Cfg) {n : Nat} (hW : 0 < c.W) (hn : 0 < n) {ops : List Op} {a' : Nat} {rs : List Ret}
    (hall : ∀ op ∈ ops, StepExact c op) (hspec : specRun c.W n 0 ops = some (a', rs)) :
    ∃ s', run c (zero n) ops = .ok (s', rs) ∧ Inv c.W s' ∧ s'.words.length = n ∧ s'.val c.W = a' := by
  have hlen := length_zero n
  have := run_exact c ops (zero n) a' rs hall (inv_zero hW hn) (by rw [hlen, val_zero]; exact hspec)
  rwa [hlen] at this

/-- Sequences of operations on a fresh object with the native double-width helpers
(8/16/32-bit words in the C++; any word width ≥ 1 and any word count ≥ 1 here). -/
theorem sequence_exact_native (W n : Nat) (hW : 0 < W) (hn : 0 < n) (ops : List Op) (a' : Nat) (rs : List Ret)
    (hcov : ∀ op ∈ ops, Typed W op) (hspec : specRun W n 0 ops = some (a', rs)) :
    ∃ s', run ⟨W, false⟩ (zero n) ops = .ok (s', rs) ∧ Inv W s' ∧ s'.words.length = n ∧ s'.val W = a' :=
  run_exact_zero ⟨W, false⟩ hW hn
    (fun op hop => step_exact ⟨W, false⟩ (mulOK_native W) (divOK_native W) op (hcov op hop)) hspec

/-- The same with the half-word helpers (64-bit words in the C++; any half width h ≥ 1 here). -/
theorem sequence_exact_hand (h n : Nat) (hh : 0 < h) (hn : 0 < n)
    (ops : List Op) (a' : Nat) (rs : List Ret)
    (hcov : ∀ op ∈ ops, Typed (2 * h) op) (hspec : specRun (2 * h) n 0 ops = some (a', rs)) :
    ∃ s', run ⟨2 * h, true⟩ (zero n) ops = .ok (s', rs) ∧ Inv (2 * h) s' ∧ s'.words.length = n ∧
      s'.val (2 * h) = a' :=
  run_exact_zero ⟨2 * h, true⟩ (Nat.mul_pos (by decide) hh) hn
    (fun op hop => step_exact ⟨2 * h, true⟩ (mulOK_hand h) (divOK_hand h) op (hcov op hop)) hspec

/-- The half-word multiply is exact for every half width (`hi·2^W + lo = a·b`). -/
theorem mul_helper_exact (h a b : Nat) (ha : a < 2 ^ (2 * h)) (hb : b < 2 ^ (2 * h)) :
    (mulHand h a b).1 * 2 ^ (2 * h) + (mulHand h a b).2 = a * b := (mulHand_exact h a b ha hb).1

/-- The half-word divide is exact for every half width under its precondition `hi < d`
(`q·d + r = hi·2^W + lo`, `r < d`), with the `initial_shift` that `BigInt::Divide` computes. -/
theorem div_helper_exact (h : Nat) : DivOK ⟨2 * h, true⟩ := divOK_hand h

/-- C19 for every configuration with the native double-width helpers (8/16/32-bit words). -/
theorem C19_native (W : Nat) (op : Op) (ht : Typed W op) : StepExact ⟨W, false⟩ op :=
  step_exact ⟨W, false⟩ (mulOK_native W) (divOK_native W) op ht

/-- **C19** — every operation of every configuration (any word width, any word count, both helper
variants): whenever the exact result fits, the checked model does not fault, re-establishes the
invariant, holds exactly the mathematical result and returns the exact remainder / bit index /
predicate. -/
theorem C19 : C19_full := by
  intro c hg op ht
  rcases c with ⟨W, hand⟩
  cases hand with
  | false => exact C19_native W op ht
  | true =>
    have hev : W % 2 = 0 := hg.2 rfl
    obtain ⟨h, rfl⟩ : ∃ h, W = 2 * h := ⟨W / 2, by omega⟩
    exact step_exact ⟨2 * h, true⟩ (mulOK_hand h) (divOK_hand h) op ht

/-- the configuration selected for `W`-bit words uses the half-word helpers only for the even width 64 -/
theorem goodCfg_std {W : Nat} (hW : 0 < W) : GoodCfg (Cfg.std W) :=
  ⟨hW, fun hh => by
    have h64 : W = 64 := by simpa [Cfg.std] using hh
    show W % 2 = 0
    rw [h64]⟩

/-- C19 for the configuration the C++ selects for `W`-bit words (half-word helpers exactly when
`W = 64`), lifted to every operation sequence on a fresh object of `n ≥ 1` words. -/
theorem C19_sequences (W n : Nat) (hW : 0 < W) (hn : 0 < n) (ops : List Op) (a' : Nat)
    (rs : List Ret) (ht : ∀ op ∈ ops, Typed W op) (hspec : specRun W n 0 ops = some (a', rs)) :
    ∃ s', run (Cfg.std W) (zero n) ops = .ok (s', rs) ∧ Inv W s' ∧ s'.words.length = n ∧ s'.val W = a' :=
  run_exact_zero (Cfg.std W) hW hn (fun op hop => C19 (Cfg.std W) (goodCfg_std hW) op (ht op hop)) hspec

/-! Non-vacuity: a concrete run where everything fits (8-bit words, 4 words):
200 + 255 = 455; ·200 = 91000; /9 = 10111 rem 1; 10111 > 9; log2 10111 = 13. -/
example : specRun 8 4 0 [.assign 8 200, .bop .add 8 255, .mul 200, .div 9, .cmp .gt 9, .flb]
    = some (10111, [.none, .none, .none, .nat 1, .bool true, .nat 13]) := by decide

/-! ### Signed operand types

A non-negative operand of a signed type is the same integer.  A **negative** operand has no meaning as an
integer for an unsigned big number; what the code does is well defined and in bounds: the operand
acts as `signedOperand W K x` = its two's-complement value at width `max K W` (`Number_T(number)` sign-extends
to the word, the bounded chunk loop walks the operand's own width).  The exactness theorem applies to that
value. -/

theorem signedOperand_nonneg (W K : Nat) (x : Int) (h0 : 0 ≤ x) (hx : x < 2 ^ K) :
    signedOperand W K x = x.toNat := by
  unfold signedOperand
  have hle : (2 : Int) ^ K ≤ (2 : Int) ^ max K W := by
    exact_mod_cast Nat.pow_le_pow_right (by decide : 0 < 2) (Nat.le_max_left K W)
  have : x < (2 : Int) ^ max K W := Int.lt_of_lt_of_le hx hle
  rw [Int.emod_eq_of_lt h0 this]

theorem signedOperand_lt (W K : Nat) (x : Int) : signedOperand W K x < 2 ^ max K W := by
  unfold signedOperand
  have hpos : (0 : Int) < (2 : Int) ^ max K W := Int.pow_pos (by decide)
  have h1 := Int.emod_lt_of_pos x hpos
  have h0 := Int.emod_nonneg x (Int.ne_of_gt hpos)
  have h2 : x % (2 : Int) ^ max K W < ((2 ^ max K W : Nat) : Int) := by push_cast; exact h1
  omega

theorem typeOK_max (W K : Nat) (h : TypeOK W K) : TypeOK W (max K W) := by
  rcases h with h | ⟨h1, h2⟩
  · left; rw [Nat.max_eq_right h]
  · have : W ≤ K := Nat.le_of_dvd (by
      rcases Nat.eq_zero_or_pos K with h0 | h0
      · rw [h0] at h2; simp at h2
      · exact h0) h1
    right; rw [Nat.max_eq_left this]; exact ⟨h1, h2⟩

/-- `+= -= |= &=` with any (also negative) operand of a signed `K`-bit type: exact for the value the
operand denotes, in bounds, invariant kept.  (`op` ranges over all of `BOp`; at `.set` the specification is
undefined and the statement says nothing.) -/
theorem C19_signed (c : Cfg) (hg : GoodCfg c) (op : BOp) (K : Nat) (x : Int) (ht : TypeOK c.W K) :
    StepExact c (.bop op (max K c.W) (signedOperand c.W K x)) :=
  C19 c hg _ (typeOK_max c.W K ht)

/-! ### Two objects of one instantiation: copy and move assignment -/

/-- The exact-integer meaning of a sequence over two objects holding `a` and `b`. -/
def specRun2 (W n : Nat) : Nat → Nat → List Op2 → Option (Nat × Nat × List Ret)
  | a, b, [] => some (a, b, [])
  | a, b, o :: os =>
    match specStep2 W n a b o with
    | none => none
    | some (a1, b1, r) =>
      match specRun2 W n a1 b1 os with
      | none => none
      | some (a2, b2, rs) => some (a2, b2, r :: rs)

def Typed2 (W : Nat) : Op2 → Prop
  | .on o => Typed W o
  | _ => True

/-- One step over two objects (an operation on `x`, `t = x`, `x = t`, `x = std::move(t)`, the two guarded
self-assignments, copy and move construction): exact, in bounds, both invariants re-established. -/
theorem step2_exact (c : Cfg) (hg : GoodCfg c) (o : Op2) (ht : Typed2 c.W o) (p : Pair) (a' b' : Nat) (r : Ret)
    (hx : Inv c.W p.x) (hy : Inv c.W p.t) (hl : p.t.words.length = p.x.words.length)
    (hspec : specStep2 c.W p.x.words.length (p.x.val c.W) (p.t.val c.W) o = some (a', b', r)) :
    ∃ p', step2 c p o = .ok (p', r) ∧ Inv c.W p'.x ∧ Inv c.W p'.t ∧ p'.x.words.length = p.x.words.length ∧
      p'.t.words.length = p.x.words.length ∧ p'.x.val c.W = a' ∧ p'.t.val c.W = b' := by
  have hnx : 0 < p.x.words.length := Nat.lt_of_le_of_lt (Nat.zero_le _) hx.idx_lt
  cases o <;> simp only [specStep2, Option.some.injEq, Prod.mk.injEq] at hspec
  case on o' =>
    split at hspec
    · rename_i a1 r1 hs1
      simp only [Option.some.injEq, Prod.mk.injEq] at hspec
      obtain ⟨rfl, rfl, rfl⟩ := hspec
      obtain ⟨s', hrun, hinv, hl', hv⟩ := C19 c hg o' ht p.x a1 r1 hx hs1
      exact ⟨⟨s', p.t⟩, by simp only [step2, hrun, bind, Except.bind, pure, Except.pure], hinv, hy, hl', hl, hv, rfl⟩
    · exact absurd hspec (by simp)
  case save =>
    obtain ⟨rfl, rfl, rfl⟩ := hspec
    obtain ⟨d', hrun, hinv, hl', hv⟩ := copy_spec p.t p.x hy hx hl
    exact ⟨⟨p.x, d'⟩, by simp only [step2, hrun, bind, Except.bind, pure, Except.pure], hx, hinv, rfl, hl'.trans hl, rfl, hv⟩
  case load =>
    obtain ⟨rfl, rfl, rfl⟩ := hspec
    obtain ⟨d', hrun, hinv, hl', hv⟩ := copy_spec p.x p.t hx hy hl.symm
    exact ⟨⟨d', p.t⟩, by simp only [step2, hrun, bind, Except.bind, pure, Except.pure], hinv, hy, hl', hl, hv, rfl⟩
  case move =>
    obtain ⟨rfl, rfl, rfl⟩ := hspec
    obtain ⟨d', hrun, hinv, hl', hv⟩ := copy_spec p.x p.t hx hy hl.symm
    obtain ⟨t', hrun2, hinv2, hl2, hv2⟩ := clear_spec (W := c.W) p.t hy
    exact ⟨⟨d', t'⟩, by simp only [step2, hrun, hrun2, bind, Except.bind, pure, Except.pure], hinv, hinv2, hl',
      hl2.trans hl, hv, hv2⟩
  case copyCtor =>
    obtain ⟨rfl, rfl, rfl⟩ := hspec
    obtain ⟨d', hrun, hinv, hl', hv⟩ := copy_spec (zero p.t.words.length) p.x (inv_zero hy.wpos (hl ▸ hnx)) hx
      ((length_zero _).trans hl)
    exact ⟨⟨p.x, d'⟩, by simp only [step2, hrun, bind, Except.bind, pure, Except.pure], hx, hinv, rfl,
      (hl'.trans (length_zero _)).trans hl, rfl, hv⟩
  case moveCtor =>
    obtain ⟨rfl, rfl, rfl⟩ := hspec
    obtain ⟨d', hrun, hinv, hl', hv⟩ := copy_spec (zero p.x.words.length) p.t (inv_zero hx.wpos hnx) hy
      ((length_zero _).trans hl.symm)
    obtain ⟨t', hrun2, hinv2, hl2, hv2⟩ := clear_spec (W := c.W) p.t hy
    exact ⟨⟨d', t'⟩, by simp only [step2, hrun, hrun2, bind, Except.bind, pure, Except.pure], hinv, hinv2,
      hl'.trans (length_zero _), hl2.trans hl, hv, hv2⟩
  all_goals
    obtain ⟨rfl, rfl, rfl⟩ := hspec
    exact ⟨p, rfl, hx, hy, rfl, hl, rfl, rfl⟩

/-- **C19 over operation sequences on two objects** (everything `BigInt` offers, including copy and
move assignment), for the configuration the C++ selects for `W`-bit words, any `n ≥ 1`. -/
theorem C19_sequences2 (W n : Nat) (hW : 0 < W) (hn : 0 < n) : ∀ (ops : List Op2) (p : Pair) (a' b' : Nat)
    (rs : List Ret), (∀ op ∈ ops, Typed2 W op) → Inv W p.x → Inv W p.t → p.x.words.length = n →
    p.t.words.length = n → specRun2 W n (p.x.val W) (p.t.val W) ops = some (a', b', rs) →
    ∃ p', run2 (Cfg.std W) p ops = .ok (p', rs) ∧ Inv W p'.x ∧ Inv W p'.t ∧ p'.x.words.length = n ∧
      p'.t.words.length = n ∧ p'.x.val W = a' ∧ p'.t.val W = b'
  | [], p, a', b', rs, _, hx, hy, hlx, hly, hspec => by
    simp only [specRun2, Option.some.injEq, Prod.mk.injEq] at hspec
    obtain ⟨rfl, rfl, rfl⟩ := hspec
    exact ⟨p, rfl, hx, hy, hlx, hly, rfl, rfl⟩
  | o :: os, p, a', b', rs, hall, hx, hy, hlx, hly, hspec => by
    have hg := goodCfg_std hW
    simp only [specRun2] at hspec
    split at hspec
    · exact absurd hspec (by simp)
    · rename_i a1 b1 r1 hs1
      split at hspec
      · exact absurd hspec (by simp)
      · rename_i a2 b2 rs2 hs2
        simp only [Option.some.injEq, Prod.mk.injEq] at hspec
        obtain ⟨rfl, rfl, rfl⟩ := hspec
        obtain ⟨p1, hstep, hx1, hy1, hlx1, hly1, hvx1, hvy1⟩ := step2_exact (Cfg.std W) hg o (hall o (by simp)) p a1 b1 r1
          hx hy (by omega) (by rw [hlx]; exact hs1)
        obtain ⟨p2, hrun, hx2, hy2, hlx2, hly2, hvx2, hvy2⟩ := C19_sequences2 W n hW hn os p1 a2 b2 rs2
          (fun op hop => hall op (by simp [hop])) hx1 hy1 (by omega) (by omega)
          (by
            have e1 : p1.x.val W = a1 := hvx1
            have e2 : p1.t.val W = b1 := hvy1
            rw [e1, e2]; exact hs2)
        refine ⟨p2, ?_, hx2, hy2, hlx2, hly2, hvx2, hvy2⟩
        simp [run2, hstep, hrun, bind, Except.bind, pure, Except.pure]

/-! TEST (labelled as such, not a theorem about all inputs): the half-word divide at h = 2 (4-bit words)
evaluated by the kernel on its whole precondition domain — d in 1..15, hi < d, lo in 0..15. -/
def divTestDomain : List (Nat × Nat × Nat) :=
  (List.range 16).flatMap fun d => (List.range d).flatMap fun hi => (List.range 16).map fun lo => (hi, lo, d)

def divTestOK : Nat × Nat × Nat → Bool
  | (hi, lo, d) =>
    match divHand 2 hi lo d (3 - d.log2) with
    | .ok (r, q) => q * d + r == hi * 16 + lo && decide (r < d)
    | .error _ => false

example : divTestDomain.all divTestOK = true := by decide +kernel

end Qentem.Props.C19
