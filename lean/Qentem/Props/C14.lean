import Qentem.Proofs.Mem
import Qentem.Proofs.Order
import Qentem.Proofs.SeqString
import Qentem.Proofs.SeqStream
import Qentem.Proofs.SeqAlias
import Qentem.Props.C14Tree
import Qentem.Props.C14Trim
/-! C14 — Array, String, StringStream and StringView behave as plain sequences; the byte-copy and
zero-fill primitives give identical results for every length in scalar, SSE2 and AVX2 builds. -/
namespace Qentem.Props.C14
open Qentem.Mem

/-! ### Memory::Copy / Memory::SetToZero: block loop + scalar tail = plain copy, for every block
shift (scalar build: `simd = false`; SSE2: shift 4; AVX2: shift 5; any other), every size, every
buffer content.  No access leaves the two buffers (`some`), nothing after `size` is touched. -/

theorem copyBlocks_eq (simd : Bool) (shift size : Nat) (dst src : List Nat)
    (hs : size ≤ src.length) (hd : size ≤ dst.length) :
    copyBlocks simd shift size dst src = some (copySpec size dst src) := by
  have hle := blocks_le size shift
  unfold copyBlocks
  simp only [simd_guard, Nat.shiftLeft_eq] at *
  cases simd
  · simp only [Bool.false_eq_true, reduceIte]
    exact copy_core (2 ^ shift) 0 size dst src hs hd (by omega)
  · exact copy_core (2 ^ shift) (size >>> shift) size dst src hs hd hle

theorem zeroBlocks_eq (simd : Bool) (shift size : Nat) (dst : List Nat) (hd : size ≤ dst.length) :
    zeroBlocks simd shift size dst = some (zeroSpec size dst) := by
  have hle := blocks_le size shift
  unfold zeroBlocks
  simp only [zero_guard, Nat.shiftLeft_eq] at *
  cases simd
  · simp only [Bool.false_eq_true, reduceIte]
    exact zero_core (2 ^ shift) 0 size dst hd (by omega)
  · exact zero_core (2 ^ shift) (size >>> shift) size dst hd hle

/-- The three shipped configurations give the same bytes (corollary). -/
theorem copy_same_in_all_builds (size : Nat) (dst src : List Nat) (hs : size ≤ src.length) (hd : size ≤ dst.length) :
    copyBlocks false 0 size dst src = copyBlocks true 4 size dst src ∧
    copyBlocks true 4 size dst src = copyBlocks true 5 size dst src := by
  simp [copyBlocks_eq _ _ _ _ _ hs hd]

/-- Non-vacuity: a 37-byte copy with 16-byte blocks into a 40-byte destination. -/
example : copyBlocks true 4 37 (List.replicate 40 170) (pattern 3 37) = some (pattern 3 37 ++ [170, 170, 170]) := by decide

/-! ## The containers are plain sequences

State = a table of objects (register → object), so aliasing (`a += a`, `a = a`, `s << s`) and
moved-from objects are covered by the quantification over all programs.  `arrAbs/strAbs/ssAbs/svAbs`
forget capacity and storage and keep the item list; `…SpecRun/…SpecOuts` run the same program on plain
`List`s.  Each theorem is for *every* program from the initial table (and, in `Proofs/Seq*.lean`, from
any table satisfying the invariant). -/
open Qentem.Seq

/-- Array: after every program the content of every object is that of the plain-list run, everything
handed back to the caller (`Detach`) is the same, and `Size() ≤ Capacity()` everywhere. -/
theorem array_is_plain_sequence {α : Type} (d : α) (ops : List (ArrOp α)) :
    arrAbs (arrRun d ops arrInit) = arrSpecRun d ops (fun _ => []) ∧
    arrOuts d ops arrInit = arrSpecOuts d ops (fun _ => []) ∧
    (∀ i, (arrRun d ops arrInit i).data.length ≤ (arrRun d ops arrInit i).cap) := by
  obtain ⟨h1, h2⟩ := arr_run_holds d ops (st := arrInit) (ab := fun _ => []) (fun _ => ⟨rfl, ArrayM.empty_inv⟩)
  exact ⟨funext fun i => (h1 i).1, h2, fun i => (h1 i).2⟩

/-- String: content, outputs (`Detach`, the six comparison operators), and NUL termination of every
object after every program (`string_terminated`). -/
theorem string_is_plain_sequence (ops : List StrOp) :
    strAbs (strRun ops strInit) = strSpecRun ops (fun _ => []) ∧
    strOuts ops strInit = strSpecOuts ops (fun _ => []) ∧
    (∀ i, (strRun ops strInit i).Term) := by
  obtain ⟨h1, h2⟩ := str_run_holds ops (st := strInit) (ab := fun _ => []) (fun _ => StringM.holds_empty)
  exact ⟨funext fun i => (h1 i).data, h2, fun i => (h1 i).term⟩

/-- The terminator statement spelled out: a non-null string has a cell at index `Length()` holding 0,
a null string has length 0 — after every program. -/
theorem string_terminated (ops : List StrOp) (i : Nat) :
    match (strRun ops strInit i).store with
    | none => (strRun ops strInit i).len = 0
    | some b => b[(strRun ops strInit i).len]? = some 0 := by
  have h := (string_is_plain_sequence ops).2.2 i
  unfold StringM.Term at h
  cases hs : (strRun ops strInit i).store with
  | none => simpa [hs] using h
  | some b => simp only [hs] at h ⊢; exact h.2

/-- StringStream, for every capacity policy that never under-serves a request. -/
theorem stream_is_plain_sequence (P : Policy) (hP : P.Sound) (ops : List SsOp) :
    ssAbs (ssRun P ops ssInit) = ssSpecRun ops (fun _ => []) ∧
    ssOuts P ops ssInit = ssSpecOuts ops (fun _ => []) ∧
    (∀ i, (ssRun P ops ssInit i).data.length ≤ (ssRun P ops ssInit i).cap) := by
  obtain ⟨h1, h2⟩ := ss_run_holds P (A := True) (fun _ => hP) ops (ssInit_holds True)
  exact ⟨funext fun i => (h1 i).1, h2, fun i => (h1 i).2 trivial⟩

/-- Both policies in use are sound: the shipped `AlignSize(4·n)` and the exact-fit hook. -/
theorem stream_policies_sound : policyStd.Sound ∧ policyExact.Sound := ⟨policyStd_sound, policyExact_sound⟩

theorem stream_is_plain_sequence_shipped (ops : List SsOp) :
    ssAbs (ssRun policyStd ops ssInit) = ssSpecRun ops (fun _ => []) :=
  (stream_is_plain_sequence policyStd policyStd_sound ops).1

theorem stream_is_plain_sequence_exact (ops : List SsOp) :
    ssAbs (ssRun policyExact ops ssInit) = ssSpecRun ops (fun _ => []) :=
  (stream_is_plain_sequence policyExact policyExact_sound ops).1

/-- The content does not depend on the capacity policy at all. -/
theorem stream_content_policy_independent (P Q : Policy) (ops : List SsOp) :
    ssAbs (ssRun P ops ssInit) = ssAbs (ssRun Q ops ssInit) ∧ ssOuts P ops ssInit = ssOuts Q ops ssInit := by
  obtain ⟨h1, h2⟩ := ss_run_holds P (A := False) False.elim ops (ssInit_holds False)
  obtain ⟨h3, h4⟩ := ss_run_holds Q (A := False) False.elim ops (ssInit_holds False)
  exact ⟨funext fun i => ((h1 i).1).trans ((h3 i).1).symm, h2.trans h4.symm⟩

theorem view_is_plain_sequence (ops : List SvOp) :
    svAbs (svRun ops svInit) = svSpecRun ops (fun _ => []) ∧
    svOuts ops svInit = svSpecOuts ops (fun _ => []) :=
  (sv_run_holds ops (st := svInit) (ab := fun _ => []) (fun _ => rfl)).imp_left fun h => funext h

/-! ### Appends never disturb earlier elements -/

theorem array_appends_keep_prefix {α : Type} (d : α) (st : ArrSt α) (h : ArrInv st) (r s : Nat) (x : α) :
    (st r).data <+: (((ArrOp.push r x).step d st).1 r).data ∧
    (st r).data <+: (((ArrOp.appC r s).step d st).1 r).data ∧
    (r ≠ s → (st r).data <+: (((ArrOp.appM r s).step d st).1 r).data) := by
  refine ⟨?_, ?_, ?_⟩
  · simp [ArrOp.step]
  · simp [ArrOp.step]
  · intro hrs
    simp [ArrOp.step, setR, hrs, ArrayM.appendMove_data _ _ (h r)]

theorem string_appends_keep_prefix (st : StrSt) (h : StrInv st) (r s c : Nat) (u : List Nat) :
    (st r).data <+: (((StrOp.appC r s).step st).1 r).data ∧
    (st r).data <+: (((StrOp.appU r u).step st).1 r).data ∧
    (st r).data <+: (((StrOp.appCh r c).step st).1 r).data ∧
    (r ≠ s → (st r).data <+: (((StrOp.appM r s).step st).1 r).data) := by
  refine ⟨?_, ?_, ?_, ?_⟩
  · simp [StrOp.step, StringM.write_data _ _ (h r)]
  · simp [StrOp.step, StringM.write_data _ _ (h r)]
  · simp [StrOp.step, StringM.write_data _ _ (h r)]
  · intro hrs; simp [StrOp.step, setR, hrs, StringM.write_data _ _ (h r)]

theorem stream_appends_keep_prefix (P : Policy) (st : SsSt) (v r s c : Nat) (u : List Nat) :
    (st r).data <+: (((SsOp.pushCh v r c).step P st).1 r).data ∧
    (st r).data <+: (((SsOp.appS r s).step P st).1 r).data ∧
    (st r).data <+: (((SsOp.shlS r s).step P st).1 r).data ∧
    (st r).data <+: (((SsOp.appU v r u).step P st).1 r).data ∧
    (st r).data <+: (((SsOp.buffer r u).step P st).1 r).data := by
  refine ⟨?_, ?_, ?_, ?_, ?_⟩ <;> simp [SsOp.step]

/-- Operations whose argument lies inside the container's own storage (an item of the array by `const&`,
a sub-range / C string / view of the string's or stream's own buffer): the value of the argument is the
one before the call, and the old content stays in front. -/
theorem own_storage_arguments_keep_prefix {α : Type} (d : α) (P : Policy) (ast : ArrSt α) (sst : StrSt)
    (hs : StrInv sst) (tst : SsSt) (v r i off n : Nat) :
    (ast r).data <+: (((ArrOp.pushSelf r i).step d ast).1 r).data ∧
    (∀ x, (ast r).data[i]? = some x → (((ArrOp.pushSelf r i).step d ast).1 r).data = (ast r).data ++ [x]) ∧
    (((StrOp.appOwn v r off n).step sst).1 r).data =
      (sst r).data ++ (if v = 0 then ownSlice (sst r).data off n else ownCStr (sst r).data off) ∧
    (((SsOp.appOwn v r off n).step P tst).1 r).data =
      (tst r).data ++ (if v < 3 then ownSlice (tst r).data off n else if v < 5 then ownCStr (tst r).data off else (tst r).data) := by
  refine ⟨?_, ?_, ?_, ?_⟩
  · simp only [ArrOp.step]; cases (ast r).data[i]? <;> simp
  · intro x hx; simp [ArrOp.step, hx]
  · simp [StrOp.step, StringM.write_data _ _ (hs r)]
  · simp only [SsOp.step]; split <;> (try split) <;> simp

/-! ### Capacity changes never lose or duplicate elements -/

theorem array_capacity_changes_keep_content {α : Type} (a : ArrayM α) (n : Nat) :
    (a.expect n).data = a.data ∧ a.compress.data = a.data ∧ (a.data.length ≤ n → (a.resize n).data = a.data) ∧
    (a.resizeTo n).data = a.data := by
  refine ⟨by simp, by simp, ?_, rfl⟩
  intro h; rw [ArrayM.resize_data]; exact List.take_of_length_le h

theorem stream_capacity_changes_keep_content (P : Policy) (s : StreamM) (n : Nat) :
    (s.expect P n).data = s.data ∧ (s.insertNull P).data = s.data ∧ (s.expand P n).data = s.data := by
  simp

/-- `ResizeAndInitialize(n)` leaves exactly `n` constructed items and capacity `n`. -/
theorem array_resizeInit_full {α : Type} (d : α) (a : ArrayM α) (n : Nat) :
    (ArrayM.resizeInit d a n).data.length = (ArrayM.resizeInit d a n).cap ∧ (ArrayM.resizeInit d a n).cap = n :=
  ArrayM.resizeInit_full d a n

/-- `s += s` on a stream: after `Expect` the write does not reallocate. -/
theorem stream_self_append_no_realloc (P : Policy) (hP : P.Sound) (s : StreamM) :
    (s.appendStream P s.data).data = s.data ++ s.data ∧
    (s.appendStream P s.data).cap = (s.expect P s.data.length).cap :=
  ⟨by simp, StreamM.appendStream_no_realloc P hP s s.data⟩

/-- `a += a` in the explicit-heap model of `Array::operator+=(const Array&)` (pointer-level order of
effects of the current code): for every content and capacity no fault, result `l ++ l`, no stray item. -/
theorem array_self_append_heap_level : Qentem.SeqAlias.PatchedSelfAppend := Qentem.SeqAlias.patched_self_append

/-! ### `==` is equality of contents -/
theorem isEqual_iff : ∀ (l r : List Nat), isEqual l r = true ↔ l = r
  | [], [] | [], _ :: _ | _ :: _, [] => by simp [isEqual]
  | a :: as, b :: bs => by simp [isEqual, isEqual_iff as bs]

/-! ### The order operators are the lexicographic order of the unit lists (`<`/`≤` of `List Nat`; a
proper prefix is smaller), `>`/`>=` are their mirror images.  `Seq.isLess` / `Seq.isGreater` are the
functions C15 models as `Order.isLess` / `Order.isGreater`, whose lemmas serve here. -/
theorem seq_isLess_eq : ∀ (l r : List Nat) (oe : Bool), isLess l r oe = Order.isLess l r oe
  | [], [], oe | [], _ :: _, oe | _ :: _, [], oe => by simp [isLess, Order.isLess]
  | a :: as, b :: bs, oe => by
    unfold isLess Order.isLess
    simp only [seq_isLess_eq as bs oe]

theorem seq_isGreater_eq : ∀ (l r : List Nat) (oe : Bool), isGreater l r oe = Order.isGreater l r oe
  | [], [], oe | [], _ :: _, oe | _ :: _, [], oe => by simp [isGreater, Order.isGreater]
  | a :: as, b :: bs, oe => by
    unfold isGreater Order.isGreater
    simp only [seq_isGreater_eq as bs oe]

theorem isLess_iff (oe : Bool) : ∀ (l r : List Nat), isLess l r oe = true ↔ l < r ∨ (oe = true ∧ l = r) := by
  intro l r; rw [seq_isLess_eq]; exact Order.isLess_iff oe l r

theorem isLess_iff_lt : ∀ (l r : List Nat), isLess l r false = true ↔ l < r := by
  intro l r; rw [isLess_iff]; simp

theorem isLess_orEqual_iff_le : ∀ (l r : List Nat), isLess l r true = true ↔ l ≤ r := by
  intro l r; rw [isLess_iff, List.le_iff_lt_or_eq]; simp

theorem isGreater_eq_isLess_swap : ∀ (l r : List Nat) (oe : Bool), isGreater l r oe = isLess r l oe := by
  intro l r oe; rw [seq_isGreater_eq, seq_isLess_eq]; exact Order.isGreater_eq_isLess_swap l r oe

/-! ### Non-vacuity: concrete programs (tests, by evaluation) -/
example : (arrRun 0 [.push 0 1, .push 0 2, .appC 0 0, .appM 1 0, .resizeInit 2 3] arrInit 1).data = [1, 2, 1, 2] := by decide
example : (arrRun 0 [.push 0 1, .push 0 2, .appC 0 0, .appM 1 0, .resizeInit 2 3] arrInit 1).cap = 4 := by decide
example : (strRun [.ctorU 0 [97, 98], .appC 0 0, .stepBack 0 1] strInit 0).store = some [97, 98, 97, 0, 0] := by decide
example : (ssRun policyStd [.appU 0 0 [97, 98, 99], .appS 0 0] ssInit 0).cap = 16 := by decide
example : policyStd.Sound := policyStd_sound

end Qentem.Props.C14
