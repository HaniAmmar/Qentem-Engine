import Qentem.Proofs.NumToStrText17
import Qentem.Props.C11Float
/-! C11 closed for doubles and for floats.

`Props/C11Parser.lean` (parser area) proves `parseDouble t = readBits64 t` for `Text17 t` with the 1/32-ulp margin
(every mantissa; the scientific shape excludes the three numerals `1e-273`, `1e-286`, `1e-292`, which the parser
reads one unit low).  `Proofs/NumToStrText17.lean` (formatter area) proves that every `%.17g` text of a finite double
has the margin and a `Shape17` (`Text17` with that exclusion still to be discharged).
Here: `text17_format` (every `%.17g` text is a `Text17`: the three numerals are not `%.17g` outputs, `exc_bits`),
`parsesExactly17`, **`roundtrip17 : RoundTrip17 parseDouble`** (the whole of C11 for doubles through the real parser
model); for floats the reduction `roundtrip9_of_close`, `parsesClose9` and **`roundtrip9`**. -/
namespace Qentem.Props.C11
open Qentem.NumToStr Qentem.Proofs.Ident Qentem.Props.C11P

/-- the three numerals on which the parser is one unit off although the value keeps the 1/32 margin
(`StrToNum.negExc`) are not `%.17g` outputs: the doubles nearest to them print as `1.0000000000000001e-273`, …, so
their texts have a `.` after the first digit; `10 ^ 0 * 10 ^ x` is the denominator as `C11P.real_sci` gives it -/
theorem exc_bits (x : Nat) (hx : x = 273 ∨ x = 286 ∨ x = 292) :
    (FmtSpec.format64 (Round.nearestMag 1 (10 ^ 0 * 10 ^ x)) 17 .default)[1]? = some 46 ∧
    (FmtSpec.format64 (2 ^ 63 + Round.nearestMag 1 (10 ^ 0 * 10 ^ x)) 17 .default)[2]? = some 46 := by
  rcases hx with rfl | rfl | rfl <;> decide +kernel

/-- every `%.17g` text of a finite double is a `Text17`: the shape is `shape17_format`; an exponent text cannot be
`1e-273`, `1e-286` or `1e-292`, because the text identifies its double (`identifies17`) and the doubles nearest to
these three values print with 17 significant digits -/
theorem text17_format (b : Nat) (hb : isFinite64 b) : Text17 (FmtSpec.format64 b 17 .default) := by
  have hsh := shape17_format b hb.1 hb.2
  generalize ht : FmtSpec.format64 b 17 .default = t at hsh
  cases hsh with
  | plain _ h => exact h
  | sci neg d1 ys eneg ks h1 hys hy48 hlen hks hk0 hk8 hrange hpos hnegk =>
    refine Text17.sci neg d1 ys eneg ks h1 hys hy48 hlen hks hk0 hk8 hrange ?_
    intro hflag hexc
    -- an excluded numeral has no fraction digits and a negative exponent
    obtain ⟨hv1, hX⟩ := hexc
    have hge := StrToNum.decVal_ge d1 ys h1
    have hys0 : ys = [] := by
      rcases ys with _ | ⟨y, ys'⟩
      · rfl
      · exfalso
        have : 10 ^ 1 ≤ 10 ^ (y :: ys').length := Nat.pow_le_pow_right (by decide) (by simp)
        omega
    subst hys0
    cases eneg with
    | false =>
      unfold StrToNum.netExp at hflag
      simp at hflag
    | true =>
      have hk := hnegk rfl
      have hne : StrToNum.netExp false (StrToNum.decVal ks) true 0 = (StrToNum.decVal ks, true) := by
        unfold StrToNum.netExp; simp [hk]
      simp only [List.length_nil] at hX
      rw [hne] at hX
      simp only at hX
      -- the reference reader on the text, and the identification
      have href := readBits64_of_read (real_sci neg d1 [] true ks h1 hys hy48 (Nat.zero_le _) hks hk0 hk8).read
        (Nat.mul_pos (Nat.pow_pos (by decide)) (Nat.pow_pos (by decide)))
      have hid := spec_identifies17 b hb
      rw [ht] at hid
      rw [href] at hid
      simp only [if_true, List.length_nil] at hid
      rw [hv1] at hid
      have hb' := Option.some.inj hid
      have hE := exc_bits (StrToNum.decVal ks) hX
      cases neg with
      | false =>
        simp only [Bool.false_eq_true, if_false, Nat.zero_add] at hb'
        rw [hb', ht] at hE
        have := hE.1
        simp [FmtSpec.signed] at this
      | true =>
        simp only [if_true] at hb'
        rw [hb', ht] at hE
        have := hE.2
        simp [FmtSpec.signed] at this

/-- **C11, parser half, closed**: on the `%.17g` text of every finite double the real parser model (`StringToNumber`
and the callers' conversion) returns the correctly rounded double of the text -/
theorem parsesExactly17 : ParsesExactly17 parseDouble := by
  intro b t hb hf
  have ht : t = FmtSpec.format64 b 17 .default := by
    have := format17_is_reference b; rw [hf] at this; injection this
  subst ht
  exact parse_exact17 _ (text17_format b hb) (marginText_format b hb.1 hb.2)

/-- **C11 for doubles, closed — `roundtrip17`**: for every finite double, `NumberToString` with 17 significant digits
(as modelled) raises no fault, and `StringToNumber` followed by the callers' conversion (as modelled) maps the text
back to the original bit pattern. -/
theorem roundtrip17 : RoundTrip17 parseDouble := roundtrip17_of_parser parseDouble parsesExactly17

/-- instances: 0.1, 1e-300 (a one-digit significand with a long negative exponent) -/
example : ∃ t, format17 0x3FB999999999999A = .ok t ∧ parseDouble t = some 0x3FB999999999999A :=
  roundtrip17 _ (by decide)
example : ∃ t, format17 0x01A56E1FC2F8F359 = .ok t ∧ parseDouble t = some 0x01A56E1FC2F8F359 :=
  roundtrip17 _ (by decide)

/-- `float(double)`: round-to-nearest-even narrowing of a finite double pattern, through the reference rounding -/
def narrow32 (dd : Nat) : Option Nat :=
  match FmtSpec.decode64 dd with
  | .fin neg num den => some (FmtSpec.nearestBits 23 8 neg num den)
  | _ => none

/-- what the float round trip needs from a text → double parser: on the `%.9g` text of a finite non-zero float the
returned double has the float's sign and lies within 1/64 **float** ulp of the text's exact value (a correctly
rounded double is within 2^-30 float ulp; even a parser that is several thousand double ulps off would do); the two
zeros are read as zeros. -/
def ParsesClose9 (parseD : List Nat → Option Nat) : Prop :=
  (∀ b, isFinite32 b → ((b / 2 ^ 23) % 2 ^ 8 ≠ 0 ∨ b % 2 ^ 23 ≠ 0) →
    ∀ m d : Nat, FmtSpec.readDecimal (FmtSpec.format32 b 9 .default) = some (decide ((b / 2 ^ 31) % 2 = 1), m, d) →
      ∃ dd num den, parseD (FmtSpec.format32 b 9 .default) = some dd ∧
        FmtSpec.decode64 dd = .fin (decide ((b / 2 ^ 31) % 2 = 1)) num den ∧ 0 < den ∧
        |(num : ℚ) / den - (m : ℚ) / d| ≤ 1 / 64 * ulpQ 23 8 b) ∧
  parseD (FmtSpec.format32 0 9 .default) = some 0 ∧ parseD (FmtSpec.format32 (2 ^ 31) 9 .default) = some (2 ^ 63)

/-- **the float round trip for any such parser**: float → `%.9g` → double → `float(·)` returns
the original bits -/
theorem roundtrip9_of_close (parseD : List Nat → Option Nat) (h : ParsesClose9 parseD) :
    RoundTrip9 (fun t => (parseD t).bind narrow32) := by
  intro b hb
  refine ⟨_, format9_is_reference b, ?_⟩
  by_cases hnz : (b / 2 ^ 23) % 2 ^ 8 ≠ 0 ∨ b % 2 ^ 23 ≠ 0
  · obtain ⟨m, d, hd, hread, _, _, hnb⟩ := text_margin9 b hb hnz
    obtain ⟨dd, num, den, hp, hdec, hden, hclose⟩ := h.1 b hb hnz m d hread
    simp only [hp, Option.bind_some]
    unfold narrow32
    rw [hdec]
    simp only []
    rw [hnb num den hden hclose]
  · simp only [not_or, ne_eq, not_not] at hnz
    have hbb := hb.1
    have : b = 0 ∨ b = 2 ^ 31 := by omega
    rcases this with rfl | rfl
    · simp only [h.2.1, Option.bind_some]; decide +kernel
    · simp only [h.2.2, Option.bind_some]; decide +kernel

/-- **the real parser model satisfies `ParsesClose9`** — on the `%.9g` text of every finite non-zero
float, `StringToNumber` (as modelled) returns a finite double with the float's sign whose value is within
`3·2^-27` float ulp (≤ 1/64) of the text's exact value: the text is a `Text17` (`shape9_format`), the parser is within
one double ulp of the correctly rounded double on every such text (`parse_close17`, every mantissa), one double ulp is
`2^-29` float ulp or less (`close_value`). -/
theorem parsesClose9 : ParsesClose9 parseDouble := by
  refine ⟨?_, by decide +kernel, by decide +kernel⟩
  intro b hb hnz m d hread
  obtain ⟨m2, d2, hd2, hread2, hV, _, _⟩ := text_margin9 b hb hnz
  obtain ⟨rfl, rfl⟩ : m = m2 ∧ d = d2 := by simpa using hread.symm.trans hread2
  have hdq : (0 : ℚ) < d := by exact_mod_cast hd2
  -- the float's magnitude `σ·U`, `1 ≤ σ < 2^24`, between `2^-149` and `2^128`; the text's value is within `U/2` of it
  obtain ⟨hσ0, hσ2, -⟩ := sigField_bounds hnz
  obtain ⟨hmlo, hmhi⟩ := magQ_range 23 8 b 127 (by norm_num) (by decide) hb.2 hnz
  rw [show (1 : Int) - 127 - ((23 : Nat) : Int) = -149 by norm_num] at hmlo
  rw [show (2 : Int) ^ 8 - 1 - 127 = 128 by norm_num] at hmhi
  have hUpos := ulpQ_pos 23 8 b
  rw [magQ_eq] at hV hmlo hmhi
  generalize sigField 23 8 b = σ at *
  generalize ulpQ 23 8 b = U at *
  have hσU1 : U ≤ σ * U := le_mul_of_one_le_left hUpos.le (by exact_mod_cast hσ0)
  have hσU2 : (σ : ℚ) * U ≤ 2 ^ 24 * U :=
    mul_le_mul_of_nonneg_right (by exact_mod_cast hσ2.le) hUpos.le
  have hδU : (2 : ℚ) ^ 23 / 10 ^ 8 * U ≤ 1 / 2 * U := mul_le_mul_of_nonneg_right (by norm_num) hUpos.le
  rw [abs_lt] at hV
  have hvhi : (m : ℚ) / d ≤ 2 ^ 25 * U := by linarith only [hV.2, hσU2, hδU, hUpos]
  have hr1 : (2 : ℚ) ^ (-200 : Int) ≤ (m : ℚ) / d :=
    calc (2 : ℚ) ^ (-200 : Int) ≤ 2 ^ (-149 : Int) / 2 := by
          rw [zpow_neg, zpow_neg, zpow_ofNat, zpow_ofNat]; norm_num
      _ ≤ σ * U / 2 := div_le_div_of_nonneg_right hmlo (by norm_num)
      _ ≤ (m : ℚ) / d := by linarith only [hV.1, hσU1, hδU]
  have hr2 : (m : ℚ) / d < 2 ^ (200 : Int) :=
    calc (m : ℚ) / d ≤ 2 * (σ * U) := by linarith only [hV.2, hσU1, hδU, hUpos]
      _ < 2 * 2 ^ (128 : Int) := mul_lt_mul_of_pos_left hmhi (by norm_num)
      _ < 2 ^ (200 : Int) := by norm_num
  have hvpos : (0 : ℚ) < (m : ℚ) / d := lt_of_lt_of_le (by positivity) hr1
  have hm0 : 0 < m := by
    rcases Nat.eq_zero_or_pos m with h | h
    · subst h; simp at hvpos
    · exact h
  obtain ⟨neg', num', den', hrd', hden', hcase⟩ := parse_close17 _ (shape9_format b hb.1 hb.2)
  rw [hread] at hrd'
  obtain ⟨hs, rfl, rfl⟩ : decide ((b / 2 ^ 31) % 2 = 1) = neg' ∧ m = num' ∧ d = den' := by simpa using hrd'
  rcases hcase with ⟨p, hparse, _, hclose⟩ | hout
  · obtain ⟨rn, rd, hdec, hrd, hval⟩ := StrToNum.close_value neg' m d p hm0 hd2 hr1 hr2 hclose
    rw [← hs] at hparse hdec
    refine ⟨_, rn, rd, hparse, hdec, hrd, le_trans hval ?_⟩
    calc 3 * 2 ^ (-52 : Int) * ((m : ℚ) / d) ≤ 3 * 2 ^ (-52 : Int) * (2 ^ 25 * U) :=
          mul_le_mul_of_nonneg_left hvhi (by positivity)
      _ = (3 * 2 ^ (-52 : Int) * 2 ^ 25) * U := by ring
      _ ≤ 1 / 64 * U := mul_le_mul_of_nonneg_right (by norm_num) (le_of_lt hUpos)
  · exfalso
    rcases hout with h | h
    · have h1 : ((m * 2 ^ 1074 : Nat) : ℚ) < (d : ℚ) := by exact_mod_cast h
      rw [Nat.cast_mul, Nat.cast_pow, Nat.cast_ofNat] at h1
      have h2 : (m : ℚ) / d < 2 ^ (-1074 : Int) := by
        rw [zpow_neg, zpow_ofNat, div_lt_iff₀ hdq, inv_mul_eq_div, lt_div_iff₀ (by positivity)]; exact h1
      exact absurd (lt_of_le_of_lt (le_trans (zpow_le_zpow_right₀ (by norm_num) (by norm_num)) hr1) h2) (lt_irrefl _)
    · have kn : ((m : Nat) : ℚ) < ((2 ^ 200 * d : Nat) : ℚ) := by
        rw [Nat.cast_mul, Nat.cast_pow, Nat.cast_ofNat, ← div_lt_iff₀ hdq, ← zpow_ofNat]; exact hr2
      have hbig : 2 ^ 200 * d ≤ (2 ^ 53 - 1) * 2 ^ 971 * d := by
        apply Nat.mul_le_mul_right
        calc 2 ^ 200 ≤ 1 * 2 ^ 971 := by rw [Nat.one_mul]; exact Nat.pow_le_pow_right (by decide) (by decide)
          _ ≤ (2 ^ 53 - 1) * 2 ^ 971 := Nat.mul_le_mul_right _ (by decide)
      exact Nat.lt_irrefl _ (Nat.lt_trans h (Nat.lt_of_lt_of_le (by exact_mod_cast kn) hbig))

/-- **C11 for floats, closed — `roundtrip9`**: for every finite float, `NumberToString` with 9 significant digits (as
modelled) raises no fault, and `StringToNumber` (as modelled) followed by the callers' narrowing `float(double)`
(round to nearest even) returns the original bit pattern. -/
theorem roundtrip9 : RoundTrip9 (fun t => (parseDouble t).bind narrow32) := roundtrip9_of_close parseDouble parsesClose9

end Qentem.Props.C11
