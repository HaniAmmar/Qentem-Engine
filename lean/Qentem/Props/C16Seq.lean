import Qentem.Proofs.SeqLedger
/-! C16 (flat containers) — every allocation made by an `Array` (trivially copyable items, and owning items
`Array<String<char>>`), `String` or `StringStream` program is released exactly once and nothing is left when all objects
are destroyed. -/
namespace Qentem.Props.C16Seq
open Qentem.Seq Qentem.Ledger Qentem.SeqLedger

def regsOK (p : Prim) : Bool := p.regs.all (· < 5)

theorem finalDrops_eq : finalDrops = (List.range 5).map Prim.drop := by decide

theorem regsOK_iff (ps : List Prim) : ps.all regsOK = true ↔ ∀ p ∈ ps, ∀ x ∈ p.regs, x < 5 := by
  simp [regsOK]

theorem trace_balanced (ps : List Prim) (h : ps.all regsOK = true) : Balanced (traceOf ps) := by
  unfold traceOf; rw [finalDrops_eq]
  exact balanced_of_prims_list ps (List.range 5) fun p hm x hx => List.mem_range.2 ((regsOK_iff ps).1 h p hm x hx)

theorem all_ite {α : Type} (f : α → Bool) (c : Prop) [Decidable c] (a b : List α) :
    (if c then a else b).all f = if c then a.all f else b.all f := apply_ite (List.all · f) _ _ _

/-! Proof steps for the per-container statements below.  A compiled operation mentions only its own registers and
the temporaries `tmpT`, `tmpU`: the primitive lists are `if`s over literal lists, so `List.all` is pushed through them. -/

theorem regs_lt5 {rs : List Nat} (h : ∀ r ∈ rs, r < 3) : ∀ r ∈ rs, decide (r < 5) = true :=
  fun r hr => decide_eq_true (Nat.lt_trans (h r hr) (by decide))

theorem arrPrims_regs (ew : Nat) (op : ArrOp Nat) (st : ArrSt Nat) (h : ∀ r ∈ arrRegs op, r < 3) :
    (arrPrims ew op st).all regsOK = true := by
  have h5 := regs_lt5 h
  cases op <;>
    simp only [arrRegs, List.forall_mem_cons, List.not_mem_nil, false_imp_iff, implies_true, and_true] at h5 <;>
    simp only [arrPrims, when, renew, all_ite, List.all_append, List.all_cons, List.all_nil, regsOK, Prim.regs, tmpT,
      h5, Nat.reduceLT, decide_true, Bool.and_self, ite_self]

theorem strPrims_regs (w : Nat) (ff : Bool) (op : StrOp) (st : StrSt) (h : ∀ r ∈ strRegs op, r < 3) :
    (strPrims w ff op st).all regsOK = true := by
  have h5 := regs_lt5 h
  cases op <;>
    simp only [strRegs, List.forall_mem_cons, List.not_mem_nil, false_imp_iff, implies_true, and_true] at h5 <;>
    simp only [strPrims, when, renew, all_ite, List.all_append, List.all_cons, List.all_nil, regsOK, Prim.regs, tmpT, tmpU,
      h5, Nat.reduceLT, decide_true, Bool.and_self, ite_self]
  -- `operator=(const Char_T*)` from the string's own block first looks at the storage pointer
  case asgOwn r off =>
    cases (st r).store <;>
      simp only [all_ite, List.all_cons, List.all_nil, regsOK, Prim.regs, h5, Nat.reduceLT, decide_true, Bool.and_self,
        ite_self]

theorem ssPrims_regs (P : Policy) (w : Nat) (op : SsOp) (st : SsSt) (h : ∀ r ∈ ssRegs op, r < 3) :
    (ssPrims P w op st).all regsOK = true := by
  have h5 := regs_lt5 h
  cases op <;>
    simp only [ssRegs, List.forall_mem_cons, List.not_mem_nil, false_imp_iff, implies_true, and_true] at h5 <;>
    simp only [ssPrims, when, renew, all_ite, List.all_append, List.all_cons, List.all_nil, regsOK, Prim.regs, tmpT, tmpU,
      h5, Nat.reduceLT, decide_true, Bool.and_self, ite_self]

theorem program_regs {Op St : Type} (regs : Op → List Nat) (prims : Op → St → List Prim) (step : Op → St → St)
    (prog : List Op → St → List Prim) (hnil : ∀ st, prog [] st = [])
    (hcons : ∀ op ops st, prog (op :: ops) st = prims op st ++ prog ops (step op st))
    (hp : ∀ op st, (∀ r ∈ regs op, r < 3) → (prims op st).all regsOK = true) (ops : List Op) :
    ∀ st, (∀ op ∈ ops, ∀ r ∈ regs op, r < 3) → (prog ops st).all regsOK = true := by
  induction ops with
  | nil => intro st _; rw [hnil]; rfl
  | cons op ops ih =>
    intro st h
    rw [hcons, List.all_append, hp op st (h op List.mem_cons_self),
      ih _ (fun o ho => h o (List.mem_cons_of_mem _ ho))]
    rfl

/-! ## The property, per container: for **every** program over the three objects (self-assignment,
self-append, use of moved-from objects included — they are just programs), followed by the destruction
of the objects, the emitted allocation trace is `Balanced`: `Ledger.run` accepts every event (no release
of a block that is not live — so no double free and no release of something never allocated — and no id
allocated twice) and ends with the empty heap (nothing leaked). Any item/unit width, any capacity policy. -/

theorem array_trace_balanced (ew : Nat) (ops : List (ArrOp Nat)) (h : ∀ op ∈ ops, ∀ r ∈ arrRegs op, r < 3) :
    Balanced (arrTrace ew ops) :=
  trace_balanced _ (program_regs arrRegs (arrPrims ew) (fun op st => (op.step 0 st).1) (arrProgram ew) (fun _ => rfl)
    (fun _ _ _ => rfl) (arrPrims_regs ew) ops arrInit h)

theorem string_trace_balanced (w : Nat) (ff : Bool) (ops : List StrOp) (h : ∀ op ∈ ops, ∀ r ∈ strRegs op, r < 3) :
    Balanced (strTrace w ff ops) :=
  trace_balanced _ (program_regs strRegs (strPrims w ff) (fun op st => (op.step st).1) (strProgram w ff) (fun _ => rfl)
    (fun _ _ _ => rfl) (strPrims_regs w ff) ops strInit h)

theorem stream_trace_balanced (P : Policy) (w : Nat) (ops : List SsOp) (h : ∀ op ∈ ops, ∀ r ∈ ssRegs op, r < 3) :
    Balanced (ssTrace P w ops) :=
  trace_balanced _ (program_regs ssRegs (ssPrims P w) (fun op st => (op.step P st).1) (ssProgram P w) (fun _ => rfl)
    (fun _ _ _ => rfl) (ssPrims_regs P w) ops ssInit h)

/-- `Array<String<char>>` (owning items, one block per item with storage): every program — copies make
fresh blocks for every item, move-append adopts, `Drop/Clear/Reset`/shrinking release the dropped items,
destruction releases the items then the array block — emits a balanced trace.  No hypothesis on the
registers: the closing `drop`s cover every slot the program ever mentioned. -/
theorem array_owning_trace_balanced (ops : List (ArrOp Nat)) : Balanced (arrOwnTrace ops) := by
  simp only [arrOwnTrace]
  exact closedTrace_balanced _ _

/-- Between operations too: after any prefix of the primitives the allocator's live set is exactly the
set of blocks owned by some register, each by one register only (so a later release can never hit a
block that is already gone, and a block that no register owns cannot exist). -/
theorem live_set_is_owned_set (ps : List Prim) :
    ∃ h, run (execAll ps LW.init).2 [] = some h ∧ Sim h (execAll ps LW.init).1 :=
  execAll_sim ps [] LW.init sim_init

/-- (owning arrays) the same for every prefix of a program. -/
theorem owning_live_set_is_owned_set (ops : List (ArrOp Nat)) :
    ∃ h, run (execAll (arrOwnProgram ops 1 arrInit OW.init).1 LW.init).2 [] = some h ∧
      Sim h (execAll (arrOwnProgram ops 1 arrInit OW.init).1 LW.init).1 :=
  live_set_is_owned_set _

/-! Non-vacuity (tests by evaluation): self-append, self-move-append, self-assignment, moved-from use. -/
example : arrTrace 4 [.push 0 1, .push 0 2, .push 0 3, .appC 0 0, .appM 0 0, .push 0 9, .asgC 0 0, .asgM 1 0, .push 0 5] =
    [.alloc 1 8, .alloc 2 16, .free 1, .alloc 3 24, .free 2, .alloc 4 48, .free 3, .free 4, .alloc 5 8, .alloc 6 8, .free 6, .free 5] := by decide
example : Balanced (strTrace 2 false [.ctorU 0 [97, 98], .appC 0 0, .appM 0 0, .asgM 1 0, .plusM 2 1 1, .appCh 1 65]) := by unfold Balanced; decide
example : Balanced (ssTrace policyStd 1 [.appU 0 0 [97, 98, 99], .appS 0 0, .shlS 0 0, .getString 0, .asgM 0 0, .ctorM 1 0, .pushCh 0 0 7]) := by unfold Balanced; decide
example : arrOwnTrace [.push 0 7, .push 0 8, .appC 0 0, .asgC 1 0, .drop 0 3] =
    [.alloc 1 3, .alloc 2 32, .alloc 3 3, .alloc 4 3, .free 3, .alloc 5 64, .free 2, .alloc 6 3, .alloc 7 3, .alloc 8 64, .alloc 9 3, .alloc 10 3, .alloc 11 3, .alloc 12 3, .free 4, .free 6, .free 7, .free 1, .free 5, .free 9, .free 10, .free 11, .free 12, .free 8] := by decide

end Qentem.Props.C16Seq
