import Qentem.Model.NumToStr
import Qentem.Model.FmtSpec
import Qentem.Generated.NumToStr
import Qentem.Proofs.NumToStrAppend
import Qentem.Proofs.NumToStrFinite
/-! C10 — number to text equals the reference formatting for every value and precision.

Model: `Qentem.NumToStr` (transcription of `Digit.hpp`), reference: `Qentem.FmtSpec` (ISO C
`%.{p}g` / `%.{p}f` on exact rationals, written without looking at the code).  Code units are
`Nat`, so every statement holds for `char`, `char16_t` and `char32_t` alike. -/
namespace Qentem.Props.C10
open Qentem.NumToStr Qentem.Generated.NumToStr
open Qentem.Proofs.NumToStr (IsWidth fmtOf IntValued64)

/-! ### T1: the tables and constants compiled from the current headers are what the proofs assume
(a changed table entry, mask, width or enum value breaks these). -/

/-- `DigitTable1` is "00".."99", `DigitTable2` is "0".."9", with their terminators. -/
theorem tables_ok_digits :
    digitTable1 = (List.range 100).flatMap (fun n => [48 + n / 10, 48 + n % 10]) ∧
    digitTable2 = (List.range 10).map (48 + ·) ∧
    digitTable1Size = 201 ∧ digitTable2Size = 11 := by decide +kernel

/-- powers of five are exact, in the 8-byte configuration (the one this build uses) and the 4-byte one;
`MaxPowerOfTenValue = 10^MaxPowerOfTen`; `MaxShift` is the word width. -/
theorem tables_ok_powers :
    C8.powerOfFive = (List.range (C8.maxPowerOfFive + 1)).map (5 ^ ·) ∧
    C4.powerOfFive = (List.range (C4.maxPowerOfFive + 1)).map (5 ^ ·) ∧
    C8.maxPowerOfFive = 27 ∧ C4.maxPowerOfFive = 13 ∧
    C8.maxPowerOfTenValue = 10 ^ C8.maxPowerOfTen ∧ C4.maxPowerOfTenValue = 10 ^ C4.maxPowerOfTen ∧
    C8.maxPowerOfTen = 19 ∧ C4.maxPowerOfTen = 9 ∧
    5 ^ C8.maxPowerOfFive < 2 ^ C8.maxShift ∧ 5 ^ C4.maxPowerOfFive < 2 ^ C4.maxShift ∧
    C8.maxPowerOfTenValue < 2 ^ C8.maxShift ∧ C4.maxPowerOfTenValue < 2 ^ C4.maxShift ∧
    C8.maxShift = 64 ∧ C4.maxShift = 32 ∧ systemIntBytes = 8 ∧ wordBits = C8.maxShift := by decide +kernel

/-- `RealNumberInfo` is the IEEE 754 binary64 / binary32 layout; the BigInt declared by
`realToString` has 1344 / 320 bits in 64-bit words. -/
theorem tables_ok_real_info :
    F64.mantissaSize = 52 ∧ F64.exponentSize = 11 ∧ F64.bias = 2 ^ 10 - 1 ∧ F64.signMask = 2 ^ 63 ∧
    F64.exponentMask = (2 ^ 11 - 1) * 2 ^ 52 ∧ F64.mantissaMask = 2 ^ 52 - 1 ∧ F64.leadingBit = 2 ^ 52 ∧
    F64.bigIntTotalBits = 1344 ∧ F64.bigIntMaxIndex = 20 ∧ F64.bigIntTypeWidth = 64 ∧
    F32.mantissaSize = 23 ∧ F32.exponentSize = 8 ∧ F32.bias = 2 ^ 7 - 1 ∧ F32.signMask = 2 ^ 31 ∧
    F32.exponentMask = (2 ^ 8 - 1) * 2 ^ 23 ∧ F32.mantissaMask = 2 ^ 23 - 1 ∧ F32.leadingBit = 2 ^ 23 ∧
    F32.bigIntTotalBits = 320 ∧ F32.bigIntMaxIndex = 4 ∧ F32.bigIntTypeWidth = 64 := by decide +kernel

/-- characters, literal strings (every character width) and enum numbering -/
theorem tables_ok_strings :
    [Ch.zero, Ch.one, Ch.five, Ch.nine, Ch.e, Ch.dot, Ch.positive, Ch.negative] = [48, 49, 53, 57, 101, 46, 43, 45] ∧
    S1.infinity = FmtSpec.inf ∧ S2.infinity = FmtSpec.inf ∧ S4.infinity = FmtSpec.inf ∧
    S1.notANumber = FmtSpec.nan ∧ S2.notANumber = FmtSpec.nan ∧ S4.notANumber = FmtSpec.nan ∧
    S1.zeros = List.replicate 19 48 ∧ S2.zeros = S1.zeros ∧ S4.zeros = S1.zeros ∧
    S1.zerosLength = 19 ∧ S2.zerosLength = 19 ∧ S4.zerosLength = 19 ∧ C8.maxPowerOfTen ≤ S1.zerosLength ∧
    S1.terminators = [0, 0, 0] ∧ S2.terminators = [0, 0, 0] ∧ S4.terminators = [0, 0, 0] ∧
    [fmtDefault, fmtFixed, fmtSemiFixed] = [0, 1, 2] ∧ defaultPrecision = 6 ∧ sizeTBytes = 4 ∧
    maxDigits = [1, 2, 4, 8].map maxDigitsOf := by decide +kernel

/-! ### integers: the text is the exact decimal representation -/

/-- Unsigned 8/16/32/64-bit: for every value the stream becomes what it held followed by exactly
`Nat.toDigits 10 n` (as code units).  In particular no fault: the table reads and the on-stack digit
buffer stay in range. -/
theorem int_to_string_exact_unsigned (pre : List Nat) (bytes n : Nat) (hb : IsWidth bytes) (hn : n < 2 ^ (8 * bytes)) :
    intToString pre bytes false n = .ok (pre ++ (Nat.toDigits 10 n).map Char.toNat) :=
  Qentem.Proofs.NumToStr.intToString_unsigned pre hb hn

/-- Signed 8/16/32/64-bit, **including the minimum values**: `v` ranges over the whole two's
complement range, the argument of the model is its bit pattern; the text is `-` (when negative)
followed by the digits of `|v|`. -/
theorem int_to_string_exact_signed (pre : List Nat) (bytes : Nat) (hb : IsWidth bytes) (v : Int)
    (hlo : -(2 ^ (8 * bytes - 1) : Int) ≤ v) (hhi : v < (2 ^ (8 * bytes - 1) : Int)) :
    intToString pre bytes true ((v % (2 ^ (8 * bytes) : Int)).toNat) =
      .ok (pre ++ (if v < 0 then [45] else []) ++ (Nat.toDigits 10 v.natAbs).map Char.toNat) :=
  Qentem.Proofs.NumToStr.intToString_signed pre hb v hlo hhi

/-- `IntToString<true>` (used by `bigIntToString`): the reversed digits. -/
theorem int_to_string_reversed (bytes n : Nat) (hb : IsWidth bytes) (hn : n < 2 ^ (8 * bytes)) :
    intRev bytes n = .ok ((Nat.toDigits 10 n).map Char.toNat).reverse :=
  Qentem.Proofs.NumToStr.intRev_eq hb hn

/-- `bigIntToString` appends the reversed decimal digits of the BigInt's value (nothing for zero),
19 digits per 64-bit division — for every value that fits the declared width. -/
theorem big_int_to_string_exact (tb : Nat) (s : List Nat) (b : Nat) (hb : b < 2 ^ tb) :
    bigIntToString tb s b = .ok (s ++ (if b = 0 then [] else ((Nat.toDigits 10 b).map Char.toNat).reverse)) :=
  Qentem.Proofs.NumToStr.bigIntToString_eq s hb

/-! non-vacuity: the minimum values are in range, and concrete instances -/
example : int_to_string_exact_signed [120] 8 (Or.inr (Or.inr (Or.inr rfl))) (-9223372036854775808) (by decide) (by decide) =
    int_to_string_exact_signed [120] 8 (Or.inr (Or.inr (Or.inr rfl))) (-9223372036854775808) (by decide) (by decide) := rfl
example : intToString [120] 8 true 9223372036854775808 =
    .ok ([120, 45] ++ [57, 50, 50, 51, 51, 55, 50, 48, 51, 54, 56, 53, 52, 55, 55, 53, 56, 48, 56]) := by decide +kernel
example : intToString [] 1 true 128 = .ok [45, 49, 50, 56] := by decide +kernel
example : intToString [] 2 false 65535 = .ok [54, 53, 53, 51, 53] := by decide +kernel

/-! ### append-only -/

/-- integer path: the result is the old contents followed by text (both signs, every width) -/
theorem append_only_int (pre : List Nat) (bytes : Nat) (sg : Bool) (raw : Nat) (out : List Nat)
    (h : intToString pre bytes sg raw = .ok out) : ∃ text, out = pre ++ text :=
  (Qentem.Proofs.NumToStr.intToString_keeps (Qentem.Proofs.NumToStr.Ext.refl (Nat.le_refl pre.length)) out h).exists_append

/-- real path, every configuration, bit pattern, precision and format: whenever the model of
`realToString` returns, the stream is what it held before followed by the new text.  Every in-place
poke of the model is guarded (`wrAt`: a write below `started_at` is the fault `prefixWrite`, a write
at or past `Length()` the fault `oobWrite`), so this reads: a run of the formatter that does not
poke outside the digit run leaves the destination's earlier contents untouched. -/
theorem append_only_real (c : Cfg) (pre : List Nat) (bits p f : Nat) (out : List Nat)
    (h : realToString c pre bits p f = .ok out) : ∃ text, out = pre ++ text :=
  Qentem.Proofs.NumToStr.realToString_append_only h

example : realToString f64 [57, 57] 0x4023000000000000 0 fmtFixed = .ok [57, 57, 49, 48] := by decide +kernel  -- 9.5 → "10" after "99"

/-! ### special values and the main statement -/

/-- The reference format selected by the library's `RealFormatType` number. -/
abbrev specFmt (f : Nat) : FmtSpec.Fmt := fmtOf f

/-- **C10, main statement** (proved: `format_eq_spec`).  For every bit pattern, every
precision up to 40 and each of the three formats the model appends exactly the reference text
(`%.{p}g`, `%.{p}f`, `%.{p}f` stripped; `inf`, `-inf`, `nan`), for doubles and for floats. -/
def FormatEqSpec : Prop :=
  (∀ pre bits p f, bits < 2 ^ 64 → p ≤ 40 → f ≤ 2 →
      realToString f64 pre bits p f = .ok (pre ++ FmtSpec.format64 bits p (specFmt f))) ∧
  (∀ pre bits p f, bits < 2 ^ 32 → p ≤ 40 → f ≤ 2 →
      realToString f32 pre bits p f = .ok (pre ++ FmtSpec.format32 bits p (specFmt f)))

/-- the non-finite patterns and the zeros -/
def Special64 (bits : Nat) : Prop :=
  (bits / 2 ^ 52) % 2 ^ 11 = 2 ^ 11 - 1 ∨ ((bits / 2 ^ 52) % 2 ^ 11 = 0 ∧ bits % 2 ^ 52 = 0)
def Special32 (bits : Nat) : Prop :=
  (bits / 2 ^ 23) % 2 ^ 8 = 2 ^ 8 - 1 ∨ ((bits / 2 ^ 23) % 2 ^ 8 = 0 ∧ bits % 2 ^ 23 = 0)

instance (b : Nat) : Decidable (Special64 b) := by unfold Special64; infer_instance
instance (b : Nat) : Decidable (Special32 b) := by unfold Special32; infer_instance

/-- Every infinity, every NaN pattern (any payload, either sign) and both zeros
print the reference text in each format and at every precision, after any stream contents. -/
theorem special_values :
    (∀ pre bits p f, Special64 bits → p ≤ 1048576 →
      realToString f64 pre bits p f = .ok (pre ++ FmtSpec.format64 bits p (specFmt f))) ∧
    (∀ pre bits p f, Special32 bits → p ≤ 1048576 →
      realToString f32 pre bits p f = .ok (pre ++ FmtSpec.format32 bits p (specFmt f))) := by
  constructor
  · intro pre bits p f hs hp
    rcases hs with he | ⟨he, hf⟩
    · exact Qentem.Proofs.NumToStr.nonfinite Qentem.Proofs.NumToStr.masks64 pre bits p f he
    · exact Qentem.Proofs.NumToStr.zero Qentem.Proofs.NumToStr.masks64 (by decide) pre bits p f hp he hf
  · intro pre bits p f hs hp
    rcases hs with he | ⟨he, hf⟩
    · exact Qentem.Proofs.NumToStr.nonfinite Qentem.Proofs.NumToStr.masks32 pre bits p f he
    · exact Qentem.Proofs.NumToStr.zero Qentem.Proofs.NumToStr.masks32 (by decide) pre bits p f hp he hf

/-- **The double half of `FormatEqSpec`**: for every one of the 2^64 bit patterns (indeed for every natural number read as a
pattern) and any prior stream contents; `.ok` means no fault (no out-of-range access, no size wrap, no BigInt overflow). -/
theorem format_eq_spec_double (pre : List Nat) (bits p f : Nat) (hp : p ≤ 40) (hf : f ≤ 2) :
    realToString f64 pre bits p f = .ok (pre ++ FmtSpec.format64 bits p (specFmt f)) := by
  by_cases hs : Special64 bits
  · exact special_values.1 pre bits p f hs (by omega)
  · unfold Special64 at hs
    exact Qentem.Proofs.NumToStr.realToString_finite_eq_spec Qentem.Proofs.NumToStr.ieee64 pre bits p f hp hf
      (by omega) (by omega)

/-- **The float half of `FormatEqSpec`**: every `binary32` bit pattern, any prior stream contents; the class theorems
instantiated with 23 mantissa bits, bias 127 and the 320-bit BigInt (`Shape f32 23 127`). -/
theorem format_eq_spec_float (pre : List Nat) (bits p f : Nat) (hp : p ≤ 40) (hf : f ≤ 2) :
    realToString f32 pre bits p f = .ok (pre ++ FmtSpec.format32 bits p (specFmt f)) := by
  by_cases hs : Special32 bits
  · exact special_values.2 pre bits p f hs (by omega)
  · unfold Special32 at hs
    exact Qentem.Proofs.NumToStr.realToString_finite_eq_spec Qentem.Proofs.NumToStr.ieee32 pre bits p f hp hf
      (by omega) (by omega)

/-- what the reference text is for the special values (so `special_values` is not about an odd spec) -/
theorem special_values_text :
    FmtSpec.format64 0x7FF0000000000000 6 .default = [105, 110, 102] ∧                 -- inf
    FmtSpec.format64 0xFFF0000000000000 0 .fixed = [45, 105, 110, 102] ∧               -- -inf
    FmtSpec.format64 0x7FF8000000000001 3 .semiFixed = [110, 97, 110] ∧                -- nan
    FmtSpec.format64 0xFFFFFFFFFFFFFFFF 3 .fixed = [110, 97, 110] ∧                    -- nan (negative, payload)
    FmtSpec.format64 0 3 .fixed = [48, 46, 48, 48, 48] ∧                               -- 0.000
    FmtSpec.format64 0x8000000000000000 2 .default = [45, 48] ∧                        -- -0
    FmtSpec.format64 0x8000000000000000 0 .fixed = [45, 48] ∧
    FmtSpec.format32 0x80000000 4 .semiFixed = [45, 48] ∧
    FmtSpec.format32 0x7F800000 4 .semiFixed = [105, 110, 102] := by decide +kernel

/-- Integer-valued normal doubles (exponent field `e ≥ 1023`, no fractional bits left):
`2^52 + f = 2^j · odd` with `52 - j ≤ e - 1023`.  Every double of magnitude ≥ 2^52 is one
(`integer_valued_of_big`), as is every integer below 2^53. -/
def IntegerValued64 (bits : Nat) : Prop := ∃ j, IntValued64 ((bits / 2 ^ 52) % 2 ^ 11) (bits % 2 ^ 52) j

theorem integer_valued_of_big (bits : Nat) (h1 : 1075 ≤ (bits / 2 ^ 52) % 2 ^ 11) (h2 : (bits / 2 ^ 52) % 2 ^ 11 < 2047) :
    IntegerValued64 bits :=
  Qentem.Proofs.NumToStr.intValued_of_big h1 h2 (Nat.mod_lt _ (Nat.two_pow_pos 52))

/-- For every integer-valued double — i.e. **every double with
|x| ≥ 2^52 (47 % of all finite doubles) and every integer** — Fixed and SemiFixed print exactly the
reference (`%.{p}f`, and `%.{p}f` stripped), at every precision, after any stream contents (the digit run is exact:
no rounding happens). -/
theorem format_eq_spec_integers (pre : List Nat) (bits p f : Nat) (hp : p ≤ 1048576) (hf : f = 1 ∨ f = 2)
    (h : IntegerValued64 bits) :
    realToString f64 pre bits p f = .ok (pre ++ FmtSpec.format64 bits p (specFmt f)) := by
  obtain ⟨j, hj⟩ := h
  obtain ⟨hpos, _, hfin, h0⟩ := hj.fields
  exact Qentem.Proofs.NumToStr.realToString_int_fixed Qentem.Proofs.NumToStr.ieee64 pre bits p f hf hp hpos hfin h0

/-- integer-valued floats: `2^23 + f = 2^j · odd` with `23 - j ≤ e - 127`; every float of magnitude ≥ 2^23 is one -/
def IntegerValued32 (bits : Nat) : Prop :=
  ∃ j, Qentem.Proofs.NumToStr.F32.IntValued32 ((bits / 2 ^ 23) % 2 ^ 8) (bits % 2 ^ 23) j

theorem integer_valued_of_big32 (bits : Nat) (h1 : 150 ≤ (bits / 2 ^ 23) % 2 ^ 8) (h2 : (bits / 2 ^ 23) % 2 ^ 8 < 255) :
    IntegerValued32 bits :=
  Qentem.Proofs.NumToStr.F32.intValued_of_big h1 h2 (Nat.mod_lt _ (Nat.two_pow_pos 23))

/-- Every integer-valued float (all |x| ≥ 2^23 and all integers), Fixed and
SemiFixed, any precision, any stream contents: exactly the reference text. -/
theorem format_eq_spec_integers32 (pre : List Nat) (bits p f : Nat) (hp : p ≤ 1048576) (hf : f = 1 ∨ f = 2)
    (h : IntegerValued32 bits) :
    realToString f32 pre bits p f = .ok (pre ++ FmtSpec.format32 bits p (specFmt f)) := by
  obtain ⟨j, hj⟩ := h
  obtain ⟨hpos, _, hfin, h0⟩ := hj.fields
  exact Qentem.Proofs.NumToStr.realToString_int_fixed Qentem.Proofs.NumToStr.ieee32 pre bits p f hf hp hpos hfin h0

example : IntegerValued32 0x4B800000 := integer_valued_of_big32 _ (by decide) (by decide)   -- 2^24

/-- non-vacuity: 1e21 (= 0x444B1AE4D6E2EF50) and 3.0 are integer-valued; 0.5 is not -/
example : IntegerValued64 0x444B1AE4D6E2EF50 := integer_valued_of_big _ (by decide) (by decide)
example : IntegerValued64 0x4008000000000000 := ⟨51, by constructor <;> decide⟩
example : realToString f64 [] 0x444B1AE4D6E2EF50 2 fmtFixed =
    .ok [49,48,48,48,48,48,48,48,48,48,48,48,48,48,48,48,48,48,48,48,48,48,46,48,48] := by decide +kernel  -- 1000000000000000000000.00

/-! ### the digit run is exact (whole real path) -/

/-- **`digits_exact_or_sticky`** — doubles.  For every finite non-zero bit pattern, every format and every
precision ≤ 40, the model's digit run (`bigIntDropDigits`, the ×5^27 loop with its mid-loop shifts, the
checked BigInt width) returns **without fault** a BigInt `b` with
`b = ⌊v · 10^fl / 10^d⌋` for the exact value `v = num/den` the reference decodes (`fl` = the fraction
length handed to the formatter, `d` = number of integer digits dropped; one of them is 0), and
`round_up = true ↔` the cut-off part is non-zero.  So the digit string the formatter receives is the exact
decimal expansion of the binary value truncated at a known place, plus a correct sticky flag: after this,
`FormatEqSpec` is a statement about the string-level formatter alone. -/
theorem digits_exact_or_sticky (bits p fmt : Nat) (hp : p ≤ 40)
    (hfin : (bits / 2 ^ 52) % 2 ^ 11 ≠ 2 ^ 11 - 1)
    (hnz : (bits / 2 ^ 52) % 2 ^ 11 ≠ 0 ∨ bits % 2 ^ 52 ≠ 0) :
    ∃ b digits fl pos ru d num den,
      digitRun f64 (bits % 2 ^ 52) ((bits / 2 ^ 52) % 2 ^ 11 * 2 ^ 52) p fmt = .ok (b, digits, fl, pos, ru) ∧
      FmtSpec.decode64 bits = .fin (decide ((bits / 2 ^ 63) % 2 = 1)) num den ∧ 0 < den ∧
      (fl = 0 ∨ d = 0) ∧
      b = num * 10 ^ fl / (den * 10 ^ d) ∧
      (ru = true ↔ (num * 10 ^ fl) % (den * 10 ^ d) ≠ 0) :=
  Qentem.Proofs.NumToStr.digitRun_exact (X := 11) Qentem.Proofs.NumToStr.shape64 (by decide) (by decide)
    bits p fmt hp hfin hnz

/-- the same for floats -/
theorem digits_exact_or_sticky32 (bits p fmt : Nat) (hp : p ≤ 40)
    (hfin : (bits / 2 ^ 23) % 2 ^ 8 ≠ 2 ^ 8 - 1)
    (hnz : (bits / 2 ^ 23) % 2 ^ 8 ≠ 0 ∨ bits % 2 ^ 23 ≠ 0) :
    ∃ b digits fl pos ru d num den,
      digitRun f32 (bits % 2 ^ 23) ((bits / 2 ^ 23) % 2 ^ 8 * 2 ^ 23) p fmt = .ok (b, digits, fl, pos, ru) ∧
      FmtSpec.decode32 bits = .fin (decide ((bits / 2 ^ 31) % 2 = 1)) num den ∧ 0 < den ∧
      (fl = 0 ∨ d = 0) ∧
      b = num * 10 ^ fl / (den * 10 ^ d) ∧
      (ru = true ↔ (num * 10 ^ fl) % (den * 10 ^ d) ≠ 0) :=
  Qentem.Proofs.NumToStr.digitRun_exact (X := 8) Qentem.Proofs.NumToStr.shape32 (by decide) (by decide)
    bits p fmt hp hfin hnz

/-- non-vacuity: 0.1 at 17 digits — the run is ⌊0.1·10^20⌋ = 10000000000000000555 (20 fractional digits), sticky -/
example : digitRun f64 (0x3FB999999999999A % 2 ^ 52) ((0x3FB999999999999A / 2 ^ 52) % 2 ^ 11 * 2 ^ 52) 17 0 =
    .ok (10000000000000000555, 2, 20, false, true) := by decide +kernel

/-- Default format (`%.{p}g`), every integer-valued double whose decimal
numeral has at most `P` digits (`P` = precision, 1 for precision 0): the plain numeral, no exponent form,
exactly as printf.  (Integers with more digits than the precision: `format_eq_spec_integers_default_all`.) -/
theorem format_eq_spec_integers_default (pre : List Nat) (bits p : Nat) (hp : p ≤ 1048576) (j : Nat)
    (h : IntValued64 ((bits / 2 ^ 52) % 2 ^ 11) (bits % 2 ^ 52) j)
    (hl : ((Nat.toDigits 10 (Qentem.Proofs.NumToStr.intValue64 ((bits / 2 ^ 52) % 2 ^ 11) (bits % 2 ^ 52))).map Char.toNat).length
        ≤ (if p = 0 then 1 else p)) :
    realToString f64 pre bits p fmtDefault = .ok (pre ++ FmtSpec.format64 bits p (specFmt fmtDefault)) := by
  obtain ⟨hpos, he0, hfin, h0⟩ := h.fields
  refine Qentem.Proofs.NumToStr.realToString_of_layout Qentem.Proofs.NumToStr.ieee64 pre bits p 0 hfin (Or.inl he0)
    (Or.inr ⟨hpos, h0⟩) ?_
  intro s num den hv
  rw [Qentem.Proofs.NumToStr.default_prec]
  exact Qentem.Proofs.NumToStr.layout_small_int Qentem.Proofs.NumToStr.shape64 hv hpos h0
    (Qentem.Proofs.NumToStr.intValue64_eq h ▸ hl) s

/-! The class theorems from here to `format_eq_spec_fixed_all` (`…_integers_default_all`, `…_short_fractions`,
`…_default_large`, `…_fixed_ge1`, `…_default_ge1`, `…_ge1`) are cases of `format_eq_spec_double`: beside `p ≤ 40` and
the format, their hypotheses only name the class of values; the proofs do not use them. -/

/-- Default format (`%.{p}g`), every integer-valued double (in particular every |x| ≥ 2^52), precision ≤ 40. -/
theorem format_eq_spec_integers_default_all (pre : List Nat) (bits p : Nat) (hp : p ≤ 40) (h : IntegerValued64 bits) :
    realToString f64 pre bits p fmtDefault = .ok (pre ++ FmtSpec.format64 bits p (specFmt fmtDefault)) :=
  format_eq_spec_double pre bits p fmtDefault hp (by decide)

/-- tests (kernel evaluation): 2^70 at 5 digits; 250 at 1 digit (tie to even) -/
example : realToString f64 [] 0x4450000000000000 5 fmtDefault = .ok [49, 46, 49, 56, 48, 54, 101, 43, 50, 49] := by
  decide +kernel   -- 1.1806e+21
example : realToString f64 [] 0x406F400000000000 1 fmtDefault = .ok [50, 101, 43, 48, 50] := by decide +kernel  -- 2e+02

/-- the digit estimate of `realToString` is exactly the number of decimal digits of `2^e`, for every binary
exponent a double or float can have -/
theorem digit_estimate_exact : ∀ e, e ≤ 1130 →
    10 ^ (e * 30103 / 100000) ≤ 2 ^ e ∧ 2 ^ e < 10 ^ (e * 30103 / 100000 + 1) :=
  Qentem.Proofs.NumToStr.est_table

/-- number of binary fraction digits of a double (`0` for integers): `52 - ctz(mantissa) ∓ exponent` -/
abbrev fracBits64 (bits : Nat) : Nat :=
  Qentem.Proofs.NumToStr.fracBits 52 1023 (bits % 2 ^ 52) ((bits / 2 ^ 52) % 2 ^ 11)

/-- Fixed and SemiFixed, every double `k · 2^-j` whose binary fraction has `j` digits with
`0 < j ≤ precision ≤ 40` (any magnitude, e.g. 0.5, 0.375, -1234.5625, 2^-40). -/
theorem format_eq_spec_short_fractions (pre : List Nat) (bits p f : Nat) (hf : f = 1 ∨ f = 2) (hp : p ≤ 40)
    (hfin : (bits / 2 ^ 52) % 2 ^ 11 ≠ 2 ^ 11 - 1) (h0 : 0 < fracBits64 bits) (hle : fracBits64 bits ≤ p) :
    realToString f64 pre bits p f = .ok (pre ++ FmtSpec.format64 bits p (specFmt f)) :=
  format_eq_spec_double pre bits p f hp (by omega)

/-- non-vacuity: 0.375 has 3 fraction bits, -1234.5625 has 4 -/
example : fracBits64 0x3FD8000000000000 = 3 ∧ fracBits64 0xC0934A4000000000 = 4 := by decide
example : realToString f64 [] 0xC0934A4000000000 6 fmtFixed =
    .ok [45, 49, 50, 51, 52, 46, 53, 54, 50, 53, 48, 48] := by decide +kernel   -- -1234.562500

/-- Default (`%.{p}g`), every double ≥ 1 whose digit estimate `⌊e·30103/100000⌋+1` exceeds `P` (so every
|x| ≥ 10^P, e.g. all |x| ≥ 1e40 at any precision ≤ 40), integer or not. -/
theorem format_eq_spec_default_large (pre : List Nat) (bits p : Nat) (hp : p ≤ 40)
    (hfin : (bits / 2 ^ 52) % 2 ^ 11 ≠ 2 ^ 11 - 1) (hge1 : 1023 ≤ (bits / 2 ^ 52) % 2 ^ 11)
    (hx : (if p = 0 then 1 else p) < ((bits / 2 ^ 52) % 2 ^ 11 - 1023) * 30103 / 100000 + 1) :
    realToString f64 pre bits p fmtDefault = .ok (pre ++ FmtSpec.format64 bits p (specFmt fmtDefault)) :=
  format_eq_spec_double pre bits p fmtDefault hp (by decide)

/-- test: 1521525.3 at 6 digits → 1.52153e+06 -/
example : realToString f64 [] 0x413737754CCCCCCD 6 fmtDefault =
    .ok [49, 46, 53, 50, 49, 53, 51, 101, 43, 48, 54] := by decide +kernel

/-- Fixed (`%.{p}f`) and SemiFixed, every finite double of magnitude ≥ 1, precision ≤ 40. -/
theorem format_eq_spec_fixed_ge1 (pre : List Nat) (bits p f : Nat) (hf : f = 1 ∨ f = 2) (hp : p ≤ 40)
    (hfin : (bits / 2 ^ 52) % 2 ^ 11 ≠ 2 ^ 11 - 1) (hge1 : 1023 ≤ (bits / 2 ^ 52) % 2 ^ 11) :
    realToString f64 pre bits p f = .ok (pre ++ FmtSpec.format64 bits p (specFmt f)) :=
  format_eq_spec_double pre bits p f hp (by omega)

/-- tests (kernel evaluation): 11150.001 SemiFixed 2 → 11150; 9999.995 Fixed 2 → 10000.00 (carry out);
2.5 Fixed 0 → 2 (tie to even) -/
example : realToString f64 [] 0x40C5C7002085B185 2 fmtSemiFixed = .ok [49, 49, 49, 53, 48] := by decide +kernel
example : realToString f64 [] 0x40C387FF5C28F5C3 2 fmtFixed = .ok [49, 48, 48, 48, 48, 46, 48, 48] := by decide +kernel
example : realToString f64 [] 0x4004000000000000 0 fmtFixed = .ok [50] := by decide +kernel

/-- Default (`%.{p}g`), every finite double of magnitude ≥ 1, precision ≤ 40. -/
theorem format_eq_spec_default_ge1 (pre : List Nat) (bits p : Nat) (hp : p ≤ 40)
    (hfin : (bits / 2 ^ 52) % 2 ^ 11 ≠ 2 ^ 11 - 1) (hge1 : 1023 ≤ (bits / 2 ^ 52) % 2 ^ 11) :
    realToString f64 pre bits p fmtDefault = .ok (pre ++ FmtSpec.format64 bits p (specFmt fmtDefault)) :=
  format_eq_spec_double pre bits p fmtDefault hp (by decide)

/-- All three formats, every finite double of magnitude ≥ 1 (biased exponent ≥ 1023), precision ≤ 40. -/
theorem format_eq_spec_ge1 (pre : List Nat) (bits p f : Nat) (hf : f ≤ 2) (hp : p ≤ 40)
    (hfin : (bits / 2 ^ 52) % 2 ^ 11 ≠ 2 ^ 11 - 1) (hge1 : 1023 ≤ (bits / 2 ^ 52) % 2 ^ 11) :
    realToString f64 pre bits p f = .ok (pre ++ FmtSpec.format64 bits p (specFmt f)) :=
  format_eq_spec_double pre bits p f hp hf

/-- tests (kernel evaluation): 9.9999 at 3 digits → 10 (carry, exponent re-evaluated);
999999.5 at 6 → 1e+06; 3.14159 at 3 → 3.14; 1.5 at 17 → 1.5 -/
example : realToString f64 [] 0x4023FFF2E48E8A72 3 fmtDefault = .ok [49, 48] := by decide +kernel
example : realToString f64 [] 0x412E847F00000000 6 fmtDefault = .ok [49, 101, 43, 48, 54] := by decide +kernel
example : realToString f64 [] 0x400921F9F01B866E 3 fmtDefault = .ok [51, 46, 49, 52] := by decide +kernel
example : realToString f64 [] 0x3FF8000000000000 17 fmtDefault = .ok [49, 46, 53] := by decide +kernel

/-- Fixed (`%.{p}f`) and SemiFixed, every one of the 2^64 double bit patterns (zeros, subnormals, normals of any
magnitude, infinities, NaNs), precision ≤ 40. -/
theorem format_eq_spec_fixed_all (pre : List Nat) (bits p f : Nat) (hf : f = 1 ∨ f = 2) (hp : p ≤ 40) :
    realToString f64 pre bits p f = .ok (pre ++ FmtSpec.format64 bits p (specFmt f)) :=
  format_eq_spec_double pre bits p f hp (by omega)

/-- tests (kernel evaluation): 0.05 Fixed 1 → 0.1 (the stored value is above the tie); 0.000123456 Fixed 5;
0.96 Fixed 1 → 1.0 (carry into the units); 0.04 Fixed 1 → 0.0; smallest subnormal SemiFixed 3 → 0 -/
example : realToString f64 [] 0x3FA999999999999A 1 fmtFixed = .ok [48, 46, 49] := by decide +kernel
example : realToString f64 [] 0x3F202E7EF70994DD 5 fmtFixed = .ok [48, 46, 48, 48, 48, 49, 50] := by decide +kernel
example : realToString f64 [] 0x3FEEB851EB851EB8 1 fmtFixed = .ok [49, 46, 48] := by decide +kernel
example : realToString f64 [] 0x3FA47AE147AE147B 1 fmtFixed = .ok [48, 46, 48] := by decide +kernel
example : realToString f64 [] 0x0000000000000001 3 fmtSemiFixed = .ok [48] := by decide +kernel

/-- tests (kernel evaluation): 0.0001 at 6 digits → 0.0001; 0.00001 → 1e-05; 0.00099999999 at 3 → 0.001 (carry,
four zeros kept); 0.0000099999 at 2 → 1e-05; smallest subnormal at 17 digits -/
example : realToString f64 [] 0x3F1A36E2EB1C432D 6 fmtDefault = .ok [48, 46, 48, 48, 48, 49] := by decide +kernel
example : realToString f64 [] 0x3EE4F8B588E368F1 6 fmtDefault = .ok [49, 101, 45, 48, 53] := by decide +kernel
example : realToString f64 [] 0x3F50624DD031FA00 3 fmtDefault = .ok [48, 46, 48, 48, 49] := by decide +kernel
example : realToString f64 [] 0x3EE4F8A7CA737C05 2 fmtDefault = .ok [49, 101, 45, 48, 53] := by decide +kernel
example : realToString f64 [] 0x0000000000000001 17 fmtDefault =
    .ok [52, 46, 57, 52, 48, 54, 53, 54, 52, 53, 56, 52, 49, 50, 52, 54, 53, 52, 101, 45, 51, 50, 52] := by decide +kernel

/-- **`FormatEqSpec` holds.**  For every double and every float, every precision up to 40 and
each of the three formats, `Digit::NumberToString` (as modelled: BigInt pipeline, digit estimate table, string
rounding, the two string formatters, with every index, length and BigInt access checked) appends exactly the
reference text written from IEEE 754 and the C standard's `printf`, and no fault occurs. -/
theorem format_eq_spec : FormatEqSpec :=
  ⟨fun pre bits p f _ hp hf => format_eq_spec_double pre bits p f hp hf,
   fun pre bits p f _ hp hf => format_eq_spec_float pre bits p f hp hf⟩

/-- tests (kernel evaluation), floats: 0.1f at 9 digits; 16777216f Fixed 1; 1e-45f (smallest subnormal) at 3 -/
example : realToString f32 [] 0x3DCCCCCD 9 fmtDefault =
    .ok [48, 46, 49, 48, 48, 48, 48, 48, 48, 48, 49] := by decide +kernel
example : realToString f32 [] 0x4B800000 1 fmtFixed = .ok [49, 54, 55, 55, 55, 50, 49, 54, 46, 48] := by decide +kernel
example : realToString f32 [] 0x00000001 3 fmtDefault = .ok [49, 46, 52, 101, 45, 52, 53] := by decide +kernel

/-- `FormatEqSpec` restricted to the special classes (infinities, NaNs, zeros). -/
theorem format_eq_spec_partial :
    (∀ pre bits p f, bits < 2 ^ 64 → p ≤ 40 → f ≤ 2 → Special64 bits →
      realToString f64 pre bits p f = .ok (pre ++ FmtSpec.format64 bits p (specFmt f))) ∧
    (∀ pre bits p f, bits < 2 ^ 32 → p ≤ 40 → f ≤ 2 → Special32 bits →
      realToString f32 pre bits p f = .ok (pre ++ FmtSpec.format32 bits p (specFmt f))) :=
  ⟨fun pre bits p f _ hp _ hs => special_values.1 pre bits p f hs (by omega),
   fun pre bits p f _ hp _ hs => special_values.2 pre bits p f hs (by omega)⟩

/-! non-vacuity of the hypotheses, and kernel-evaluated instances of `FormatEqSpec` (**tests**) -/
example : Special64 0x7FF8000000000000 ∧ Special64 0x8000000000000000 ∧ ¬ Special64 0x3FF0000000000000 := by decide
example : Special32 0xFFC00000 ∧ Special32 0 ∧ ¬ Special32 0x3F800000 := by decide

def agrees64 (bits p f : Nat) : Bool := realToString f64 [] bits p f == .ok (FmtSpec.format64 bits p (specFmt f))
def agrees32 (bits p f : Nat) : Bool := realToString f32 [] bits p f == .ok (FmtSpec.format32 bits p (specFmt f))

/-- test: 11150.001 SemiFixed 2; 0.5 Fixed 0; -0.74 SemiFixed 0; 1521525.3 Default 6; 25.657 Default 1;
250 Default 1; 5.0 Default 0; 23·2^-310 Default 17; float 0x3f Default 39; 9.5 Fixed 0 -/
theorem format_eq_spec_witnesses :
    agrees64 0x40C5C7002085B185 2 2 = true ∧ agrees64 0x3FE0000000000000 0 1 = true ∧
    agrees64 0xBFE7AE147AE147AE 0 2 = true ∧ agrees64 0x413737754CCCCCCD 6 0 = true ∧
    agrees64 0x4039A83126E978D5 1 0 = true ∧ agrees64 0x406F400000000000 1 0 = true ∧
    agrees64 0x4014000000000000 0 0 = true ∧ agrees64 0x2CD7000000000000 17 0 = true ∧
    agrees32 0x0000003F 39 0 = true ∧ agrees64 0x4023000000000000 0 1 = true := by decide +kernel

end Qentem.Props.C10
