import Qentem.Model.Value
import Qentem.Model.ValueOps
import Qentem.Proofs.ValueDoc
import Qentem.Proofs.ValuePath
import Qentem.Proofs.ValueWF
import Qentem.Proofs.Group
/-!
C12 — a Value behaves as an abstract JSON document under every operation sequence.

The model (`Qentem.Value`) *is* the document; an object additionally carries its capacity and its
removed slots so that `Size()` and slot numbers are exact.  The theorems below are the laws the
property names, for every document (`d`, `s`, `items` are arbitrary) and every payload.
`keysNodup s` (the live keys of an object are distinct) is the invariant of every object the
operations can build; it is preserved by every storage primitive (`keysNodup_*`).
-/
namespace Qentem.Props.C12
open Qentem.Value Qentem.Value.Doc

/-! ## keyed subscripts, `Get`, `Insert` -/

/-- get-after-set by key: `v[k] = x` (any overload), then `GetValue(k)` is `x` (absent when `x` is
undefined), whatever `v` was before — scalar, array, object with or without removed items. -/
theorem get_after_set_key (k : Key) (x d : Doc) :
    childKey (updKey k (fun _ => x) d) k = nonUndef x :=
  (updKey_read k (fun _ => x) d).elim fun _ h => h

/-- the other members of an object are not disturbed by a keyed write. -/
theorem get_other_after_set_key (k k' : Key) (f : Doc → Doc) (c : Nat) (s : List Slot) (h : k' ≠ k) :
    childKey (updKey k f (obj c s)) k' = childKey (obj c s) k' := by
  show (match slotFind k' (slotUpd k f (objExpand c s).2) with | some v => nonUndef v | none => none) = _
  rw [slotFind_slotUpd_other _ _ _ _ h, slotFind_objExpand]
  rfl

/-- auto-vivification: a keyed subscript always leaves an object. -/
theorem updKey_isObj (k : Key) (f : Doc → Doc) (d : Doc) : (updKey k f d).isObj = true := by
  simp [updKey, isObj]

/-- auto-vivification: anything that was not an object becomes the one-member object (capacity 2). -/
theorem vivify_key (k : Key) (f : Doc → Doc) (d : Doc) (h : d.isObj = false) :
    updKey k f d = obj 2 [some (k, f undef)] := by
  unfold updKey
  rw [asObj_of_not_obj d h]
  rfl

/-- a new key is appended after the existing members, which keep their order and values. -/
theorem entries_after_new_key (k : Key) (f : Doc → Doc) (c : Nat) (s : List Slot) (h : slotFind k s = none) :
    ∃ c' s', updKey k f (obj c s) = obj c' s' ∧ liveEntries s' = liveEntries s ++ [(k, f undef)] := by
  refine ⟨_, slotUpd k f (objExpand c s).2, rfl, ?_⟩
  rw [liveEntries_slotUpd_absent _ _ _ ((slotFind_objExpand k c s).trans h), liveEntries_objExpand]

/-- writing an existing key keeps every key at its position (the last value wins at the first
position). -/
theorem keys_after_existing_key (k : Key) (f : Doc → Doc) (c : Nat) (s : List Slot) (h : slotFind k s ≠ none) :
    ∃ c' s', updKey k f (obj c s) = obj c' s' ∧ keysOf s' = keysOf s := by
  refine ⟨_, slotUpd k f (objExpand c s).2, rfl, ?_⟩
  rw [keysOf_slotUpd_present _ _ _ (by rw [slotFind_objExpand]; exact h), keysOf, liveEntries_objExpand]
  rfl

/-- size law: while the table has room (`Size() < Capacity()`) a new key adds exactly one slot and an
existing key none; when it is full the removed slots are dropped first. -/
theorem size_after_key (env : Env) (k : Key) (f : Doc → Doc) (c : Nat) (s : List Slot) (hc : s.length ≠ c) :
    size env (updKey k f (obj c s)) = if (slotFind k s).isNone then s.length + 1 else s.length := by
  show (slotUpd k f (objExpand c s).2).length = _
  rw [objExpand, if_neg hc]
  exact length_slotUpd k f s

theorem size_after_key_full (env : Env) (k : Key) (f : Doc → Doc) (s : List Slot) :
    size env (updKey k f (obj s.length s)) =
      if (slotFind k s).isNone then liveCount s + 1 else liveCount s := by
  show (slotUpd k f (objExpand s.length s).2).length = _
  rw [objExpand, if_pos rfl, length_slotUpd, slotFind_liveSlots, length_liveSlots]

/-! ## indexed subscripts -/

/-- get-after-set by index, for every previous content (array, object, scalar). -/
theorem get_after_set_idx (i : Nat) (x d : Doc) :
    childIdx (updIdx i (fun _ => x) d) i = nonUndef x :=
  (updIdx_read i (fun _ => x) d).elim fun _ h => h

/-- an indexed write into an array leaves the other elements alone. -/
theorem get_other_after_set_idx (i j : Nat) (f : Doc → Doc) (items : List Doc) (h : j ≠ i) (hj : j < items.length) :
    childIdx (updIdx i f (arr items)) j = childIdx (arr items) j := by
  by_cases hi : i < items.length
  · simp [updIdx, hi, childIdx, setAtIdx_get_other _ _ _ _ h]
  · simp [updIdx, hi, childIdx, List.getElem?_append_left, hj]

/-- `Size()` after an indexed subscript on an array: it grows to `index + 1`, filled with undefined. -/
theorem size_after_idx (env : Env) (i : Nat) (f : Doc → Doc) (items : List Doc) :
    size env (updIdx i f (arr items)) = max items.length (i + 1) := by
  by_cases hi : i < items.length
  · rw [updIdx, if_pos hi]
    show (setAtIdx i f items).length = _
    rw [setAtIdx_length]
    exact (Nat.max_eq_left hi).symm
  · have hle : items.length ≤ i := Nat.le_of_not_lt hi
    rw [updIdx, if_neg hi]
    show (items ++ List.replicate (i - items.length) undef ++ [f undef]).length = _
    rw [List.length_append, List.length_append, List.length_replicate, List.length_singleton,
      Nat.add_sub_of_le hle, Nat.max_eq_right (Nat.le_succ_of_le hle)]

/-- anything that is not a container becomes an array of `index + 1` elements. -/
theorem vivify_idx (i : Nat) (f : Doc → Doc) (d : Doc) (ho : d.isObj = false) (ha : d.isArr = false) :
    updIdx i f d = arr (List.replicate i undef ++ [f undef]) := by
  unfold updIdx
  split
  · cases ha
  · cases ho
  · rfl

/-! ## appends and merges -/

theorem append_to_array (x : Doc) (items : List Doc) : pushDoc x (arr items) = arr (items ++ [x]) := rfl

theorem append_vivifies (x d : Doc) (h : d.isArr = false) : pushDoc x d = arr [x] := by
  unfold pushDoc
  rw [asArr_of_not_arr d h]
  rfl

/-- `+= array`: a non-empty array is concatenated; an empty one becomes an element. -/
theorem append_array (x : Doc) (xs items : List Doc) :
    addArr (x :: xs) (arr items) = arr (items ++ x :: xs) ∧ addArr [] (arr items) = arr (items ++ [arr []]) := by
  simp [addArr, asArr, pushDoc]

/-- `Merge` of arrays appends the defined elements, in order (copies for the copying overload). -/
theorem merge_arrays (cp : Doc → Doc) (xs items : List Doc) :
    mergeInto cp (arr xs) (arr items) = arr (items ++ ((xs.filter (fun d => !d.isUndef)).map cp)) := by
  simp [mergeInto, mapDocs_eq_map, dropUndef_eq_filter]

theorem merge_into_undefined (cp : Doc → Doc) (xs : List Doc) :
    mergeInto cp (arr xs) undef = arr ((xs.filter (fun d => !d.isUndef)).map cp) := by
  simp [mergeInto, mapDocs_eq_map, dropUndef_eq_filter]

/-- for arrays the copying overload is the moving overload applied to a copy of the source (holes are not
members in either). -/
theorem merge_copy_eq_move_of_copy (xs : List Doc) (d : Doc) :
    mergeInto copyDoc (arr xs) d = mergeInto id (copyDoc (arr xs)) d := by
  have hf : ∀ l : List Doc, (l.filter (fun d => !d.isUndef)).map copyDoc = (l.map copyDoc).filter (fun d => !d.isUndef) := by
    intro l
    rw [List.filter_map]
    congr 2
    funext a
    exact congrArg (!·) (isUndef_copyDoc a).symm
  cases d with
  | undef | arr items => simp [mergeInto, copyDoc, copyItems_eq_map, mapDocs_eq_map, dropUndef_eq_filter, hf]
  | _ => rfl

/-- the fold of inserts that merges the live items of `src` into a table. -/
def mergeFold (cp : Doc → Doc) (src s : List Slot) : List Slot :=
  src.foldl (fun acc sl =>
      match sl with
      | some (k, v) => slotUpd k (fun _ => cp v) acc
      | none => acc) s

/-- object merge = fold of inserts (after the capacity step, which only drops removed slots). -/
theorem merge_is_fold (cp : Doc → Doc) (c : Nat) (s src : List Slot) :
    (objMerge cp c s src).2 = mergeFold cp src (if s.length + src.length > c then liveSlots s else s) := by
  unfold objMerge mergeFold
  split <;> rfl

/-- object merge: a key the source does not hold keeps its value. -/
theorem merge_keeps_other (cp : Doc → Doc) (k : Key) (src s : List Slot) (h : slotFind k src = none) :
    slotFind k (mergeFold cp src s) = slotFind k s := by
  induction src using slots_ind k generalizing s with
  | nil => rfl
  | tomb r ih => exact ih s h
  | hit v r => simp at h
  | miss k2 v r hk ih =>
    exact (ih (slotUpd k2 (fun _ => cp v) s) (by simpa [hk] using h)).trans (slotFind_slotUpd_other _ _ _ _ (Ne.symm hk))

/-- object merge: a key of the source ends with the source's value (copied by the copying overload). -/
theorem merge_takes_source (cp : Doc → Doc) (k : Key) (v : Doc) (src s : List Slot) (hn : keysNodup src)
    (h : slotFind k src = some v) :
    slotFind k (mergeFold cp src s) = some (cp v) := by
  induction src using slots_ind k generalizing s with
  | nil => cases h
  | tomb r ih => exact ih s hn h
  | hit v2 r =>
    rw [slotFind_hit] at h; cases h
    exact (merge_keeps_other cp k r _ ((slotFind_none_iff _ _).2 (List.nodup_cons.mp hn).1)).trans (slotFind_slotUpd_same _ _ _)
  | miss k2 v2 r hk ih => exact ih (slotUpd k2 (fun _ => cp v2) s) (List.nodup_cons.mp hn).2 (by simpa [hk] using h)

/-- existing members keep their positions under a merge. -/
theorem merge_keeps_positions (cp : Doc → Doc) (src s : List Slot) :
    keysOf s <+: keysOf (mergeFold cp src s) := by
  induction src generalizing s with
  | nil => exact List.prefix_refl _
  | cons a t ih =>
    cases a with
    | none => exact ih s
    | some e =>
      obtain ⟨k2, v2⟩ := e
      refine List.IsPrefix.trans ?_ (ih (slotUpd k2 (fun _ => cp v2) s))
      by_cases hf : slotFind k2 s = none
      · rw [keysOf, keysOf, liveEntries_slotUpd_absent _ _ _ hf, List.map_append]
        exact List.prefix_append _ _
      · rw [keysOf_slotUpd_present _ _ _ hf]
        exact List.prefix_refl _

/-! ## removals -/

/-- `Remove(key)`: the removed key is not found. -/
theorem removed_key_not_found (k : Key) (c : Nat) (s : List Slot) (h : keysNodup s) :
    childKey (removeKey k (obj c s)) k = none := by
  simp [removeKey, childKey, slotFind_slotRemove_same k s h]

/-- `Remove(key)`: the other keys are unchanged. -/
theorem remove_keeps_other (k k' : Key) (c : Nat) (s : List Slot) (h : k' ≠ k) :
    childKey (removeKey k (obj c s)) k' = childKey (obj c s) k' := by
  simp [removeKey, childKey, slotFind_slotRemove_other k k' s h]

/-- `Remove(key)`: the remaining members keep their order, and the slot count (`Size()`) does not change. -/
theorem remove_keeps_order (k : Key) (c : Nat) (s : List Slot) :
    ∃ s', removeKey k (obj c s) = obj c s' ∧ s'.length = s.length ∧
      liveEntries s' = (liveEntries s).eraseP (fun e => e.1 = k) :=
  ⟨_, rfl, length_slotRemove k s, liveEntries_slotRemove k s⟩

/-- `RemoveIndex` on an array leaves an undefined element in place. -/
theorem remove_index_array (i : Nat) (items : List Doc) (h : i < items.length) :
    ∃ items', removeIdx i (arr items) = arr items' ∧ items'.length = items.length ∧
      items'[i]? = some undef ∧ ∀ j, j ≠ i → items'[j]? = items[j]? := by
  refine ⟨setAtIdx i (fun _ => undef) items, by simp [removeIdx, h], setAtIdx_length _ _ _, ?_, ?_⟩
  · simp [setAtIdx_get_same, List.getElem?_eq_getElem h]
  · intro j hj; exact setAtIdx_get_other _ _ _ _ hj

/-! ## compress -/

/-- `Compress` keeps the live members of an object in order (compressing their values) and leaves no
removed slot. -/
theorem compress_object (c : Nat) (s : List Slot) :
    ∃ c' s', compress (obj c s) = obj c' s' ∧ noTombstones s' = true ∧
      liveEntries s' = (liveEntries s).map (fun e => (e.1, compress e.2)) := by
  exact ⟨_, compressSlots s, by rw [compress], noTombstones_compressSlots s, liveEntries_compressSlots s⟩

/-- `Compress` keeps the defined elements of an array in order. -/
theorem compress_array (items : List Doc) :
    compress (arr items) = arr ((items.filter (fun d => !d.isUndef)).map compress) := by
  simp [compress, compressItems_eq, dropUndef_eq_filter]

/-! ## copy and move over the forest -/

/-- a copied object holds the source's live members, in order, as copies, and no removed slot. -/
theorem copy_object (c : Nat) (s : List Slot) :
    ∃ c' s', copyDoc (obj c s) = obj c' s' ∧ noTombstones s' = true ∧
      liveEntries s' = (liveEntries s).map (fun e => (e.1, copyDoc e.2)) := by
  exact ⟨_, copySlots s, by rw [copyDoc], noTombstones_copySlots s, liveEntries_copySlots s⟩

theorem copy_array (items : List Doc) : copyDoc (arr items) = arr (items.map copyDoc) := by
  simp [copyDoc, copyItems_eq_map]

/-- copy independence over whole sequences: operations that never write root `q` leave it as it was. -/
theorem run_frame (fmtReal : Nat → List Nat) (ops : List Op) (env : Env) (q : Nat)
    (h : ∀ op ∈ ops, q ∉ touched op) :
    envGet (runFinal fmtReal ops env) q = envGet env q := by
  induction ops generalizing env with
  | nil => rfl
  | cons op rest ih =>
    simp only [runFinal]
    rw [ih _ (fun o ho => h o (List.mem_cons_of_mem _ ho)), step_frame _ _ _ _ (h op List.mem_cons_self)]

/-- root-to-root move: the target is exactly what the source was, the moved-from source is Undefined. -/
theorem move_root (fmtReal : Nat → List Nat) (env : Env) (a b : Nat) (hab : a ≠ b)
    (ha : a < env.length) (hb : b < env.length) :
    let env' := (step fmtReal (Op.move ⟨a, []⟩ ⟨b, []⟩) env).1
    envGet env' a = envGet env b ∧ envGet env' b = undef := by
  simp [step, source, hab, getAt, onTarget, clearSource, updPath, modAt, envGet, envSet, ha, hb]

/-- root-to-root copy: the target is a copy, the source is untouched. -/
theorem copy_root (fmtReal : Nat → List Nat) (env : Env) (a b : Nat) (hab : a ≠ b) (ha : a < env.length) :
    let env' := (step fmtReal (Op.copy ⟨a, []⟩ ⟨b, []⟩) env).1
    envGet env' a = copyDoc (envGet env b) ∧ envGet env' b = envGet env b := by
  simp [step, source, hab, getAt, onTarget, updPath, envGet, envSet, ha]

/-! ## copy and move between nested locations

`Value`-typed operands of a two-operand operation live in different roots: `source` yields nothing when
`t.root = s.root` (`aliasing_excluded`), which is the precondition the harness checks before calling the
real code and the generator respects (self copy/move assignment of a whole root is the guarded no-op of
Value.hpp).  For them source inside destination / destination inside source (`v = v[k]`, `v[k] = v`) is
therefore excluded, not proved.  Container-typed operands (`Op.container`) are taken from any location
(`container_assign_from_own_member`). -/

/-- get-after-set at any path: a chain of subscripts followed by an assignment is read back by the same
chain of `GetValue` calls, whatever the target held. -/
theorem get_after_set_path (fmtReal : Nat → List Nat) (env : Env) (t : Loc) (y : Doc) (hy : y.isUndef = false)
    (ht : t.root < env.length) :
    getAt (envGet (step fmtReal (Op.assign t y) env).1 t.root) t.path = some y := by
  simp only [step, onTarget, envGet_envSet_same _ _ _ ht]
  exact getAt_updPath t.path y hy _

/-- **get-after-copy at any path**: the target location (reached through vivifying subscripts) reads a
copy of the source member (found through `GetValue` calls), and the source root is unchanged. -/
theorem copy_nested (fmtReal : Nat → List Nat) (env : Env) (t s : Loc) (x : Doc) (hts : t.root ≠ s.root)
    (ht : t.root < env.length) (hx : getAt (envGet env s.root) s.path = some x) (hd : x.isUndef = false) :
    let env' := (step fmtReal (Op.copy t s) env).1
    getAt (envGet env' t.root) t.path = some (copyDoc x) ∧ envGet env' s.root = envGet env s.root := by
  have hsrc : source env t s = some x := by simp [source, hts, hx]
  simp only [step, hsrc, onTarget]
  refine ⟨?_, envGet_envSet_other _ _ _ _ (Ne.symm hts)⟩
  rw [envGet_envSet_same _ _ _ ht]
  exact getAt_updPath t.path _ (by simp [isUndef_copyDoc, hd]) _

/-- **get-after-move at any path**: the target reads exactly the source member; the moved-from member is
Undefined (a moved-from root) or no longer found along its path (a nested member). -/
theorem move_nested (fmtReal : Nat → List Nat) (env : Env) (t s : Loc) (x : Doc) (hts : t.root ≠ s.root)
    (ht : t.root < env.length) (hs : s.root < env.length)
    (hx : getAt (envGet env s.root) s.path = some x) (hd : x.isUndef = false) :
    let env' := (step fmtReal (Op.move t s) env).1
    getAt (envGet env' t.root) t.path = some x ∧
    (s.path = [] → envGet env' s.root = undef) ∧
    (s.path ≠ [] → getAt (envGet env' s.root) s.path = none) := by
  have hsrc : source env t s = some x := by simp [source, hts, hx]
  have hlen : t.root < (clearSource env s).length := by simpa [clearSource, envSet] using ht
  simp only [step, hsrc, onTarget]
  refine ⟨?_, ?_, ?_⟩
  · rw [envGet_envSet_same _ _ _ hlen]
    exact getAt_updPath t.path x hd _
  · intro hp
    rw [envGet_envSet_other _ _ _ _ (Ne.symm hts)]
    simp [clearSource, envGet_envSet_same _ _ _ hs, hp, modAt]
  · intro hp
    rw [envGet_envSet_other _ _ _ _ (Ne.symm hts)]
    simp only [clearSource, envGet_envSet_same _ _ _ hs]
    exact getAt_modAt_undef s.path hp _ x hx

/-- **independence for arbitrary paths**: after a copy, whatever is done to roots other than the source's
(in particular any mutation of the copy) leaves the source member as it was. -/
theorem copy_source_independent (fmtReal : Nat → List Nat) (env : Env) (t s : Loc) (x : Doc) (ops : List Op)
    (hx : getAt (envGet env s.root) s.path = some x) (hops : ∀ op ∈ ops, s.root ∉ touched op) :
    getAt (envGet (runFinal fmtReal ops (step fmtReal (Op.copy t s) env).1) s.root) s.path = some x := by
  rw [run_frame fmtReal ops _ s.root hops]
  by_cases hts : t.root = s.root
  · simp [step, source, hts, hx]
  · have : envGet (step fmtReal (Op.copy t s) env).1 s.root = envGet env s.root :=
      step_frame fmtReal _ env s.root (by simp [touched]; exact fun h => hts h.symm)
    rw [this, hx]

/-- **independence for arbitrary paths**: after a copy, whatever is done to roots other than the copy's (in particular
any mutation of the source) leaves the copy as it was. -/
theorem copy_target_independent (fmtReal : Nat → List Nat) (env : Env) (t s : Loc) (x : Doc) (ops : List Op)
    (hts : t.root ≠ s.root) (ht : t.root < env.length)
    (hx : getAt (envGet env s.root) s.path = some x) (hd : x.isUndef = false)
    (hops : ∀ op ∈ ops, t.root ∉ touched op) :
    getAt (envGet (runFinal fmtReal ops (step fmtReal (Op.copy t s) env).1) t.root) t.path = some (copyDoc x) := by
  rw [run_frame fmtReal ops _ t.root hops]
  exact (copy_nested fmtReal env t s x hts ht hx hd).1

/-- the aliasing precondition: two-operand operations between locations of the same root are not
performed (the forest is unchanged). -/
theorem aliasing_excluded (fmtReal : Nat → List Nat) (env : Env) (t s : Loc) (k : Key) (h : t.root = s.root) :
    (step fmtReal (Op.copy t s) env).1 = env ∧ (step fmtReal (Op.move t s) env).1 = env ∧
    (step fmtReal (Op.appendMove t s) env).1 = env ∧ (step fmtReal (Op.appendCopy t s) env).1 = env ∧
    (step fmtReal (Op.mergeMove t s) env).1 = env ∧ (step fmtReal (Op.mergeCopy t s) env).1 = env ∧
    (step fmtReal (Op.insertMove t k s) env).1 = env ∧ (step fmtReal (Op.assignObj t s) env).1 = env ∧
    (step fmtReal (Op.assignArr t s) env).1 = env ∧ (step fmtReal (Op.appendObj t s) env).1 = env ∧
    (step fmtReal (Op.appendArr t s) env).1 = env := by
  simp [step, source, h]

/-- **container overloads have value semantics under aliasing**: assigning to a root, through the `const&`
overload, a container owned by one of its own descendants (`doc = *doc["items"].GetArray()`) leaves the root equal
to a copy of that container as it was — for every kind the root had before. -/
theorem container_assign_from_own_member (fmtReal : Nat → List Nat) (env : Env) (r : Nat) (q : List Sel) (x : Doc)
    (kind : Nat) (hr : r < env.length) (hx : getAt (envGet env r) q = some x) (hk : isContainerKind kind x = true) :
    envGet (step fmtReal (Op.container ⟨r, []⟩ ⟨r, q⟩ kind false false) env).1 r = copyDoc x := by
  have hset : envSet env r (envGet env r) = env := by
    simp only [envSet, envGet, List.getElem?_eq_getElem hr]
    exact List.set_getElem_self hr
  simp [step, onTarget, updPath, hset, hx, hk, refUpd, envGet_envSet_same _ _ _ hr]

/-! ## the invariant of every reachable state -/

/-- **every forest an operation sequence reaches from undefined roots is well formed**: in every object,
at every depth, the live keys are pairwise distinct (so the hypothesis `keysNodup` of `removed_key_not_found`
holds for every object the API can build, `reachable_removed_key_not_found`). -/
theorem reachable_WF (fmtReal : Nat → List Nat) (n : Nat) (ops : List Op) (hp : ∀ op ∈ ops, op.payloadWF) :
    EnvWF (runFinal fmtReal ops (List.replicate n undef)) :=
  run_WF fmtReal ops _ (EnvWF_replicate_undef n) hp

/-- instance: in a reachable forest a removed key is not found in any object a `GetValue` chain reaches. -/
theorem reachable_removed_key_not_found (fmtReal : Nat → List Nat) (n : Nat) (ops : List Op)
    (hp : ∀ op ∈ ops, op.payloadWF) (r : Nat) (p : List Sel) (c : Nat) (s : List Slot) (k : Key)
    (h : getAt (envGet (runFinal fmtReal ops (List.replicate n undef)) r) p = some (obj c s)) :
    childKey (removeKey k (obj c s)) k = none :=
  removed_key_not_found k c s ((WF_obj c s).1 (WF_getAt p _ _ (reachable_WF fmtReal n ops hp r) h)).1

/-! ## typed getters and coercions (`strToNum` is arbitrary: it is only consulted for strings) -/

theorem number_of_nat (strToNum : List Nat → Num) (env : Env) (n : Nat) :
    setNumber strToNum env (nat n) = Num.nat n ∧ getUInt64 strToNum env (nat n) = some n ∧
    getInt64 strToNum env (nat n) = some (u64ToInt n) ∧ getDouble strToNum env (nat n) = natToReal n :=
  ⟨rfl, rfl, rfl, rfl⟩

theorem number_of_int (strToNum : List Nat → Num) (env : Env) (i : Int) :
    setNumber strToNum env (int i) = Num.int i ∧ getInt64 strToNum env (int i) = some i ∧
    getUInt64 strToNum env (int i) = some (intToU64 i) ∧ getDouble strToNum env (int i) = intToReal i :=
  ⟨rfl, rfl, rfl, rfl⟩

theorem number_of_real (strToNum : List Nat → Num) (env : Env) (b : Nat) :
    setNumber strToNum env (real b) = Num.real b ∧ getDouble strToNum env (real b) = b :=
  ⟨rfl, rfl⟩

theorem number_of_keywords (strToNum : List Nat → Num) (env : Env) :
    setNumber strToNum env tru = Num.nat 1 ∧ setNumber strToNum env fls = Num.nat 0 ∧
    setNumber strToNum env null = Num.nat 0 ∧ setNumber strToNum env undef = Num.nan ∧
    getUInt64 strToNum env tru = some 1 ∧ getInt64 strToNum env fls = some 0 ∧ getDouble strToNum env null = 0 ∧
    getDouble strToNum env tru = natToReal 1 :=
  ⟨rfl, rfl, rfl, rfl, rfl, rfl, rfl, rfl⟩

theorem bool_of_scalars (env : Env) (n : Nat) (i : Int) :
    setBool env tru = some true ∧ setBool env fls = some false ∧ setBool env null = some false ∧
    setBool env (nat n) = some (decide (n > 0)) ∧ setBool env (int i) = some (decide (i > 0)) ∧
    setBool env (str trueText) = some true ∧ setBool env (str falseText) = some false ∧ setBool env undef = none :=
  ⟨rfl, rfl, rfl, rfl, rfl, rfl, rfl, rfl⟩

/-- small integers convert to reals exactly (a test of `natToReal` on samples, by evaluation). -/
example : natToReal 1 = 0x3ff0000000000000 ∧ natToReal 3 = 0x4008000000000000 ∧
    natToReal (2 ^ 53 + 1) = 0x4340000000000000 ∧ natToReal (2 ^ 64 - 1) = 0x43f0000000000000 := by decide

/-! ## positional access -/

/-- while an object holds no removed entries, slot `i` is its `i`-th member (`GetKey`, `GetValue`,
`SetValueAndKey`). -/
theorem slot_is_kth_member (env : Env) (c : Nat) (s : List Slot) (h : noTombstones s = true) (i : Nat) :
    getKey env (obj c s) i = ((liveEntries s)[i]?).map (·.1) ∧
    getValueIdx env (obj c s) i = ((liveEntries s)[i]?).bind (fun e => nonUndef e.2) := by
  have hd : deref env (obj c s) = obj c s := rfl
  simp only [getKey, getValueIdx, childIdx, hd, slot_get_of_noTombstones s h i]
  cases (liveEntries s)[i]? with
  | none => simp
  | some e => obtain ⟨k, v⟩ := e; simp

/-- `Size()` of an object without removed entries is its number of members. -/
theorem size_is_member_count (env : Env) (c : Nat) (s : List Slot) (h : noTombstones s = true) :
    size env (obj c s) = (liveEntries s).length := by
  have hd : deref env (obj c s) = obj c s := rfl
  simp only [size, hd]
  rw [← liveCount_eq, ← length_liveSlots, liveSlots_of_noTombstones s h]

/-! ## non-vacuity -/

example : childKey (updKey [98] (fun _ => nat 7) (obj 2 [some ([97], nat 1), none])) [98] = some (nat 7) := by
  simp [get_after_set_key, nonUndef, isUndef]

example : keysNodup [some ([97], nat 1), none, some ([98], undef)] := by
  simp [keysNodup, keysOf, liveEntries]

example : noTombstones [some ([97], nat 1), some ([98], undef)] = true := by simp [noTombstones]

end Qentem.Props.C12
