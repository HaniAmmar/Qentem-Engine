import Qentem.Proofs.OrderValue
import Qentem.Proofs.Sort
import Qentem.Generated.Order
/-!
C15 — comparisons form a consistent order; every Sort returns an ordered permutation.

Strings are `List Nat` (every code-unit width at once); values are `JVal`; `Memory::Sort` is
`Qentem.Sort.sortSeg`.  Theorems without `_partial` are the full claim for their domain.
Since 73c896c (pointer operands dereferenced on both sides) duality and transitivity of the value
operators hold for every value; trichotomy and the `<=`-chain form of "sorted" fail only for a NaN
real: those full statements are kept as `def … : Prop`, refuted on the NaN witness, and proved
under the single hypothesis `noNaN` (`…_partial`).
-/
namespace Qentem.Props.C15
open Qentem.Order Qentem.Sort

/-! ## Strings: `IsLess` / `IsGreater` / `IsEqual`, `String` and `StringView` operators -/

/-- Exactly one of `a < b`, `a == b`, `a > b`; `<=`, `>=` are the unions (the predicate the S3
    oracle evaluates on the C++ results). -/
theorem str_consistent (a b : List Nat) : (obsStr a b).consistent = true :=
  Obs.consistent_of Str.le_eq Str.ge_eq a b (Str.tri a b)

/-- The same, spelled out. -/
theorem str_trichotomy (a b : List Nat) :
    (Str.lt a b = true ∧ Str.eq a b = false ∧ Str.gt a b = false) ∨
    (Str.lt a b = false ∧ Str.eq a b = true ∧ Str.gt a b = false) ∨
    (Str.lt a b = false ∧ Str.eq a b = false ∧ Str.gt a b = true) := by
  have t := Str.tri a b
  revert t
  cases Str.lt a b <;> cases Str.eq a b <;> cases Str.gt a b <;> simp [tri3]

theorem str_lt_gt_dual (a b : List Nat) : Str.gt b a = Str.lt a b := Str.gt_eq_lt_swap b a
theorem str_le_ge_dual (a b : List Nat) : Str.ge b a = Str.le a b := Str.ge_eq_le_swap b a

theorem str_dual (a b : List Nat) : (obsStr a b).dual (obsStr b a) = true := by
  simp [Obs.dual, obsStr, Str.gt_eq_lt_swap, Str.ge_eq_le_swap, Str.eq_comm a b]

theorem str_le_iff (a b : List Nat) : Str.le a b = (Str.lt a b || Str.eq a b) := Str.le_eq a b
theorem str_ge_iff (a b : List Nat) : Str.ge a b = (Str.gt a b || Str.eq a b) := Str.ge_eq a b
theorem str_ne_iff (a b : List Nat) : Str.ne a b = !Str.eq a b := rfl

/-- `operator==` is equality of the unit sequences (that `IsEqual` reads in range is `str_cursor_model`). -/
theorem str_eq_iff_eq (a b : List Nat) : Str.eq a b = true ↔ a = b := Str.eq_iff a b

theorem str_lt_trans (a b c : List Nat) :
    Str.lt a b = true → Str.lt b c = true → Str.lt a c = true := Str.lt_trans a b c

/-- All transitivity instances the oracle checks (`<`, `==`, mixed, `<=`). -/
theorem str_trans (a b c : List Nat) : Obs.trans (obsStr a b) (obsStr b c) (obsStr a c) = true :=
  Obs.trans_of Str.le_eq (fun a b => (Str.eq_iff a b).1) Str.lt_irrefl Str.lt_trans a b c

/-- Lexicographic by code unit: the first differing unit decides, a proper prefix is smaller. -/
theorem str_lt_iff_lex (a b : List Nat) :
    Str.lt a b = true ↔
      (∃ p x y ra rb, a = p ++ x :: ra ∧ b = p ++ y :: rb ∧ x < y) ∨ (∃ c r, b = a ++ c :: r) := by
  rw [Str.lt_eq_lex]; exact lexLt_iff a b

theorem str_prefix_lt (a : List Nat) (c : Nat) (r : List Nat) : Str.lt a (a ++ c :: r) = true :=
  (str_lt_iff_lex a _).mpr (Or.inr ⟨c, r, rfl⟩)

/-- The cursor routines the driver runs are the list recursions and never read out of range. -/
theorem str_cursor_model (l r : Array Nat) (e : Bool) :
    isLessA l r l.size r.size e 0 = some (isLess l.toList r.toList e) ∧
    isGreaterA l r l.size r.size e 0 = some (isGreater l.toList r.toList e) ∧
    (l.size = r.size → isEqualA l r l.size 0 = some (decide (l.toList = r.toList))) :=
  ⟨isLessA_zero l r e, isGreaterA_zero l r e, isEqualA_zero l r⟩

/-! ## Values -/

/-- Every operator compares the pointed-to values, whichever side the pointers are on. -/
theorem val_compare_targets (a b : JVal) : obsVal a b = obsVal (strip a) (strip b) := by
  rw [obsVal_base a b, obsVal_base (strip a) (strip b), strip_strip, strip_strip]

/-- `<=` is `<` or `==`, `>=` is `>` or `==` — for every pair, pointers and NaN included. -/
theorem val_le_iff (a b : JVal) : Val.le a b = (Val.lt a b || Val.eq a b) := by
  rw [val_le_base, val_lt_base, val_eq_base]; exact base_le_eq _ _

theorem val_ge_iff (a b : JVal) : Val.ge a b = (Val.gt a b || Val.eq a b) := by
  rw [val_ge_base, val_gt_base, val_eq_base]; exact base_ge_eq _ _

theorem val_gt_eq_lt_swap (a b : JVal) : Val.gt a b = Val.lt b a := by
  rw [val_gt_base, val_lt_base]; exact base_gt_eq_lt_swap _ _

theorem val_eq_comm (a b : JVal) : Val.eq a b = Val.eq b a := by
  rw [val_eq_base, val_eq_base]; exact base_eq_comm _ _

/-- Duality, for every pair of values (no hypothesis). -/
theorem val_dual (a b : JVal) : (obsVal a b).dual (obsVal b a) = true := by
  simp [Obs.dual, obsVal, val_le_iff, val_ge_iff, val_gt_eq_lt_swap a b, val_gt_eq_lt_swap b a,
    val_eq_comm a b]

theorem val_lt_trans (a b c : JVal) :
    Val.lt a b = true → Val.lt b c = true → Val.lt a c = true := by
  rw [val_lt_base, val_lt_base, val_lt_base]; exact base_lt_trans _ _ _

theorem val_lt_irrefl (a : JVal) : Val.lt a a = false := by
  rw [val_lt_base]; exact base_lt_irrefl _

/-- All transitivity instances the oracle checks (`<`, `==`, mixed, `<=`), for every triple. -/
theorem val_trans (a b c : JVal) : Obs.trans (obsVal a b) (obsVal b c) (obsVal a c) = true := by
  rw [obsVal_base a b, obsVal_base b c, obsVal_base a c]
  exact base_trans _ _ _

/-- Full claim for values: every pair is consistent (exactly one of `<`, `==`, `>`; unions). -/
def ValueTrichotomy : Prop := ∀ a b : JVal, (obsVal a b).consistent = true

/-- False for a NaN real: none of `<`, `==`, `>` holds (IEEE comparisons used directly). -/
theorem value_nan_not_consistent : (obsVal (.real none) (.real none)).consistent = false := by decide

theorem value_trichotomy_false : ¬ ValueTrichotomy := by
  intro h
  have := h (.real none) (.real none)
  rw [value_nan_not_consistent] at this; cases this

/-- Exactly one of `<`, `==`, `>` and the unions, for every NaN-free pair. -/
theorem val_consistent_partial (a b : JVal) (ha : noNaN a = true) (hb : noNaN b = true) :
    (obsVal a b).consistent = true :=
  Obs.consistent_of val_le_iff val_ge_iff a b (val_tri a b ha hb)

/-- `==` means the pointed-to values agree in everything the comparisons read (kind, container
    size, string, number); conversely for NaN-free values. -/
theorem val_eq_imp (a b : JVal) (h : Val.eq a b = true) : strip a = strip b := by
  rw [val_eq_base] at h; exact base_eq_true_imp_eq _ _ h

theorem val_eq_iff_partial (a b : JVal) (hn : noNaN a = true) :
    Val.eq a b = true ↔ strip a = strip b := by
  constructor
  · exact val_eq_imp a b
  · intro e
    have t := val_consistent_partial a a hn hn
    have hl : Val.lt a a = false := val_lt_irrefl a
    have hg : Val.gt a a = false := by rw [val_gt_eq_lt_swap]; exact hl
    have hself : Val.eq a a = true := by
      simp only [Obs.consistent, obsVal, hl, hg] at t
      revert t; cases Val.eq a a <;> simp
    rw [val_eq_base] at hself ⊢
    rw [← e]; exact hself

/-- Numbers of one kind compare by magnitude, containers by size, kinds by `ValueType` rank. -/
theorem val_lt_same_kind :
    (∀ a b : Nat, Val.lt (.nat a) (.nat b) = decide (a < b)) ∧
    (∀ a b : Int, Val.lt (.int a) (.int b) = decide (a < b)) ∧
    (∀ a b : Int, Val.lt (.real (some a)) (.real (some b)) = decide (a < b)) ∧
    (∀ a b : Nat, Val.lt (.obj a) (.obj b) = decide (a < b)) ∧
    (∀ a b : Nat, Val.lt (.arr a) (.arr b) = decide (a < b)) ∧
    (∀ a b : List Nat, Val.lt (.str a) (.str b) = Str.lt a b) := by
  simp [val_lt_base, strip, Base.lt, realLt]

theorem val_lt_cross_kind (a b : JVal) (h : rank (strip a) ≠ rank (strip b)) :
    Val.lt a b = decide (rank (strip a) < rank (strip b)) := by
  rw [val_lt_base]
  generalize strip a = x at h ⊢
  generalize strip b = y at h ⊢
  induction x, y using base_cases with
  | other x y r _ => exact r.lt
  | _ => exact absurd rfl h

/-! ### T1: the kind ranks are the numeric values of `enum ValueType` in the current headers -/
open Qentem.Generated.Order in
theorem value_type_ranks :
    valueTypeRanks = [rank .undefined, rank (.ptr .undefined), rank (.obj 0), rank (.arr 0),
      rank (.str []), rank (.nat 0), rank (.int 0), rank (.real none), rank .tru, rank .fls,
      rank .null] := by decide

/-! ## Sort -/

/-- `Memory::Sort` with any comparison that is asymmetric and transitive on the elements present
    (every strict weak order is): with fuel = length it terminates without an out-of-range
    access, and returns a permutation of the input in which no later element goes before an
    earlier one.  `before` is `<` for ascending and `>` for descending. -/
theorem sort_ordered_permutation {α : Type} (before : α → α → Bool) (P : α → Prop)
    (hord : StrictOn P before) (arr : Array α) (hP : ∀ x, x ∈ arr → P x) :
    ∃ out, sortSeg before arr.size arr 0 arr.size = some out ∧
      out.toList.Perm arr.toList ∧ out.toList.Pairwise (fun x y => before y x = false) :=
  sortSeg_full before P hord arr hP

/-- The same for a comparison given as irreflexive + transitive on all elements (a strict weak
    order is that plus transitivity of incomparability, which Sort does not need). -/
theorem sort_strict_weak_order {α : Type} (lt : α → α → Bool) (hirr : ∀ x, lt x x = false)
    (htr : ∀ x y z, lt x y = true → lt y z = true → lt x z = true) (arr : Array α) :
    ∃ out, sortSeg lt arr.size arr 0 arr.size = some out ∧
      out.toList.Perm arr.toList ∧ out.toList.Pairwise (fun x y => lt y x = false) :=
  sortSeg_full lt (fun _ => True)
    (StrictOn.of_irrefl_trans (fun x _ => hirr x) (fun x y z _ _ _ => htr x y z)) arr (fun _ _ => trivial)

/-- Any segment `[s, e)`: only positions inside the segment move, and the segment is ordered. -/
theorem sort_segment {α : Type} (before : α → α → Bool) (P : α → Prop) (hord : StrictOn P before)
    (arr : Array α) (s e : Nat) (hse : s ≤ e) (he : e ≤ arr.size)
    (hP : ∀ k x, s ≤ k → k < e → arr[k]? = some x → P x) :
    ∃ out, sortSeg before (e - s) arr s e = some out ∧ SwapsIn s e arr out ∧ SortedSeg before out s e :=
  sortSeg_spec before P hord (e - s) arr s e hse he (Nat.le_refl _) hP

theorem str_lt_strict : StrictOn (fun _ : List Nat => True) Str.lt :=
  StrictOn.of_irrefl_trans (fun x _ => Str.lt_irrefl x) (fun x y z _ _ _ => Str.lt_trans x y z)

theorem str_gt_strict : StrictOn (fun _ : List Nat => True) Str.gt :=
  str_lt_strict.swap Str.gt_eq_lt_swap

/-- `Array<String>::Sort` / the keys of `HArray::Sort`, ascending: an ordered permutation,
    consecutive keys related by `<=`. -/
theorem string_sort_ascending (arr : Array (List Nat)) :
    ∃ out, arraySort Str.lt Str.gt true arr = some out ∧ out.toList.Perm arr.toList ∧
      out.toList.Pairwise (fun x y => Str.le x y = true) := by
  obtain ⟨out, h1, h2, h3⟩ := sortSeg_full Str.lt _ str_lt_strict arr (fun _ _ => trivial)
  exact ⟨out, by simpa [arraySort] using h1, h2, h3.imp (fun h => Str.le_of_not_lt _ _ h)⟩

theorem string_sort_descending (arr : Array (List Nat)) :
    ∃ out, arraySort Str.lt Str.gt false arr = some out ∧ out.toList.Perm arr.toList ∧
      out.toList.Pairwise (fun x y => Str.ge x y = true) := by
  obtain ⟨out, h1, h2, h3⟩ := sortSeg_full Str.gt _ str_gt_strict arr (fun _ _ => trivial)
  exact ⟨out, by simpa [arraySort] using h1, h2, h3.imp (fun h => Str.ge_of_not_gt _ _ h)⟩

/-- `HArray::Sort` / `Value::Sort` on an object (slots `(key, value, live)`, removed slots carry the
    empty key): the slots are permuted as whole records, the keys end up ordered, and the association
    denoted by the live slots answers every lookup as before.  (The rebuilt hash chains themselves
    are C13's `generateHash`; on the real code every key is looked up after every Sort.) -/
theorem object_sort_lookup (ascend : Bool) (slots : Array Slot3)
    (hnd : (liveAssoc slots.toList).Pairwise (fun a b => a.1 ≠ b.1)) :
    ∃ out, arraySort (fun (x y : Slot3) => Str.lt x.1 y.1) (fun x y => Str.gt x.1 y.1) ascend slots = some out ∧
      out.toList.Perm slots.toList ∧
      out.toList.Pairwise (fun x y => (if ascend then Str.le x.1 y.1 else Str.ge x.1 y.1) = true) ∧
      ∀ k, lookupLive k out.toList = lookupLive k slots.toList := by
  cases ascend with
  | true =>
    obtain ⟨out, h1, h2, h3⟩ := sortSeg_full (fun (x y : Slot3) => Str.lt x.1 y.1) _
      (str_lt_strict.comap (fun s : Slot3 => s.1)) slots (fun _ _ => trivial)
    exact ⟨out, by simpa [arraySort] using h1, h2, h3.imp (fun h => Str.le_of_not_lt _ _ h),
      fun k => (perm_lookup (liveAssoc_perm h2.symm) hnd k).symm⟩
  | false =>
    obtain ⟨out, h1, h2, h3⟩ := sortSeg_full (fun (x y : Slot3) => Str.gt x.1 y.1) _
      (str_gt_strict.comap (fun s : Slot3 => s.1)) slots (fun _ _ => trivial)
    exact ⟨out, by simpa [arraySort] using h1, h2, h3.imp (fun h => Str.ge_of_not_gt _ _ h),
      fun k => (perm_lookup (liveAssoc_perm h2.symm) hnd k).symm⟩

theorem val_lt_strict : StrictOn (fun _ : JVal => True) Val.lt :=
  StrictOn.of_irrefl_trans (fun x _ => val_lt_irrefl x) (fun x y z _ _ _ => val_lt_trans x y z)

theorem val_gt_strict : StrictOn (fun _ : JVal => True) Val.gt :=
  val_lt_strict.swap val_gt_eq_lt_swap

/-- `Array<Value>::Sort(ascend)` / `Value::Sort` on an array — for **every** array of values
    (pointers, NaN included): a permutation in which no later element is `<` (`>` when
    descending) an earlier one. -/
theorem value_sort (arr : Array JVal) (ascend : Bool) :
    ∃ out, arraySort Val.lt Val.gt ascend arr = some out ∧ out.toList.Perm arr.toList ∧
      out.toList.Pairwise (fun x y => (if ascend then Val.lt y x else Val.gt y x) = false) := by
  cases ascend with
  | true =>
    obtain ⟨out, h1, h2, h3⟩ := sortSeg_full Val.lt _ val_lt_strict arr (fun _ _ => trivial)
    exact ⟨out, by simpa [arraySort] using h1, h2, by simpa using h3⟩
  | false =>
    obtain ⟨out, h1, h2, h3⟩ := sortSeg_full Val.gt _ val_gt_strict arr (fun _ _ => trivial)
    exact ⟨out, by simpa [arraySort] using h1, h2, by simpa using h3⟩

/-- Full claim in its `<=`-chain form: every earlier element `<=` every later one. -/
def ValueSortChain : Prop :=
  ∀ arr : Array JVal, ∃ out, arraySort Val.lt Val.gt true arr = some out ∧
    out.toList.Perm arr.toList ∧ out.toList.Pairwise (fun x y => Val.le x y = true)

/-- False with a NaN in the array (`NaN <= x` is false for every x). -/
theorem value_sort_chain_false : ¬ ValueSortChain := by
  intro h
  obtain ⟨out, h1, _, h3⟩ := h #[.real none, .real (some 0)]
  have : out = #[.real none, .real (some 0)] := by
    have e : arraySort Val.lt Val.gt true #[JVal.real none, JVal.real (some 0)] =
        some #[.real none, .real (some 0)] := by decide
    rw [e] at h1; exact (Option.some.inj h1).symm
  subst this
  revert h3; decide

/-- Without NaN the result is a `<=` chain (`>=` when descending). -/
theorem value_sort_chain_partial (arr : Array JVal) (hn : ∀ x, x ∈ arr → noNaN x = true) (ascend : Bool) :
    ∃ out, arraySort Val.lt Val.gt ascend arr = some out ∧ out.toList.Perm arr.toList ∧
      out.toList.Pairwise (fun x y => (if ascend then Val.le x y else Val.ge x y) = true) := by
  obtain ⟨out, h1, h2, h3⟩ := value_sort arr ascend
  refine ⟨out, h1, h2, ?_⟩
  have hmem : ∀ x, x ∈ out.toList → noNaN x = true := by
    intro x hx
    have : x ∈ arr := by
      have := h2.mem_iff.mp hx
      simpa using this
    exact hn x this
  refine (List.Pairwise.and_mem.mp h3).imp ?_
  intro x y ⟨hx, hy, h⟩
  cases ascend with
  | true => exact val_le_of_not_lt x y (hmem x hx) (hmem y hy) h
  | false =>
    rw [if_neg Bool.false_ne_true, val_gt_eq_lt_swap] at h
    rw [if_neg Bool.false_ne_true, val_ge_eq_le_swap]
    exact val_le_of_not_lt y x (hmem y hy) (hmem x hx) h

/-! ### The executable predicates the S3 oracle evaluates on C++ results are the stated notions -/

theorem oracle_permutation_sound {α : Type} [BEq α] [LawfulBEq α] (out inp : List α) :
    isPermOf out inp = true ↔ out.Perm inp := isPermOf_iff out inp

theorem oracle_ordered_sound {α : Type} (before : α → α → Bool) (l : List α) :
    tableOrdered (pairsTable before l) = true ↔ l.Pairwise (fun x y => before y x = false) := by
  rw [tableOrdered_pairsTable]; exact orderedBy_iff before l

theorem oracle_chain_sound {α : Type} (le : α → α → Bool) (l : List α) :
    tableChain (chainTable le l) = true ↔ l.Pairwise (fun x y => le x y = true) :=
  tableChain_chainTable le l

/-! Non-vacuity of the hypotheses, on concrete non-trivial instances. -/
example : noNaN (.ptr (.real (some 3))) = true ∧ noNaN (.str [1]) = true := by decide
example : obsVal (.ptr (.str [115])) (.obj 0) = obsVal (.str [115]) (.obj 0) ∧
    Val.gt (.obj 0) (.ptr (.str [115])) = false ∧ Val.lt (.obj 0) (.ptr (.str [115])) = true := by decide
example : ∀ x, x ∈ #[JVal.str [98], .ptr (.nat 3), .null] → noNaN x = true := by
  intro x hx; simp at hx; rcases hx with h | h | h <;> subst h <;> rfl
example : arraySort Val.lt Val.gt true #[JVal.str [98], .nat 3, .null, .str [97], .str [98, 1]] =
    some #[.str [97], .str [98], .str [98, 1], .nat 3, .null] := by decide
example : arraySort Str.lt Str.gt false #[[98], [], [97, 98], [97]] = some #[[98], [97, 98], [97], []] := by decide
example : (liveAssoc [([98], 1, true), ([], 0, false), ([97], 2, true)]).Pairwise (fun a b => a.1 ≠ b.1) := by decide
example : Str.lt [97, 98] [97, 98, 99] = true ∧ Str.gt [97, 98] [97, 98, 99] = false := by decide

end Qentem.Props.C15
