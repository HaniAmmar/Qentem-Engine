import Qentem.Proofs.JsonTokens
/-! C06 — every RFC 8259 document parses to the value it denotes. -/
namespace Qentem.Props.C06
open Qentem.Json

/-- Main theorem: for every well-formed document (`WF`: whitespace runs are RFC whitespace, each
string body / numeral token meets the contract of the sub-routine that reads it), printed with
any layout and surrounded by optional whitespace, `JSON::Parse` returns exactly the denoted
value: same structure and member order, duplicate keys resolved as "last value at the first
key's position". -/
theorem parse_print (d : Deps) (hd : DepsSafe d) (doc : JDoc) (hwf : WF d doc) (wsL wsR : Ws)
    (hL : AllWs wsL) (hR : AllWs wsR) (hsz : (wsL ++ doc.print ++ wsR).length < 2 ^ 32) :
    parse d (wsL ++ doc.print ++ wsR).toArray = .ok doc.denote :=
  Qentem.Json.parse_print d hd doc hwf wsL wsR hL hR hsz

/-- The same for the parser as it is linked (UnEscape and StringToNumber models, any width). -/
theorem parse_print_concrete (w : Nat) (doc : JDoc) (hwf : WF (jsonDeps w) doc) (wsL wsR : Ws)
    (hL : AllWs wsL) (hR : AllWs wsR) (hsz : (wsL ++ doc.print ++ wsR).length < 2 ^ 32) :
    parse (jsonDeps w) (wsL ++ doc.print ++ wsR).toArray = .ok doc.denote :=
  Qentem.Json.parse_print (jsonDeps w) (jsonDeps_safe w) doc hwf wsL wsR hL hR hsz

/-- unsigned decimal integers below 2^64: exact Natural -/
theorem token_natural (w d1 : Nat) (xs : List Nat) (h1 : Qentem.StrToNum.isNonZeroDigit d1 = true)
    (hxs : Qentem.StrToNum.AllDigits xs) (hv : Qentem.StrToNum.decVal (d1 :: xs) < 2 ^ 64) :
    NumSpec (jsonDeps w) (d1 :: xs) .natural (Qentem.StrToNum.decVal (d1 :: xs)) :=
  numSpec_natural w d1 xs h1 hxs hv

/-- negative decimal integers down to −2^63: exact Integer -/
theorem token_negative (w d1 : Nat) (xs : List Nat) (h1 : Qentem.StrToNum.isNonZeroDigit d1 = true)
    (hxs : Qentem.StrToNum.AllDigits xs) (hv : Qentem.StrToNum.decVal (d1 :: xs) ≤ 2 ^ 63) :
    NumSpec (jsonDeps w) (45 :: d1 :: xs) .integer (2 ^ 64 - Qentem.StrToNum.decVal (d1 :: xs)) :=
  numSpec_negative w d1 xs h1 hxs hv

theorem token_zero (w : Nat) : NumSpec (jsonDeps w) [48] .natural 0 := numSpec_zero w

/-- **Every RFC 8259 numeral** (`[-] int [frac] [exp]`, any length, any exponent) meets the token
contract with `kind`/`bits` = what `StringToNumber` returns on the numeral alone: embedded at any offset of any
document and followed by a delimiter or the end, the routine consumes exactly the numeral and returns the same
result (`Proofs/StrToNumReloc.lean`: the scanner reads nothing beyond the token except one look-ahead unit).  The
standalone run is a closed computation (`decide`); how accurate its `bits` are is C09's statement. -/
theorem token_real (w : Nat) (tok : List Nat) (k : Qentem.StrToNum.Kind) (bits : Nat) (hrfc : RfcNumeral tok)
    (hrun : Qentem.StrToNum.strToNum tok 0 tok.length = some ⟨k, bits, tok.length⟩) (hk : k ≠ .notANumber) :
    NumSpec (jsonDeps w) tok (kindOf k) bits :=
  numSpec_of_standalone w tok k bits hrfc hrun hk

/-- non-vacuity: `-0.25e-3` and `1.5` are RFC numerals whose standalone runs are closed computations -/
example : NumSpec (jsonDeps 1) [45, 48, 46, 50, 53, 101, 45, 51] .real 0xBF30624DD2F1A9FC :=
  token_real 1 _ .real _ ⟨[45], [48], [46, 50, 53], [101, 45, 51], rfl, Or.inr rfl, Or.inl rfl,
    Or.inr ⟨[50, 53], rfl, by simp, by intro x hx; simp at hx; rcases hx with rfl | rfl <;> decide⟩,
    Or.inr ⟨101, [45], [51], rfl, Or.inl rfl, Or.inr (Or.inr rfl), by simp, by intro x hx; simp at hx; subst hx; decide⟩⟩
    (by decide) (by decide)

example : NumSpec (jsonDeps 1) [49, 46, 53] .real 0x3FF8000000000000 :=
  token_real 1 _ .real _ ⟨[], [49], [46, 53], [], rfl, Or.inl rfl, Or.inr ⟨49, [], rfl, by decide, by intro x hx; cases hx⟩,
    Or.inr ⟨[53], rfl, by simp, by intro x hx; simp at hx; subst hx; decide⟩, Or.inl rfl⟩ (by decide) (by decide)

/-- every string body that `JSONUtils::Escape` can write (all short escapes, `\u00XX` controls, raw
units of any width) decodes to the string it was written from -/
theorem token_escaped_string (w : Nat) (s : List Nat) : StrSpec (jsonDeps w) (escapeJson s) s :=
  strSpec_escaped w s

/-- every RFC 8259 string body (plain units of any width, the eight short escapes, `\\uXXXX` in
either hex case, surrogate pairs) decodes to the concatenation of what its tokens denote; C20's
`utf8_decode_encode` / `utf16_decode_encode` / `surrogate_pair` say what those are -/
theorem token_string_body (w : Nat) (ts : List Qentem.Unicode.Tok) (hok : ∀ t ∈ ts, t.ok = true) :
    StrSpec (jsonDeps w) (ts.flatMap Qentem.Unicode.Tok.src) (ts.flatMap (Qentem.Unicode.Tok.out w)) :=
  strSpec_tokens w ts hok

/-- Non-vacuity with real tokens: `{"a\n":[-12, 0], "":7}` with whitespace is well-formed for the
linked sub-routines, so `parse_print_concrete` applies to it. -/
example : WF (jsonDeps 1) (.obj [32]
    [([], escapeJson [97, 10], [97, 10], [], [32], .arr [] [([], .num [45, 49, 50] .integer (2 ^ 64 - 12), []), ([32], .num [48] .natural 0, [])], []),
     ([10], escapeJson [], [], [], [], .num [55] .natural 7, [9])]) := by
  refine ⟨AllWs.of_all rfl, ⟨AllWs.nil, strSpec_escaped 1 _, AllWs.nil, AllWs.of_all rfl, ?_, AllWs.nil, ?_⟩⟩
  · refine ⟨AllWs.nil, ⟨AllWs.nil, ?_, AllWs.nil, ⟨AllWs.of_all rfl, numSpec_zero 1, AllWs.nil, trivial⟩⟩⟩
    have := numSpec_negative 1 49 [50] (by decide) (by intro x hx; simp at hx; subst hx; decide) (by decide)
    simpa [WF, Qentem.StrToNum.decVal] using this
  · refine ⟨AllWs.of_all rfl, strSpec_escaped 1 _, AllWs.nil, AllWs.nil, ?_, AllWs.of_all rfl, trivial⟩
    have := numSpec_natural 1 55 [] (by decide) (by intro x hx; simp at hx) (by decide)
    simpa [WF, Qentem.StrToNum.decVal] using this

/-- Duplicate keys: inserting an existing key keeps its position and replaces its value. -/
theorem objInsert_last_wins_first_position (pre post : List (List Nat × JVal)) (k : List Nat) (v v' : JVal)
    (hpre : ∀ p ∈ pre, p.1 ≠ k) :
    objInsert (pre ++ (k, v) :: post) k v' = pre ++ (k, v') :: post := by
  induction pre with
  | nil => simp [objInsert]
  | cons p pre ih =>
    have hp : p.1 ≠ k := hpre p (by simp)
    obtain ⟨pk, pv⟩ := p
    simp only [List.cons_append, objInsert]
    rw [if_neg hp, ih (fun q hq => hpre q (by simp [hq]))]

/-- A new key is appended after all existing members, which stay untouched. -/
theorem objInsert_new_key_appended (ms : List (List Nat × JVal)) (k : List Nat) (v : JVal)
    (hnew : ∀ p ∈ ms, p.1 ≠ k) : objInsert ms k v = ms ++ [(k, v)] :=
  objInsert_append_new ms k v hnew

/-- Non-vacuity of `WF`: a nested document with whitespace, an empty object and keywords is
well-formed for any sub-routines (it has no string or number token). -/
example (d : Deps) : WF d (.arr [32] [([], .tru, [10]), ([9], .obj [] [], []), ([], .null, [])]) := by
  simp [WF, WFItems, WFMembers, AllWs, isWs]

end Qentem.Props.C06
