import Qentem.Proofs.TmplText
import Qentem.Proofs.TmplStages
/-!
# C02 — rendering a well-formed template yields the documented expansion

`Model/Tmpl/Spec.lean` is the reference interpreter of Documentation/Template.md (`Tpl`, `printTpl`,
`expand`).  Proved here: parse + render of the printed template = the documented expansion, for every
node kind of `Tpl` nested in any order and depth, under explicit side conditions
(`render_parse_print_loops`, and `render_parse_print_wf` over `List Tpl` with the class `WellFormedT`);
the same equation for smaller classes with fewer hypotheses and smaller fuel (text only, segment runs,
block lists, block trees, one loop between segment runs); a concrete instance with every hypothesis
discharged.  `RenderParsePrint` is the equation as a bare statement; `checks/c02.py` decides it run by
run: generated template trees × value trees, the real renderer against `expand`.

Where the words of `render_parse_print_loops` are defined (all in `Qentem.Tmpl`, files under Proofs/).  The class: `GT`,
`GTs`, `gtsTpl`, `GT.ok` (TmplGen), over `Seg`, `Seg.ok`, `MathOk`, `exprOk` (TmplSegs), `HdrOk` (TmplGenBase), `ValOk`
(TmplIifParse), `Seg.isArg` (TmplSvarParse).  The path and case conditions: `GT.pathV`, `GT.caseV` (TmplGenRender), over
`PathOkV`, `varsOkV`, `Seg.pathV` (TmplGenRenderBase).  The contexts: `SameCtx` (TmplSegs), `Reach` (TmplSvarRender).
The fuel: `rneedGTs`, `rcostGTs`, `eneedGTs` (TmplGenRender).  The smaller classes `Blk`, `BTs` and the one-loop template,
with their conditions and fuel: TmplBlocks.
-/
namespace Qentem.Props.C02
open Qentem.Tmpl Qentem.Expr

/-- all nodes are text -/
def allText : List Tpl → Bool
  | [] => true
  | .text _ :: rest => allText rest
  | _ :: _ => false

theorem expandList_text {R : Type} [RealLike R] (sx : SpecCtx R) :
    ∀ (t : List Tpl) (fuel : Nat), allText t = true → 2 * t.length + 2 ≤ fuel →
      expandList sx fuel [] t = printList t := by
  intro t
  induction t with
  | nil =>
    intro fuel _ hf
    cases fuel with
    | zero => omega
    | succ f => simp [expandList, printList]
  | cons x rest ih =>
    intro fuel ht hf
    cases x with
    | text s =>
      cases fuel with
      | zero => omega
      | succ f =>
        cases f with
        | zero => simp at hf
        | succ g =>
          simp only [allText] at ht
          simp only [expandList, expandTpl, printList, printTpl]
          rw [ih (g + 1) ht (by simp at hf ⊢; omega)]
    | _ => simp [allText] at ht

/-- the main equation of C02 for text-only templates: parse, then render, gives the documented
expansion (the text itself), for every value and every renderer parameter. -/
theorem render_parse_print_text {R : Type} [RealLike R] (cx : RCtx R) (sx : SpecCtx R)
    (cfg : ScanCfg R) (t : List Tpl) (ht : allText t = true) (hc : cx.content = printList t)
    (hn : NoTagStart cx.content) (fuel : Nat) :
    (parse cfg cx.content).bind (fun tags => renderTop cx tags (fuel + 1)) =
      .ok (expand sx t (2 * t.length + 2)) := by
  rw [Qentem.Tmpl.render_text cx cfg hn fuel, expand, expandList_text sx t _ ht (Nat.le_refl _), hc]

/-- segment runs, parse half: the printed text of a template made of text, `{var:p}`, `{raw:p}`
and `{math:e}` (texts and paths free of `{ < }`, paths of 1..255 units, expressions `MathOk`) parses to
exactly one Variable / RawVariable / Math tag per segment at the offsets the printer put them
(`tagsOf`), nothing else; a Math tag holds the expression list scanned in place. -/
theorem parse_segs {R : Type} (cfg : ScanCfg R) (segs : List Seg) (hok : ∀ s ∈ segs, s.ok)
    (hn : (printList (segsTpl segs)).length + 16 < 4294967296) :
    parse cfg (printList (segsTpl segs)) = .ok (tagsOf cfg (printList (segsTpl segs)) 0 segs) := by
  rw [printSegs_eq] at hn ⊢
  exact Qentem.Tmpl.parse_segs cfg segs hok hn

/-- a path of the documented shape `name[k1][k2]…` (non-empty name, no bracket inside the name or
a key) is looked up by the renderer exactly as the document says (`resolve`), whether or not it
leads to a value. -/
theorem getValue_eq_resolve {R : Type} (cx : RCtx R) (hg : cx.guardIndexRead = true) (st : RState)
    (A post p : List Nat) (hc : cx.content = A ++ (p ++ post)) (hp : PathOk p) :
    getValue cx st ⟨A.length, p.length, 0, 0⟩ = .ok (resolve cx.root [] p).1 :=
  getValue_path cx hg st A post p hc hp

/-- the path shape is inhabited by the paths the document uses: `a[0]` -/
example : PathOk [97, 91, 48, 93] :=
  ⟨[97], [[48]], by simp [brk], by simp, by intro x hx; simp at hx; subst hx; decide,
    by intro k hk; simp at hk; subst hk; intro x hx; simp at hx; subst hx; decide⟩

/-! side conditions of concrete templates are settled by evaluation, through the lemmas that follow -/
theorem plainL_of {l : List Nat} (h : ∀ x ∈ l, x ≠ 123 ∧ x ≠ 60 ∧ x ≠ 125) : plainL l := h

theorem forall_single {α : Type} {P : α → Prop} {a : α} (h : P a) : ∀ s ∈ [a], P s :=
  fun _ hs => List.mem_singleton.mp hs ▸ h

theorem pathOk_name (n : List Nat) (hne : n ≠ []) (hn : ∀ x ∈ n, x ≠ 91 ∧ x ≠ 93) : PathOk n :=
  ⟨n, [], (List.append_nil n).symm, hne, hn, fun _ hk => nomatch hk⟩

theorem mathOk_var (p last : List Nat) (hp : plainL p) (hl : plainL last) :
    MathOk ([123, 118, 97, 114, 58] ++ p ++ [125] ++ last) :=
  ⟨[([], p)], last, by simp [printMP], hl, fun tp htp => by
    cases List.mem_singleton.mp htp; exact ⟨fun _ h => (List.not_mem_nil h).elim, hp⟩⟩

theorem forall_pair {α : Type} {P : α → Prop} {a b : α} (ha : P a) (hb : P b) : ∀ s ∈ [a, b], P s := by
  intro s hs
  rcases List.mem_cons.mp hs with h | h
  · exact h ▸ ha
  · exact List.mem_singleton.mp h ▸ hb

theorem pathOkV_name (Vs : List (List Nat)) (n : List Nat) (hne : n ≠ []) (hn : ∀ x ∈ n, x ≠ 91 ∧ x ≠ 93)
    (hV : ∀ V ∈ Vs, V.isPrefixOf n = true → n = V) : PathOkV Vs n :=
  ⟨n, [], (List.append_nil n).symm, hne, hn, fun _ hk => (List.not_mem_nil hk).elim, hV⟩

theorem hdrOk_of (S V : List Nat)
    (h : (∀ x ∈ S, (x ≠ 123 ∧ x ≠ 60 ∧ x ≠ 125) ∧ x ≠ 34 ∧ x ≠ 62) ∧ S.length < 236 ∧
      (∀ x ∈ V, (x ≠ 123 ∧ x ≠ 60 ∧ x ≠ 125) ∧ x ≠ 34 ∧ x ≠ 62) ∧ V.length < 256) : HdrOk S V :=
  ⟨fun x hx => (h.1 x hx).1, fun x hx => (h.1 x hx).2.1, fun x hx => (h.1 x hx).2.2, h.2.1,
    fun x hx => (h.2.2.1 x hx).1, fun x hx => (h.2.2.1 x hx).2.1, fun x hx => (h.2.2.1 x hx).2.2, h.2.2.2⟩

theorem of_some {α : Type} {P : α → Prop} {a : α} (h : P a) : ∀ l, some a = some l → P l :=
  fun _ hl => Option.some.inj hl ▸ h

theorem of_scan {R : Type} {r : Except Fault (List (Item R))} {l : List (Item R)} {P : List (Item R) → Prop}
    (hs : r = .ok l) (h : P l) : ∀ items, r = .ok items → P items :=
  fun _ hi => by rw [hs] at hi; cases hi; exact h

/-- the scanner and the evaluator do not depend on where an expression sits in the content:
scanning `e}` alone and scanning it `k` units into a longer content (after a unit that cannot end
an operand) give the same list with text and `{var:…}` operands moved by `k`, and the two lists
evaluate to the same number when the two environments give every scanned `{…}` operand and its
moved copy the same value (`scanVar`: offset + 5, length, and the scanner's loop-variable answer
at that offset; no condition when the expression has no `{`). -/
theorem scan_eval_relocatable {R : Type} [RealLike R] (cfg cfg' : ScanCfg R)
    (hrn : cfg'.readNum = cfg.readNum) {c c' : List Nat} {k : Nat} (h : Reloc c c' k)
    (off endO : Nat) (he : endO < c.length)
    (items : List (Item R)) (hp : parseTop cfg c off endO = .ok items)
    (env env' : Env R) (henv : RelEnv env env' k) (hcont : env.content = c)
    (hlk : ∀ o e, c[o]? = some 123 → o + 5 < e → c[e]? = some 125 →
      env'.lookup (scanVar cfg' (k + o) (k + e)) = env.lookup (scanVar cfg o e)) :
    ∃ items', parseTop cfg' c' (k + off) (k + endO) = .ok items' ∧
      evaluateTop env' true items' = evaluateTop env true items := by
  obtain ⟨items', h1, h2⟩ := parseTop_relocV cfg cfg' hrn h
    (fun v v' => env'.lookup v' = env.lookup v) hlk off endO he items hp
  exact ⟨items', h1, (evaluateTop_reloc henv (fun _ _ hv => hv) items items' (by rw [hcont]; exact h2)).1⟩

/-- segment runs: templates made of text, `{var:path}`, `{raw:path}` and
`{math:expression}` in any number and order.  Texts and paths are free of `{ < }`; an expression
(`MathOk`) is any text whose only `{ < }` are those of `{var:path}` operands with such paths:
numbers, parentheses, all operators, text comparison, variables (`pathOk` for a `{math:}`: the
paths of the operands the scanner finds have the documented shape; their values are whatever the
document holds);
paths have the documented shape and 1..255 units and may or may not resolve in the value (an
unresolved `{var:}` prints its own escaped source, an unresolved `{raw:}` / a `{math:}` without a
value its source); the value, the number reader, the real-number formatter and the escape switch
are arbitrary but the same on both sides. -/
theorem render_parse_print_segs {R : Type} [RealLike R] (cx : RCtx R) (sx : SpecCtx R)
    (cfg : ScanCfg R) (segs : List Seg) (hg : cx.guardIndexRead = true) (same : SameCtx cx sx)
    (hrn : cfg.readNum = cx.readNum)
    (hc : cx.content = printList (segsTpl segs)) (hok : ∀ s ∈ segs, s.ok)
    (hpath : ∀ s ∈ segs, s.pathOk cfg.readNum)
    (hn : cx.content.length + 16 < 4294967296) (fuel fuel' : Nat) :
    (parse cfg cx.content).bind (fun tags => renderTop cx tags (nTags segs + 2 + fuel)) =
      .ok (expand sx (segsTpl segs) (segs.length + 1 + fuel')) := by
  rw [printSegs_eq] at hc
  have hn' := hn
  rw [hc] at hn'
  have hp := Qentem.Tmpl.parse_segs cfg segs hok hn'
  rw [← hc] at hp
  rw [hp]
  simp only [Except.bind]
  rw [show nTags segs + 2 + fuel = 2 + fuel + nTags segs by omega,
    renderTop_segs cx cfg hg hrn segs hc hok hpath (2 + fuel) (by omega), expand,
    same.eq, expandList_body cx [] segs _ (by omega), expSegsB_nil]

/-- block lists — any sequence of segment runs (text, `{var:}`,
`{raw:}`, `{math:}`), `<if case="e">segments</if>` and
`<if case="e">segments<else />segments</if>` blocks (`e` free of `{ < } "`: an expression over
literals with any operator but `<`-based ones; the bodies any covered segments; for the two-branch
form `caseOk`: `e` scans to a non-empty list — for a text that is not an expression the code prints
nothing at all while the reference goes on to the `else` part).
For every value, number reader, formatter and escape switch: parse + render = the documented
expansion. -/
theorem render_parse_print_blocks {R : Type} [RealLike R] (cx : RCtx R) (sx : SpecCtx R)
    (cfg : ScanCfg R) (bs : List Blk) (hg : cx.guardIndexRead = true) (same : SameCtx cx sx)
    (hrn : cfg.readNum = cx.readNum)
    (hc : cx.content = printList (blksTpl bs)) (hok : ∀ b ∈ bs, b.ok) (hpath : ∀ b ∈ bs, b.pathOk cfg.readNum)
    (hcase : ∀ b ∈ bs, b.caseOk cfg.readNum)
    (hn : cx.content.length + 16 < 4294967296) (fuel fuel' : Nat) :
    (parse cfg cx.content).bind (fun tags => renderTop cx tags (rneed bs + rcost bs + fuel)) =
      .ok (expand sx (blksTpl bs) (eneed bs + fuel')) := by
  rw [printBlks_eq] at hc
  have hn' := hn
  rw [hc] at hn'
  have hp := Qentem.Tmpl.parse_blks cfg bs hok hn'
  rw [← hc] at hp
  rw [hp]
  simp only [Except.bind]
  rw [show rneed bs + rcost bs + fuel = (rneed bs + fuel) + rcost bs by omega,
    renderTop_blks cx cfg hg hrn bs hc hok hpath hcase _ (by omega), expand, same.eq,
    expandList_blks cx bs _ (by omega)]

/-- the block `<if case="1 > 0">{var:x}</if>` satisfies `Blk.ok` and `Blk.pathOk` -/
example {R : Type} (rn : List Nat → Option (Num R)) :
    Blk.ok (.ifc [49, 32, 62, 32, 48] [.var [120]]) ∧ Blk.pathOk rn (.ifc [49, 32, 62, 32, 48] [.var [120]]) := by
  exact ⟨⟨plainL_of (by decide), by decide, forall_single ⟨plainL_of (by decide), by decide, by decide⟩⟩,
    forall_single (pathOk_name [120] (by decide) (by decide))⟩

/-- block TREES.  `BTs` = sequences of segment runs and
`<if case="e">…<elseif case="e2" />…<else />…</if>` chains of any length whose bodies are again
block trees (any nesting depth).  Case texts are ANY text free of `"`: literals, operators,
parentheses and `{var:path}` operands (`varsOk`: the paths of the operands the scanner finds have
the documented shape; the values are whatever the document holds — numbers, strings, booleans,
null, containers, nothing).  `caseOk`: every case text of a
chain with more than one branch scans to a non-empty list (for a non-expression the code prints
nothing / treats a later empty case as `else`, see the observations in notes/design-tmpl.md).
For every value, number reader, formatter and escape switch: parse + render = the documented
expansion. -/
theorem render_parse_print_tree {R : Type} [RealLike R] (cx : RCtx R) (sx : SpecCtx R)
    (cfg : ScanCfg R) (bs : BTs) (hg : cx.guardIndexRead = true) (same : SameCtx cx sx)
    (hrn : cfg.readNum = cx.readNum)
    (hc : cx.content = printList (btsTpl bs)) (hok : bs.ok) (hpath : bs.pathOk cfg.readNum)
    (hcase : bs.caseOk cfg.readNum)
    (hn : cx.content.length + 16 < 4294967296) (fuel fuel' : Nat) :
    (parse cfg cx.content).bind (fun tags => renderTop cx tags (rneedBTs bs + rcostBTs bs + fuel)) =
      .ok (expand sx (btsTpl bs) (eneedBTs bs + fuel')) := by
  rw [printBTs_eq] at hc
  have hn' := hn
  rw [hc] at hn'
  have hp := Qentem.Tmpl.parse_tree cfg bs hok hn'
  rw [← hc] at hp
  rw [hp]
  simp only [Except.bind]
  rw [show rneedBTs bs + rcostBTs bs + fuel = (rneedBTs bs + fuel) + rcostBTs bs by omega,
    renderTop_tree cx cfg hg hrn bs hc hok hpath hcase _
      (Nat.le_trans (minGTs_toGTs_le cx bs) (Nat.le_add_right _ _)), expand, same.eq,
    expand_bts cx bs _ (by omega)]

/-! non-vacuity of the tree class with `{var:}` operands in a case text and in a `{math:}`:
`<if case="{var:x} == 1">{math:{var:x}+1}<else />b</if>` (with a reader that knows `1`) -/
def rdX {R : Type} : List Nat → Option (Num R) := fun s => if s = [49] then some (.nat 1) else none
def caseX : List Nat := [123, 118, 97, 114, 58, 120, 125, 32, 61, 61, 32, 49]
def mathX : List Nat := [123, 118, 97, 114, 58, 120, 125, 43, 49]
def treeX : BTs := .cons (.ifc caseX (.cons (.segs [.math mathX]) .nil) (.els (.cons (.segs [.text [98]]) .nil))) .nil
theorem scanX {R : Type} : parseTop ({ readNum := rdX } : ScanCfg R) (caseX ++ [34]) 0 caseX.length =
    .ok [(.var ⟨5, 1, 0, 0⟩, .equal), (.num (.nat 1), .noOp)] := by
  with_unfolding_all rfl
theorem scanM {R : Type} : parseTop ({ readNum := rdX } : ScanCfg R) (mathX ++ [125]) 0 mathX.length =
    .ok [(.var ⟨5, 1, 0, 0⟩, .add), (.num (.nat 1), .noOp)] := by
  with_unfolding_all rfl
theorem pathX : PathOk [120] :=
  pathOk_name [120] (by decide) (by decide)
example {R : Type} : treeX.ok ∧ treeX.pathOk (rdX (R := R)) ∧ treeX.caseOk (rdX (R := R)) := by
  refine ⟨?_, ?_, ?_⟩
  · exact ⟨⟨by decide, ⟨forall_single (mathOk_var [120] [43, 49] (plainL_of (by decide)) (plainL_of (by decide))), trivial⟩,
      forall_single (plainL_of (by decide)), trivial⟩, trivial⟩
  · exact ⟨⟨⟨forall_single (of_scan scanM (forall_single pathX)), trivial⟩, forall_single trivial, trivial⟩, trivial⟩
  · exact ⟨⟨Or.inr (of_scan scanX (List.cons_ne_nil _ _)), of_scan scanX (forall_single pathX), ⟨trivial, trivial⟩,
      trivial, trivial⟩, trivial⟩

/-- one loop, a PARTIAL class: one `<loop set="S" value="V">body</loop>` or
`<loop value="V">body</loop>` (`S = []`: the loop runs over the root) between two segment runs
(at top level).  The exact class:
* `S` (the set path): free of `{ < } " >`, when present of the documented path shape, at most 235
  units (the value name's offset must fit the tag's 8-bit field: known finding
  name-of-256-units-or-more);
* `V` (the value name): free of `{ < } " >`, at most 255 units;
* `body`: text, `{var:path}` and `{raw:path}` segments (`okB`: no `{math:}`), paths of 1..255 units
  free of `{ < }` with the documented shape, and a path that STARTS with `V` is `V` followed by
  `[key]…` (`BodyPathOk`; the code compares only the first `|V|` units of a name with the value
  name, the document the whole name);
* the content is below the 32-bit limit.
The value is ARBITRARY: the collection (`collOf`: the value of `S`, or the root) may be an array
(items without keys), an object (items with their keys; an unresolved `{var:V…}` prints the escaped
key), anything else or nothing (the loop prints nothing); undefined members are skipped.
Outside this class (`{math:}` / blocks / loops inside the body, loops inside blocks) see
`render_parse_print_loops`; `sort=` / `group=` are covered by neither. -/
theorem render_parse_print_loop_partial {R : Type} [RealLike R] (cx : RCtx R) (sx : SpecCtx R)
    (cfg : ScanCfg R) (segs0 : List Seg) (S V : List Nat) (body segs1 : List Seg)
    (hg : cx.guardIndexRead = true) (same : SameCtx cx sx) (hrn : cfg.readNum = cx.readNum)
    (hc : cx.content = printList (loopTpl segs0 S V body segs1))
    (h0 : ∀ s ∈ segs0, s.ok) (hp0 : ∀ s ∈ segs0, s.pathOk cfg.readNum)
    (h1 : ∀ s ∈ segs1, s.ok) (hp1 : ∀ s ∈ segs1, s.pathOk cfg.readNum)
    (hb : ∀ s ∈ body, s.okB) (hpb : ∀ s ∈ body, s.pathB V)
    (hS : plainL S) (hS34 : ∀ x ∈ S, x ≠ 34) (hSgt : ∀ x ∈ S, x ≠ 62) (hSp : S ≠ [] → PathOk S)
    (hS236 : S.length < 236)
    (hV : plainL V) (hV34 : ∀ x ∈ V, x ≠ 34) (hVgt : ∀ x ∈ V, x ≠ 62) (hV256 : V.length < 256)
    (hn : cx.content.length + 16 < 4294967296) (fuel fuel' : Nat) :
    (parse cfg cx.content).bind (fun tags => renderTop cx tags
        ((entsO (collOf cx S)).length + nTags body + nTags segs1 + 5 + fuel + nTags segs0)) =
      .ok (expand sx (loopTpl segs0 S V body segs1)
        (segs0.length + segs1.length + (entsO (collOf cx S)).length + body.length + 4 + fuel')) := by
  rw [expand, same.eq, expand_loopG cx segs0 S V body segs1 fuel']
  rw [printList_loopTpl] at hc
  have hh : HdrOk S V := ⟨hS, hS34, hSgt, hS236, hV, hV34, hVgt, hV256⟩
  have hp := parse_gtree cfg (loopGT segs0 S V body segs1) ⟨h0, ⟨hh, fun s hs => (hb s hs).ok, trivial⟩, h1, trivial⟩
    (by rw [← hc]; exact hn)
  rw [← hc] at hp
  rw [hp]
  exact renderTop_loop cx cfg hg hrn segs0 S V body segs1 hc (by omega) h0 hp0 h1 hp1 hb hpb hh hSp fuel

/-- the side conditions of `render_parse_print_loop_partial` hold for `<loop set="a" value="v">{var:v}</loop>`
(and, with `S = []`, for `<loop value="v">{var:v}</loop>`) -/
example {R : Type} (rn : List Nat → Option (Num R)) :
    (∀ s ∈ [Seg.var [118]], s.okB) ∧ (∀ s ∈ [Seg.var [118]], s.pathB [118]) ∧ PathOk [97] ∧ plainL [97] ∧
      plainL [118] := by
  exact ⟨forall_single ⟨plainL_of (by decide), by decide, by decide⟩,
    forall_single ⟨[118], [], rfl, by decide, (by decide : ∀ x ∈ [118], x ≠ 91 ∧ x ≠ 93),
      fun _ hk => (List.not_mem_nil hk).elim, fun _ => rfl⟩,
    pathOk_name [97] (by decide) (by decide), plainL_of (by decide), plainL_of (by decide)⟩

/-- TREES of segment runs, inline `{if case="e" true="T" false="F"}`
tags (either value may be missing, not both; `T`, `F` runs of segments free of `"`; the tag shorter
than 65536 units), super variables `{svar:path, a1, …, an}` (1 ≤ n ≤ 10, every `ai` a `{var:}`,
`{raw:}` or `{math:}` tag; the path free of `,` and not starting with the value name of an enclosing
loop — the code reads a super variable's path from the root only), `<if>`/`<elseif>`/`<else />` chains and
`<loop [set="S"] value="V">` loops, nested in any order to any depth (`GTs`): loops inside loops, ifs
inside loops, loops inside if branches, inline ifs anywhere; loop variables in `{var:}`, `{raw:}`, `{math:}` operands,
`case=` operands and in the `set=` of an inner loop; shadowing of an outer value name by an inner
one.  For EVERY value, number reader, formatter and escape switch: parse + render = the documented
expansion.  The exact class:
* `ok`: texts and paths free of `{ < }`, paths 1..255 units; `{math:}` texts `MathOk`; case texts
  free of `"`; loop attributes `HdrOk` (`S`, `V` free of `{ < } " >`, `|S| < 236`, `|V| < 256`);
* `pathV`: every `{var:}`/`{raw:}` path, every operand path the scanner finds in a `{math:}` / case
  text and every non-empty `set=` path has the documented shape and — the one semantic side
  condition — a path that STARTS with the value name of an enclosing loop IS that loop's variable
  (its name part is the value name): the code compares only the first `|V|` units
  (`checkLoopVariable`), the document the whole name; `{math:}` / case texts shorter than 65536
  units (the expression scanner keeps an operand's length in 16 bits);
* `caseV`: every case text of a chain with more than one branch is an expression (see the
  observations in notes/design-tmpl.md);
* the content is below the 32-bit limit.
Render fuel `rneedGTs` and reference fuel `eneedGTs` depend on the value (one unit per loop item, summed over
nested loops).  The code flushes and escapes the pending text of a super variable's phrase at EVERY `{`, the
document only when a `{i}` is replaced: equal because no entity contains a `{` (`escape_append_brace`).  The
reference phrase loop needs the units of a phrase below 2^32 (the code computes `unit - '0'` in 32 bits):
hypothesis `hU` over the values reachable in the document (`Reach`).  Not covered: `sort=`/`group=`. -/
theorem render_parse_print_loops {R : Type} [RealLike R] (cx : RCtx R) (sx : SpecCtx R)
    (cfg : ScanCfg R) (bs : GTs) (hg : cx.guardIndexRead = true) (same : SameCtx cx sx)
    (hrn : cfg.readNum = cx.readNum)
    (hc : cx.content = printList (gtsTpl bs)) (hok : bs.ok) (hpath : bs.pathV cfg.readNum [])
    (hcase : bs.caseV cfg.readNum)
    (hU : ∀ s, Reach cx.root (.str s) → ∀ x ∈ s, x < 2 ^ 32)
    (hn : cx.content.length + 16 < 4294967296) (fuel fuel' : Nat) :
    (parse cfg cx.content).bind (fun tags => renderTop cx tags (rneedGTs cx [] bs + rcostGTs bs + fuel)) =
      .ok (expand sx (gtsTpl bs) (eneedGTs cx [] bs + fuel')) := by
  rw [printGTs_eq] at hc
  have hn' := hn
  rw [hc] at hn'
  have hp := Qentem.Tmpl.parse_gtree cfg bs hok hn'
  rw [← hc] at hp
  rw [hp]
  simp only [Except.bind]
  rw [show rneedGTs cx [] bs + rcostGTs bs + fuel = (rneedGTs cx [] bs + fuel) + rcostGTs bs by omega,
    renderTop_gtree cx cfg hg hrn bs hc hok (GTs.pathW_of_pathV _ _ (by omega) _ bs hpath) hcase _
      (Nat.le_trans (minGTs_le cx _ bs) (Nat.le_add_right _ _)), expand, same.eq,
    expand_gts cx hU bs [] _ hok (by intro b hb; cases hb) (by omega)]

/-! non-vacuity of the class of `render_parse_print_loops`:
`<loop set="a" value="v"><if case="{var:v[x]} == 1">{math:{var:v[x]}+1}<else /><loop set="v[l]" value="w">{var:w}{var:v[n]}</loop></if></loop>` -/
def caseL : List Nat := [123, 118, 97, 114, 58, 118, 91, 120, 93, 125, 32, 61, 61, 32, 49]
def mathL : List Nat := [123, 118, 97, 114, 58, 118, 91, 120, 93, 125, 43, 49]
def treeL : GTs :=
  .cons (.loop [97] [118]
    (.cons (.ifc caseL (.cons (.segs [.math mathL]) .nil)
      (.els (.cons (.loop [118, 91, 108, 93] [119] (.cons (.segs [.var [119], .var [118, 91, 110, 93]]) .nil)) .nil))) .nil)) .nil
theorem scanCL {R : Type} : parseTop ({ readNum := rdX } : ScanCfg R) (caseL ++ [34]) 0 caseL.length =
    .ok [(.var ⟨5, 4, 0, 0⟩, .equal), (.num (.nat 1), .noOp)] := by
  with_unfolding_all rfl
theorem scanML {R : Type} : parseTop ({ readNum := rdX } : ScanCfg R) (mathL ++ [125]) 0 mathL.length =
    .ok [(.var ⟨5, 4, 0, 0⟩, .add), (.num (.nat 1), .noOp)] := by
  with_unfolding_all rfl
theorem pathVx (k : Nat) (hk : k ≠ 91 ∧ k ≠ 93) (Vs : List (List Nat)) (hVs : ∀ V ∈ Vs, V = [118] ∨ V = [119]) :
    PathOkV Vs [118, 91, k, 93] := by
  refine ⟨[118], [[k]], rfl, by decide, (by decide : ∀ x ∈ [118], x ≠ 91 ∧ x ≠ 93), forall_single (forall_single hk),
    fun V hV hp => ?_⟩
  rcases hVs V hV with h | h
  · exact h.symm
  · subst h; simp [List.isPrefixOf] at hp
example {R : Type} : treeL.ok ∧ treeL.pathV (rdX (R := R)) [] ∧ treeL.caseV (rdX (R := R)) := by
  refine ⟨?_, ?_, ?_⟩
  · simp only [treeL, GTs.ok, GT.ok, GTail.ok, and_true]
    exact ⟨hdrOk_of _ _ (by decide), by decide,
      forall_single (mathOk_var [118, 91, 120, 93] [43, 49] (plainL_of (by decide)) (plainL_of (by decide))),
      hdrOk_of _ _ (by decide),
      forall_pair ⟨plainL_of (by decide), by decide, by decide⟩ ⟨plainL_of (by decide), by decide, by decide⟩⟩
  · simp only [treeL, GTs.pathV, GT.pathV, GTail.pathV, and_true]
    exact ⟨fun _ => pathOkV_name [] [97] (by decide) (by decide) (by decide),
      ⟨of_scan scanCL (forall_single (pathVx 120 (by decide) _ (by decide))), by decide⟩,
      forall_single ⟨of_scan scanML (forall_single (pathVx 120 (by decide) _ (by decide))), by decide⟩,
      fun _ => pathVx 108 (by decide) _ (by decide),
      forall_pair (pathOkV_name _ [119] (by decide) (by decide) (by decide)) (pathVx 110 (by decide) _ (by decide))⟩
  · simp only [treeL, GTs.caseV, GT.caseV, GTail.caseV, and_true]
    exact Or.inr (of_scan scanCL (List.cons_ne_nil _ _))

/-! non-vacuity with an inline if inside a loop over the root:
`<loop value="v">{if case="{var:v} == 1" true="{var:v}" false="no"}</loop>` -/
def caseI : List Nat := [123, 118, 97, 114, 58, 118, 125, 32, 61, 61, 32, 49]
def treeI : GTs :=
  .cons (.loop [] [118] (.cons (.iif caseI (some [.var [118]]) (some [.text [110, 111]])) .nil)) .nil
theorem scanCI {R : Type} : parseTop ({ readNum := rdX } : ScanCfg R) (caseI ++ [34]) 0 caseI.length =
    .ok [(.var ⟨5, 1, 0, 0⟩, .equal), (.num (.nat 1), .noOp)] := by
  with_unfolding_all rfl
example {R : Type} : treeI.ok ∧ treeI.pathV (rdX (R := R)) [] ∧ treeI.caseV (rdX (R := R)) := by
  have hpv : PathOkV [[118]] [118] := pathOkV_name _ [118] (by decide) (by decide) (by decide)
  refine ⟨?_, ?_, ?_⟩
  · simp only [treeI, GTs.ok, GT.ok, and_true]
    exact ⟨hdrOk_of _ _ (by decide),
      mathOk_var [118] [32, 61, 61, 32, 49] (plainL_of (by decide)) (plainL_of (by decide)), by decide,
      of_some ⟨forall_single ⟨plainL_of (by decide), by decide, by decide⟩, by decide⟩,
      of_some ⟨forall_single (plainL_of (by decide)), by decide⟩, Or.inl (by simp), by decide⟩
  · simp only [treeI, GTs.pathV, GT.pathV, and_true]
    exact ⟨fun h => absurd rfl h, ⟨of_scan scanCI (forall_single hpv), by decide⟩, of_some (forall_single hpv),
      of_some (forall_single trivial)⟩
  · simp [treeI, GTs.caseV, GT.caseV]

/-! non-vacuity with a super variable inside a loop over the root, its arguments a loop variable and
an expression: `<loop value="v">{svar:t, {var:v}, {math:1+1}}</loop>` -/
def treeS : GTs :=
  .cons (.loop [] [118] (.cons (.svar [116] [.var [118], .math [49, 43, 49]]) .nil)) .nil
theorem scanSv {R : Type} : parseTop ({ readNum := rdX } : ScanCfg R) ([49, 43, 49] ++ [125]) 0 3 =
    .ok [(.num (.nat 1), .add), (.num (.nat 1), .noOp)] := by
  with_unfolding_all rfl
theorem treeS_wf {R : Type} : treeS.ok ∧ treeS.pathV (rdX (R := R)) [] ∧ treeS.caseV (rdX (R := R)) := by
  refine ⟨?_, ?_, ?_⟩
  · simp only [treeS, GTs.ok, GT.ok, and_true]
    exact ⟨hdrOk_of _ _ (by decide), plainL_of (by decide), by decide, by decide, by decide,
      forall_pair ⟨⟨plainL_of (by decide), by decide, by decide⟩, trivial⟩
        ⟨MathOk.of_plain _ (plainL_of (by decide)), trivial⟩, by simp, by decide⟩
  · simp only [treeS, GTs.pathV, GT.pathV, and_true]
    exact ⟨fun h => absurd rfl h, pathOkV_name _ [116] (by decide) (by decide) (by decide), by decide,
      forall_pair (pathOkV_name _ [118] (by decide) (by decide) (by decide))
        ⟨of_scan scanSv (fun _ hv => (List.not_mem_nil hv).elim), by decide⟩⟩
  · simp [treeS, GTs.caseV, GT.caseV]

/-! a concrete instance of `render_parse_print_loops` (all hypotheses discharged, the reference
expansion evaluated by the kernel): the template
`<loop value="v">{svar:t, {var:v}, {math:1+1}}</loop>` on the value `{"t": "x{0}y{1}"}` -/
def phraseS : List Nat := [120, 123, 48, 125, 121, 123, 49, 125]   -- x{0}y{1}
def rootS : Doc := .obj [([116], .str phraseS)]
def cxS : RCtx Rat :=
  { content := printList (gtsTpl treeS), root := rootS, readNum := rdX, realOfBits := fun _ => 0,
    fmtReal := fun _ => [], groupBy := fun _ _ => none, sortDoc := fun d _ => d, realBits := fun _ => 0 }

theorem reachS : ∀ d, Reach rootS d → d = rootS ∨ d = .str phraseS := by
  intro d h
  induction h with
  | root => exact Or.inl rfl
  | key d d' k _ hk ih =>
    rcases ih with h | h
    · subst h
      simp only [rootS, Doc.getKey] at hk
      split at hk
      · rename_i kk v hf
        have := List.mem_of_find?_eq_some hf
        simp at this
        split at hk
        · cases hk
        · cases hk; right; exact this.2
      · cases hk
    · subst h; simp [Doc.getKey] at hk
  | item xs x hr _ ih =>
    rcases ih with h | h <;> simp [rootS] at h
  | mem ms k x _ hm ih =>
    rcases ih with h | h
    · simp only [rootS, Doc.obj.injEq] at h
      subst h
      simp at hm
      right; exact hm.2
    · cases h

theorem render_parse_print_instance :
    (parse ({ readNum := rdX } : ScanCfg Rat) cxS.content).bind
        (fun tags => renderTop cxS tags (rneedGTs cxS [] treeS + rcostGTs treeS + 0)) =
      .ok ([120] ++ phraseS ++ [121, 50]) := by
  have hex : expand (specOf cxS) (gtsTpl treeS) (eneedGTs cxS [] treeS + 0) = [120] ++ phraseS ++ [121, 50] := by
    with_unfolding_all rfl
  rw [← hex]
  have hwf : treeS.ok ∧ treeS.pathV (rdX (R := Rat)) [] ∧ treeS.caseV (rdX (R := Rat)) := treeS_wf
  exact render_parse_print_loops cxS (specOf cxS) { readNum := rdX } treeS rfl (sameCtx_specOf cxS) rfl rfl
    hwf.1 hwf.2.1 hwf.2.2
    (by
      intro s hs x hx
      rcases reachS _ hs with h | h
      · simp [rootS] at h
      · cases h
        have : ∀ y ∈ phraseS, y < 2 ^ 32 := by decide
        exact this x hx)
    (by decide) 0 0

/-- the class of `render_parse_print_loops` as a predicate on templates -/
def WellFormedT {R : Type} (rn : List Nat → Option (Num R)) (t : List Tpl) : Prop :=
  ∃ bs : GTs, t = gtsTpl bs ∧ bs.ok ∧ bs.pathV rn [] ∧ bs.caseV rn

/-- `RenderParsePrint` for the templates of the class (every node kind of `Tpl`): some fuel on each
side makes parse + render print the documented expansion -/
theorem render_parse_print_wf {R : Type} [RealLike R] (cx : RCtx R) (sx : SpecCtx R)
    (cfg : ScanCfg R) (t : List Tpl) (hg : cx.guardIndexRead = true) (same : SameCtx cx sx)
    (hrn : cfg.readNum = cx.readNum) (hwf : WellFormedT cfg.readNum t)
    (hc : cx.content = printList t)
    (hU : ∀ s, Reach cx.root (.str s) → ∀ x ∈ s, x < 2 ^ 32)
    (hn : cx.content.length + 16 < 4294967296) :
    ∃ fuel fuel', (parse cfg cx.content).bind (fun tags => renderTop cx tags fuel) = .ok (expand sx t fuel') := by
  obtain ⟨bs, rfl, hok, hpath, hcase⟩ := hwf
  exact ⟨_, _, render_parse_print_loops cx sx cfg bs hg same hrn hc hok hpath hcase hU hn 0 0⟩

/-- side conditions under which the document determines the output (the generator of
`checks/c02.py` produces exactly such templates) — informal list kept next to the statement:
names and keys free of `{ } < > [ ] " ' = ,` and spaces; loop value names not a prefix of any other
name used inside the loop; attribute texts free of their quote and of `{ } <` outside tags;
texts free of `{ } <`; at least one sub-variable in a super variable; names ≤ 255 units, attribute
offsets < 256 (loop) / < 65536 (inline if); integers only. -/
def RenderParsePrint : Prop :=
  ∀ (R : Type) [RealLike R] (cx : RCtx R) (sx : SpecCtx R) (cfg : ScanCfg R) (t : List Tpl)
    (_wellFormed : True) (_same : cx.root = sx.root ∧ cx.content = printList t),
    ∃ fuel fuel', (parse cfg cx.content).bind (fun tags => renderTop cx tags fuel) =
      .ok (expand sx t fuel')

end Qentem.Props.C02
