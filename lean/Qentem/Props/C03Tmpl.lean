import Qentem.Proofs.TmplEscape
import Qentem.Props.C03
/-!
# C03 — the template print paths go through the escaper (link to the render model)

The statements of Proofs/TmplEscape.lean, and the corollary `var_text_safe`.
-/
namespace Qentem.Props.C03Tmpl
open Qentem.Tmpl Qentem.Expr Qentem.Generated.Tmpl

/-- A Variable tag appends the literal text before it and then either `escapeCfg auto x` with `x` the
resolved string, the loop key or the tag's own source slice (`VarSource`), or the text of a number /
keyword (`VarText.numeral`). -/
theorem var_emits_escaped {R : Type} (cx : RCtx R) (st st' : RState) (v : VarRef) (offset off' : Nat)
    (h : renderVariable cx st v offset = .ok (st', off')) :
    ∃ pre txt, slice cx.content offset (v.off - W1.variablePrefixLength) = .ok pre ∧
      st'.out = st.out ++ pre ++ txt ∧ st'.items = st.items ∧ VarText cx st v txt :=
  Qentem.Tmpl.var_emits_escaped cx st st' v offset off' h

/-- A Raw tag appends the resolved value's text (a string unchanged: `copyValue_raw_string`) or its
own source, verbatim. -/
theorem raw_emits_verbatim {R : Type} (cx : RCtx R) (st st' : RState) (v : VarRef) (offset off' : Nat)
    (h : renderRawVariable cx st v offset = .ok (st', off')) :
    ∃ pre txt, slice cx.content offset (v.off - W1.rawVariablePrefixLength) = .ok pre ∧
      st'.out = st.out ++ pre ++ txt ∧ st'.items = st.items ∧ RawText cx st v txt :=
  Qentem.Tmpl.raw_emits_verbatim cx st st' v offset off' h

theorem raw_string_verbatim {R : Type} (cx : RCtx R) (s : List Nat) :
    copyValue cx false (.str s) = some s :=
  copyValue_raw_string cx s

/-- A super variable appends escaped pieces of the phrase and what its sub tags append. -/
theorem svar_emits {R : Type} [RealLike R] (cx : RCtx R) (sub : List (Tag R)) (txt : List Nat)
    (fuel index lastIdx : Nat) (st st' : RState)
    (h : svarLoop cx fuel sub txt index lastIdx st = .ok st') :
    ∃ app, st'.out = st.out ++ app ∧ st'.items = st.items ∧ SvarParts cx st.items sub app :=
  Qentem.Tmpl.svar_emits cx sub txt fuel index lastIdx st st' h

/-- integers and keywords print without any of `& < > " '` -/
theorem numeral_safe {R : Type} (cx : RCtx R) (esc : Bool) (d : Doc) (txt : List Nat)
    (hd : d.isNumeral = true) (h : copyValue cx esc d = some txt) : ∀ c ∈ txt, isSpecial c = false :=
  Qentem.Tmpl.numeral_safe cx esc d txt hd h

/-- With auto-escape on, the text a Variable tag appends contains no raw `< > " '`, unless it is a
real number's text (which comes from the formatter parameter, C10). -/
theorem var_text_safe {R : Type} (cx : RCtx R) (hauto : cx.autoEscape = true) (st : RState)
    (v : VarRef) (txt : List Nat) (h : VarText cx st v txt)
    (hreal : ∀ b, getValue cx st v ≠ .ok (some (.real b))) :
    ∀ c ∈ txt, Qentem.Escape.isSpecialNoAmp c = false := by
  cases h with
  | escaped x _ =>
    rw [hauto]
    exact Qentem.Props.C03.escape_no_raw_special x
  | numeral d _ hg hd hc =>
    rcases hd with hd | ⟨b, rfl⟩
    · intro c hcm
      have := Qentem.Tmpl.numeral_safe cx true d _ hd hc c hcm
      simp only [isSpecial, Bool.or_eq_false_iff] at this
      simp [Qentem.Escape.isSpecialNoAmp, this]
    · exact absurd hg (hreal b)

end Qentem.Props.C03Tmpl
