import Qentem.Model.Hash
import Qentem.Model.HashTable
import Qentem.Model.HashTableSpec
import Qentem.Proofs.HashTableRefine
import Qentem.Proofs.HashTableSortBridge
import Qentem.Proofs.HashTree
/-!
C13 — the hash array is an insertion-ordered map under every operation sequence.

Layout model: `Qentem.HashTable` (`Model/HashTable.lean`); specification: slots
(`Model/HashTableSpec.lean`).  Every theorem is for an arbitrary hash function `H` with
`∀ k, H k ≠ 0` - colliding hashes at every capacity are covered by the quantifier - and an
arbitrary value type.
-/
namespace Qentem.Props.C13
open Qentem.Hash Qentem.HashTable

/-! ### The real hash function meets the only hypothesis the table theorems put on `H`. -/

/-- `StringUtils::Hash` never returns 0 (0 marks a removed item): the top bit is forced. -/
theorem hash_ne_zero (conv : Nat → Nat) (k : List Nat) : hashWith conv k ≠ 0 := by
  unfold hashWith
  intro h
  have := Nat.or_eq_zero_iff.mp h
  omega

theorem hash_top_bit (conv : Nat → Nat) (k : List Nat) : (hashWith conv k).testBit 31 = true := by
  unfold hashWith
  simp [Nat.testBit_or]
  right
  decide

theorem hashChar_ne_zero (k : List Nat) : hashChar k ≠ 0 := hash_ne_zero _ k

/-- The default-constructed table satisfies the invariant. -/
theorem inv_empty {V : Type} (H : List Nat → Nat) : Inv H (HT.empty : HT V) := Qentem.HashTable.inv_empty H

/-- `find` never exhausts its fuel and never reads out of range under the invariant, in a table with capacity. -/
theorem find_fuel {V : Type} {H : List Nat → Nat} (hH : ∀ k, H k ≠ 0) {s : HT V} (hI : Inv H s)
    (hcap : s.cap ≠ 0) (key : List Nat) : ∃ r, find s key (H key) = some r := by
  obtain ⟨ch, hc⟩ := hI.chains
  have hk := hI.cap_pow_of_ne hcap
  rcases key_cases s key with ⟨j, it, hit, hl, rfl⟩ | hno
  · obtain ⟨pre, post, _, hfind, _⟩ := find_some hI hc hH hit hl
    exact ⟨_, hfind⟩
  · exact ⟨_, find_none hc hH hk hno⟩

/-- One step of **any** operation (Insert, Get / operator[], assignment through it, lookups by key
and by index, Remove, RemoveIndex, Rename, Reserve, Resize, Expect, Compress, Clear, Reset, Sort,
copy, move, both operator+=): no fault, the invariant is kept, the abstract state and the output are
those of the slot specification. -/
theorem inv_step_refine_step {V : Type} [Inhabited V] {H : List Nat → Nat} (ord : Nat → Nat) (hH : ∀ k, H k ≠ 0)
    {s : HT V} (hI : Inv H s) (op : Op V) :
    ∃ s' o, step H ord s op = some (s', o) ∧ Inv H s' ∧ (abs s', o) = Spec.step ord (abs s) op :=
  step_refines ord hH hI op

/-- Every finite operation sequence from the empty table runs without a fault (no read outside the
block, no fuel exhaustion, no insertion into a full block), ends in a state satisfying the
invariant, and its slot view and all its outputs are those of the specification. -/
theorem reachable_refines {V : Type} [Inhabited V] (H : List Nat → Nat) (ord : Nat → Nat)
    (hH : ∀ k, H k ≠ 0) (ops : List (Op V)) :
    ∃ s' os, run H ord HT.empty ops = some (s', os) ∧ Inv H s' ∧ (abs s', os) = Spec.run ord Spec.empty ops :=
  run_refines ord hH ops (Qentem.HashTable.inv_empty H)

/-- The same for the real hash function of `String<char>` keys. -/
theorem reachable_refines_hashChar {V : Type} [Inhabited V] (ops : List (Op V)) :
    ∃ s' os, run hashChar ordChar HT.empty ops = some (s', os) ∧ Inv hashChar s' ∧
      (abs s', os) = Spec.run ordChar Spec.empty ops :=
  reachable_refines hashChar ordChar hashChar_ne_zero ops

/-! ### The sentences of the property, for every reachable table

`Op.KeyLevel` = every operation whose meaning mentions neither slot numbers nor the key order
(Insert, Get / operator[], assignment, Remove, the lookups, Reserve, Expect, Compress, Clear, Reset,
copy, move, self operator+=).  For those the table is compared with the textbook association list `alStep` and with
the history function `histStep` ("stored and not removed since; last value stored").  Resize(n),
RemoveIndex(i), Rename, Sort and operator+= of another table are covered by `reachable_refines` (slot level) and by
`key_index_agree` / `sort_keeps_lookups` below. -/

/-- *Iteration visits live entries in first-insertion order*: walking the slots `0 .. Size()-1` with
`GetKey(i)` / `GetValue(i)` and skipping removed slots yields exactly the reference association
list (a stored key keeps its place, a new key goes to the end, a removed key leaves). -/
theorem iteration_first_insertion_order {V : Type} [Inhabited V] (H : List Nat → Nat) (ord : Nat → Nat)
    (hH : ∀ k, H k ≠ 0) (ops : List (Op V)) (hops : ∀ op ∈ ops, op.KeyLevel) :
    ∃ s' os, run H ord HT.empty ops = some (s', os) ∧
      (List.range s'.items.size).filterMap (lookupIdx s') = ops.foldl alStep [] := by
  obtain ⟨s', os, hrun, _, hent⟩ := entries_run ord hH ops (Qentem.HashTable.inv_empty H) hops
  refine ⟨s', os, hrun, ?_⟩
  have hent' : entries (absSlots s') = ops.foldl alStep [] := hent
  rw [← hent']
  -- iteration by index = the entries of the slot view
  have hidx : ∀ i, lookupIdx s' i = ((absSlots s')[i]?).join := fun i => by
    rw [lookupIdx_spec]; rfl
  rw [← filterMap_range_eq_entries (absSlots s'), absSlots_length]
  exact List.filterMap_congr (fun i _ => hidx i)

/-- *A key is found exactly when it was stored and not removed since, and lookup returns the last
value stored under it*: the result of a lookup after any key-level history is the history function. -/
theorem lookup_eq_history {V : Type} [Inhabited V] (H : List Nat → Nat) (ord : Nat → Nat)
    (hH : ∀ k, H k ≠ 0) (ops : List (Op V)) (hops : ∀ op ∈ ops, op.KeyLevel) :
    ∃ s' os, run H ord HT.empty ops = some (s', os) ∧
      ∀ k, ∃ r, lookup H s' k = some r ∧ r.map Prod.snd = ops.foldl histStep (fun _ => none) k := by
  obtain ⟨s', os, hrun, hI', hent⟩ := entries_run ord hH ops (Qentem.HashTable.inv_empty H) hops
  refine ⟨s', os, hrun, fun k => ⟨_, lookup_spec hI' hH k, ?_⟩⟩
  have h1 : (Spec.lookup (abs s') k).map Prod.snd = alLookup (entries (absSlots s')) k :=
    valOf_eq_alLookup (abs s') k
  have hent' : entries (absSlots s') = ops.foldl alStep [] := hent
  rw [h1, hent', alLookup_foldl]
  rfl

theorem found_iff_stored_not_removed {V : Type} [Inhabited V] (H : List Nat → Nat) (ord : Nat → Nat)
    (hH : ∀ k, H k ≠ 0) (ops : List (Op V)) (hops : ∀ op ∈ ops, op.KeyLevel) :
    ∃ s' os, run H ord HT.empty ops = some (s', os) ∧
      ∀ k, (∃ i v, lookup H s' k = some (some (i, v))) ↔ (ops.foldl histStep (fun _ => none) k).isSome := by
  obtain ⟨s', os, hrun, hl⟩ := lookup_eq_history H ord hH ops hops
  refine ⟨s', os, hrun, fun k => ?_⟩
  obtain ⟨r, hr, hv⟩ := hl k
  rw [← hv, hr]
  cases r with
  | none => simp
  | some p => simp only [Option.map_some, Option.isSome_some, iff_true]; exact ⟨p.1, p.2, rfl⟩

theorem lookup_last_stored {V : Type} [Inhabited V] (H : List Nat → Nat) (ord : Nat → Nat)
    (hH : ∀ k, H k ≠ 0) (ops : List (Op V)) (hops : ∀ op ∈ ops, op.KeyLevel) :
    ∃ s' os, run H ord HT.empty ops = some (s', os) ∧
      ∀ k i v, lookup H s' k = some (some (i, v)) → ops.foldl histStep (fun _ => none) k = some v := by
  obtain ⟨s', os, hrun, hl⟩ := lookup_eq_history H ord hH ops hops
  refine ⟨s', os, hrun, fun k i v h => ?_⟩
  obtain ⟨r, hr, hv⟩ := hl k
  rw [hr] at h
  cases h
  rw [← hv]; rfl

/-- *Key-to-index and index-to-key lookups agree*, in every state satisfying the invariant (hence
in every reachable state, whatever operations led to it). -/
theorem key_index_agree {V : Type} {H : List Nat → Nat} (hH : ∀ k, H k ≠ 0) {s : HT V} (hI : Inv H s)
    (k : List Nat) (i : Nat) (v : V) :
    lookup H s k = some (some (i, v)) ↔ lookupIdx s i = some (k, v) := by
  rw [lookup_spec hI hH k, lookupIdx_spec, Option.some.injEq]
  exact spec_key_index_agree (sp := abs s) hI.keysNodup k i v

/-- *After a Sort every key is still found, with its value* (the rehash is correct). -/
theorem sort_keeps_lookups {V : Type} {H : List Nat → Nat} (ord : Nat → Nat) (hH : ∀ k, H k ≠ 0) {s : HT V}
    (hI : Inv H s) (ascend : Bool) :
    ∃ s', sort ord s ascend = some s' ∧ Inv H s' ∧
      ∀ k, (Spec.lookup (abs s') k).map Prod.snd = (Spec.lookup (abs s) k).map Prod.snd := by
  obtain ⟨s', hrun, hI', habs⟩ := sort_spec ord hI ascend
  exact ⟨s', hrun, hI', valOf_perm hI.keysNodup hI'.keysNodup (habs ▸ sort_entries_perm ord (abs s) ascend)⟩

/-- *If* `Memory::Sort` (as modelled by `sortSeg`) leaves the slots ordered with respect to the slot
comparison then the live keys are in ascending order after `Sort(true)` (the hypothesis is
discharged below with C15's theorem). -/
theorem sort_orders_keys_of_sorted {V : Type} {H : List Nat → Nat} (ord : Nat → Nat) {s s' : HT V}
    (hI : Inv H s) (hrun : sort ord s true = some s')
    (hsorted : ((sortSeg (Spec.slotCmp ord true) ((absSlots s).length + 1) (absSlots s).toArray 0
      (absSlots s).length).toList).Pairwise (fun a b => Spec.slotCmp (V := V) ord true b a = false)) :
    (keysOf (absSlots s')).Pairwise (fun a b => isLess ord b a false = false) := by
  obtain ⟨s2, hrun2, _, habs⟩ := sort_spec ord hI true
  rw [hrun] at hrun2
  cases hrun2
  have hsl : absSlots s' = (Spec.sort ord (abs s) true).slots := by rw [← habs]; rfl
  rw [hsl]
  unfold keysOf entries
  rw [List.pairwise_map]
  refine List.Pairwise.filterMap _ ?_ hsorted
  intro a a' hR b hb b' hb'
  simp only [id] at hb hb'
  subst hb; subst hb'
  simpa [Spec.slotCmp, Spec.slotKey] using hR

/-- *(key order after a sort)*: after `Sort(true)` the live keys are in ascending order of `IsLess`
(a proper prefix first), for every key order `ord` and every table satisfying the invariant.
Uses C15's `Qentem.Sort.sortSeg_spec` through `sortSeg_sorted`. -/
theorem sort_orders_keys {V : Type} {H : List Nat → Nat} (ord : Nat → Nat) {s s' : HT V}
    (hI : Inv H s) (hrun : sort ord s true = some s') :
    (keysOf (absSlots s')).Pairwise (fun a b => isLess ord b a false = false) := by
  refine sort_orders_keys_of_sorted ord hI hrun ?_
  have := sortSeg_sorted (Spec.slotCmp (V := V) ord true) (fun _ => True) (slotCmp_strict ord)
    (absSlots s).toArray (fun _ _ => trivial)
  simpa using this

/-! Non-vacuity of the sentence theorems: a key-level history with a removal and a re-insertion; the history
function is not constant. -/
def exKeyOps : List (Op Nat) :=
  [.insert [1] 5, .insert [3] 6, .insert [1] 7, .remove [3], .get [5], .assign [3] 9, .compress, .lookup [1]]

example : ∀ op ∈ exKeyOps, op.KeyLevel := by
  simp only [exKeyOps, List.forall_mem_cons, Op.KeyLevel, and_self, List.not_mem_nil, false_imp_iff, implies_true]
example : (exKeyOps.foldl histStep (fun _ => none) [1], exKeyOps.foldl histStep (fun _ => none) [3],
    exKeyOps.foldl histStep (fun _ => none) [5], exKeyOps.foldl histStep (fun _ => none) [2]) =
    (some 7, some 9, some 0, none) := by decide
example : exKeyOps.foldl alStep [] = [([1], 7), ([5], 0), ([3], 9)] := by decide

/-! ### Nested values: a table whose values hold tables (`Model/HashTree.lean`)

The C13 clause "copy and move ... lookup returns the last value stored" for the value type that
contains an `HArray` itself, with source and destination anywhere in the same tree (self, siblings,
ancestor <- descendant, descendant <- ancestor).  These are theorems about the value model the real
tree is compared with after every operation (`checks/_hashtree.py`). -/
section Tree
open Qentem.HashTree

/-- Copy assignment `node(dst).kids = node(src).kids` for ANY two existing paths: afterwards the
destination holds exactly the source's former entries (keys, values, order) and keeps its own tag. -/
theorem tree_copy_dst_eq_src (root : Node) (d s : List (List Nat)) (dn sn : Node)
    (hd : getAt root d = some dn) (hs : getAt root s = some sn) :
    ∃ root', (TreeOp.copy d s).step root = some root' ∧ getAt root' d = some ⟨dn.tag, sn.kids⟩ := by
  exact ⟨setKidsAt root d sn.kids, by simp [TreeOp.step, hd, hs], getAt_setKidsAt_self _ hd⟩

/-- ... and every path that neither contains the destination nor lies under it reads as before. -/
theorem tree_copy_unrelated_unchanged (root : Node) (d s q : List (List Nat)) (dn sn : Node)
    (hd : getAt root d = some dn) (hs : getAt root s = some sn) (h1 : ¬ d <+: q) (h2 : ¬ q <+: d) :
    ∃ root', (TreeOp.copy d s).step root = some root' ∧ getAt root' q = getAt root q := by
  refine ⟨setKidsAt root d sn.kids, by simp [TreeOp.step, hd, hs], ?_⟩
  rw [setKidsAt_eq _ hd]
  exact getAt_setAt_incomparable d q root _ h1 h2

/-- Whole-node assignment `node(dst) = node(src)`: the destination equals the source's former value. -/
theorem tree_assign_dst_eq_src (root : Node) (d s : List (List Nat)) (dn sn : Node)
    (hd : getAt root d = some dn) (hs : getAt root s = some sn) :
    ∃ root', (TreeOp.assign d s).step root = some root' ∧ getAt root' d = some sn ∧
      ∀ q, ¬ d <+: q → ¬ q <+: d → getAt root' q = getAt root q := by
  refine ⟨setAt root d sn, by simp [TreeOp.step, hd, hs], getAt_setAt_self d root _ hd, ?_⟩
  intro q h1 h2
  exact getAt_setAt_incomparable d q root _ h1 h2

/-- Move assignment between unrelated or descendant -> ancestor tables: the destination holds the
source's former entries. -/
theorem tree_move_dst_eq_src (root : Node) (d s : List (List Nat)) (dn sn : Node)
    (hd : getAt root d = some dn) (hs : getAt root s = some sn) (hne : d ≠ s) (h1 : ¬ s <+: d) :
    ∃ root', (TreeOp.move d s).step root = some root' ∧ ∃ dn', getAt root' d = some ⟨dn', sn.kids⟩ := by
  refine ⟨setKidsAt (setKidsAt root s []) d sn.kids, by simp [TreeOp.step, hd, hs, hne], ?_⟩
  -- the destination still exists after the source was emptied: it is not under the source
  have hd' : ∃ m, getAt (setKidsAt root s []) d = some m := by
    rw [setKidsAt_eq _ hs]
    by_cases h2 : d <+: s
    · -- the destination is an ancestor of the source: the write happens below it
      obtain ⟨t, rfl⟩ := h2
      exact ⟨_, by rw [getAt_setAt_above, hd]; rfl⟩
    · rw [getAt_setAt_incomparable s d root _ h1 h2]; exact ⟨dn, hd⟩
  obtain ⟨m, hm⟩ := hd'
  exact ⟨m.tag, getAt_setKidsAt_self _ hm⟩

/-- Get-or-create: the key is stored afterwards; an existing entry keeps its value, a new one is the
default value. -/
theorem tree_get_stored (root : Node) (p : List (List Nat)) (k : List Nat) (n : Node)
    (hp : getAt root p = some n) :
    ∃ root', (TreeOp.get p k).step root = some root' ∧ ∃ pn, getAt root' p = some pn ∧
      lookupKid pn.kids k = some ((lookupKid n.kids k).getD Node.fresh) := by
  cases hl : lookupKid n.kids k with
  | some c => exact ⟨root, by simp [TreeOp.step, hp, hl], n, hp, hl⟩
  | none =>
    exact ⟨setKidsAt root p (n.kids ++ [(k, Node.fresh)]), by simp [TreeOp.step, hp, hl], _,
      getAt_setKidsAt_self _ hp, lookupKid_append_absent _ hl⟩

/-- `node(dst).kids.Insert(k, node(src))` with the value argument anywhere in the tree - in particular an
element of the very table it is inserted into: afterwards the destination stores under
`k` exactly the argument's former value, whether `k` was new or present. -/
theorem tree_insert_from_stored (root : Node) (d s : List (List Nat)) (k : List Nat) (dn sn : Node)
    (hd : getAt root d = some dn) (hs : getAt root s = some sn) :
    ∃ root' dn', (TreeOp.insertFrom d k s).step root = some root' ∧ getAt root' d = some dn' ∧
      lookupKid dn'.kids k = some sn := by
  exact ⟨setKidsAt root d (putKid dn.kids k sn), _, by simp [TreeOp.step, hd, hs], getAt_setKidsAt_self _ hd,
    lookupKid_putKid_self _ k sn⟩

end Tree

end Qentem.Props.C13
