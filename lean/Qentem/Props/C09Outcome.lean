import Qentem.Proofs.StrToNumGood
import Qentem.Proofs.StrToNumScan
/-! C09 — what the shape theorems share. A numeral text is `sign ++ mantissa ++ EP` with `ExpPart EP es ks` (nothing, or
`(e|E) [+-]? digits`), sitting anywhere inside a buffer. `strToNum_signed` removes the sign; a scan lemma of
`Proofs/StrToNum*` turns `afterSign` into `finishReal`; `finishReal_tail` evaluates `finishReal` for either
continuation to `expResult`; `class_expResult` / `realResult_exact` / … then speak about the value. The last section
holds the regime equations themselves, one per path through the scanner. -/
namespace Qentem.Props.C09
open Qentem.StrToNum Qentem.Round

/-! ### the sign prefix -/

theorem digit_range {d : Nat} (h : isDigit d = true) : 48 ≤ d ∧ d ≤ 57 := by
  simp only [isDigit, Bool.and_eq_true, decide_eq_true_eq] at h; exact h

theorem digit_not_sign {d : Nat} (h : isDigit d = true) : d ≠ 45 ∧ d ≠ 43 := by
  have := digit_range h; omega

/-- the sign prefix only selects `is_negative` and shifts the start; the numeral proper `M` stands behind it -/
theorem strToNum_signed (c : List Nat) (o e : Nat) (sign : List Nat) (first : Nat) (M : List Nat)
    (hs : sign = [] ∨ sign = [43] ∨ sign = [45]) (hf : first ≠ 45 ∧ first ≠ 43) (hM : M.head? = some first)
    (hu : unitsAt c e o (sign ++ M)) :
    strToNum c o e = afterSign c e (decide (sign = [45])) (o + sign.length) ∧ unitsAt c e (o + sign.length) M := by
  have hu' := (unitsAt_append c e sign M o).1 hu
  refine ⟨?_, hu'.2⟩
  cases M with
  | nil => cases hM
  | cons a rest =>
    cases hM
    rcases hs with rfl | rfl | rfl <;> unfold strToNum
    · have h0 : rd c e o = some first := hu'.2.1
      simp [rd_lt h0, h0, hf.1, hf.2]
    · simp [rd_lt hu'.1.1, hu'.1.1]
    · simp [rd_lt hu'.1.1, hu'.1.1]

/-! ### digit runs -/

theorem split_at (l : List Nat) (n : Nat) (h : n ≤ l.length) : ∃ a b, l = a ++ b ∧ a.length = n :=
  ⟨l.take n, l.drop n, (List.take_append_drop n l).symm, List.length_take.trans (Nat.min_eq_left h)⟩

theorem allDigits_zeros {zs : List Nat} (hz : ∀ z ∈ zs, z = 48) : AllDigits zs :=
  fun z hzm => by rw [hz z hzm]; decide

/-! ### the real tail after a scan that saw a dot -/

/-- the outcome of the real tail for a mantissa `v` of `n` digits, `f` fraction digits and the exponent `±k`: the
scaling routine on the net exponent, or NotANumber outright once the exponent value has reached `10^8` -/
def expResult (neg : Bool) (v n : Nat) (fo : Bool) (k : Nat) (kneg : Bool) (f fin : Nat) : Option Res :=
  if k < 100000000 then realResult neg v n (netExp fo k kneg f).1 (netExp fo k kneg f).2 fin
  else some ⟨.notANumber, v, fin⟩

theorem netExp_lt (fo : Bool) (k : Nat) (kneg : Bool) (f : Nat) (hk : k < 100000000) (hf : f < 2 ^ 31 - 100000000) :
    (netExp fo k kneg f).1 < 2 ^ 31 := by
  unfold netExp
  split
  · simp only; omega
  · split <;> simp only <;> omega

theorem netExp_ge (fo : Bool) (k : Nat) (kneg : Bool) (f : Nat) (hk : 100000000 ≤ k) (hf : f + 400 ≤ 100000000) :
    400 ≤ (netExp fo k kneg f).1 := by
  unfold netExp
  split
  · simp only; omega
  · split <;> simp only <;> omega

theorem netExp_end (fo : Bool) (f : Nat) : netExp fo 0 false f = if f = 0 then (0, false) else (f, true) := by
  unfold netExp
  by_cases h : f = 0
  · subst h; simp
  · simp [h]

/-- … in the form the instance `EP = []` of a text produces -/
theorem netExp_nil (fo : Bool) (f : Nat) :
    netExp fo (decVal []) (decide (([] : List Nat) = [45])) f = if f = 0 then (0, false) else (f, true) :=
  netExp_end fo f

theorem netExp_int (k : Nat) (kneg : Bool) : netExp false k kneg 0 = (k, kneg && decide (k ≠ 0)) := by
  unfold netExp
  cases kneg
  · simp
  · by_cases hk : k = 0 <;> simp [hk]

/-- the sizes under which `expResult` is sound: a mantissa of exactly `n ≤ 19` digits, and a count of fraction digits
that the 32-bit exponent arithmetic holds -/
structure ExpOk (v n f : Nat) : Prop where
  lo : 10 ^ (n - 1) ≤ v
  hi : v < 10 ^ n
  n1 : 1 ≤ n
  n19 : n ≤ 19
  f31 : f < 2 ^ 31 - 100000000

variable {neg : Bool} {v n : Nat} {fo : Bool} {k : Nat} {kneg : Bool} {f fin : Nat} {res : Option Res}

theorem class_expResult (heq : res = expResult neg v n fo k kneg f fin) (h : ExpOk v n f)
    (hsat : 100000000 ≤ k → f + 400 ≤ 100000000) :
    ClassOutcome neg v (netExp fo k kneg f).1 (netExp fo k kneg f).2 fin res := by
  have hv19 : v < 10 ^ 19 := Nat.lt_of_lt_of_le h.hi (Nat.pow_le_pow_right (by decide) h.n19)
  rw [heq]
  unfold expResult
  split
  next hk =>
    exact realResult_class_all neg v n _ _ fin (mantissa_pos h.lo) (mantissa_lt h.hi h.n19) h.lo h.hi h.n1 h.n19
      (netExp_lt fo k kneg f hk h.f31)
  next hk =>
    exact ⟨_, rfl, rfl, Or.inl ⟨rfl, out_of_range_big v _ _ (mantissa_pos h.lo) hv19
      (netExp_ge fo k kneg f (by omega) (hsat (by omega)))⟩⟩

/-- `expResult` on a kept mantissa `v` speaks about the exact mantissa `vt` (`j` further fraction digits) when the net
exponent is negative -/
theorem class_expResult_trunc {j vt : Nat} (heq : res = expResult neg v n fo k kneg f fin) (h : ExpOk v n f)
    (h17 : 10 ^ 17 ≤ v) (hk : k < 100000000) (hflag : (netExp fo k kneg f).2 = true)
    (ht : v * 10 ^ j ≤ vt ∧ 10 ^ 17 * vt < (10 ^ 17 + 1) * (v * 10 ^ j)) :
    ClassOutcome neg vt ((netExp fo k kneg f).1 + j) true fin res := by
  rw [heq]
  unfold expResult
  rw [if_pos hk, hflag]
  exact realResult_neg_trunc neg v n _ fin j vt (Nat.le_trans (by decide) h17) (mantissa_lt h.hi h.n19) h.hi
    (Nat.le_trans h.n19 (by decide)) (netExp_lt fo k kneg f hk h.f31) ht.1 ht.2

/-- the same on the exact fraction, for either sign of the net exponent: `vt` is the exact mantissa with its `j` dropped
fraction digits, known to one part in `10^17` -/
theorem good_expResult_trunc {j vt : Nat} (heq : res = expResult neg v n fo k kneg f fin) (h : ExpOk v n f)
    (h16 : 10 ^ 16 ≤ v) (hsat : 100000000 ≤ k → f + j + n + 400 ≤ 100000000)
    (ht : v * 10 ^ j ≤ vt ∧ vt < (v + 1) * 10 ^ j) (hrel : 10 ^ 17 * vt < (10 ^ 17 + 1) * (v * 10 ^ j)) :
    Good neg (valFrac vt k kneg (f + j)).1 (valFrac vt k kneg (f + j)).2 fin res := by
  rw [heq]
  unfold expResult
  split
  next hk =>
    have hr := realResult_trunc neg v n (netExp fo k kneg f).1 (netExp fo k kneg f).2 fin j vt h16 (mantissa_lt h.hi h.n19) h.lo h.hi
      h.n1 (Nat.le_trans h.n19 (by decide)) (netExp_lt fo k kneg f hk h.f31) ht.1 hrel
    rwa [valFrac_netExp] at hr
  next hk =>
    refine ⟨_, rfl, rfl, Or.inl ⟨rfl, valFrac_out_of_range vt k kneg n j f ?_ ?_ h.n1 (by omega)
      (by have := hsat (by omega); omega)⟩⟩
    · rw [Nat.pow_add]; exact Nat.le_trans (Nat.mul_le_mul_right _ h.lo) ht.1
    · rw [Nat.pow_add]; exact Nat.lt_of_lt_of_le ht.2 (Nat.mul_le_mul_right _ h.hi)

theorem expPart_nil : ExpPart [] [] [] := Or.inl ⟨rfl, rfl, rfl⟩

theorem expPart_cons {m : Nat} {es ks : List Nat} (hm : m = 101 ∨ m = 69) (hes : es = [] ∨ es = [43] ∨ es = [45])
    (hks : AllDigits ks) (hk0 : ks ≠ []) : ExpPart (m :: (es ++ ks)) es ks := Or.inr ⟨m, hm, rfl, hes, hks, hk0⟩

/-- the end of a text `T ++ [m] ++ (es ++ ks)`, seen as the instance `EP = m :: (es ++ ks)` -/
theorem fin_exp (Q m : Nat) (es ks : List Nat) : Q + (m :: (es ++ ks)).length = Q + 1 + es.length + ks.length := by
  simp only [List.length_cons, List.length_append]; omega

theorem unitsAt_exp {c : List Nat} {e o : Nat} {T : List Nat} {m : Nat} {es ks : List Nat}
    (h : unitsAt c e o (T ++ [m] ++ (es ++ ks))) : unitsAt c e o (T ++ m :: (es ++ ks)) := by
  rw [List.append_assoc, List.singleton_append] at h; exact h

theorem endsAt_exp {c : List Nat} {e Q m : Nat} {es ks : List Nat}
    (h : endsAt c e (Q + 1 + es.length + ks.length) isDigit) :
    endsAt c e (Q + (m :: (es ++ ks)).length) (realEnd (m :: (es ++ ks))) := by
  rw [fin_exp, realEnd_cons]; exact h

theorem unitsAt_end {c : List Nat} {e o : Nat} {T : List Nat} (h : unitsAt c e o T) : unitsAt c e o (T ++ []) := by
  rw [List.append_nil]; exact h

theorem expPart_stop (c : List Nat) (e Q : Nat) (EP es ks : List Nat) (hEP : ExpPart EP es ks) (hEPu : unitsAt c e Q EP)
    (hend : endsAt c e (Q + EP.length) (realEnd EP)) :
    Q = e ∨ runStop c e Q := by
  rcases hEP with ⟨rfl, _, _⟩ | ⟨m, hmE, rfl, _, _, _⟩
  · rw [realEnd_nil] at hend
    exact endsAt_runStop (endsAt_mono hend fun x hc => contReal_eq x ▸ hc)
  · exact Or.inr ⟨m, hEPu.1, (marker_sep hmE).1, (marker_sep hmE).2.1⟩

theorem finishReal_tail (c : List Nat) (e : Nat) (neg : Bool) (num off start : Nat) (fo : Bool) (dotOff Q : Nat)
    (EP es ks : List Nat) (n f : Nat) (he : e < 2 ^ 32) (hnum : 10 ^ (n - 1) ≤ num)
    (hd : digitsOn c e off Q) (hoQ : off ≤ Q) (hEP : ExpPart EP es ks) (hEPu : unitsAt c e Q EP)
    (hend : endsAt c e (Q + EP.length) (realEnd EP))
    (hn : start + n + b2n (!fo) = off) (hf : dotOff + 1 + f = off) (hfo : if fo then dotOff < start else start ≤ dotOff)
    (hf31 : f < 2 ^ 31) :
    finishReal c e neg num off off start fo true dotOff =
      expResult neg num n fo (decVal ks) (decide (es = [45])) f (Q + EP.length) := by
  have hQe : Q + EP.length ≤ e := endsAt_le hend
  obtain ⟨hep, hen⟩ := tail_counts fo off start dotOff n f (by omega) hn hf hfo
  unfold expResult
  rcases hEP with ⟨rfl, rfl, rfl⟩ | ⟨m, hmE, rfl, hes, hks, hk0⟩
  · rw [realEnd_nil] at hend
    rw [if_pos (by decide)]
    exact finishReal_end_skip c e neg num off off start fo true dotOff Q hd hoQ hend (Or.inr (Or.inl rfl)) n f hep hen hf31
  · rw [realEnd_cons] at hend
    rw [fin_exp] at hend ⊢
    split
    next hk =>
      exact finishReal_exp_skip c e neg num off off start fo true dotOff Q m es ks hd hoQ hEPu.1 hmE hes hks hk0
        hEPu.2 hend (Or.inl rfl) hk n f hep hen hf31
    next hk =>
      exact finishReal_exp_sat c e neg num off off start fo true dotOff Q m es ks hd hoQ hEPu.1 hmE hes hks hk0 hEPu.2
        hend (Nat.ne_of_gt (mantissa_pos hnum)) (by omega)

/-! ### The regime equations: `strToNum c o e = expResult …`, one per path through the scanner -/

/-- **`[+-]? d₁ xs . ys R EP` with the dot inside the scan window** (at most 18 integer digits): the scan keeps the
fraction digits `ys` (`FracKept`), the tail drops `R` -/
theorem strToNum_dot (c : List Nat) (o e : Nat) (sign : List Nat) (d1 : Nat) (xs ys R EP es ks : List Nat)
    (he : e < 2 ^ 32) (hs : sign = [] ∨ sign = [43] ∨ sign = [45]) (h1 : isNonZeroDigit d1 = true)
    (hxs : AllDigits xs) (hys : AllDigits ys) (hR : AllDigits R) (hlen : xs.length ≤ 17)
    (hk : FracKept (xs.length + 1) ys R) (hEP : ExpPart EP es ks)
    (hu : unitsAt c e o (sign ++ (d1 :: xs ++ 46 :: (ys ++ R)) ++ EP))
    (hend : endsAt c e (o + sign.length + 1 + xs.length + 1 + ys.length + R.length + EP.length)
      (realEnd EP)) :
    strToNum c o e = expResult (decide (sign = [45])) (decVal (d1 :: xs ++ ys)) (xs.length + 1 + ys.length) false
      (decVal ks) (decide (es = [45])) ys.length
      (o + sign.length + 1 + xs.length + 1 + ys.length + R.length + EP.length) ∧
    ExpOk (decVal (d1 :: xs ++ ys)) (xs.length + 1 + ys.length) ys.length := by
  have hj18 := hk.fits (by omega)
  have hv := mantissa_bounds d1 (xs ++ ys) (xs.length + 1 + ys.length) h1 (AllDigits.append hxs hys)
    (by simp only [List.length_append]; omega)
  refine ⟨?_, hv.1, hv.2, by omega, by omega, by omega⟩
  have hA := (unitsAt_append c e (sign ++ (d1 :: xs ++ 46 :: (ys ++ R))) EP o).1 hu
  obtain ⟨hsg, hM⟩ := strToNum_signed c o e sign d1 _ hs (digit_not_sign (isNonZeroDigit_isDigit h1)) rfl hA.1
  have hRu : unitsAt c e (o + sign.length + 1 + xs.length + 1 + ys.length) R :=
    unitsAt_cast ((unitsAt_append c e (d1 :: xs ++ 46 :: ys) R (o + sign.length)).1
      (by rw [List.append_assoc, List.cons_append]; exact hM)).2
      (by simp only [List.length_append, List.length_cons]; omega)
  have hEPu : unitsAt c e (o + sign.length + 1 + xs.length + 1 + ys.length + R.length) EP :=
    unitsAt_cast hA.2 (by simp only [List.length_append, List.length_cons]; omega)
  rw [hsg, afterSign_dot c e _ (o + sign.length) d1 xs ys R he h1 hxs hys hlen hk hM
    (expPart_stop c e _ EP es ks hEP hEPu hend)]
  exact finishReal_tail c e _ _ _ (o + sign.length) false (o + sign.length + 1 + xs.length) _ EP es ks
    (xs.length + 1 + ys.length) ys.length he hv.1 (digitsOn_of_unitsAt c e R _ hR hRu)
    (by omega) hEP hEPu hend (by omega : o + sign.length + (xs.length + 1 + ys.length) + 1 = _) (by omega)
    (by omega : o + sign.length ≤ o + sign.length + 1 + xs.length) (by omega)

/-- `[+-]? d₁ xs . ys EP`: the mantissa with its dot fits the 19-unit window and `ys` is not the single digit `0` -/
theorem strToNum_frac (c : List Nat) (o e : Nat) (sign : List Nat) (d1 : Nat) (xs ys EP es ks : List Nat)
    (he : e < 2 ^ 32) (hs : sign = [] ∨ sign = [43] ∨ sign = [45]) (h1 : isNonZeroDigit d1 = true)
    (hxs : AllDigits xs) (hys : AllDigits ys) (hy0 : ys ≠ []) (hy48 : ys ≠ [48]) (hlen : xs.length + ys.length ≤ 17)
    (hEP : ExpPart EP es ks) (hu : unitsAt c e o (sign ++ (d1 :: xs ++ [46] ++ ys) ++ EP))
    (hend : endsAt c e (o + sign.length + 1 + xs.length + 1 + ys.length + EP.length)
      (realEnd EP)) :
    strToNum c o e = expResult (decide (sign = [45])) (decVal (d1 :: xs ++ ys)) (xs.length + 1 + ys.length) false
      (decVal ks) (decide (es = [45])) ys.length (o + sign.length + 1 + xs.length + 1 + ys.length + EP.length) ∧
    ExpOk (decVal (d1 :: xs ++ ys)) (xs.length + 1 + ys.length) ys.length :=
  strToNum_dot c o e sign d1 xs ys [] EP es ks he hs h1 hxs hys (fun _ h => nomatch h) (by omega)
    (Or.inr ⟨hy0, hy48, by omega, Or.inl rfl⟩) hEP
    (by rw [show d1 :: xs ++ 46 :: (ys ++ []) = d1 :: xs ++ [46] ++ ys by simp]; exact hu) hend

/-- `[+-]? d₁ xs . 0 EP`: the scan stops on the zero, which the tail then skips -/
theorem strToNum_dotzero (c : List Nat) (o e : Nat) (sign : List Nat) (d1 : Nat) (xs EP es ks : List Nat)
    (he : e < 2 ^ 32) (hs : sign = [] ∨ sign = [43] ∨ sign = [45]) (h1 : isNonZeroDigit d1 = true)
    (hxs : AllDigits xs) (hlen : xs.length ≤ 17) (hEP : ExpPart EP es ks)
    (hu : unitsAt c e o (sign ++ (d1 :: xs ++ [46, 48]) ++ EP))
    (hend : endsAt c e (o + sign.length + 1 + xs.length + 2 + EP.length) (realEnd EP)) :
    strToNum c o e = expResult (decide (sign = [45])) (decVal (d1 :: xs)) (xs.length + 1) false
      (decVal ks) (decide (es = [45])) 0 (o + sign.length + 1 + xs.length + 2 + EP.length) ∧
    ExpOk (decVal (d1 :: xs)) (xs.length + 1) 0 := by
  have := strToNum_dot c o e sign d1 xs [] [48] EP es ks he hs h1 hxs (fun _ h => nomatch h)
    (fun y hy => by rw [List.mem_singleton.1 hy]; decide) hlen
    (Or.inl ⟨rfl, Or.inr (Or.inl rfl)⟩) hEP hu hend
  rwa [List.append_nil] at this

/-- `[+-]? d₁ xs . ys rest EP`: `d₁ xs . ys` fills the 19-unit window (18 digits), the tail drops `rest` -/
theorem strToNum_frac_cut (c : List Nat) (o e : Nat) (sign : List Nat) (d1 : Nat) (xs ys rest EP es ks : List Nat)
    (he : e < 2 ^ 32) (hs : sign = [] ∨ sign = [43] ∨ sign = [45]) (h1 : isNonZeroDigit d1 = true)
    (hxs : AllDigits xs) (hys : AllDigits ys) (hy0 : ys ≠ []) (hy48 : ys ≠ [48]) (hlen : xs.length + ys.length = 17)
    (hrest : AllDigits rest) (hEP : ExpPart EP es ks)
    (hu : unitsAt c e o (sign ++ ((d1 :: xs ++ [46] ++ ys) ++ rest) ++ EP))
    (hend : endsAt c e (o + sign.length + 19 + rest.length + EP.length) (realEnd EP)) :
    strToNum c o e = expResult (decide (sign = [45])) (decVal (d1 :: xs ++ ys)) 18 false (decVal ks) (decide (es = [45]))
      ys.length (o + sign.length + 19 + rest.length + EP.length) ∧
    ExpOk (decVal (d1 :: xs ++ ys)) 18 ys.length := by
  have := strToNum_dot c o e sign d1 xs ys rest EP es ks he hs h1 hxs hys hrest (by omega)
    (Or.inr ⟨hy0, hy48, by omega, Or.inr (by omega)⟩) hEP
    (by rw [show d1 :: xs ++ 46 :: (ys ++ rest) = d1 :: xs ++ [46] ++ ys ++ rest by simp]; exact hu)
    (by rw [show o + sign.length + 1 + xs.length + 1 + ys.length = o + sign.length + 19 by omega]; exact hend)
  rwa [show xs.length + 1 + ys.length = 18 by omega,
    show o + sign.length + 1 + xs.length + 1 + ys.length = o + sign.length + 19 by omega] at this

/-- **`[+-]? 0 . zs d₁ ys R EP`** (`zs` zeros, `d₁ ≠ 0`): the fraction-only path. The scan skips the zeros and keeps the
significant digits `d₁ ys` — all of them, or the 19 that fill the window, the tail dropping `R` -/
theorem strToNum_fracOnly (c : List Nat) (o e : Nat) (sign zs : List Nat) (d1 : Nat) (ys R EP es ks : List Nat)
    (he : e < 2 ^ 32) (hs : sign = [] ∨ sign = [43] ∨ sign = [45]) (hz : ∀ z ∈ zs, z = 48) (hzl : zs.length < 2 ^ 30)
    (h1 : isNonZeroDigit d1 = true) (hys : AllDigits ys) (hR : AllDigits R) (hlen : ys.length ≤ 18)
    (hk : R = [] ∨ ys.length = 18) (hEP : ExpPart EP es ks)
    (hu : unitsAt c e o (sign ++ (([48, 46] ++ zs ++ d1 :: ys) ++ R) ++ EP))
    (hend : endsAt c e (o + sign.length + 2 + zs.length + 1 + ys.length + R.length + EP.length)
      (realEnd EP)) :
    strToNum c o e = expResult (decide (sign = [45])) (decVal (d1 :: ys)) (1 + ys.length) true
      (decVal ks) (decide (es = [45])) (zs.length + 1 + ys.length)
      (o + sign.length + 2 + zs.length + 1 + ys.length + R.length + EP.length) ∧
    ExpOk (decVal (d1 :: ys)) (1 + ys.length) (zs.length + 1 + ys.length) := by
  have hv := mantissa_bounds d1 ys (1 + ys.length) h1 hys (by omega)
  refine ⟨?_, hv.1, hv.2, by omega, by omega, by omega⟩
  have hA := (unitsAt_append c e (sign ++ (([48, 46] ++ zs ++ d1 :: ys) ++ R)) EP o).1 hu
  obtain ⟨hsg, hM⟩ := strToNum_signed c o e sign 48 _ hs (by decide) rfl hA.1
  have hsp := (unitsAt_append c e ([48, 46] ++ zs ++ d1 :: ys) R (o + sign.length)).1 hM
  have hRu : unitsAt c e (o + sign.length + 2 + zs.length + 1 + ys.length) R :=
    unitsAt_cast hsp.2 (by simp only [List.length_append, List.length_cons, List.length_nil]; omega)
  have hEPu : unitsAt c e (o + sign.length + 2 + zs.length + 1 + ys.length + R.length) EP :=
    unitsAt_cast hA.2 (by simp only [List.length_append, List.length_cons, List.length_nil]; omega)
  rw [hsg, afterSign_smallRun c e _ (o + sign.length) zs d1 ys he hz h1 hys hlen hsp.1 (by
    rcases hk with rfl | h
    · rw [List.length_nil, Nat.add_zero] at hEPu hend
      exact (expPart_stop c e _ EP es ks hEP hEPu hend).imp id Or.inr
    · exact Or.inr (Or.inl h))]
  exact finishReal_tail c e _ _ _ (o + sign.length + 2 + zs.length) true (o + sign.length + 1) _ EP es ks (1 + ys.length)
    (zs.length + 1 + ys.length) he hv.1 (digitsOn_of_unitsAt c e R _ hR hRu)
    (by omega) hEP hEPu hend (by omega : o + sign.length + 2 + zs.length + (1 + ys.length) + 0 = _) (by omega)
    (by omega : o + sign.length + 1 < o + sign.length + 2 + zs.length) (by omega)

/-- `[+-]? 0 . zs d₁ ys EP` (`zs` zeros, `d₁ ≠ 0`, at most 18 significant digits): the fraction-only path -/
theorem strToNum_small (c : List Nat) (o e : Nat) (sign zs : List Nat) (d1 : Nat) (ys EP es ks : List Nat)
    (he : e < 2 ^ 32) (hs : sign = [] ∨ sign = [43] ∨ sign = [45]) (hz : ∀ z ∈ zs, z = 48) (hzl : zs.length < 2 ^ 30)
    (h1 : isNonZeroDigit d1 = true) (hys : AllDigits ys) (hlen : ys.length ≤ 17) (hEP : ExpPart EP es ks)
    (hu : unitsAt c e o (sign ++ ([48, 46] ++ zs ++ d1 :: ys) ++ EP))
    (hend : endsAt c e (o + sign.length + 2 + zs.length + 1 + ys.length + EP.length)
      (realEnd EP)) :
    strToNum c o e = expResult (decide (sign = [45])) (decVal (d1 :: ys)) (1 + ys.length) true
      (decVal ks) (decide (es = [45])) (zs.length + 1 + ys.length)
      (o + sign.length + 2 + zs.length + 1 + ys.length + EP.length) ∧
    ExpOk (decVal (d1 :: ys)) (1 + ys.length) (zs.length + 1 + ys.length) :=
  strToNum_fracOnly c o e sign zs d1 ys [] EP es ks he hs hz hzl h1 hys (fun _ h => nomatch h) (by omega)
    (Or.inl rfl) hEP (by rw [List.append_nil]; exact hu) hend

/-- `[+-]? 0 . zs d₁ ys rest EP`: the scan keeps the 19 significant digits `d₁ ys`, the tail drops `rest` -/
theorem strToNum_small_cut (c : List Nat) (o e : Nat) (sign zs : List Nat) (d1 : Nat) (ys rest EP es ks : List Nat)
    (he : e < 2 ^ 32) (hs : sign = [] ∨ sign = [43] ∨ sign = [45]) (hz : ∀ z ∈ zs, z = 48) (hzl : zs.length < 2 ^ 30)
    (h1 : isNonZeroDigit d1 = true) (hys : AllDigits ys) (hlen : ys.length = 18) (hrest : AllDigits rest)
    (hEP : ExpPart EP es ks) (hu : unitsAt c e o (sign ++ (([48, 46] ++ zs ++ d1 :: ys) ++ rest) ++ EP))
    (hend : endsAt c e (o + sign.length + 2 + zs.length + 19 + rest.length + EP.length)
      (realEnd EP)) :
    strToNum c o e = expResult (decide (sign = [45])) (decVal (d1 :: ys)) 19 true (decVal ks) (decide (es = [45]))
      (19 + zs.length) (o + sign.length + 2 + zs.length + 19 + rest.length + EP.length) ∧
    ExpOk (decVal (d1 :: ys)) 19 (19 + zs.length) := by
  have := strToNum_fracOnly c o e sign zs d1 ys rest EP es ks he hs hz hzl h1 hys hrest (Nat.le_of_eq hlen)
    (Or.inr hlen) hEP hu
    (by rw [show o + sign.length + 2 + zs.length + 1 + ys.length = o + sign.length + 2 + zs.length + 19 by omega]; exact hend)
  rwa [show 1 + ys.length = 19 by omega, show zs.length + 1 + ys.length = 19 + zs.length by omega,
    show o + sign.length + 2 + zs.length + 1 + ys.length = o + sign.length + 2 + zs.length + 19 by omega] at this

/-- `[+-]? d₁ xs (e|E) [+-]? ks`, at most 19 mantissa digits: the scan stops on the marker without having seen a dot -/
theorem strToNum_int_exp (c : List Nat) (o e : Nat) (sign : List Nat) (d1 : Nat) (xs : List Nat)
    (m : Nat) (es ks : List Nat)
    (he : e < 2 ^ 32) (hs : sign = [] ∨ sign = [43] ∨ sign = [45]) (h1 : isNonZeroDigit d1 = true)
    (hxs : AllDigits xs) (hlen : xs.length ≤ 18)
    (hm : m = 101 ∨ m = 69) (hes : es = [] ∨ es = [43] ∨ es = [45]) (hks : AllDigits ks) (hk0 : ks ≠ [])
    (hu : unitsAt c e o (sign ++ (d1 :: xs) ++ [m] ++ (es ++ ks)))
    (hend : endsAt c e (o + sign.length + 1 + xs.length + 1 + es.length + ks.length) isDigit) :
    strToNum c o e = expResult (decide (sign = [45])) (decVal (d1 :: xs)) (xs.length + 1) false
      (decVal ks) (decide (es = [45])) 0 (o + sign.length + 1 + xs.length + 1 + es.length + ks.length) ∧
    ExpOk (decVal (d1 :: xs)) (xs.length + 1) 0 := by
  have hA := (unitsAt_append c e (sign ++ (d1 :: xs) ++ [m]) (es ++ ks) o).1 hu
  obtain ⟨hsg, hM⟩ := strToNum_signed c o e sign d1 (d1 :: xs ++ [m]) hs (digit_not_sign (isNonZeroDigit_isDigit h1)) rfl
    (by rw [List.append_assoc] at hA; exact hA.1)
  have hE : unitsAt c e (o + sign.length + 1 + xs.length + 1) (es ++ ks) :=
    unitsAt_cast hA.2 (by simp only [List.length_append, List.length_cons, List.length_nil]; omega)
  have hQm : rd c e (o + sign.length + 1 + xs.length) = some m :=
    (unitsAt_cast ((unitsAt_append c e (d1 :: xs) [m] (o + sign.length)).1 hM).2 (by simp only [List.length_cons]; omega)).1
  have hv := mantissa_bounds d1 xs _ h1 hxs rfl
  have hQe := rd_lt hQm
  refine ⟨?_, hv.1, hv.2, by omega, by omega, by decide⟩
  rw [hsg, afterSign_int_sep c e _ (o + sign.length) d1 xs m he h1 hxs hlen
    ((unitsAt_append c e (d1 :: xs) [m] (o + sign.length)).1 hM).1 hQm (marker_sep hm).2.2
    (fun h => absurd h (marker_sep hm).2.1)]
  unfold expResult
  split
  next hk =>
    exact finishReal_exp_skip c e _ _ _ _ _ false false 0 _ m es ks (fun k h1 h2 => by omega) (Nat.le_refl _) hQm hm
      hes hks hk0 hE hend (Or.inr (Or.inr ⟨rfl, rfl, by omega, by omega⟩)) hk (xs.length + 1) 0
      (int_count _ _ _ (by omega) (by omega)) rfl (by decide)
  next hk =>
    exact finishReal_exp_sat c e _ _ _ _ _ false false _ _ m es ks (fun k h1 h2 => by omega) (Nat.le_refl _) hQm hm
      hes hks hk0 hE hend (Nat.ne_of_gt (mantissa_pos hv.1)) (by omega)

/-- `[+-]? 0 . 0…0 EP`: `±0`, consumed -/
theorem zero_dot_zeros (c : List Nat) (o e : Nat) (sign zs EP es ks : List Nat) (he : e < 2 ^ 32)
    (hs : sign = [] ∨ sign = [43] ∨ sign = [45]) (hz : ∀ z ∈ zs, z = 48) (hEP : ExpPart EP es ks)
    (hu : unitsAt c e o (sign ++ ([48, 46] ++ zs) ++ EP))
    (hend : endsAt c e (o + sign.length + 2 + zs.length + EP.length) (realEnd EP)) :
    strToNum c o e = some ⟨.real, if decide (sign = [45]) then 0x8000000000000000 else 0,
      o + sign.length + 2 + zs.length + EP.length⟩ := by
  have hA := (unitsAt_append c e (sign ++ ([48, 46] ++ zs)) EP o).1 hu
  obtain ⟨hsg, hM⟩ := strToNum_signed c o e sign 48 _ hs (by decide) rfl hA.1
  have hEPu : unitsAt c e (o + sign.length + 2 + zs.length) EP :=
    unitsAt_cast hA.2 (by simp only [List.length_append, List.length_cons, List.length_nil]; omega)
  rw [hsg, afterSign_zero_dot c e _ (o + sign.length) zs he hz hM (expPart_stop c e _ EP es ks hEP hEPu hend)]
  exact finishReal_zero_tail c e _ _ _ _ true true _ (o + sign.length + 2 + zs.length) EP es ks (fun k h1 h2 => by omega)
    (Nat.le_refl _) hEP hEPu hend

/-- `[+-]? 0 (e|E) [+-]? ks` — any exponent: `±0`, consumed -/
theorem zero_exp (c : List Nat) (o e : Nat) (sign : List Nat) (m : Nat) (es ks : List Nat)
    (hs : sign = [] ∨ sign = [43] ∨ sign = [45])
    (hm : m = 101 ∨ m = 69) (hes : es = [] ∨ es = [43] ∨ es = [45]) (hks : AllDigits ks) (hk0 : ks ≠ [])
    (hu : unitsAt c e o (sign ++ [48, m] ++ (es ++ ks)))
    (hend : endsAt c e (o + sign.length + 2 + es.length + ks.length) isDigit) :
    strToNum c o e = some ⟨.real, if decide (sign = [45]) then 0x8000000000000000 else 0,
      o + sign.length + 2 + es.length + ks.length⟩ := by
  have hA := (unitsAt_append c e (sign ++ [48, m]) (es ++ ks) o).1 hu
  obtain ⟨hsg, hM⟩ := strToNum_signed c o e sign 48 _ hs (by decide) rfl hA.1
  have hE : unitsAt c e (o + sign.length + 1 + 1) (es ++ ks) :=
    unitsAt_cast hA.2 (by simp only [List.length_append, List.length_cons, List.length_nil]; omega)
  have hfin : o + sign.length + 1 + 1 + es.length + ks.length = o + sign.length + 2 + es.length + ks.length := by omega
  rw [hsg, afterSign_zero_exp c e _ (o + sign.length) m hM.1 hM.2.1 hm,
    finishReal_zero_tail c e _ _ _ _ false false _ (o + sign.length + 1) (m :: (es ++ ks)) es ks (fun k h1 h2 => by omega)
      (Nat.le_refl _) (expPart_cons hm hes hks hk0) ⟨hM.2.1, hE⟩ (endsAt_exp (by rw [hfin]; exact hend)), fin_exp, hfin]

end Qentem.Props.C09
