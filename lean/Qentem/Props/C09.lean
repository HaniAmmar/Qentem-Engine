import Qentem.Proofs.StrToNumWalk
import Qentem.Proofs.StrToNumSafe
import Qentem.Props.C09Outcome
/-! C09 — text to number: integers exact, reals within one ulp, out-of-range rejected. -/
namespace Qentem.Props.C09
open Qentem.StrToNum Qentem.Round Qentem.Generated.StrToNum

/-! ### T1: the tables compiled from the current headers are what the proofs assume -/

/-- entry `i` of the reciprocal table is a 64-bit value with its top bit set and
`|r·5^i − 2^(64+s)| < 5^i`, i.e. `r` is within one of `2^(64+s)/5^i`; more precisely
(`up = true`) `r = ⌈2^(64+s)/5^i⌉`, (`up = false`) `r = ⌊2^(64+s)/5^i⌋`. -/
def recipOk (up : Bool) (i : Nat) : Bool :=
  match powerOfOneOverFive[i]?, powerOfOneOverFiveShift[i]? with
  | some r, some s =>
    decide (2 ^ 63 ≤ r) && decide (r < 2 ^ 64) &&
    (if up then decide (2 ^ (64 + s) ≤ r * 5 ^ i) && decide (r * 5 ^ i < 2 ^ (64 + s) + 5 ^ i)
     else decide (r * 5 ^ i ≤ 2 ^ (64 + s)) && decide (2 ^ (64 + s) < r * 5 ^ i + 5 ^ i))
  | _, _ => false

theorem tables_ok :
    powerOfFive = (List.range 28).map (5 ^ ·) ∧
    powerOfOneOverFive.length = 28 ∧ powerOfOneOverFiveShift.length = 28 ∧
    (∀ i, i < 27 → 1 ≤ i → recipOk true i = true) ∧ recipOk false 27 = true ∧
    powerOfOneOverFive[0]? = some 1 ∧ powerOfOneOverFiveShift[0]? = some 0 ∧
    maxPowerOfFive = 27 ∧ maxShift = 64 ∧ maxPowerOfTen = 19 ∧ maxPowerOfTenValue = 10 ^ 19 ∧
    bias = 1023 ∧ exponentSize = 11 ∧ mantissaSize = 52 ∧
    signMask = 2 ^ 63 ∧ exponentMask = 0x7FF * 2 ^ 52 ∧ mantissaMask = 2 ^ 52 - 1 ∧ leadingBit = 2 ^ 52 ∧
    -- 0 9 1 5 7 e E . + - A F a f W x X
    digitChars = [48, 57, 49, 53, 55, 101, 69, 46, 43, 45, 65, 70, 97, 102, 87, 120, 88] ∧
    kindCodes = [Kind.notANumber.code, Kind.real.code, Kind.natural.code, Kind.integer.code] ∧
    sizeTBits = 32 ∧ systemIntBits = 64 ∧ bigIntTypeWidth = 64 ∧ bigIntTotalBits = 256 ∧ bigIntMaxIndex = 3 ∧
    qnumber64Bytes = 8 := by
  decide +kernel

/-! ### Integers are exact and consumed exactly (`int_exact`, `consumed_exact` for the integer shape)

Shapes are given by `unitsAt c e off l` ("the units `l` sit at `off, off+1, …` inside `[0, end_offset)`")
and `endsAt c e p cont` ("`p` is `end_offset`, or holds a unit that `cont` rejects"), so the numeral
may sit anywhere inside a longer buffer, at any offset, for any character width. `e < 2^32` is the
`SizeT` range. -/

/-- `[+] d₁…d_k`, `d₁ ≠ 0`, value `< 2^64`: Natural, exact, the whole numeral consumed. -/
theorem int_exact_natural (c : List Nat) (o e : Nat) (plus : Bool) (d1 : Nat) (xs : List Nat) (he : e < 2 ^ 32)
    (h1 : isNonZeroDigit d1 = true) (hxs : AllDigits xs)
    (hu : unitsAt c e o ((if plus then [43] else []) ++ d1 :: xs))
    (hend : endsAt c e (o + b2n plus + 1 + xs.length) contInt)
    (hv : decVal (d1 :: xs) < 2 ^ 64) :
    strToNum c o e = some ⟨.natural, decVal (d1 :: xs), o + b2n plus + 1 + xs.length⟩ := by
  obtain ⟨hsg, hM⟩ := strToNum_signed c o e (if plus then [43] else []) d1 (d1 :: xs) (by cases plus <;> simp)
    (digit_not_sign (isNonZeroDigit_isDigit h1)) rfl hu
  rw [hsg, show (if plus then [43] else ([] : List Nat)).length = b2n plus by cases plus <;> rfl] at *
  rw [show decide ((if plus then [43] else ([] : List Nat)) = [45]) = false by cases plus <;> rfl]
  exact afterSign_int c e false (o + b2n plus) d1 xs he h1 hxs hM hend hv (fun h => nomatch h)

/-- `- d₁…d_k`, `d₁ ≠ 0`, value `≤ 2^63` (so down to the minimum signed 64-bit integer): Integer, exact
(two's complement pattern `2^64 − v`), the whole numeral consumed. -/
theorem int_exact_negative (c : List Nat) (o e : Nat) (d1 : Nat) (xs : List Nat) (he : e < 2 ^ 32)
    (h1 : isNonZeroDigit d1 = true) (hxs : AllDigits xs) (hu : unitsAt c e o (45 :: d1 :: xs))
    (hend : endsAt c e (o + 2 + xs.length) contInt) (hv : decVal (d1 :: xs) ≤ 2 ^ 63) :
    strToNum c o e = some ⟨.integer, 2 ^ 64 - decVal (d1 :: xs), o + 2 + xs.length⟩ := by
  obtain ⟨hsg, hM⟩ := strToNum_signed c o e [45] d1 (d1 :: xs) (Or.inr (Or.inr rfl))
    (digit_not_sign (isNonZeroDigit_isDigit h1)) rfl hu
  have hfin : o + 2 + xs.length = o + [45].length + 1 + xs.length := rfl
  rw [hsg, hfin]
  exact afterSign_int c e true _ d1 xs he h1 hxs hM (hfin ▸ hend) (by omega) (fun _ => hv)

/-- `0` and `+0` are Natural 0; `-0` is the real −0 (sign bit only). -/
theorem int_exact_zero (c : List Nat) (o e : Nat) (he : e < 2 ^ 32) :
    (rd c e o = some 48 → endsAt c e (o + 1) contZero → strToNum c o e = some ⟨.natural, 0, o + 1⟩) ∧
    (unitsAt c e o [43, 48] → endsAt c e (o + 2) contZero → strToNum c o e = some ⟨.natural, 0, o + 2⟩) ∧
    (unitsAt c e o [45, 48] → endsAt c e (o + 2) contZero →
      strToNum c o e = some ⟨.real, 0x8000000000000000, o + 2⟩) := by
  refine ⟨fun h0 hend => ?_, fun hu hend => ?_, fun hu hend => ?_⟩
  · rw [(strToNum_signed c o e [] 48 [48] (Or.inl rfl) (by decide) rfl ⟨h0, trivial⟩).1]
    exact afterSign_zero c e false o he h0 hend
  · rw [(strToNum_signed c o e [43] 48 [48] (Or.inr (Or.inl rfl)) (by decide) rfl hu).1]
    exact afterSign_zero c e false (o + 1) he hu.2.1 hend
  · rw [(strToNum_signed c o e [45] 48 [48] (Or.inr (Or.inr rfl)) (by decide) rfl hu).1]
    exact afterSign_zero c e true (o + 1) he hu.2.1 hend

/-- non-vacuity: 2^64 − 1, the minimum int64, `+7` inside a longer buffer at offset 2, `-0` -/
example : strToNum [49,56,52,52,54,55,52,52,48,55,51,55,48,57,53,53,49,54,49,53] 0 20 = some ⟨.natural, 2 ^ 64 - 1, 20⟩ := by decide +kernel
example : strToNum [45,57,50,50,51,51,55,50,48,51,54,56,53,52,55,55,53,56,48,56] 0 20 = some ⟨.integer, 2 ^ 63, 20⟩ := by decide +kernel
example : strToNum [91,32,43,55,44,49] 2 6 = some ⟨.natural, 7, 4⟩ := by decide +kernel
example : strToNum [45,48] 0 2 = some ⟨.real, 2 ^ 63, 2⟩ := by decide +kernel
/-- one more digit and the value no longer fits: the real path (2^64 → 0x43F0…) -/
example : strToNum [49,56,52,52,54,55,52,52,48,55,51,55,48,57,53,53,49,54,49,54] 0 20 = some ⟨.real, 0x43F0000000000000, 20⟩ := by decide +kernel

/-! ### The sign survives (`sign_preserved`): for every input whatsoever, a `Real` result has bit 63
set exactly when the first unit is `-` (this includes `-0`, `-0.0`, `-0e5`, overflow to −infinity). -/
theorem sign_preserved (c : List Nat) (o e : Nat) (r : Res) (h : strToNum c o e = some r) (hk : r.kind = .real) :
    r.bits / 2 ^ 63 = b2n (decide (rd c e o = some 45)) :=
  strToNum_sign c o e r h hk

example : strToNum [45,48,46,48] 0 4 = some ⟨.real, 2 ^ 63, 4⟩ := by decide +kernel
example : strToNum [45,57,101,51,48,56] 0 6 = some ⟨.real, 0xFFF0000000000000, 6⟩ := by decide +kernel

/-! ### Malformed numerals are rejected (`malformed_*`) -/

/-- leading zeros: `[+-]? 0 d …` -/
theorem malformed_leading_zero (c : List Nat) (o e : Nat) (sign : List Nat) (d : Nat)
    (hs : sign = [] ∨ sign = [43] ∨ sign = [45]) (hu : unitsAt c e o (sign ++ [48, d])) (hd : isDigit d = true) :
    ∃ b p, strToNum c o e = some ⟨.notANumber, b, p⟩ := by
  obtain ⟨hsg, hM⟩ := strToNum_signed c o e sign 48 [48, d] hs (by decide) rfl hu
  exact ⟨0, _, hsg ▸ afterSign_leadingZero c e _ (o + sign.length) d hM.1 hM.2.1 hd⟩

/-- a lone dot: `[+-]? .` followed by the end or by a unit that is not a digit -/
theorem malformed_lone_dot (c : List Nat) (o e : Nat) (sign : List Nat)
    (hs : sign = [] ∨ sign = [43] ∨ sign = [45]) (hu : unitsAt c e o (sign ++ [46]))
    (hend : endsAt c e (o + sign.length + 1) isDigit) :
    ∃ b p, strToNum c o e = some ⟨.notANumber, b, p⟩ := by
  obtain ⟨hsg, hM⟩ := strToNum_signed c o e sign 46 [46] hs (by decide) rfl hu
  exact ⟨0, _, hsg ▸ afterSign_loneDot c e _ (o + sign.length) hM.1 hend⟩

example : strToNum [48,49] 0 2 = some ⟨.notANumber, 0, 1⟩ := by decide +kernel
example : strToNum [45,46] 0 2 = some ⟨.notANumber, 0, 2⟩ := by decide +kernel

/-! ### `digits . digits`: consumed exactly (`consumed_exact`), second dot and empty exponent rejected

Positions instead of lists: the mantissa's integer digits occupy `[o', P)` (`o'` = offset after the
optional sign), the dot sits at `P`, the fraction digits occupy `[P+1, Q)`; `digitsOn c e i j` says
every position of `[i, j)` holds a digit. What sits at `Q` decides the outcome (`Stop`):
* `.good` — `end_offset` or a unit that cannot continue the numeral: the result is `Real` (or
  `NotANumber` when out of range) and **its offset is `Q`**;
* `.dot` — a second dot: `NotANumber`;
* `.emptyExp` — `e`/`E` followed by no exponent digit (`1.5e`, `1.5e+`, `1.5e+-2`): `NotANumber`.
The mantissa may be arbitrarily long: the dot can be inside or beyond the 19-unit window. -/

/-- `[+-]? d₁ digits . digits` with `d₁ ≠ 0` -/
theorem digits_dot_digits (c : List Nat) (o e : Nat) (sign : List Nat) (d1 P Q : Nat) (st : Stop) (he : e < 2 ^ 32)
    (hs : sign = [] ∨ sign = [43] ∨ sign = [45]) (hu : unitsAt c e o (sign ++ [d1]))
    (h1 : isNonZeroDigit d1 = true) (hd1 : digitsOn c e (o + sign.length + 1) P) (hoP : o + sign.length + 1 ≤ P)
    (hP : rd c e P = some 46) (hd : digitsOn c e (P + 1) Q) (hPQ : P + 1 ≤ Q) (hQe : Q ≤ e) (hst : stopAt c e Q st) :
    Outcome st Q (strToNum c o e) := by
  obtain ⟨hsg, hM⟩ := strToNum_signed c o e sign d1 [d1] hs (digit_not_sign (isNonZeroDigit_isDigit h1)) rfl hu
  rw [hsg]
  exact afterSign_real_nonzero c e _ (o + sign.length) d1 P Q st he hM.1 h1 hd1 hoP hP hd hPQ hQe hst

/-- `[+-]? 0 . digits` -/
theorem zero_dot_digits (c : List Nat) (o e : Nat) (sign : List Nat) (Q : Nat) (st : Stop) (he : e < 2 ^ 32)
    (hs : sign = [] ∨ sign = [43] ∨ sign = [45]) (hu : unitsAt c e o (sign ++ [48, 46]))
    (hd : digitsOn c e (o + sign.length + 2) Q) (hPQ : o + sign.length + 2 ≤ Q) (hQe : Q ≤ e) (hst : stopAt c e Q st) :
    Outcome st Q (strToNum c o e) := by
  obtain ⟨hsg, hM⟩ := strToNum_signed c o e sign 48 [48, 46] hs (by decide) rfl hu
  rw [hsg]
  exact afterSign_real_zeroDot c e _ (o + sign.length) Q st he hM.1 hM.2.1 hd hPQ hQe hst

/-- `consumed_exact` for the `digits.digits` shape: the new offset is exactly the end of the numeral -/
theorem consumed_exact_real (c : List Nat) (o e : Nat) (sign : List Nat) (d1 P Q : Nat) (he : e < 2 ^ 32)
    (hs : sign = [] ∨ sign = [43] ∨ sign = [45]) (hu : unitsAt c e o (sign ++ [d1]))
    (h1 : isNonZeroDigit d1 = true) (hd1 : digitsOn c e (o + sign.length + 1) P) (hoP : o + sign.length + 1 ≤ P)
    (hP : rd c e P = some 46) (hd : digitsOn c e (P + 1) Q) (hPQ : P + 1 < Q) (hQe : Q ≤ e)
    (hend : endsAt c e Q contReal) :
    ∃ r, strToNum c o e = some r ∧ r.offset = Q ∧ (r.kind = .real ∨ r.kind = .notANumber) :=
  digits_dot_digits c o e sign d1 P Q .good he hs hu h1 hd1 hoP hP hd (Nat.le_of_lt hPQ) hQe hend

theorem consumed_exact_zero_dot (c : List Nat) (o e : Nat) (sign : List Nat) (Q : Nat) (he : e < 2 ^ 32)
    (hs : sign = [] ∨ sign = [43] ∨ sign = [45]) (hu : unitsAt c e o (sign ++ [48, 46]))
    (hd : digitsOn c e (o + sign.length + 2) Q) (hPQ : o + sign.length + 2 < Q) (hQe : Q ≤ e)
    (hend : endsAt c e Q contReal) :
    ∃ r, strToNum c o e = some r ∧ r.offset = Q ∧ (r.kind = .real ∨ r.kind = .notANumber) :=
  zero_dot_digits c o e sign Q .good he hs hu hd (Nat.le_of_lt hPQ) hQe hend

/-- a repeated dot: `d₁… . digits* .` (also `1..2`) and `0 . digits* .` -/
theorem malformed_repeated_dot (c : List Nat) (o e : Nat) (sign : List Nat) (Q : Nat) (he : e < 2 ^ 32)
    (hs : sign = [] ∨ sign = [43] ∨ sign = [45]) (hQ : rd c e Q = some 46) :
    (∀ d1 P, unitsAt c e o (sign ++ [d1]) → isNonZeroDigit d1 = true → digitsOn c e (o + sign.length + 1) P →
        o + sign.length + 1 ≤ P → rd c e P = some 46 → digitsOn c e (P + 1) Q → P + 1 ≤ Q →
        ∃ b p, strToNum c o e = some ⟨.notANumber, b, p⟩) ∧
    (unitsAt c e o (sign ++ [48, 46]) → digitsOn c e (o + sign.length + 2) Q → o + sign.length + 2 ≤ Q →
        ∃ b p, strToNum c o e = some ⟨.notANumber, b, p⟩) := by
  have hQe : Q ≤ e := Nat.le_of_lt (rd_lt hQ)
  exact ⟨fun d1 P hu h1 hd1 hoP hP hd hPQ => digits_dot_digits c o e sign d1 P Q .dot he hs hu h1 hd1 hoP hP hd hPQ hQe hQ,
    fun hu hd hPQ => zero_dot_digits c o e sign Q .dot he hs hu hd hPQ hQe hQ⟩

/-- an empty exponent after an integer mantissa of any length: `d₁ digits e` then nothing, a
non-digit, or a sign followed by no digit (`1e`, `1e+`, `1e+-2`, `123456789012345678901234E-x`) -/
theorem malformed_empty_exponent_int (c : List Nat) (o e : Nat) (sign : List Nat) (d1 Q m : Nat) (he : e < 2 ^ 32)
    (hs : sign = [] ∨ sign = [43] ∨ sign = [45]) (hu : unitsAt c e o (sign ++ [d1])) (h1 : isNonZeroDigit d1 = true)
    (hd1 : digitsOn c e (o + sign.length + 1) Q) (hoQ : o + sign.length + 1 ≤ Q)
    (hm : rd c e Q = some m) (hmE : m = 101 ∨ m = 69) (hemp : emptyExpAt c e (Q + 1)) :
    ∃ b p, strToNum c o e = some ⟨.notANumber, b, p⟩ := by
  obtain ⟨hsg, hM⟩ := strToNum_signed c o e sign d1 [d1] hs (digit_not_sign (isNonZeroDigit_isDigit h1)) rfl hu
  rw [hsg]
  exact afterSign_int_emptyExp c e _ (o + sign.length) d1 Q m he hM.1 h1 hd1 hoQ hm hmE hemp

/-- an empty exponent after `digits.digits` / `0.digits` -/
theorem malformed_empty_exponent_real (c : List Nat) (o e : Nat) (sign : List Nat) (Q m : Nat) (he : e < 2 ^ 32)
    (hs : sign = [] ∨ sign = [43] ∨ sign = [45]) (hm : rd c e Q = some m) (hmE : m = 101 ∨ m = 69)
    (hemp : emptyExpAt c e (Q + 1)) :
    (∀ d1 P, unitsAt c e o (sign ++ [d1]) → isNonZeroDigit d1 = true → digitsOn c e (o + sign.length + 1) P →
        o + sign.length + 1 ≤ P → rd c e P = some 46 → digitsOn c e (P + 1) Q → P + 1 ≤ Q →
        ∃ b p, strToNum c o e = some ⟨.notANumber, b, p⟩) ∧
    (unitsAt c e o (sign ++ [48, 46]) → digitsOn c e (o + sign.length + 2) Q → o + sign.length + 2 ≤ Q →
        ∃ b p, strToNum c o e = some ⟨.notANumber, b, p⟩) := by
  have hQe : Q ≤ e := Nat.le_of_lt (rd_lt hm)
  have hst : stopAt c e Q .emptyExp := ⟨m, hm, hmE, hemp⟩
  exact ⟨fun d1 P hu h1 hd1 hoP hP hd hPQ => digits_dot_digits c o e sign d1 P Q .emptyExp he hs hu h1 hd1 hoP hP hd hPQ hQe hst,
    fun hu hd hPQ => zero_dot_digits c o e sign Q .emptyExp he hs hu hd hPQ hQe hst⟩

/-! non-vacuity: a 25-digit integer part with the dot beyond the window, `-0.00125`, `1.5,` inside a
buffer, and the rejected shapes -/
example : strToNum [49,50,51,52,53,54,55,56,57,48,49,50,51,52,53,54,55,56,57,48,49,50,51,52,53,46,53] 0 27 =
    some ⟨.real, 0x44F056E0F36A6444, 27⟩ := by decide +kernel
example : strToNum [45,48,46,48,48,49,50,53] 0 8 = some ⟨.real, 0xBF547AE147AE147B, 8⟩ := by decide +kernel
example : strToNum [91,49,46,53,44] 1 5 = some ⟨.real, 0x3FF8000000000000, 4⟩ := by decide +kernel
example : (strToNum [49,46,50,46,51] 0 5).map (·.kind) = some .notANumber := by decide +kernel
example : (strToNum [49,46,46,50] 0 4).map (·.kind) = some .notANumber := by decide +kernel
example : (strToNum [49,101] 0 2).map (·.kind) = some .notANumber := by decide +kernel
example : (strToNum [49,101,43] 0 3).map (·.kind) = some .notANumber := by decide +kernel
example : (strToNum [49,101,43,45,50] 0 5).map (·.kind) = some .notANumber := by decide +kernel
example : (strToNum [48,46,53,69] 0 4).map (·.kind) = some .notANumber := by decide +kernel

/-! ### Memory safety and offset bounds, for every input (used by the JSON parser's C05)

`strToNum` is written with checked reads (`rd c e i` is `none` unless `i < end_offset`); these two
theorems say that no read ever fails when `end_offset ≤ length` and that every accepted result has
consumed at least one unit and stopped inside the buffer. `e < 2^32` is the `SizeT` range. -/

theorem strToNum_no_fault (c : List Nat) (o e : Nat) (hc : e ≤ c.length) (he : e < 2 ^ 32) :
    ∃ r, strToNum c o e = some r := by
  obtain ⟨x, h, _⟩ := strToNum_ok c e hc he o
  exact ⟨x, h⟩

theorem strToNum_offset_bounds (c : List Nat) (o e : Nat) (r : Res) (hc : e ≤ c.length) (he : e < 2 ^ 32)
    (h : strToNum c o e = some r) (hk : r.kind ≠ .notANumber) : o < r.offset ∧ r.offset ≤ e := by
  obtain ⟨x, hx, hb⟩ := strToNum_ok c e hc he o
  rw [h] at hx; cases hx
  have := hb hk
  omega

/-- the followers a JSON value can have (white space `, ] }`) all end an integer numeral -/
example : [32, 9, 10, 13, 44, 93, 125].all (fun x => !contInt x && !contReal x && !contZero x) = true := by decide +kernel

/-! ### The scaling pipeline equals a closed form (`bigint_steps_exact`)

For a 64-bit mantissa the 256-bit `BigInt` of both `powerOf…Ten` functions never overflows (the
model's `% 2^256` never fires, so the `Nat` abstraction of `BigInt` is faithful) and its value
before normalisation is: negative exponent — `negIter r₂₇ (x/27) (num·2^64)` (iterated
`b ↦ ⌊b·r/2^64⌋`), then once more with `r_{x mod 27}`; positive exponent — `posIter 5^27 (x/27)`
(multiply, divide by `2^64` when `≥ 2^192`), then times `5^(x mod 27)`. -/
theorem bigint_steps_exact (num x : Nat) (hn : num < 2 ^ 64) :
    (∃ r27 s27, powerOfOneOverFive[27]? = some r27 ∧ powerOfOneOverFiveShift[27]? = some s27 ∧
      ((x % 27 = 0 ∧ negScale num x = some (negIter r27 (x / 27) (num * 2 ^ 64), (add32 x 64 + x / 27 * s27) % 2 ^ 32)) ∨
       (x % 27 ≠ 0 ∧ ∃ rj sj, powerOfOneOverFive[x % 27]? = some rj ∧ powerOfOneOverFiveShift[x % 27]? = some sj ∧
          negScale num x = some (negIter r27 (x / 27) (num * 2 ^ 64) * rj / 2 ^ 64,
            add32 ((add32 x 64 + x / 27 * s27) % 2 ^ 32) sj)))) ∧
    (∃ p27, powerOfFive[27]? = some p27 ∧
      ((x % 27 = 0 ∧ posScale num x = some (posIter p27 (x / 27) num x)) ∨
       (x % 27 ≠ 0 ∧ ∃ pj, powerOfFive[x % 27]? = some pj ∧
          posScale num x = some ((posIter p27 (x / 27) num x).1 * pj, (posIter p27 (x / 27) num x).2) ∧
          (posIter p27 (x / 27) num x).1 * pj < 2 ^ 255))) :=
  ⟨negScale_closed num x hn, posScale_closed num x hn⟩

example : negScale 1 5 = some (12089258196146291748, 80) := by decide +kernel
example : posScale 3 30 = some (3 * 5 ^ 30, 30) := by decide +kernel

/-! ### The statements over the whole grammar: within one ulp; overflow reported

`real_within_one_ulp` and `overflow_reported` range over every well-formed numeral of the grammar. They are proved
in `Props/C09Closed.lean` with the documented length bound in place of `< 2^32`; this file, `Props/C09More.lean` and
`Props/C09Long.lean` hold the statements per shape, for a numeral anywhere inside a buffer. `bigint_steps_exact` and
`tables_ok` reduce the scaling routines to arithmetic over `Nat`.
The check also searches both statements with the exact-`Rat` oracle (`Driver/StrToNum.lean`) on the C++ results.
Out-of-range in the small direction (`0 < |x| < 2^-1074`) may be rejected instead of rounded. -/

/-- the magnitude pattern (sign bit removed) of a result -/
def magBits (r : Res) : Nat := r.bits % 2 ^ 63

/- Proved in `Props/C09Closed.lean` as `real_within_one_ulp_closed` / `overflow_reported_closed` for numerals of at
most 99 999 000 units. With the bound `< 2^32` below the two statements are false (a mantissa of `10^8` or more ignored
digits / leading fraction zeros against a nine-digit exponent; 32-bit wrap above `2^32 − 10^8` units). -/
def real_within_one_ulp : Prop :=
  ∀ (x : Numeral), x.wf = true → x.leadingZero = false → x.units.length < 2 ^ 32 →
    ∀ r, strToNum x.units 0 x.units.length = some r → r.kind = .real → magBits r < infBits →
      ulpDist (magBits r) (nearestMag x.magFrac.1 x.magFrac.2) ≤ 1

def overflow_reported : Prop :=
  ∀ (x : Numeral), x.wf = true → x.leadingZero = false → x.units.length < 2 ^ 32 →
    exceedsMaxFinite x.magFrac.1 x.magFrac.2 = true →
    ∀ r, strToNum x.units 0 x.units.length = some r →
      r.kind = .notANumber ∨ (r.kind = .real ∧ (magBits r ≥ infBits ∨ magBits r = maxFiniteBits))

/-- a result whose exponent field would exceed 2046 (for a big integer already reduced to 53 bits, `log2 b ≤ 52`) is
+infinity, never a wrapped finite pattern -/
theorem overflow_reported_partial (b s : Nat) : posFinish b s < 2 ^ 63 ∧
    (Qentem.Generated.StrToNum.bias + Nat.log2 b + s ≥ 0x7FF → Nat.log2 b ≤ 52 → posFinish b s = infBits) := by
  refine ⟨posFinish_lt b s, fun h hb => ?_⟩
  unfold posFinish
  simp [hb, h, infBits]

/-- instances of the two statements (kernel-evaluated tests): `0.1`, `1e23`
(1 ulp from correctly rounded), `4e308` -/
example : (strToNum [48,46,49] 0 3).map magBits = some (nearestMag 1 10) := by decide +kernel
example : (strToNum [49,101,50,51] 0 4).map (fun r => ulpDist (magBits r) (nearestMag (10 ^ 23) 1)) = some 1 := by decide +kernel
example : (strToNum [52,101,51,48,56] 0 5).map magBits = some infBits := by decide +kernel

/-! ### Positive-exponent numerals: within one ulp, overflow reported

`[+-]? d₁…d_n (e|E) [+] k₁…k_j` with `d₁ ≠ 0`, `n ≤ 19` significant digits (the mantissa then fits
the 64-bit window exactly) and an exponent of 1..8 digits (larger exponents are saturated by the
code and can only be out of range). `v` is the mantissa, `k` the exponent, the value is `v·10^k`.

* the whole numeral is consumed (`offset = end`);
* `k + n > 309`: rejected as NotANumber — and then `v·10^k` really exceeds every finite
  double (`(2^53−1)·2^971 < v·10^k`) (out-of-range rejection is never applied to a representable value);
* otherwise: `Real`, sign bit = sign of the text, and the magnitude pattern `p` satisfies
  `ulpDist p (nearestMag (v·10^k) 1) ≤ 1` — **within one unit in the last place of the correctly
  rounded value**, overflow included (`nearestMag` is then infinity and `p` is infinity or the
  largest finite double);
* if `v·10^k` is at least the largest finite double, `p` is the largest finite double or infinity:
  **never an unrelated finite value** (`overflow_reported` for this class).

Correct rounding (0 ulp) is *false* for this code: it truncates to 54 bits and rounds half **up**
(witness below), so "within one ulp" is the strongest true statement. -/
theorem real_within_one_ulp_pos (c : List Nat) (o e : Nat) (sign : List Nat) (d1 : Nat) (xs : List Nat) (m : Nat)
    (plus ks : List Nat) (he : e < 2 ^ 32)
    (hs : sign = [] ∨ sign = [43] ∨ sign = [45]) (h1 : isNonZeroDigit d1 = true) (hxs : AllDigits xs)
    (hlen : xs.length ≤ 18) (hm : m = 101 ∨ m = 69) (hplus : plus = [] ∨ plus = [43])
    (hks : AllDigits ks) (hk0 : ks ≠ []) (hk8 : ks.length ≤ 8)
    (hu : unitsAt c e o (sign ++ (d1 :: xs ++ [m] ++ plus ++ ks)))
    (hend : endsAt c e (o + sign.length + 1 + xs.length + 1 + plus.length + ks.length) isDigit) :
    let v := decVal (d1 :: xs)
    let k := decVal ks
    let n := xs.length + 1
    let fin := o + sign.length + 1 + xs.length + 1 + plus.length + ks.length
    let signBit := if decide (sign = [45]) then 0x8000000000000000 else 0
    (k + n > 309 ∧ strToNum c o e = some ⟨.notANumber, v, fin⟩ ∧ (2 ^ 53 - 1) * 2 ^ 971 < v * 10 ^ k) ∨
    (k + n ≤ 309 ∧ ∃ p, strToNum c o e = some ⟨.real, p ||| signBit, fin⟩ ∧ p < 2 ^ 63 ∧
        ulpDist p (nearestMag (v * 10 ^ k) 1) ≤ 1 ∧
        ((2 ^ 53 - 1) * 2 ^ 971 ≤ v * 10 ^ k → p = maxFiniteBits ∨ p = infBits)) := by
  intro v k n fin signBit
  have hk : k < 100000000 := Nat.lt_of_lt_of_le (decVal_lt_pow ks hks) (Nat.pow_le_pow_right (by decide) hk8)
  obtain ⟨heq, hv⟩ := strToNum_int_exp c o e sign d1 xs m plus ks he hs h1 hxs hlen hm (hplus.imp id Or.inl) hks hk0
    (by simp only [List.append_assoc] at hu ⊢; exact hu) hend
  rw [heq]
  unfold expResult
  rw [if_pos hk, netExp_int, show decide (plus = [45]) = false by rcases hplus with h | h <;> rw [h] <;> rfl]
  exact realResult_pos _ v n k fin (mantissa_pos hv.lo) (mantissa_lt hv.hi hv.n19) hv.lo hv.n1 (by omega) hv.n19

/-- non-vacuity and tightness: `1e23` is one ulp from the correctly rounded value;
`9007199254740993e0` (2^53+1, an exact tie) is rounded up instead of to even; `17976931348623158e292`
stays at the largest finite double; `2e308` is infinity; `1e400` is rejected -/
example : (strToNum [49,101,50,51] 0 4).map (fun r => (r.kind, ulpDist (r.bits % 2 ^ 63) (nearestMag (10 ^ 23) 1))) = some (.real, 1) := by decide +kernel
example : (strToNum [57,48,48,55,49,57,57,50,53,52,55,52,48,57,57,51,101,48] 0 18).map (fun r => (r.bits, nearestMag 9007199254740993 1)) =
    some (0x4340000000000001, 0x4340000000000000) := by decide +kernel
example : (strToNum [49,55,57,55,54,57,51,49,51,52,56,54,50,51,49,53,56,101,50,57,50] 0 21).map (·.bits) = some maxFiniteBits := by decide +kernel
example : (strToNum [50,101,51,48,56] 0 5).map (·.bits) = some infBits := by decide +kernel
example : (strToNum [49,101,52,48,48] 0 5).map (·.kind) = some .notANumber := by decide +kernel

/-! ### Negative-exponent pipeline: the error bound

`powerOfNegativeTen num x` aims at `β = num·2^(64+S)/5^x` (then `num·10^-x = β·2^-(x+64+S)`).
With `k ≤ x/27 + 1` (`≤ 13` for `x ≤ 350`) multiply-shift steps the big integer `b` it normalises satisfies

  `β·(1 − k·2^-62) − k  ≤  b  ≤  β·(1 + k·2^-62)`

(stated without division below). `negexp_one_ulp_every_mantissa` covers every mantissa: by this bound where the big
integer is wide enough, by a kernel-evaluated table elsewhere. -/
theorem negScale_error_bound (num x : Nat) (hn : num < 2 ^ 64) (hx : x ≤ 2 ^ 20) :
    ∃ b S k, negScale num x = some (b, x + 64 + S) ∧ k ≤ x / 27 + 1 ∧ S ≤ 64 * (x / 27 + 1) ∧
      b * 5 ^ x * 2 ^ 62 ≤ num * 2 ^ (64 + S) * (2 ^ 62 + k) ∧
      num * 2 ^ (64 + S) * 2 ^ 62 ≤ (b + k) * 5 ^ x * (2 ^ 62 + k) :=
  negScale_error num x hn hx

/-- instance: `1e-5` — `b = 12089258196146291748`, `S = 11`, one step; both inequalities hold with room -/
example : negScale 1 5 = some (12089258196146291748, 5 + 64 + 11) ∧
    12089258196146291748 * 5 ^ 5 * 2 ^ 62 ≤ 1 * 2 ^ (64 + 11) * (2 ^ 62 + 1) ∧
    1 * 2 ^ (64 + 11) * 2 ^ 62 ≤ (12089258196146291748 + 1) * 5 ^ 5 * (2 ^ 62 + 1) := by decide +kernel

/-- **`negexp_one_ulp_every_mantissa`**: `powerOfNegativeTen` is within one ulp of the correctly rounded value for
every mantissa `1 ≤ num < 2^64` and every `x < 344` (normal and subnormal results) -/
theorem negexp_one_ulp_every_mantissa (num x : Nat) (hn0 : 0 < num) (hn : num < 2 ^ 64) (hx : x < 344) :
    ∃ p, powerOfNegativeTen num x = some p ∧ ulpDist p (nearestMag num (10 ^ x)) ≤ 1 :=
  powerOfNegativeTen_close_all num x hn0 hn hx

/-- **`negexp_exact_every_mantissa`**: for every mantissa `1 ≤ num < 2^64` and decimal exponent `-x`, `x < 344`, whose
exact value `num/10^x` stays 1/32 ulp away from the rounding boundaries (`MarginPair` on the pair the reference
rounds), `powerOfNegativeTen` returns the correctly rounded magnitude — except for the three numerals of
`negExc` (`1e-273`, `1e-286`, `1e-292`).  Analytic error bound for mantissas whose big integer has at least 61 bits
(`thr x ≤ 39`, monotonicity in the mantissa), kernel-evaluated table for the 1 663 pairs below the threshold. -/
theorem negexp_exact_every_mantissa (num x : Nat) (hn0 : 0 < num) (hn : num < 2 ^ 64) (hx : x < 344)
    (hexc : ¬ (num = 1 ∧ (x = 273 ∨ x = 286 ∨ x = 292)))
    (hm : MarginPair (roundPair num (10 ^ x)).1 (roundPair num (10 ^ x)).2) :
    powerOfNegativeTen num x = some (nearestMag num (10 ^ x)) :=
  powerOfNegativeTen_exact_all num x hn0 hn hx hexc hm

/-- **`negexp_exceptions_one_ulp_low`**: the exclusion is necessary — on `1e-273`, `1e-286`, `1e-292` the margin holds
(the values are 0.040, 0.068, 0.039 ulp from the half-way point) and the code returns the pattern one below the
correctly rounded one (the mantissa is not normalised before the multiply-shift chain, so the big integer has only
57 bits left after eleven steps).  Within the one-ulp bound of C09; none of the three is a `%.17g` output. -/
theorem negexp_exceptions_one_ulp_low :
    (powerOfNegativeTen 1 273 = some 0x07414FA7DDEFE39F ∧ nearestMag 1 (10 ^ 273) = 0x07414FA7DDEFE3A0 ∧
      marginB (roundPair 1 (10 ^ 273)).1 (roundPair 1 (10 ^ 273)).2 = true) ∧
    (powerOfNegativeTen 1 286 = some 0x048E74404F3DAADA ∧ nearestMag 1 (10 ^ 286) = 0x048E74404F3DAADB ∧
      marginB (roundPair 1 (10 ^ 286)).1 (roundPair 1 (10 ^ 286)).2 = true) ∧
    (powerOfNegativeTen 1 292 = some 0x034FEEF63F97D79B ∧ nearestMag 1 (10 ^ 292) = 0x034FEEF63F97D79C ∧
      marginB (roundPair 1 (10 ^ 292)).1 (roundPair 1 (10 ^ 292)).2 = true) := by decide +kernel

/-! ### A digit run that reaches `end_offset`

`[-] digits` occupying exactly `[o, e)`: the converter either rejects (`-` alone, the empty text,
leading zeros, out of range) or consumes everything — `0` → Natural 0, `-0` → Real −0, a value that
fits → Natural/Integer (`int_exact_*`), anything longer → the real path — always with
`offset = e`. It never stops in the middle of the digits. -/
theorem strToNum_digits_to_end (c : List Nat) (o e : Nat) (neg : Bool) (ds : List Nat) (he : e < 2 ^ 32)
    (hds : AllDigits ds) (hu : unitsAt c e o ((if neg then [45] else []) ++ ds))
    (hend : o + b2n neg + ds.length = e) :
    ∃ r, strToNum c o e = some r ∧ (r.kind = .notANumber ∨ r.offset = e) := by
  have hlen : (if neg then [45] else ([] : List Nat)).length = b2n neg := by cases neg <;> rfl
  cases ds with
  | nil =>
    -- only the sign (or nothing at all)
    cases neg with
    | false =>
      obtain rfl : o = e := hend
      exact ⟨⟨.notANumber, 0, o⟩, by simp [strToNum], Or.inl rfl⟩
    | true =>
      have h45 : rd c e o = some 45 := hu.1
      have ho := rd_lt h45
      refine ⟨⟨.notANumber, 0, o + 1⟩, ?_, Or.inl rfl⟩
      unfold strToNum
      simp only [ho, if_true, h45]
      have hoe : o + 1 = e := hend
      rw [afterSign_atEnd c e true (o + 1) (by omega)]
  | cons d1 xs =>
    have hd1 : isDigit d1 = true := hds d1 (List.mem_cons_self ..)
    obtain ⟨hsg, hM⟩ := strToNum_signed c o e _ d1 (d1 :: xs) (by cases neg <;> simp) (digit_not_sign hd1) rfl hu
    rw [hlen] at hM
    rw [hsg, hlen, show decide ((if neg then [45] else ([] : List Nat)) = [45]) = neg by cases neg <;> rfl]
    rw [List.length_cons] at hend
    by_cases hnz : isNonZeroDigit d1 = true
    · have hdig := digitsOn_of_unitsAt c e xs (o + b2n neg + 1) (fun y hy => hds y (List.mem_cons_of_mem _ hy)) hM.2
      rw [show o + b2n neg + 1 + xs.length = e by omega] at hdig
      obtain ⟨r, h1, h2⟩ := afterSign_digits_to_end c e neg (o + b2n neg) d1 he hM.1 hnz hdig
      exact ⟨r, h1, Or.inr h2⟩
    · obtain rfl : d1 = 48 := by
        simp only [isDigit, isNonZeroDigit, Bool.and_eq_true, decide_eq_true_eq] at hd1 hnz; omega
      cases xs with
      | nil =>
        rw [afterSign_zero c e neg (o + b2n neg) he hM.1 (Or.inl (by rw [← hend]; rfl))]
        exact ⟨_, rfl, Or.inr (by rw [← hend]; cases neg <;> rfl)⟩
      | cons d2 ys =>
        rw [afterSign_leadingZero c e neg (o + b2n neg) d2 hM.1 hM.2.1 (hds d2 (by simp))]
        exact ⟨_, rfl, Or.inl rfl⟩

/-- lone `-`, `-0`, a 25-digit run: rejected resp. consumed to the end -/
example : strToNum [45] 0 1 = some ⟨.notANumber, 0, 1⟩ := by decide +kernel
example : strToNum [45, 48] 0 2 = some ⟨.real, 2 ^ 63, 2⟩ := by decide +kernel
example : (strToNum [49,50,51,52,53,54,55,56,57,48,49,50,51,52,53,54,55,56,57,48,49,50,51,52,53] 0 25).map (·.offset) = some 25 := by decide +kernel

/-! ### Negative-exponent numerals with an integer mantissa: within one ulp

`[+-]? d₁…d_n (e|E) - k₁…k_j`, `d₁ ≠ 0`, `n ≤ 19`, 1..8 exponent digits, **every mantissa**
(`negexp_one_ulp_every_mantissa`). The value is `v / 10^k`.

* whole numeral consumed;
* `k > n + 324`: NotANumber — and then `v/10^k < 2^-1074`, below the smallest subnormal;
* otherwise `Real`, sign = text, magnitude pattern within **one ulp** of `nearestMag v (10^k)`
  (round-half-even to binary64, gradual underflow included). -/
theorem real_within_one_ulp_negexp (c : List Nat) (o e : Nat) (sign : List Nat) (d1 : Nat) (xs : List Nat) (m : Nat)
    (ks : List Nat) (he : e < 2 ^ 32)
    (hs : sign = [] ∨ sign = [43] ∨ sign = [45]) (h1 : isNonZeroDigit d1 = true) (hxs : AllDigits xs)
    (hlen : xs.length ≤ 18) (hm : m = 101 ∨ m = 69)
    (hks : AllDigits ks) (hk0 : ks ≠ []) (hk8 : ks.length ≤ 8)
    (hu : unitsAt c e o (sign ++ (d1 :: xs ++ [m] ++ [45] ++ ks)))
    (hend : endsAt c e (o + sign.length + 1 + xs.length + 1 + 1 + ks.length) isDigit)
    (hkpos : decVal ks ≠ 0) :
    let v := decVal (d1 :: xs)
    let k := decVal ks
    let n := xs.length + 1
    let fin := o + sign.length + 1 + xs.length + 1 + 1 + ks.length
    let signBit := if decide (sign = [45]) then 0x8000000000000000 else 0
    (k > n + 324 ∧ strToNum c o e = some ⟨.notANumber, v, fin⟩ ∧ v * 2 ^ 1074 < 10 ^ k) ∨
    (k ≤ n + 324 ∧ ∃ p, strToNum c o e = some ⟨.real, p ||| signBit, fin⟩ ∧ p < 2 ^ 63 ∧
        ulpDist p (nearestMag v (10 ^ k)) ≤ 1) := by
  intro v k n fin signBit
  have hk : k < 100000000 := Nat.lt_of_lt_of_le (decVal_lt_pow ks hks) (Nat.pow_le_pow_right (by decide) hk8)
  obtain ⟨heq, hv⟩ := strToNum_int_exp c o e sign d1 xs m [45] ks he hs h1 hxs hlen hm (Or.inr (Or.inr rfl)) hks hk0
    (by simp only [List.append_assoc] at hu ⊢; exact hu) hend
  rw [heq]
  unfold expResult
  rw [if_pos hk, netExp_int, show (decide (([45] : List Nat) = [45]) && decide (decVal ks ≠ 0)) = true by simp [hkpos]]
  exact realResult_neg_all _ v n k fin (mantissa_pos hv.lo) (mantissa_lt hv.hi hv.n19) hv.hi hv.n19 (by omega)

/-- `12345e-3`, `-5000e-310` (subnormal), `999e-400` (below the smallest subnormal: rejected) -/
example : (strToNum [49,50,51,52,53,101,45,51] 0 8).map (fun r => (r.kind, ulpDist (r.bits % 2 ^ 63) (nearestMag 12345 (10 ^ 3)))) = some (.real, 0) := by decide +kernel
example : (strToNum [45,53,48,48,48,101,45,51,49,48] 0 10).map (fun r => (r.kind, r.bits / 2 ^ 63, ulpDist (r.bits % 2 ^ 63) (nearestMag 5000 (10 ^ 310)))) = some (.real, 1, 0) := by decide +kernel
example : (strToNum [57,57,57,101,45,52,48,48] 0 8).map (·.kind) = some .notANumber := by decide +kernel

/-! ### Numerals with a fraction part: `d₁… . digits [(e|E) [+-] k]`

`ClassOutcome neg v X FLAG fin res` (Proofs/StrToNumRealResult.lean) is the C09 statement for one numeral
with mantissa `v` and net decimal exponent `10^(−X)` (`FLAG`) or `10^X` — in the statements `(X, FLAG)` is
`netExp fo k kneg f` (Proofs/StrToNumFinish.lean): the exponent `±k` of the text less its `f` fraction digits —: `res` is
some result whose offset is `fin`; it is NotANumber only if the value is above every finite double resp. below the
smallest subnormal; otherwise it is a `Real` with the text's sign whose magnitude pattern is within
**one ulp** of `nearestMag` of the exact value.

Class: first digit non-zero, the mantissa including its dot fits the 19-unit window (≤ 18 digits),
the fraction is not the single digit `0` (`1.0` takes the "just zero at the end" branch: `Props/C09More.lean`),
exponent of any number of digits (nine or more significant ones are out of range: NotANumber). -/
theorem real_within_one_ulp_frac_end (c : List Nat) (o e : Nat) (sign : List Nat) (d1 : Nat) (xs ys : List Nat)
    (he : e < 2 ^ 32) (hs : sign = [] ∨ sign = [43] ∨ sign = [45]) (h1 : isNonZeroDigit d1 = true)
    (hxs : AllDigits xs) (hys : AllDigits ys) (hy0 : ys ≠ []) (hy48 : ys ≠ [48]) (hlen : xs.length + ys.length ≤ 17)
    (hu : unitsAt c e o (sign ++ (d1 :: xs ++ [46] ++ ys)))
    (hend : endsAt c e (o + sign.length + 1 + xs.length + 1 + ys.length) contReal) :
    ClassOutcome (decide (sign = [45])) (decVal (d1 :: xs ++ ys)) ys.length true
      (o + sign.length + 1 + xs.length + 1 + ys.length) (strToNum c o e) := by
  obtain ⟨heq, hv⟩ := strToNum_frac c o e sign d1 xs ys [] [] [] he hs h1 hxs hys hy0 hy48 hlen expPart_nil
    (unitsAt_end hu) hend
  have h := class_expResult heq hv (fun h => absurd h (by decide))
  rwa [netExp_nil, if_neg (Nat.ne_of_gt (List.length_pos_iff.2 hy0))] at h

/-- `3.14`, `-12.5,` in a buffer -/
example : (strToNum [51,46,49,52] 0 4).map (fun r => (r.kind, r.offset, ulpDist (r.bits % 2 ^ 63) (nearestMag 314 (10 ^ 2)))) = some (.real, 4, 0) := by decide +kernel
example : (strToNum [91,45,49,50,46,53,44] 1 7).map (fun r => (r.kind, r.offset, r.bits / 2 ^ 63)) = some (.real, 6, 1) := by decide +kernel

theorem real_within_one_ulp_frac_exp (c : List Nat) (o e : Nat) (sign : List Nat) (d1 : Nat) (xs ys : List Nat)
    (m : Nat) (es ks : List Nat)
    (he : e < 2 ^ 32) (hs : sign = [] ∨ sign = [43] ∨ sign = [45]) (h1 : isNonZeroDigit d1 = true)
    (hxs : AllDigits xs) (hys : AllDigits ys) (hy0 : ys ≠ []) (hy48 : ys ≠ [48]) (hlen : xs.length + ys.length ≤ 17)
    (hm : m = 101 ∨ m = 69) (hes : es = [] ∨ es = [43] ∨ es = [45]) (hks : AllDigits ks) (hk0 : ks ≠ [])
    (hu : unitsAt c e o (sign ++ (d1 :: xs ++ [46] ++ ys) ++ [m] ++ (es ++ ks)))
    (hend : endsAt c e (o + sign.length + 1 + xs.length + 1 + ys.length + 1 + es.length + ks.length) isDigit) :
    ClassOutcome (decide (sign = [45])) (decVal (d1 :: xs ++ ys))
      (netExp false (decVal ks) (decide (es = [45])) ys.length).1
      (netExp false (decVal ks) (decide (es = [45])) ys.length).2
      (o + sign.length + 1 + xs.length + 1 + ys.length + 1 + es.length + ks.length) (strToNum c o e) := by
  obtain ⟨heq, hv⟩ := strToNum_frac c o e sign d1 xs ys (m :: (es ++ ks)) es ks he hs h1 hxs hys hy0 hy48 hlen
    (expPart_cons hm hes hks hk0) (unitsAt_exp hu) (endsAt_exp hend)
  have h := class_expResult heq hv (fun _ => by omega)
  rwa [fin_exp] at h

/-- `1.25e3` (net exponent +1), `6.02e-5`, `-9.99e-330` (below the smallest subnormal: rejected) -/
example : (strToNum [49,46,50,53,101,51] 0 6).map (fun r => (r.kind, r.offset, ulpDist (r.bits % 2 ^ 63) (nearestMag (125 * 10 ^ 1) 1))) = some (.real, 6, 0) := by decide +kernel
example : (strToNum [54,46,48,50,101,45,53] 0 7).map (fun r => (r.kind, r.offset, ulpDist (r.bits % 2 ^ 63) (nearestMag 602 (10 ^ 7)))) = some (.real, 7, 0) := by decide +kernel
example : (strToNum [45,57,46,57,57,101,45,51,51,48] 0 10).map (·.kind) = some .notANumber := by decide +kernel

end Qentem.Props.C09
