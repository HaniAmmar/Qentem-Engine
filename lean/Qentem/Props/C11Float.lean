import Qentem.Props.C11Parser
/-! C09/C11, floats — parser side: on every `Text17`-shaped text (no margin, every mantissa) `parseDouble` returns a
double within **one ulp** of the correctly rounded value of the text, or the value is outside the double range
(`ParseClose`, `parse_close17`). -/
namespace Qentem.Props.C11P
open Qentem.StrToNum Qentem.Round

/-- what the parser guarantees on a text without any margin: the reference reader understands it as `(neg, num, den)`,
and either the parser's double has that sign and a magnitude pattern within one of the correctly rounded one, or the
value is below the smallest subnormal / above the largest finite double -/
def ParseClose (t : List Nat) : Prop :=
  ∃ neg num den, FmtSpec.readDecimal t = some (neg, num, den) ∧ 0 < den ∧
    ((∃ p, parseDouble t = some ((if neg then 2 ^ 63 else 0) + p) ∧ p < 2 ^ 63 ∧ ulpDist p (nearestMag num den) ≤ 1) ∨
     (num * 2 ^ 1074 < den ∨ (2 ^ 53 - 1) * 2 ^ 971 * den < num))

theorem RealText.close {t : List Nat} {neg : Bool} {v n X : Nat} {FLAG : Bool} {num den : Nat}
    (h : RealText t neg v n X FLAG num den) : ParseClose t := by
  obtain ⟨c, hc, hnum, hden⟩ := h.link
  have hv0 := mantissa_pos h.lo
  obtain ⟨_, hDpos, hmag⟩ := nearestMag_link v X FLAG num den c hv0 hc hnum hden
  refine ⟨neg, num, den, h.read, h.den_pos, ?_⟩
  obtain ⟨r, hres, hoff, hcase⟩ :=
    realResult_class_all neg v n X FLAG t.length hv0 (mantissa_lt h.hi h.n19) h.lo h.hi h.n1 h.n19 h.hX
  rw [← h.scan] at hres
  rcases hcase with ⟨_, hout⟩ | ⟨hkind, hsign, hclose, _⟩
  · right
    cases FLAG with
    | true =>
      left
      simp only [if_true] at hout hnum hden
      rw [hnum, hden]
      calc v * c * 2 ^ 1074 = v * 2 ^ 1074 * c := by ring
        _ < 10 ^ X * c := Nat.mul_lt_mul_of_pos_right hout hc
    | false =>
      right
      simp only [Bool.false_eq_true, if_false] at hout hnum hden
      rw [hnum, hden]
      calc (2 ^ 53 - 1) * 2 ^ 971 * (1 * c) = (2 ^ 53 - 1) * 2 ^ 971 * c := by ring
        _ < v * 10 ^ X * c := Nat.mul_lt_mul_of_pos_right hout hc
  · left
    refine ⟨r.bits % 2 ^ 63, ?_, Nat.mod_lt _ (by decide), by rw [hmag]; exact hclose⟩
    unfold parseDouble
    rw [hres]
    obtain ⟨k, bits, off⟩ := r
    simp only at hkind hoff hsign
    subst hkind; subst hoff
    simp only [if_true]
    congr 1
    have := Nat.div_add_mod bits (2 ^ 63)
    rw [hsign] at this
    cases neg
    · exact this.symm.trans (by rw [show b2n false = 0 from rfl, Nat.mul_zero]; rfl)
    · exact this.symm.trans (by rw [show b2n true = 1 from rfl, Nat.mul_one]; rfl)

theorem parseClose_of_exact {t : List Nat} {neg : Bool} {num den : Nat}
    (hrd : FmtSpec.readDecimal t = some (neg, num, den)) (hden : 0 < den)
    (hex : parseDouble t = FmtSpec.readBits64 t) : ParseClose t :=
  ⟨neg, num, den, hrd, hden, Or.inl ⟨nearestMag num den, hex.trans (readBits64_of_read hrd hden),
    Nat.lt_of_le_of_lt (nearestMag_le_inf _ _) (by decide), by simp [ulpDist]⟩⟩

/-- **one ulp on every `%.17g`-shaped text**, no margin, every mantissa -/
theorem parse_close17 (t : List Nat) (ht : Text17 t) : ParseClose t := by
  rcases text17_real t ht with ⟨neg, ds, rfl, hds, hne, hlead, hlen⟩ | ⟨neg, v, n, X, FLAG, num, den, h, -, -⟩
  · exact parseClose_of_exact (read_int neg ds hds hne) (by decide) (parse_exact_int neg _ hds hne hlead hlen)
  · exact h.close

end Qentem.Props.C11P
