import Qentem.Model.ValueLedger
import Qentem.Proofs.ValueLedger
import Qentem.Proofs.ValueLedgerEnv
/-!
C16 for Value trees — every block is released exactly once, nothing is released that is not live, net
allocation zero.

`ValueLedger.lifetime n ops` is the allocation trace of a forest of `n` Values: default-constructed, `ops`
applied (every operation of the C12 op set except `GroupBy` and the container-typed overloads: all assignment / append / subscript / Insert /
Merge / Remove / RemoveIndex / Reset / Compress / copy / move / pointer operations, with the caller's
temporaries), then destroyed.  The trace model is tied to the real traces by `checks/_value_ledger.py`
(number of allocations and releases per line; every real trace is judged by `Ledger.run` itself).
-/
namespace Qentem.Props.C16Value
open Qentem.Ledger Qentem.HashLedger Qentem.ValueLedger Qentem.Value

/-- **Every operation sequence over a forest of `n` Values followed by the destruction of the roots gives a
balanced trace**: no release of a block that is not live (no double free, no free of something never
allocated), no reuse of a live id, nothing left allocated. -/
theorem lifetime_balanced (n : Nat) (ops : List ValueLedger.LOp) : Balanced (lifetime n ops) :=
  ((Acc.bind ((Acc_runL ops _).permPre (by rw [ownedEnv_replicate_undef])) Acc_destroyL).tri 1).balanced

/-- **After every prefix of operations the live blocks are exactly the blocks the forest owns** (so a forest
that is never destroyed leaks exactly those; a moved-from, reset or merged-from value owns what the model
says; pairwise distinct ids: no block has two owners). -/
theorem prefix_owned (n : Nat) (ops : List ValueLedger.LOp) :
    ∃ h, Ledger.run (runL ops (List.replicate n .undef) 1).2.1 [] = some h ∧
      (h.map Prod.fst).Perm (ownedEnv (runL ops (List.replicate n .undef) 1).1) ∧
      (ownedEnv (runL ops (List.replicate n .undef) 1).1).Nodup :=
  (((Acc_runL ops (List.replicate n .undef)).permPre (pre' := []) (by rw [ownedEnv_replicate_undef])).tri 1).prefix

/-! Non-vacuity: a lifetime with vivification, an owned key that is found (released), a table growth, a deep
copy, a moving merge onto an existing key, a removal and a compress. -/
def exOps : List ValueLedger.LOp :=
  [.assign ⟨0, [.key [97] .plain]⟩ (Doc.str [120]) 0,
   .assign ⟨0, [.key [97] .moved]⟩ (Doc.nat 1) 0,
   .assign ⟨0, [.key [98] .constCopy, .idx 2]⟩ (Doc.str []) 1,
   .insert ⟨0, []⟩ [99] (Doc.str [121]),
   .copy ⟨1, []⟩ ⟨0, []⟩,
   .assign ⟨1, [.key [97] .plain]⟩ (Doc.str [122]) 0,
   .mergeMove ⟨0, []⟩ ⟨1, []⟩,
   .remove ⟨0, []⟩ [98] 1,
   .compress ⟨0, []⟩]

example : (ValueLedger.lifetime 4 exOps).length = 46 ∧ Ledger.run (ValueLedger.lifetime 4 exOps) [] = some [] := by decide +kernel

end Qentem.Props.C16Value
