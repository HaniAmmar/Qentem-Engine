import Qentem.Proofs.StrToNumRealResult
import Qentem.Proofs.StrToNumText
import Qentem.Props.C09
import Qentem.Props.C11
/-! C11, parser half: `parseDouble` is exact on every `%.17g`-shaped text that keeps a margin from the rounding
boundaries.  `parseDouble`, `Text17`, `Margin32` are the interface to the formatter area (C10/C11).
Per shape with a dot or an exponent one statement says what the scan and the reference reader make of the text
(`RealText`); `parse_exact17` consumes it under the margin, and `roundtrip17_of_formatter` takes
`Text17 t ∧ MarginText t` for `t = format17 b` from the formatter side. -/
namespace Qentem.Props.C11P
open Qentem.StrToNum Qentem.Round

/-- `Digit::StringToNumber` on a whole text, followed by the conversion every caller applies to an integer result
(`double(q.Natural)`, `double(q.Integer)`: hardware round-to-nearest-even, i.e. `nearestMag v 1`) -/
def parseDouble (t : List Nat) : Option Nat :=
  match strToNum t 0 t.length with
  | some ⟨.real, bits, off⟩ => if off = t.length then some bits else none
  | some ⟨.natural, v, off⟩ => if off = t.length then some (nearestMag v 1) else none
  | some ⟨.integer, w, off⟩ => if off = t.length then some (2 ^ 63 + nearestMag (2 ^ 64 - w) 1) else none
  | _ => none

/-- `num/den` keeps a distance of at least 1/32 ulp from every half-way point between adjacent
doubles: with `(A, B) = roundPair num den` (so `A/B` is the value in units of its last place),
the fractional part of `A/B` is `≤ 1/2 − 1/32` or `≥ 1/2 + 1/32`. -/
def Margin32 (num den : Nat) : Prop :=
  32 * ((roundPair num den).1 % (roundPair num den).2) + (roundPair num den).2 ≤ 16 * (roundPair num den).2 ∨
  17 * (roundPair num den).2 ≤ 32 * ((roundPair num den).1 % (roundPair num den).2)

open Qentem.Props.C09 Qentem.Proofs.NumToStr Qentem.Proofs.Ident

theorem margin32_iff (num den : Nat) : Margin32 num den ↔ MarginPair (roundPair num den).1 (roundPair num den).2 := Iff.rfl

theorem readBits64_of_read {t : List Nat} {neg : Bool} {num den : Nat}
    (h : FmtSpec.readDecimal t = some (neg, num, den)) (hden : 0 < den) :
    FmtSpec.readBits64 t = some ((if neg then 2 ^ 63 else 0) + nearestMag num den) :=
  (readBits_of_readDecimal 52 11 h).trans (congrArg some (nearestBits_eq neg num den hden))

theorem readDecimal_of_core (neg : Bool) (body : List Nat) (x : Nat) (rest : List Nat) (hbody : body = x :: rest)
    (hx : 48 ≤ x ∧ x ≤ 57) (r : Bool × Nat × Nat) (hrc : readCore neg body = some r) :
    FmtSpec.readDecimal (FmtSpec.signed neg body) = some r := by
  rw [readDecimal_signed neg body (by intro r' h; rw [hbody] at h; simp only [List.cons.injEq] at h; omega), hrc]

theorem parseDouble_real (t : List Nat) (p : Nat) (neg : Bool) (hp : p < 2 ^ 63)
    (h : strToNum t 0 t.length = some ⟨.real, p ||| (if neg then 0x8000000000000000 else 0), t.length⟩) :
    parseDouble t = some ((if neg then 2 ^ 63 else 0) + p) := by
  unfold parseDouble
  rw [h]
  simp only [if_true]
  rw [or_sign_add p neg hp]

theorem read_int (neg : Bool) (ds : List Nat) (hds : AllDigits ds) (hne : ds ≠ []) :
    FmtSpec.readDecimal (FmtSpec.signed neg ds) = some (neg, decVal ds, 1) :=
  readDecimal_int neg hds hne

theorem readCore_fixed (neg : Bool) (d1 : Nat) (xs ys : List Nat) (h1 : isNonZeroDigit d1 = true)
    (hxs : AllDigits xs) (hys : AllDigits ys) (hy0 : ys ≠ []) :
    readCore neg (d1 :: xs ++ [46] ++ ys) = some (neg, decVal (d1 :: xs ++ ys), 10 ^ ys.length) := by
  have := readCore_plain neg (d1 :: xs) ys (List.cons_ne_nil _ _)
    (AllDigits.cons (isNonZeroDigit_isDigit h1) hxs) hys
  rw [if_neg hy0, digitsValue_eq] at this
  rw [List.append_assoc, List.singleton_append]
  exact this

theorem readCore_small (neg : Bool) (zs : List Nat) (d1 : Nat) (ys : List Nat) (hz : ∀ z ∈ zs, z = 48)
    (h1 : isNonZeroDigit d1 = true) (hys : AllDigits ys) :
    readCore neg ([48] ++ 46 :: (zs ++ d1 :: ys)) = some (neg, decVal (d1 :: ys), 10 ^ (zs.length + 1 + ys.length)) := by
  have := readCore_plain neg [48] (zs ++ d1 :: ys) (List.cons_ne_nil _ _) (by intro c hc; simp at hc; subst hc; decide)
    (AllDigits.append (allDigits_zeros hz) (AllDigits.cons (isNonZeroDigit_isDigit h1) hys))
  rw [if_neg (List.append_ne_nil_of_right_ne_nil _ (List.cons_ne_nil _ _)), digitsValue_eq,
    show [48] ++ (zs ++ d1 :: ys) = (48 :: zs) ++ d1 :: ys from rfl,
    decVal_zeros (48 :: zs) (d1 :: ys) (fun y hy => (List.mem_cons.1 hy).elim id (hz y)),
    List.length_append, List.length_cons, show zs.length + (ys.length + 1) = zs.length + 1 + ys.length by omega] at this
  exact this

theorem readCore_sci (neg : Bool) (d1 : Nat) (ys : List Nat) (eneg : Bool) (ks : List Nat)
    (h1 : isNonZeroDigit d1 = true) (hys : AllDigits ys) (hks : AllDigits ks) (hk0 : ks ≠ []) :
    readCore neg ([d1] ++ (if ys = [] then [] else 46 :: ys) ++ 101 :: (if eneg then 45 else 43) :: ks) =
      some (neg, (if eneg then decVal (d1 :: ys) else decVal (d1 :: ys) * 10 ^ decVal ks),
        (if eneg then 10 ^ ys.length * 10 ^ decVal ks else 10 ^ ys.length)) := by
  rw [readCore_exp neg [d1] ys ks eneg (List.cons_ne_nil _ _)
    (AllDigits.cons (isNonZeroDigit_isDigit h1) (fun _ h => nomatch h)) hys hk0 hks]
  cases eneg <;> simp [digitsValue_eq]

theorem strToNum_fixed_eq (neg : Bool) (d1 : Nat) (xs ys : List Nat) (h1 : isNonZeroDigit d1 = true)
    (hxs : AllDigits xs) (hys : AllDigits ys) (hy0 : ys ≠ []) (hy48 : ys ≠ [48]) (hlen : xs.length + ys.length ≤ 17)
    (t : List Nat) (ht : sgOf neg ++ (d1 :: xs ++ [46] ++ ys) = t) :
    strToNum t 0 t.length =
      realResult neg (decVal (d1 :: xs ++ ys)) (xs.length + 1 + ys.length) ys.length true t.length ∧
    ExpOk (decVal (d1 :: xs ++ ys)) (xs.length + 1 + ys.length) ys.length := by
  have hsl := sgOf_le neg
  have hl : 0 + (sgOf neg).length + 1 + xs.length + 1 + ys.length = t.length := by
    rw [← ht]; simp only [List.length_append, List.length_cons, List.length_nil]; omega
  obtain ⟨heq, hv⟩ := strToNum_frac t 0 t.length (sgOf neg) d1 xs ys [] [] [] (by omega) (sgOf_cases neg) h1 hxs hys hy0
    hy48 hlen expPart_nil (by rw [List.append_nil, ht]; exact unitsAt_self t) (Or.inl hl)
  refine ⟨?_, hv⟩
  rw [heq, sgOf_dec, show 0 + (sgOf neg).length + 1 + xs.length + 1 + ys.length + ([] : List Nat).length = t.length from hl]
  unfold expResult
  rw [if_pos (by decide), netExp_nil, if_neg (Nat.ne_of_gt (List.length_pos_iff.2 hy0))]

theorem strToNum_small_eq (neg : Bool) (zs : List Nat) (d1 : Nat) (ys : List Nat) (hz : ∀ z ∈ zs, z = 48)
    (hzl : zs.length ≤ 8) (h1 : isNonZeroDigit d1 = true) (hys : AllDigits ys) (hlen : ys.length ≤ 16)
    (t : List Nat) (ht : sgOf neg ++ ([48] ++ 46 :: (zs ++ d1 :: ys)) = t) :
    strToNum t 0 t.length =
      realResult neg (decVal (d1 :: ys)) (1 + ys.length) (zs.length + 1 + ys.length) true t.length ∧
    ExpOk (decVal (d1 :: ys)) (1 + ys.length) (zs.length + 1 + ys.length) := by
  have hsl := sgOf_le neg
  have ht' : sgOf neg ++ ([48, 46] ++ zs ++ d1 :: ys) = t := by rw [← ht]; rfl
  have hl : 0 + (sgOf neg).length + 2 + zs.length + 1 + ys.length = t.length := by
    rw [← ht']; simp only [List.length_append, List.length_cons, List.length_nil]; omega
  obtain ⟨heq, hv⟩ := strToNum_small t 0 t.length (sgOf neg) zs d1 ys [] [] [] (by omega) (sgOf_cases neg) hz (by omega) h1
    hys (by omega) expPart_nil (by rw [List.append_nil, ht']; exact unitsAt_self t) (Or.inl hl)
  refine ⟨?_, hv⟩
  rw [heq, sgOf_dec, show 0 + (sgOf neg).length + 2 + zs.length + 1 + ys.length + ([] : List Nat).length = t.length from hl]
  unfold expResult
  rw [if_pos (by decide), netExp_nil, if_neg (by omega)]

theorem strToNum_sci_eq (neg : Bool) (d1 : Nat) (ys : List Nat) (eneg : Bool) (ks : List Nat)
    (h1 : isNonZeroDigit d1 = true) (hys : AllDigits ys) (hy48 : ys ≠ [48]) (hlen : ys.length ≤ 16)
    (hks : AllDigits ks) (hk0 : ks ≠ []) (hk8 : ks.length ≤ 8) (t : List Nat)
    (ht : t = sgOf neg ++ ([d1] ++ (if ys = [] then [] else 46 :: ys) ++ 101 :: (if eneg then 45 else 43) :: ks)) :
    strToNum t 0 t.length =
      realResult neg (decVal (d1 :: ys)) (1 + ys.length) (netExp false (decVal ks) eneg ys.length).1
        (netExp false (decVal ks) eneg ys.length).2 t.length ∧
    ExpOk (decVal (d1 :: ys)) (1 + ys.length) ys.length := by
  have hsl := sgOf_le neg
  have hes : [if eneg then 45 else 43] = [] ∨ [if eneg then 45 else 43] = [43] ∨ [if eneg then 45 else 43] = [45] := by
    cases eneg <;> simp
  have hdec : decide ([if eneg then 45 else 43] = [45]) = eneg := by cases eneg <;> rfl
  have hk : decVal ks < 100000000 :=
    Nat.lt_of_lt_of_le (decVal_lt_pow ks hks) (Nat.pow_le_pow_right (by decide) hk8)
  by_cases hy : ys = []
  · subst hy
    have ht' : sgOf neg ++ [d1] ++ [101] ++ ([if eneg then 45 else 43] ++ ks) = t := by rw [ht]; simp
    have hl : 0 + (sgOf neg).length + 1 + ([] : List Nat).length + 1 + [if eneg then 45 else 43].length + ks.length =
        t.length := by
      rw [← ht']; simp only [List.length_append, List.length_cons, List.length_nil]; omega
    obtain ⟨heq, hv⟩ := strToNum_int_exp t 0 t.length (sgOf neg) d1 [] 101 [if eneg then 45 else 43] ks
      (by simp only [List.length_cons, List.length_nil] at hl; omega) (sgOf_cases neg) h1 (fun _ h => nomatch h) (by decide)
      (Or.inl rfl) hes hks hk0 (by rw [ht']; exact unitsAt_self t) (Or.inl hl)
    refine ⟨?_, hv⟩
    rw [heq, sgOf_dec, hl, hdec]
    unfold expResult
    rw [if_pos hk]
    rfl
  · have ht' : sgOf neg ++ (d1 :: [] ++ [46] ++ ys) ++ 101 :: ([if eneg then 45 else 43] ++ ks) = t := by
      rw [ht, if_neg hy]; simp
    have hl : 0 + (sgOf neg).length + 1 + ([] : List Nat).length + 1 + ys.length +
        (101 :: ([if eneg then 45 else 43] ++ ks)).length = t.length := by
      rw [← ht']; simp only [List.length_append, List.length_cons, List.length_nil]; omega
    obtain ⟨heq, hv⟩ := strToNum_frac t 0 t.length (sgOf neg) d1 [] ys _ _ ks
      (by simp only [List.length_append, List.length_cons, List.length_nil] at hl; omega) (sgOf_cases neg) h1
      (fun _ h => nomatch h) hys hy hy48 (by rw [List.length_nil]; omega) (expPart_cons (Or.inl rfl) hes hks hk0)
      (by rw [ht']; exact unitsAt_self t) (Or.inl hl)
    refine ⟨?_, hv⟩
    rw [heq, sgOf_dec, hl, hdec]
    unfold expResult
    rw [if_pos hk]
    rfl

theorem margin32_scale (n d c : Nat) (hn : 0 < n) (hd : 0 < d) (hc : 0 < c) : Margin32 (n * c) (d * c) ↔ Margin32 n d := by
  unfold Margin32
  rw [roundPair_scale n d c hn hd hc]
  exact MarginPair_scale _ _ c hc

/-- the reference reader's fraction `(num, den)` for mantissa `v`, `f` fraction digits and exponent
`±k`, and this area's normalised `(N, D)` (`v·10^X / 1` or `v / 10^X`) differ by a common factor -/
theorem frac_link (v f k : Nat) (eneg : Bool) :
    ∃ c, 0 < c ∧
      (if eneg then v else v * 10 ^ k) =
        (if (netExp false k eneg f).2 then v else v * 10 ^ (netExp false k eneg f).1) * c ∧
      (if eneg then 10 ^ f * 10 ^ k else 10 ^ f) =
        (if (netExp false k eneg f).2 then 10 ^ (netExp false k eneg f).1 else 1) * c := by
  -- the normalised pair is `valFrac v X FLAG 0`, which `valFrac_netExp` turns into `valFrac v k eneg f`
  have e : ∀ X FLAG, valFrac v X FLAG 0 = (if FLAG then v else v * 10 ^ X, if FLAG then 10 ^ X else 1) := by
    intro X FLAG; cases FLAG <;> simp [valFrac]
  have h := valFrac_netExp v k eneg false f 0
  rw [e, Nat.add_zero, Prod.ext_iff] at h
  dsimp only at h
  rw [h.1, h.2]
  unfold valFrac
  cases eneg with
  | true => exact ⟨1, by decide, by simp, by simp [Nat.pow_add, Nat.mul_comm]⟩
  | false =>
    simp only [Bool.false_eq_true, if_false]
    by_cases hkf : k ≥ f
    · rw [if_pos hkf]
      exact ⟨10 ^ f, Nat.pow_pos (by decide), by rw [Nat.mul_assoc, ← Nat.pow_add]; congr 2; omega, by simp⟩
    · rw [if_neg hkf]
      exact ⟨10 ^ k, Nat.pow_pos (by decide), rfl, by rw [← Nat.pow_add]; congr 1; omega⟩

theorem nearestMag_link (v X : Nat) (FLAG : Bool) (num den c : Nat) (hv0 : 0 < v) (hc : 0 < c)
    (hnum : num = (if FLAG then v else v * 10 ^ X) * c) (hden : den = (if FLAG then 10 ^ X else 1) * c) :
    0 < (if FLAG then v else v * 10 ^ X) ∧ 0 < (if FLAG then 10 ^ X else 1) ∧
    nearestMag num den = (if FLAG then nearestMag v (10 ^ X) else nearestMag (v * 10 ^ X) 1) := by
  have hN : 0 < (if FLAG then v else v * 10 ^ X) := by
    split
    · exact hv0
    · exact Nat.mul_pos hv0 (Nat.pow_pos (by decide))
  have hD : 0 < (if FLAG then 10 ^ X else 1) := by
    split
    · exact Nat.pow_pos (by decide)
    · decide
  refine ⟨hN, hD, ?_⟩
  rw [hnum, hden, nearestMag_scale _ _ c hN hD hc]
  cases FLAG <;> simp

/-- the scan stops at the end of `t` with sign `neg`, an `n`-digit mantissa `v` and the net exponent `10^(∓X)` (`FLAG` =
negative) handed to the scaling routine; the reference reader returns the same value as a fraction `num/den`, up to a
common factor -/
structure RealText (t : List Nat) (neg : Bool) (v n X : Nat) (FLAG : Bool) (num den : Nat) : Prop where
  scan : strToNum t 0 t.length = realResult neg v n X FLAG t.length
  lo : 10 ^ (n - 1) ≤ v
  hi : v < 10 ^ n
  n1 : 1 ≤ n
  n19 : n ≤ 19
  hX : X < 2 ^ 31
  read : FmtSpec.readDecimal t = some (neg, num, den)
  link : ∃ c, 0 < c ∧ num = (if FLAG then v else v * 10 ^ X) * c ∧ den = (if FLAG then 10 ^ X else 1) * c

section
variable {t : List Nat} {neg : Bool} {v n X : Nat} {FLAG : Bool} {num den : Nat}

theorem RealText.num_ne (h : RealText t neg v n X FLAG num den) : num ≠ 0 := by
  obtain ⟨c, hc, hnum, -⟩ := h.link
  exact Nat.ne_of_gt (hnum ▸ Nat.mul_pos (nearestMag_link v X FLAG _ _ c (mantissa_pos h.lo) hc rfl rfl).1 hc)

theorem RealText.den_pos (h : RealText t neg v n X FLAG num den) : 0 < den := by
  obtain ⟨c, hc, -, hden⟩ := h.link
  exact hden ▸ Nat.mul_pos (nearestMag_link v X FLAG _ _ c (mantissa_pos h.lo) hc rfl rfl).2.1 hc

theorem RealText.exact (h : RealText t neg v n X FLAG num den) (hrange : if FLAG then X ≤ n + 324 else X + n ≤ 309)
    (hcond : FLAG = true → ¬ negExc v X) (hm : Margin32 num den) : parseDouble t = FmtSpec.readBits64 t := by
  obtain ⟨c, hc, hnum, hden⟩ := h.link
  have hv0 := mantissa_pos h.lo
  obtain ⟨hNpos, hDpos, hmag⟩ := nearestMag_link v X FLAG num den c hv0 hc hnum hden
  have hm' : if FLAG then MarginPair (roundPair v (10 ^ X)).1 (roundPair v (10 ^ X)).2
      else MarginPair (roundPair (v * 10 ^ X) 1).1 (roundPair (v * 10 ^ X) 1).2 := by
    rw [hnum, hden, margin32_scale _ _ c hNpos hDpos hc] at hm
    cases FLAG <;> exact hm
  rw [readBits64_of_read h.read h.den_pos, hmag]
  have hres := realResult_exact neg v n X FLAG t.length hv0 (mantissa_lt h.hi h.n19) h.n19 h.hX hrange hcond hm'
  rw [← h.scan] at hres
  exact parseDouble_real t _ neg (by
    split <;> exact Nat.lt_of_le_of_lt (nearestMag_le_inf _ _) (by decide)) hres

end

theorem real_fixed (neg : Bool) (d1 : Nat) (xs ys : List Nat) (h1 : isNonZeroDigit d1 = true)
    (hxs : AllDigits xs) (hys : AllDigits ys) (hy0 : ys ≠ []) (hy48 : ys ≠ [48]) (hlen : xs.length + ys.length ≤ 17) :
    RealText (FmtSpec.signed neg (d1 :: xs ++ [46] ++ ys)) neg (decVal (d1 :: xs ++ ys)) (xs.length + 1 + ys.length)
      ys.length true (decVal (d1 :: xs ++ ys)) (10 ^ ys.length) := by
  have hrd := readDecimal_of_core neg (d1 :: xs ++ [46] ++ ys) d1 (xs ++ [46] ++ ys) rfl
    (digit_range (isNonZeroDigit_isDigit h1)) _ (readCore_fixed neg d1 xs ys h1 hxs hys hy0)
  rw [signed_eq] at hrd ⊢
  obtain ⟨hs, hv⟩ := strToNum_fixed_eq neg d1 xs ys h1 hxs hys hy0 hy48 hlen _ rfl
  exact ⟨hs, hv.lo, hv.hi, hv.n1, hv.n19, by omega, hrd, 1, by decide, by simp, by simp⟩

theorem real_small (neg : Bool) (zs : List Nat) (d1 : Nat) (ys : List Nat) (hz : ∀ z ∈ zs, z = 48)
    (hzl : zs.length ≤ 8) (h1 : isNonZeroDigit d1 = true) (hys : AllDigits ys) (hlen : ys.length ≤ 16) :
    RealText (FmtSpec.signed neg ([48] ++ 46 :: (zs ++ d1 :: ys))) neg (decVal (d1 :: ys)) (1 + ys.length)
      (zs.length + 1 + ys.length) true (decVal (d1 :: ys)) (10 ^ (zs.length + 1 + ys.length)) := by
  have hrd := readDecimal_of_core neg ([48] ++ 46 :: (zs ++ d1 :: ys)) 48 (46 :: (zs ++ d1 :: ys)) rfl (by decide) _
    (readCore_small neg zs d1 ys hz h1 hys)
  rw [signed_eq] at hrd ⊢
  obtain ⟨hs, hv⟩ := strToNum_small_eq neg zs d1 ys hz hzl h1 hys hlen _ rfl
  exact ⟨hs, hv.lo, hv.hi, hv.n1, hv.n19, by omega, hrd, 1, by decide, by simp, by simp⟩

theorem real_sci (neg : Bool) (d1 : Nat) (ys : List Nat) (eneg : Bool) (ks : List Nat)
    (h1 : isNonZeroDigit d1 = true) (hys : AllDigits ys) (hy48 : ys ≠ [48]) (hlen : ys.length ≤ 16)
    (hks : AllDigits ks) (hk0 : ks ≠ []) (hk8 : ks.length ≤ 8) :
    RealText (FmtSpec.signed neg ([d1] ++ (if ys = [] then [] else 46 :: ys) ++ 101 :: (if eneg then 45 else 43) :: ks))
      neg (decVal (d1 :: ys)) (1 + ys.length) (netExp false (decVal ks) eneg ys.length).1
      (netExp false (decVal ks) eneg ys.length).2
      (if eneg then decVal (d1 :: ys) else decVal (d1 :: ys) * 10 ^ decVal ks)
      (if eneg then 10 ^ ys.length * 10 ^ decVal ks else 10 ^ ys.length) := by
  have hrd := readDecimal_of_core neg ([d1] ++ (if ys = [] then [] else 46 :: ys) ++ 101 :: (if eneg then 45 else 43) :: ks)
    d1 ((if ys = [] then [] else 46 :: ys) ++ 101 :: (if eneg then 45 else 43) :: ks) rfl
    (digit_range (isNonZeroDigit_isDigit h1)) _ (readCore_sci neg d1 ys eneg ks h1 hys hks hk0)
  have hk : decVal ks < 100000000 :=
    Nat.lt_of_lt_of_le (decVal_lt_pow ks hks) (Nat.pow_le_pow_right (by decide) hk8)
  rw [signed_eq] at hrd ⊢
  obtain ⟨hs, hv⟩ := strToNum_sci_eq neg d1 ys eneg ks h1 hys hy48 hlen hks hk0 hk8 _ rfl
  exact ⟨hs, hv.lo, hv.hi, hv.n1, hv.n19, netExp_lt false _ eneg _ hk (by omega), hrd,
    frac_link (decVal (d1 :: ys)) ys.length (decVal ks) eneg⟩

/-- **`%.17g` fixed notation with a fraction** (`ddd.ddd`): under the margin the parser returns the
correctly rounded double. -/
theorem parse_exact_fixed (neg : Bool) (d1 : Nat) (xs ys : List Nat) (h1 : isNonZeroDigit d1 = true)
    (hxs : AllDigits xs) (hys : AllDigits ys) (hy0 : ys ≠ []) (hy48 : ys ≠ [48]) (hlen : xs.length + ys.length ≤ 17)
    (hm : Margin32 (decVal (d1 :: xs ++ ys)) (10 ^ ys.length)) :
    parseDouble (FmtSpec.signed neg (d1 :: xs ++ [46] ++ ys)) =
      FmtSpec.readBits64 (FmtSpec.signed neg (d1 :: xs ++ [46] ++ ys)) :=
  (real_fixed neg d1 xs ys h1 hxs hys hy0 hy48 hlen).exact (by simp only [if_true]; omega)
    (fun _ h => by obtain ⟨_, h⟩ := h; omega) hm

/-- **`%.17g` scientific notation** (`d[.ddd]e±kk`): in range, under the margin, every mantissa (the
three numerals `negExc` excepted), the parser returns the correctly rounded double. -/
theorem parse_exact_sci (neg : Bool) (d1 : Nat) (ys : List Nat) (eneg : Bool) (ks : List Nat)
    (h1 : isNonZeroDigit d1 = true) (hys : AllDigits ys) (hy48 : ys ≠ [48]) (hlen : ys.length ≤ 16)
    (hks : AllDigits ks) (hk0 : ks ≠ []) (hk8 : ks.length ≤ 8)
    (hm : Margin32 (if eneg then decVal (d1 :: ys) else decVal (d1 :: ys) * 10 ^ decVal ks)
                   (if eneg then 10 ^ ys.length * 10 ^ decVal ks else 10 ^ ys.length))
    (hrange : if (netExp false (decVal ks) eneg ys.length).2 then
                (netExp false (decVal ks) eneg ys.length).1 ≤ 1 + ys.length + 324
              else (netExp false (decVal ks) eneg ys.length).1 + (1 + ys.length) ≤ 309)
    (hcond : (netExp false (decVal ks) eneg ys.length).2 = true →
      ¬ negExc (decVal (d1 :: ys)) (netExp false (decVal ks) eneg ys.length).1) :
    parseDouble (FmtSpec.signed neg ([d1] ++ (if ys = [] then [] else 46 :: ys) ++ 101 :: (if eneg then 45 else 43) :: ks)) =
      FmtSpec.readBits64 (FmtSpec.signed neg ([d1] ++ (if ys = [] then [] else 46 :: ys) ++ 101 :: (if eneg then 45 else 43) :: ks)) :=
  (real_sci neg d1 ys eneg ks h1 hys hy48 hlen hks hk0 hk8).exact hrange hcond hm

/-- **`%.17g` small fixed notation** (`0.000ddd`, up to eight zeros after the point): under the margin
the parser returns the correctly rounded double. -/
theorem parse_exact_small (neg : Bool) (zs : List Nat) (d1 : Nat) (ys : List Nat) (hz : ∀ z ∈ zs, z = 48)
    (hzl : zs.length ≤ 8) (h1 : isNonZeroDigit d1 = true) (hys : AllDigits ys) (hlen : ys.length ≤ 16)
    (hm : Margin32 (decVal (d1 :: ys)) (10 ^ (zs.length + 1 + ys.length))) :
    parseDouble (FmtSpec.signed neg ([48] ++ 46 :: (zs ++ d1 :: ys))) =
      FmtSpec.readBits64 (FmtSpec.signed neg ([48] ++ 46 :: (zs ++ d1 :: ys))) :=
  (real_small neg zs d1 ys hz hzl h1 hys hlen).exact (by simp only [if_true]; omega)
    (fun _ h => by obtain ⟨_, h⟩ := h; omega) hm

/-- **`%.17g` integers** (`[-]ddd`, at most 17 digits): the parser returns the exact integer and the
callers' conversion to `double` is the correctly rounded value — no margin needed. -/
theorem parse_exact_int (neg : Bool) (ds : List Nat) (hds : AllDigits ds) (hne : ds ≠ [])
    (hlead : ds = [48] ∨ ds.head? ≠ some 48) (hlen : ds.length ≤ 17) :
    parseDouble (FmtSpec.signed neg ds) = FmtSpec.readBits64 (FmtSpec.signed neg ds) := by
  obtain ⟨d1, xs, rfl⟩ : ∃ d1 xs, ds = d1 :: xs := by
    cases ds with
    | nil => exact absurd rfl hne
    | cons a b => exact ⟨a, b, rfl⟩
  have hd1r := digit_range (hds d1 (List.mem_cons_self ..))
  have hxs : AllDigits xs := fun y hy => hds y (List.mem_cons_of_mem _ hy)
  rw [readBits64_of_read (read_int neg _ hds hne) (by decide)]
  rw [List.length_cons] at hlen
  unfold parseDouble
  by_cases hnz : isNonZeroDigit d1 = true
  · have hv63 : decVal (d1 :: xs) < 2 ^ 63 :=
      Nat.lt_of_lt_of_le (mantissa_bounds d1 xs _ hnz hxs rfl).2
        (Nat.le_trans (Nat.pow_le_pow_right (by decide) hlen) (by decide))
    rw [strToNum_int_text neg d1 xs hnz hxs (by omega) _ rfl]
    cases neg
    · simp
    · simp only [if_true]; rw [show 2 ^ 64 - (2 ^ 64 - decVal (d1 :: xs)) = decVal (d1 :: xs) by omega]
  · -- the first digit is `0`: the text is `0` or `-0`
    obtain rfl : d1 = 48 := by
      simp only [isNonZeroDigit, Bool.and_eq_true, decide_eq_true_eq] at hnz; omega
    obtain rfl : xs = [] := by
      rcases hlead with h | h
      · exact (List.cons.inj h).2
      · exact absurd rfl h
    have hz := int_exact_zero (FmtSpec.signed neg [48]) 0 (FmtSpec.signed neg [48]).length (by cases neg <;> decide)
    cases neg with
    | false => rw [hz.1 rfl (Or.inl rfl)]; rfl
    | true => rw [hz.2.2 ⟨rfl, rfl, trivial⟩ (Or.inl rfl)]; rfl

/-! ### The class: `%.17g` texts

`Text17 t` — the shapes `FmtSpec.generalBody … 17` produces after trailing-zero stripping, with the
side conditions the parser-side proof needs for the scientific shape: finite range, and not one of
the three numerals `1e-273`, `1e-286`, `1e-292` (`StrToNum.negExc`: mantissa 1, net exponent −273,
−286, −292), on which the code is one unit off although the value keeps the margin — none of them is
a `%.17g` output (`Props/C11Closed.lean`). `fixed`/`small`/`int` need no side condition. -/
inductive Text17 : List Nat → Prop
  /-- `[-]ddd` — an integer of at most 17 digits (`0`, or no leading zero) -/
  | int (neg : Bool) (ds : List Nat) : AllDigits ds → ds ≠ [] → (ds = [48] ∨ ds.head? ≠ some 48) → ds.length ≤ 17 →
      Text17 (FmtSpec.signed neg ds)
  /-- `[-]d…d.d…d` — no leading zero, at most 17 digits, the fraction is not the single digit `0` -/
  | fixed (neg : Bool) (d1 : Nat) (xs ys : List Nat) : isNonZeroDigit d1 = true → AllDigits xs → AllDigits ys → ys ≠ [] →
      ys ≠ [48] → xs.length + 1 + ys.length ≤ 17 → Text17 (FmtSpec.signed neg (d1 :: xs ++ [46] ++ ys))
  /-- `[-]0.0…0d…d` — at most eight zeros after the point, then at most 17 digits, the first not `0` -/
  | small (neg : Bool) (zs : List Nat) (d1 : Nat) (ys : List Nat) : (∀ z ∈ zs, z = 48) → zs.length ≤ 8 →
      isNonZeroDigit d1 = true → AllDigits ys → 1 + ys.length ≤ 17 →
      Text17 (FmtSpec.signed neg ([48] ++ 46 :: (zs ++ d1 :: ys)))
  /-- `[-]d[.d…d]e±k…` — scientific: in range, not `1e-273`/`1e-286`/`1e-292` -/
  | sci (neg : Bool) (d1 : Nat) (ys : List Nat) (eneg : Bool) (ks : List Nat) : isNonZeroDigit d1 = true → AllDigits ys →
      ys ≠ [48] → 1 + ys.length ≤ 17 → AllDigits ks → ks ≠ [] → ks.length ≤ 8 →
      (if (netExp false (decVal ks) eneg ys.length).2 then
          (netExp false (decVal ks) eneg ys.length).1 ≤ 1 + ys.length + 324
        else (netExp false (decVal ks) eneg ys.length).1 + (1 + ys.length) ≤ 309) →
      ((netExp false (decVal ks) eneg ys.length).2 = true →
        ¬ negExc (decVal (d1 :: ys)) (netExp false (decVal ks) eneg ys.length).1) →
      Text17 (FmtSpec.signed neg ([d1] ++ (if ys = [] then [] else 46 :: ys) ++ 101 :: (if eneg then 45 else 43) :: ks))

/-- the margin hypothesis on a text, through the reference reader -/
def MarginText (t : List Nat) : Prop :=
  ∀ neg num den, FmtSpec.readDecimal t = some (neg, num, den) → num ≠ 0 → Margin32 num den

/-- **what the scan and the reference reader make of a `Text17`**: a plain integer numeral, or a `RealText` inside the
range of the scaling routine that is none of the three excluded numerals -/
theorem text17_real (t : List Nat) (ht : Text17 t) :
    (∃ neg ds, t = FmtSpec.signed neg ds ∧ AllDigits ds ∧ ds ≠ [] ∧ (ds = [48] ∨ ds.head? ≠ some 48) ∧ ds.length ≤ 17) ∨
    ∃ neg v n X FLAG num den, RealText t neg v n X FLAG num den ∧ (if FLAG then X ≤ n + 324 else X + n ≤ 309) ∧
      (FLAG = true → ¬ negExc v X) := by
  cases ht with
  | int neg ds hds hne hlead hlen => exact Or.inl ⟨neg, ds, rfl, hds, hne, hlead, hlen⟩
  | fixed neg d1 xs ys h1 hxs hys hy0 hy48 hlen =>
    exact Or.inr ⟨_, _, _, _, _, _, _, real_fixed neg d1 xs ys h1 hxs hys hy0 hy48 (by omega),
      by simp only [if_true]; omega, fun _ h => by obtain ⟨_, h⟩ := h; omega⟩
  | small neg zs d1 ys hz hzl h1 hys hlen =>
    exact Or.inr ⟨_, _, _, _, _, _, _, real_small neg zs d1 ys hz hzl h1 hys (by omega),
      by simp only [if_true]; omega, fun _ h => by obtain ⟨_, h⟩ := h; omega⟩
  | sci neg d1 ys eneg ks h1 hys hy48 hlen hks hk0 hk8 hrange hcond =>
    exact Or.inr ⟨_, _, _, _, _, _, _, real_sci neg d1 ys eneg ks h1 hys hy48 (by omega) hks hk0 hk8, hrange, hcond⟩

/-- **C11, parser half, for the class `Text17`**: on every `%.17g`-shaped text whose value keeps
1/32 ulp away from the rounding boundaries, `Digit::StringToNumber` (followed by the callers'
integer→double conversion) returns exactly the correctly rounded double of the reference reader. -/
theorem parse_exact17 (t : List Nat) (ht : Text17 t) (hm : MarginText t) : parseDouble t = FmtSpec.readBits64 t := by
  rcases text17_real t ht with ⟨neg, ds, rfl, hds, hne, hlead, hlen⟩ | ⟨neg, v, n, X, FLAG, num, den, h, hrange, hcond⟩
  · exact parse_exact_int neg ds hds hne hlead hlen
  · exact h.exact hrange hcond (hm _ _ _ h.read h.num_ne)

/-! ### `ParsesExactly17` (Props/C11.lean) from the formatter-side facts

`ParsesExactly17 parseDouble` is: for every finite `b` with `format17 b = .ok t`,
`parseDouble t = FmtSpec.readBits64 t`. `parse_exact17` proves the conclusion from two facts about
`t` alone, which are formatter-side (notes/c11-interface.md; proved in Proofs/NumToStrText17.lean — `shape17_format`,
`marginText_format` — and Props/C11Closed.lean — `text17_format`): every `%.17g` text is a `Text17` and keeps the
1/32-ulp margin. -/
open Qentem.NumToStr in
theorem parsesExactly17_partial (b : Nat) (t : List Nat) (_hb : Qentem.Props.C11.isFinite64 b)
    (_hf : format17 b = .ok t) (ht : Text17 t) (hm : MarginText t) :
    parseDouble t = FmtSpec.readBits64 t := parse_exact17 t ht hm

open Qentem.NumToStr in
/-- the reduction: shape + margin for every formatted text give the parser half of C11, and with it
the whole round trip through the real parser -/
theorem roundtrip17_of_formatter
    (h : ∀ b t, Qentem.Props.C11.isFinite64 b → format17 b = .ok t → Text17 t ∧ MarginText t) :
    Qentem.Props.C11.ParsesExactly17 parseDouble ∧ Qentem.Props.C11.RoundTrip17 parseDouble := by
  have hp : Qentem.Props.C11.ParsesExactly17 parseDouble := fun b t hb hf =>
    parse_exact17 t (h b t hb hf).1 (h b t hb hf).2
  exact ⟨hp, Qentem.Props.C11.roundtrip17_of_parser parseDouble hp⟩

/-- instances (kernel evaluation, tests): the `%.17g` texts of 0.1, 1/3, 5e-324, 1.7976931348623157e308
parse back to their bit patterns; `3.14` is a `Text17` -/
example : parseDouble [48,46,49,48,48,48,48,48,48,48,48,48,48,48,48,48,48,48,49] = some 0x3FB999999999999A := by decide +kernel
example : parseDouble [48,46,51,51,51,51,51,51,51,51,51,51,51,51,51,51,51,51,49] = some 0x3FD5555555555555 := by decide +kernel
example : parseDouble [52,46,57,52,48,54,53,54,52,53,56,52,49,50,52,54,53,52,101,45,51,50,52] = some 1 := by decide +kernel
example : parseDouble [49,46,55,57,55,54,57,51,49,51,52,56,54,50,51,49,53,55,101,43,51,48,56] = some 0x7FEFFFFFFFFFFFFF := by decide +kernel
example : Text17 [51,46,49,52] := Text17.fixed false 51 [] [49,52] (by decide) (by intro y hy; simp at hy)
  (by intro y hy; simp at hy; rcases hy with h | h <;> subst h <;> decide) (by simp) (by simp) (by simp)

end Qentem.Props.C11P
