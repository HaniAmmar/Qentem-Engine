import Qentem.Props.C09General
import Qentem.Proofs.StrToNumText
/-! C09 — **the general statements**: for every well-formed numeral of the grammar
`[+-]? digits (. digits)? ([eE] [+-]? digits)?` without a leading zero and of at most 99 999 000 units,
`real_within_one_ulp_closed` and `overflow_reported_closed` — the `def`s `real_within_one_ulp` /
`overflow_reported` of `Props/C09.lean` with the documented length bound in place of `< 2^32`. -/
namespace Qentem.Props.C09
open Qentem.StrToNum Qentem.Round Qentem.Generated.StrToNum

/-! ### the bridge from the grammar -/

/-- **every text of the grammar, anywhere in a buffer**: `sign ++ I ++ DF ++ EP` laid out from `o`, ending at
`end_offset` or at a unit that cannot continue it, at most 99 999 000 units of buffer -/
theorem text_good (c : List Nat) (o e : Nat) (sign I F DF EP es ks : List Nat)
    (hs : sign = [] ∨ sign = [43] ∨ sign = [45]) (hI : AllDigits I)
    (hlead : I = [48] ∨ ∃ d1 xs, I = d1 :: xs ∧ isNonZeroDigit d1 = true) (hF : AllDigits F)
    (hDF : (DF = [] ∧ F = []) ∨ (DF = 46 :: F ∧ F ≠ [])) (hEP : ExpPart EP es ks)
    (hu : unitsAt c e o (sign ++ I ++ DF ++ EP))
    (hend : endsAt c e (o + sign.length + I.length + DF.length + EP.length) (numEnd EP)) (hbound : e ≤ 99999000) :
    NumGood (decide (sign = [45])) (valFrac (decVal (I ++ F)) (decVal ks) (decide (es = [45])) F.length).1
      (valFrac (decVal (I ++ F)) (decVal ks) (decide (es = [45])) F.length).2
      (o + sign.length + I.length + DF.length + EP.length) (strToNum c o e) := by
  have hfin := endsAt_le hend
  rcases hlead with rfl | ⟨d1, xs, rfl, h1⟩
  · obtain ⟨zs, G, hFeq, hz, hGh⟩ := zeros_split F hF
    exact good_zero_lead c o e sign zs G F DF EP es ks hs hz
      (fun y hy => hF y (hFeq ▸ List.mem_append_right _ hy)) hGh hFeq hDF hEP hu hend hbound
  · have hxs : AllDigits xs := fun y hy => hI y (List.mem_cons_of_mem _ hy)
    rw [List.length_cons] at hend hfin ⊢
    by_cases hne : DF = [] ∧ EP = []
    · obtain ⟨rfl, rfl⟩ := hne
      obtain ⟨rfl, rfl⟩ : es = [] ∧ ks = [] := by
        rcases hEP with ⟨_, a, b⟩ | ⟨m, _, h, _⟩
        · exact ⟨a, b⟩
        · cases h
      obtain rfl : F = [] := by
        rcases hDF with ⟨_, h⟩ | ⟨h, _⟩
        · exact h
        · cases h
      rw [List.append_nil, List.append_nil] at hu
      rw [List.append_nil, valFrac_plain]
      rw [numEnd_nil] at hend
      exact (good_int_only c o e sign d1 xs hs h1 hxs hu (endsAt_cast hend (by simp only [List.length_nil]; omega))
        hbound).imp (fun h => good_cast h (by simp only [List.length_nil]; omega)) id
    · left
      have hne' : DF ≠ [] ∨ EP ≠ [] := by
        by_cases h : DF = []
        · exact Or.inr (fun h' => hne ⟨h, h'⟩)
        · exact Or.inl h
      have hendR := numEnd_real hend
      by_cases hlong : 18 ≤ xs.length
      · obtain ⟨x18, rest, rfl, hl18⟩ := split_at xs 18 hlong
        rw [List.length_append] at hend hendR hfin ⊢
        exact good_cast (good_int_long c o e sign d1 x18 rest F DF EP es ks (by omega) (by omega) (fun _ => hbound) hs h1
          (fun y hy => hxs y (List.mem_append_left _ hy)) hl18 (fun y hy => hxs y (List.mem_append_right _ hy)) hF hDF hEP
          hu (endsAt_cast hendR (by omega)) (hne'.imp id Or.inl)) (by omega)
      · rcases hDF with ⟨rfl, rfl⟩ | ⟨rfl, _⟩
        · rw [List.append_nil] at hu ⊢
          exact good_cast (good_int_short_exp c o e sign d1 xs EP es ks hs h1 hxs (by omega) hEP
            (hne'.resolve_left (fun h => h rfl)) hu (endsAt_cast hendR (by simp only [List.length_nil]; omega)) hbound)
            (by simp only [List.length_nil]; omega)
        · exact good_cast (good_dot_short c o e sign d1 xs F EP es ks hs h1 hxs hF (by omega) hEP
            (by rw [List.append_assoc sign] at hu; exact hu)
            (endsAt_cast hendR (by simp only [List.length_cons]; omega)) hbound) (by simp only [List.length_cons]; omega)

/-- **every numeral of the grammar** (well formed, no leading zero, at most 99 999 000 units): the result of
`StringToNumber` on its text is `NumGood` for its exact value -/
theorem numeral_good (x : Numeral) (hwf : x.wf = true) (hlz : x.leadingZero = false) (hlen : x.units.length ≤ 99999000) :
    NumGood x.neg x.magFrac.1 x.magFrac.2 x.units.length (strToNum x.units 0 x.units.length) := by
  obtain ⟨neg, plus, intD, fracD, hasDot, hasExp, expNeg, expPlus, expD, upperE⟩ := x
  simp only [Numeral.wf, Bool.and_eq_true, Bool.or_eq_true, Bool.not_eq_eq_eq_not, Bool.not_true] at hwf
  obtain ⟨⟨⟨⟨⟨⟨⟨⟨⟨⟨w1, w2⟩, w3⟩, w4⟩, w5⟩, w6⟩, w7⟩, w8⟩, _⟩, _⟩, _⟩ := hwf
  simp only [Numeral.leadingZero] at hlz
  have hlead : intD.map (· + 48) = [48] ∨ ∃ d1 xs, intD.map (· + 48) = d1 :: xs ∧ isNonZeroDigit d1 = true := by
    cases intD with
    | nil => cases w1
    | cons d ds =>
      by_cases hd0 : d = 0
      · subst hd0
        cases ds with
        | nil => exact Or.inl rfl
        | cons a b => simp at hlz
      · have hd9 : d ≤ 9 := by simpa using List.all_eq_true.1 w2 d (List.mem_cons_self ..)
        exact Or.inr ⟨d + 48, ds.map (· + 48), rfl, by simp only [isNonZeroDigit, Bool.and_eq_true, decide_eq_true_eq]; omega⟩
  have hDF : ((if hasDot then 46 :: fracD.map (· + 48) else []) = [] ∧ fracD.map (· + 48) = []) ∨
      ((if hasDot then 46 :: fracD.map (· + 48) else []) = 46 :: fracD.map (· + 48) ∧ fracD.map (· + 48) ≠ []) := by
    cases hasDot with
    | false => exact Or.inl ⟨rfl, by simp at w5; rw [w5]; rfl⟩
    | true => exact Or.inr ⟨rfl, fun h => by simp at w6; exact w6 (List.map_eq_nil_iff.1 h)⟩
  -- without an exponent the exponent fields are empty
  have hEP : ExpPart (if hasExp then (if upperE then 69 else 101) ::
        ((if expNeg then [45] else if expPlus then [43] else []) ++ expD.map (· + 48)) else [])
      (if expNeg then [45] else if expPlus then [43] else []) (expD.map (· + 48)) := by
    cases hasExp with
    | false =>
      simp at w7
      obtain ⟨⟨a, b⟩, c⟩ := w7
      rw [a, b, c]
      exact expPart_nil
    | true =>
      exact expPart_cons (by cases upperE <;> simp) (by cases expNeg <;> cases expPlus <;> simp) (allDigits_map _ w4)
        (fun h => by simp at w8; exact w8 (List.map_eq_nil_iff.1 h))
  -- the text is its own buffer and ends at its length
  have hclen : ∀ t1 t2 t3 t4 : List Nat, 0 + t1.length + t2.length + t3.length + t4.length = (t1 ++ t2 ++ t3 ++ t4).length :=
    fun _ _ _ _ => by simp only [List.length_append]; omega
  have h := text_good _ 0 _ (if neg then [45] else if plus then [43] else []) (intD.map (· + 48)) (fracD.map (· + 48)) _ _ _ _
    (by cases neg <;> cases plus <;> simp) (allDigits_map _ w2) hlead (allDigits_map _ w3) hDF hEP (unitsAt_self _)
    (Or.inl (hclen _ _ _ _)) hlen
  rw [hclen, ← List.map_append, decVal_map, decVal_map, List.length_map,
    show decide ((if neg then [45] else if plus then [43] else []) = [45]) = neg by cases neg <;> cases plus <;> rfl,
    show decide ((if expNeg then [45] else if expPlus then [43] else []) = [45]) = expNeg by
      cases expNeg <;> cases expPlus <;> rfl] at h
  exact h

/-! ### the closed statements -/

/-- **`real_within_one_ulp_closed`** — for every well-formed numeral without a leading zero of at most 99 999 000 units:
whenever `StringToNumber` (as modelled) returns a finite `Real`, its magnitude pattern is within one unit in the last
place of the correctly rounded (nearest, ties to even, gradual underflow) binary64 value of the numeral's exact
value. This is `real_within_one_ulp` (Props/C09.lean) with the documented length bound in place of `< 2^32`; the
hypothesis `magBits r < infBits` is kept from there and not needed (an infinity is within the bound as well). -/
theorem real_within_one_ulp_closed :
    ∀ (x : Numeral), x.wf = true → x.leadingZero = false → x.units.length ≤ 99999000 →
      ∀ r, strToNum x.units 0 x.units.length = some r → r.kind = .real → magBits r < infBits →
        ulpDist (magBits r) (nearestMag x.magFrac.1 x.magFrac.2) ≤ 1 := by
  intro x hwf hlz hlen r hr hk _
  rcases numeral_good x hwf hlz hlen with ⟨r', h1, _, h3⟩ | ⟨r', h1, h2, _⟩
  · rw [hr] at h1; cases h1
    rcases h3 with ⟨a, _⟩ | ⟨_, _, c, _⟩
    · rw [hk] at a; cases a
    · exact c
  · rw [hr] at h1; cases h1
    rcases h2 with h | h <;> (rw [hk] at h; cases h)

/-- **`overflow_reported_closed`** — for every such numeral whose exact value exceeds the largest finite double the result
is `NotANumber`, or a `Real` that is an infinity (or NaN pattern) or the largest finite double (possible only when the
value rounds to it) — never a smaller finite value. This is `overflow_reported` with the documented length bound. -/
theorem overflow_reported_closed :
    ∀ (x : Numeral), x.wf = true → x.leadingZero = false → x.units.length ≤ 99999000 →
      exceedsMaxFinite x.magFrac.1 x.magFrac.2 = true →
      ∀ r, strToNum x.units 0 x.units.length = some r →
        r.kind = .notANumber ∨ (r.kind = .real ∧ (magBits r ≥ infBits ∨ magBits r = maxFiniteBits)) := by
  intro x hwf hlz hlen hex r hr
  have hov : (2 ^ 53 - 1) * 2 ^ 971 * x.magFrac.2 < x.magFrac.1 := by
    unfold exceedsMaxFinite at hex
    rw [decide_eq_true_eq, gt_iff_lt] at hex
    convert hex using 2
  rcases numeral_good x hwf hlz hlen with ⟨r', h1, _, h3⟩ | ⟨r', h1, _, h3⟩
  · rw [hr] at h1; cases h1
    rcases h3 with ⟨a, _⟩ | ⟨a, _, _, d⟩
    · exact Or.inl a
    · right
      refine ⟨a, ?_⟩
      rcases d hov with h | h
      · exact Or.inr h
      · exact Or.inl h
  · exfalso
    have h64 : (2 : Nat) ^ 64 ≤ (2 ^ 53 - 1) * 2 ^ 971 := by decide +kernel
    have h2 : 2 ^ 64 * x.magFrac.2 ≤ (2 ^ 53 - 1) * 2 ^ 971 * x.magFrac.2 := Nat.mul_le_mul_right _ h64
    exact Nat.lt_irrefl _ (Nat.lt_trans hov (Nat.lt_of_lt_of_le h3 h2))

end Qentem.Props.C09
