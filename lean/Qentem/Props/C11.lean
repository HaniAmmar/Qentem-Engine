import Qentem.Proofs.NumToStrParse
import Qentem.Props.C10
import Qentem.Proofs.NumToStrMargin
/-! C11 — every finite double survives format(17 digits) then parse, bit for bit; every float
survives 9 digits.

The parser (`Digit::StringToNumber`) is modelled in another area; apart from `roundtrip17_integers_parser`
nothing here depends on it.  The round trip is stated over an abstract `parse : List Nat → Option Nat`
(text ↦ bit pattern) and split into a formatter half that only mentions this area's model and the exact
reference reading `FmtSpec.readBits64` (IEEE 754 round-to-nearest-even of the exact decimal value), and a
parser half; the parser half for the real parser model, and with it `roundtrip17` and `roundtrip9`, is in
`Props/C11Closed.lean`.

What `roundtrip17` rests on here: `format17_is_reference` + `spec_identifies17` → `identifies17` → `roundtrip17_of_halves`
→ `roundtrip17_of_parser`.  The other reductions (`…_reduced`, `…_of_gap`, `ParsesReference17/9`) state the same split in
other words and have no further user.  Floats do not go through `ParsesExactly9` (it is not established for the parser
model: one ulp off is allowed there) but through `text_margin9` (below) and `ParsesClose9` (`Props/C11Closed.lean`). -/
namespace Qentem.Props.C11
open Qentem.NumToStr

def isFinite64 (b : Nat) : Prop := b < 2 ^ 64 ∧ (b / 2 ^ 52) % 2 ^ 11 ≠ 2 ^ 11 - 1
def isFinite32 (b : Nat) : Prop := b < 2 ^ 32 ∧ (b / 2 ^ 23) % 2 ^ 8 ≠ 2 ^ 8 - 1

instance (b : Nat) : Decidable (isFinite64 b) := by unfold isFinite64; infer_instance
instance (b : Nat) : Decidable (isFinite32 b) := by unfold isFinite32; infer_instance

/-- **C11, full statement**: formatting with 17 significant digits never fails and the
parser maps the text back to the same bits. -/
def RoundTrip17 (parse : List Nat → Option Nat) : Prop :=
  ∀ b, isFinite64 b → ∃ t, format17 b = .ok t ∧ parse t = some b

/-- floats, 9 digits -/
def RoundTrip9 (parse : List Nat → Option Nat) : Prop :=
  ∀ b, isFinite32 b → ∃ t, format9 b = .ok t ∧ parse t = some b

/-- Formatter half: the 17-digit text identifies `b` — its exact decimal value rounds
(nearest, ties to even) to `b`. -/
def Identifies17 : Prop :=
  ∀ b, isFinite64 b → ∃ t, format17 b = .ok t ∧ FmtSpec.readBits64 t = some b

def Identifies9 : Prop :=
  ∀ b, isFinite32 b → ∃ t, format9 b = .ok t ∧ FmtSpec.readBits32 t = some b

/-- Parser half: on the texts the formatter emits, the parser returns the correctly rounded value. -/
def ParsesExactly17 (parse : List Nat → Option Nat) : Prop :=
  ∀ b t, isFinite64 b → format17 b = .ok t → parse t = FmtSpec.readBits64 t

def ParsesExactly9 (parse : List Nat → Option Nat) : Prop :=
  ∀ b t, isFinite32 b → format9 b = .ok t → parse t = FmtSpec.readBits32 t

/-- The decomposition is sound: the two halves give the round trip, for any parser. -/
theorem roundtrip17_of_halves (parse : List Nat → Option Nat)
    (hf : Identifies17) (hp : ParsesExactly17 parse) : RoundTrip17 parse := by
  intro b hb
  obtain ⟨t, ht, hr⟩ := hf b hb
  exact ⟨t, ht, by rw [hp b t hb ht, hr]⟩

theorem roundtrip9_of_halves (parse : List Nat → Option Nat)
    (hf : Identifies9) (hp : ParsesExactly9 parse) : RoundTrip9 parse := by
  intro b hb
  obtain ⟨t, ht, hr⟩ := hf b hb
  exact ⟨t, ht, by rw [hp b t hb ht, hr]⟩

/-- `Identifies17` restricted to a set of bit patterns -/
def Identifies17On (P : Nat → Prop) : Prop :=
  ∀ b, P b → ∃ t, format17 b = .ok t ∧ FmtSpec.readBits64 t = some b

def Identifies9On (P : Nat → Prop) : Prop :=
  ∀ b, P b → ∃ t, format9 b = .ok t ∧ FmtSpec.readBits32 t = some b

/-- both zeros (`0`, `-0`) -/
theorem identifies17_zero : Identifies17On (fun b => b = 0 ∨ b = 2 ^ 63) := by
  intro b hb
  rcases hb with rfl | rfl
  · exact ⟨[48], by decide +kernel, by decide +kernel⟩
  · exact ⟨[45, 48], by decide +kernel, by decide +kernel⟩

theorem identifies9_zero : Identifies9On (fun b => b = 0 ∨ b = 2 ^ 31) := by
  intro b hb
  rcases hb with rfl | rfl
  · exact ⟨[48], by decide +kernel, by decide +kernel⟩
  · exact ⟨[45, 48], by decide +kernel, by decide +kernel⟩

/-- for every double that holds an integer of magnitude below 2^53
(either sign) the 17-digit text is exactly the decimal numeral of that integer — no fault, no
exponent form, no rounding — and the reference reader recovers exactly the same value
`n · den / den` that the bit pattern decodes to.  Hence *any* parser that is exact on integer numerals
of at most 16 digits (C09's `int_exact_natural` / `int_exact_negative`) returns the original double. -/
theorem roundtrip_small_int (bits j : Nat)
    (h : Qentem.Proofs.NumToStr.IntValued64 ((bits / 2 ^ 52) % 2 ^ 11) (bits % 2 ^ 52) j)
    (hsmall : (bits / 2 ^ 52) % 2 ^ 11 - 1023 ≤ 52) :
    ∃ t neg n den, 0 < den ∧ format17 bits = .ok t ∧
      FmtSpec.readDecimal t = some (neg, n, 1) ∧ FmtSpec.decode64 bits = .fin neg (n * den) den := by
  obtain ⟨den, hden, hdec⟩ := Qentem.Proofs.NumToStr.decode64_int h
  exact ⟨_, _, _, den, hden, Qentem.Proofs.NumToStr.format17_small_int bits j h hsmall,
    Qentem.Proofs.NumToStr.readDecimal_signed_D _ _, hdec⟩

/-- the round trip **through the real parser model** (`StrToNum.strToNum`, C09)
for every double holding an integer `n` with `0 < n < 2^53`, either sign: `NumberToString(17)` prints a text `t`
on which `stringToNumber` returns kind Natural with value exactly `n` (kind Integer with the two's-complement
pattern of `-n` for negative values) and consumes all of `t`; `n·den/den` is the value the bit pattern decodes
to.  The library's `double(n)` of an integer below 2^53 is exact, so the original bits come back. -/
theorem roundtrip17_integers_parser (bits j : Nat)
    (h : Qentem.Proofs.NumToStr.IntValued64 ((bits / 2 ^ 52) % 2 ^ 11) (bits % 2 ^ 52) j)
    (hsmall : (bits / 2 ^ 52) % 2 ^ 11 - 1023 ≤ 52) :
    ∃ t n den, 0 < den ∧ format17 bits = .ok t ∧
      FmtSpec.decode64 bits = .fin (decide (bits / 2 ^ 63 % 2 = 1)) (n * den) den ∧
      StrToNum.strToNum t 0 t.length =
        some (if bits / 2 ^ 63 % 2 = 1 then ⟨.integer, 2 ^ 64 - n, t.length⟩ else ⟨.natural, n, t.length⟩) :=
  Qentem.Proofs.NumToStr.roundtrip17_int_parser bits j h hsmall

/-- The two halves of `RoundTrip17` as one hypothesis.  `Identifies17` holds (`identifies17`), so what a parser has to
supply is `ParsesExactly17` alone (`roundtrip17_of_parser`): the nearest double on those numerals, one ulp would not be
enough; for the parser model that is `parsesExactly17` in `Props/C11Closed.lean`. -/
def RoundTrip17Gap (parse : List Nat → Option Nat) : Prop := Identifies17 ∧ ParsesExactly17 parse

theorem roundtrip17_of_gap (parse : List Nat → Option Nat) (h : RoundTrip17Gap parse) : RoundTrip17 parse :=
  roundtrip17_of_halves parse h.1 h.2

/-! ### the formatter half after `FormatEqSpec`

`Props.C10.format_eq_spec` makes the 17-digit (9-digit) text *equal to the reference `%.17g` (`%.9g`) text* for every
bit pattern.  The formatter half of the round trip is therefore a statement about the reference alone; the code
does not occur in it. -/

/-- for **every** bit pattern the 17-digit text of the model is the reference `%.17g` text,
and the run raises no fault -/
theorem format17_is_reference (b : Nat) : format17 b = .ok (FmtSpec.format64 b 17 .default) := by
  have := Qentem.Props.C10.format_eq_spec_double [] b 17 Qentem.Generated.NumToStr.fmtDefault (by decide) (by decide)
  have hf : Qentem.Props.C10.specFmt Qentem.Generated.NumToStr.fmtDefault = .default := by decide
  rw [hf] at this
  simpa [format17, realText] using this

theorem format9_is_reference (b : Nat) : format9 b = .ok (FmtSpec.format32 b 9 .default) := by
  have := Qentem.Props.C10.format_eq_spec_float [] b 9 Qentem.Generated.NumToStr.fmtDefault (by decide) (by decide)
  have hf : Qentem.Props.C10.specFmt Qentem.Generated.NumToStr.fmtDefault = .default := by decide
  rw [hf] at this
  simpa [format9, realText] using this

/-- the purely mathematical core of the formatter half: a binary64 value printed with 17 correctly rounded
significant digits (`%.17g`) and read back exactly with round-to-nearest-even gives the same value.  A statement
about `FmtSpec` (IEEE 754 + `printf`) only — no part of the library's code occurs in it. -/
def SpecIdentifies17 : Prop :=
  ∀ b, isFinite64 b → FmtSpec.readBits64 (FmtSpec.format64 b 17 .default) = some b

def SpecIdentifies9 : Prop :=
  ∀ b, isFinite32 b → FmtSpec.readBits32 (FmtSpec.format32 b 9 .default) = some b

/-- the formatter half of C11 follows from the mathematical statement alone -/
theorem identifies17_of_spec (h : SpecIdentifies17) : Identifies17 :=
  fun b hb => ⟨_, format17_is_reference b, h b hb⟩

theorem identifies9_of_spec (h : SpecIdentifies9) : Identifies9 :=
  fun b hb => ⟨_, format9_is_reference b, h b hb⟩

/-- the parser half on reference texts only -/
def ParsesReference17 (parse : List Nat → Option Nat) : Prop :=
  ∀ b, isFinite64 b → parse (FmtSpec.format64 b 17 .default) = FmtSpec.readBits64 (FmtSpec.format64 b 17 .default)

def ParsesReference9 (parse : List Nat → Option Nat) : Prop :=
  ∀ b, isFinite32 b → parse (FmtSpec.format32 b 9 .default) = FmtSpec.readBits32 (FmtSpec.format32 b 9 .default)

/-- **C11 given `FormatEqSpec`** — no statement about the formatter's code occurs.  The round trip holds for any parser as soon as (1) 17 correctly rounded digits identify a double
(`SpecIdentifies17`, mathematics: `spec_identifies17` below) and (2) the parser rounds `%.17g`-shaped numerals
correctly (`ParsesReference17`, the StringToNumber area). -/
theorem roundtrip17_reduced (parse : List Nat → Option Nat) (h1 : SpecIdentifies17) (h2 : ParsesReference17 parse) :
    RoundTrip17 parse :=
  fun b hb => ⟨_, format17_is_reference b, by rw [h2 b hb, h1 b hb]⟩

theorem roundtrip9_reduced (parse : List Nat → Option Nat) (h1 : SpecIdentifies9) (h2 : ParsesReference9 parse) :
    RoundTrip9 parse :=
  fun b hb => ⟨_, format9_is_reference b, by rw [h2 b hb, h1 b hb]⟩

/-- **17 correctly rounded significant digits identify a binary64 value** — for every finite
double (subnormals, both zeros included) the reference `%.17g` text, read exactly and rounded to nearest-even, is
the same bit pattern.  (The classical `2^53 < 10^16` argument: the decimal step at 17 digits is smaller than the
binary step, and smaller than half of it at the bottom of a binade.)  About the reference only. -/
theorem spec_identifies17 : SpecIdentifies17 := fun b hb =>
  Qentem.Proofs.Ident.readBits_format 52 11 17 17 b (by decide) (by decide) (by norm_num)
    Qentem.Proofs.Ident.range64 hb.1 hb.2

/-- 9 digits identify a binary32 value (`2^24 < 10^8`) -/
theorem spec_identifies9 : SpecIdentifies9 := fun b hb =>
  Qentem.Proofs.Ident.readBits_format 23 8 9 9 b (by decide) (by decide) (by norm_num)
    Qentem.Proofs.Ident.range32 hb.1 hb.2

/-- **the formatter half of C11 holds**: for every finite double `NumberToString` with 17
significant digits (as modelled) raises no fault and prints a text whose exact decimal value rounds
(nearest, ties to even) to the original bits.  `format_eq_spec` (text = reference) + `spec_identifies17`. -/
theorem identifies17 : Identifies17 := identifies17_of_spec spec_identifies17

/-- the same for floats with 9 digits -/
theorem identifies9 : Identifies9 := identifies9_of_spec spec_identifies9

/-- **C11 for any parser that rounds correctly**: the only hypothesis left is about the
parser (`ParsesExactly17`: on the texts the formatter emits it returns the nearest double). -/
theorem roundtrip17_of_parser (parse : List Nat → Option Nat) (hp : ParsesExactly17 parse) : RoundTrip17 parse :=
  roundtrip17_of_halves parse identifies17 hp

theorem roundtrip9_of_parser (parse : List Nat → Option Nat) (hp : ParsesExactly9 parse) : RoundTrip9 parse :=
  roundtrip9_of_halves parse identifies9 hp

open Qentem.Proofs.Ident in
/-- for every finite non-zero double the reference `%.17g` text reads as `(sign, m, d)` with
`|m/d − |x|| < 2^52/10^16 ulp(x)` (`< 0.4504 ulp`); every rational within `ulp/64` of `m/d` lies strictly between
the rounding midpoints around `|x|` (a quarter ulp below a power of two), and `FmtSpec.nearestBits` maps it to the
bits.  So a parser whose computed value is within `ulp/64` of the text's exact value and that rounds correctly
away from ties (nearest-even, half-up, …) returns `x`.  (`Proofs/NumToStrMargin.lean`; generic in the format.) -/
theorem text_margin17 (b : Nat) (hb : isFinite64 b) (hnz : (b / 2 ^ 52) % 2 ^ 11 ≠ 0 ∨ b % 2 ^ 52 ≠ 0) :
    ∃ m d : Nat, 0 < d ∧
      FmtSpec.readDecimal (FmtSpec.format64 b 17 .default) = some (decide ((b / 2 ^ 63) % 2 = 1), m, d) ∧
      |(m : ℚ) / d - magQ 52 11 b| < (2 : ℚ) ^ 52 / 10 ^ 16 * ulpQ 52 11 b ∧
      (∀ y : ℚ, |y - (m : ℚ) / d| ≤ 1 / 64 * ulpQ 52 11 b →
        magQ 52 11 b - ulpQ 52 11 b / 2 < y ∧ y < magQ 52 11 b + ulpQ 52 11 b / 2 ∧
        (sigField 52 11 b = 2 ^ 52 → magQ 52 11 b - ulpQ 52 11 b / 4 < y)) ∧
      (∀ rn rd : Nat, 0 < rd → |(rn : ℚ) / rd - (m : ℚ) / d| ≤ 1 / 64 * ulpQ 52 11 b →
        FmtSpec.nearestBits 52 11 (decide ((b / 2 ^ 63) % 2 = 1)) rn rd = b) :=
  margin_format 52 11 17 17 b (1 / 64) (by decide) (by decide) range64 hb.1 (by norm_num) (by norm_num) hb.2 hnz

open Qentem.Proofs.Ident in
/-- the same for floats (`2^23/10^8 < 0.084 ulp`) -/
theorem text_margin9 (b : Nat) (hb : isFinite32 b) (hnz : (b / 2 ^ 23) % 2 ^ 8 ≠ 0 ∨ b % 2 ^ 23 ≠ 0) :
    ∃ m d : Nat, 0 < d ∧
      FmtSpec.readDecimal (FmtSpec.format32 b 9 .default) = some (decide ((b / 2 ^ 31) % 2 = 1), m, d) ∧
      |(m : ℚ) / d - magQ 23 8 b| < (2 : ℚ) ^ 23 / 10 ^ 8 * ulpQ 23 8 b ∧
      (∀ y : ℚ, |y - (m : ℚ) / d| ≤ 1 / 64 * ulpQ 23 8 b →
        magQ 23 8 b - ulpQ 23 8 b / 2 < y ∧ y < magQ 23 8 b + ulpQ 23 8 b / 2 ∧
        (sigField 23 8 b = 2 ^ 23 → magQ 23 8 b - ulpQ 23 8 b / 4 < y)) ∧
      (∀ rn rd : Nat, 0 < rd → |(rn : ℚ) / rd - (m : ℚ) / d| ≤ 1 / 64 * ulpQ 23 8 b →
        FmtSpec.nearestBits 23 8 (decide ((b / 2 ^ 31) % 2 = 1)) rn rd = b) :=
  margin_format 23 8 9 9 b (1 / 64) (by decide) (by decide) range32 hb.1 (by norm_num) (by norm_num) hb.2 hnz

/-- non-vacuity / sanity: for 0.1 the fields are e1 = 1019, M = 0x1999999999999A -/
example : Qentem.Proofs.Ident.expField 52 11 0x3FB999999999999A = 1019 ∧
    Qentem.Proofs.Ident.sigField 52 11 0x3FB999999999999A = 0x1999999999999A := by decide

/-- non-vacuity: 3.0 and -(2^53 - 1) satisfy the hypotheses -/
example : Qentem.Proofs.NumToStr.IntValued64 ((0x4008000000000000 / 2 ^ 52) % 2 ^ 11) (0x4008000000000000 % 2 ^ 52) 51 := by
  constructor <;> decide
example : Qentem.Proofs.NumToStr.IntValued64 ((0xC33FFFFFFFFFFFFF / 2 ^ 52) % 2 ^ 11) (0xC33FFFFFFFFFFFFF % 2 ^ 52) 0 := by
  constructor <;> decide
example : format17 0xC33FFFFFFFFFFFFF = .ok [45, 57, 48, 48, 55, 49, 57, 57, 50, 53, 52, 55, 52, 48, 57, 57, 49] := by
  decide +kernel  -- -9007199254740991

/-! Kernel-evaluated instances of the formatter half on boundary patterns.  These are **tests**
(closed instances decided by evaluation), not part of the proof of the general statement:
smallest subnormal, largest subnormal, smallest normal, largest finite and its negative, 0.1, 2^53, 1/3, the negative
smallest subnormal, 1.0, 1.4375·2^-306; for binary32 the corresponding patterns (2^24 for 2^53) without the last but
two and the last, and the subnormal `0x3F`. -/
def boundary64 : List Nat :=
  [1, 0x000FFFFFFFFFFFFF, 0x0010000000000000, 0x7FEFFFFFFFFFFFFF, 0xFFEFFFFFFFFFFFFF, 0x3FB999999999999A,
   0x4340000000000000, 0x3FD5555555555555, 0x8000000000000001, 0x3FF0000000000000, 0x2cd7000000000000]

def boundary32 : List Nat :=
  [1, 0x007FFFFF, 0x00800000, 0x7F7FFFFF, 0xFF7FFFFF, 0x3DCCCCCD, 0x4B800000, 0x3EAAAAAB, 0x3F800000, 0x0000003F]

def identifiesB64 (b : Nat) : Bool :=
  match format17 b with
  | .ok t => FmtSpec.readBits64 t == some b
  | .error _ => false

def identifiesB32 (b : Nat) : Bool :=
  match format9 b with
  | .ok t => FmtSpec.readBits32 t == some b
  | .error _ => false

theorem identifies_boundary_instances :
    boundary64.all identifiesB64 = true ∧ boundary32.all identifiesB32 = true := by decide +kernel

/-! Non-vacuity of the hypotheses used above. -/
example : isFinite64 0x3FB999999999999A := by decide
example : ¬ isFinite64 0x7FF0000000000000 := by decide
example : isFinite32 0x3DCCCCCD := by decide

end Qentem.Props.C11
