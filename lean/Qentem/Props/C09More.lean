import Qentem.Props.C09Outcome
/-! C09 — shapes of `real_within_one_ulp` / `overflow_reported` beyond `ddd.ddd`: `ddd.0[e±k…]` (the single zero after
the dot on which the windowed scan stops early), exponents with any number of digits (leading zeros; nine or more
significant digits are out of range), zero-valued numerals, `0.000…ddd` with any number of leading zeros.
All statements are `ClassOutcome` (Proofs/StrToNumRealResult.lean): consumed to the end of the numeral; NotANumber only
if the value is outside the double range; otherwise a `Real` with the text's sign within one ulp of the correctly
rounded value. -/
namespace Qentem.Props.C09
open Qentem.StrToNum Qentem.Round Qentem.Generated.StrToNum

/-! ### `ddd.0` -/

/-- `[+-]? d₁ xs . 0` then the end of the numeral (`1.0`, `-250.0`, …): value `d₁xs` -/
theorem real_within_one_ulp_dotzero_end (c : List Nat) (o e : Nat) (sign : List Nat) (d1 : Nat) (xs : List Nat)
    (he : e < 2 ^ 32) (hs : sign = [] ∨ sign = [43] ∨ sign = [45]) (h1 : isNonZeroDigit d1 = true)
    (hxs : AllDigits xs) (hlen : xs.length ≤ 17)
    (hu : unitsAt c e o (sign ++ (d1 :: xs ++ [46, 48])))
    (hend : endsAt c e (o + sign.length + 1 + xs.length + 2) contReal) :
    ClassOutcome (decide (sign = [45])) (decVal (d1 :: xs)) 0 false
      (o + sign.length + 1 + xs.length + 2) (strToNum c o e) := by
  obtain ⟨heq, hv⟩ := strToNum_dotzero c o e sign d1 xs [] [] [] he hs h1 hxs hlen expPart_nil (unitsAt_end hu) hend
  have h := class_expResult heq hv (fun h => absurd h (by decide))
  rwa [netExp_nil, if_pos rfl] at h

/-- `[+-]? d₁ xs . 0 (e|E) [+-]? ks` — exponent of **any** number of digits (value `d₁xs · 10^(±ks)`) -/
theorem real_within_one_ulp_dotzero_exp (c : List Nat) (o e : Nat) (sign : List Nat) (d1 : Nat) (xs : List Nat)
    (m : Nat) (es ks : List Nat)
    (he : e < 2 ^ 32) (hs : sign = [] ∨ sign = [43] ∨ sign = [45]) (h1 : isNonZeroDigit d1 = true)
    (hxs : AllDigits xs) (hlen : xs.length ≤ 17)
    (hm : m = 101 ∨ m = 69) (hes : es = [] ∨ es = [43] ∨ es = [45]) (hks : AllDigits ks) (hk0 : ks ≠ [])
    (hu : unitsAt c e o (sign ++ (d1 :: xs ++ [46, 48]) ++ [m] ++ (es ++ ks)))
    (hend : endsAt c e (o + sign.length + 1 + xs.length + 2 + 1 + es.length + ks.length) isDigit) :
    ClassOutcome (decide (sign = [45])) (decVal (d1 :: xs))
      (netExp false (decVal ks) (decide (es = [45])) 0).1 (netExp false (decVal ks) (decide (es = [45])) 0).2
      (o + sign.length + 1 + xs.length + 2 + 1 + es.length + ks.length) (strToNum c o e) := by
  obtain ⟨heq, hv⟩ := strToNum_dotzero c o e sign d1 xs (m :: (es ++ ks)) es ks he hs h1 hxs hlen
    (expPart_cons hm hes hks hk0) (unitsAt_exp hu) (endsAt_exp hend)
  have h := class_expResult heq hv (fun _ => by decide)
  rwa [fin_exp] at h

/-! ### zero-valued numerals -/

/-- `[+-]? 0 . 0…0` (any number of zeros, also none: `0.`) then the end of the numeral: `±0`, consumed -/
theorem zero_dot_zeros_end (c : List Nat) (o e : Nat) (sign zs : List Nat) (he : e < 2 ^ 32)
    (hs : sign = [] ∨ sign = [43] ∨ sign = [45]) (hz : ∀ z ∈ zs, z = 48)
    (hu : unitsAt c e o (sign ++ ([48, 46] ++ zs)))
    (hend : endsAt c e (o + sign.length + 2 + zs.length) contReal) :
    strToNum c o e = some ⟨.real, if decide (sign = [45]) then 0x8000000000000000 else 0, o + sign.length + 2 + zs.length⟩ :=
  zero_dot_zeros c o e sign zs [] [] [] he hs hz expPart_nil (unitsAt_end hu) hend

/-- `[+-]? 0 . 0…0 (e|E) [+-]? ks` — any exponent: `±0`, consumed -/
theorem zero_dot_zeros_exp (c : List Nat) (o e : Nat) (sign zs : List Nat) (m : Nat) (es ks : List Nat) (he : e < 2 ^ 32)
    (hs : sign = [] ∨ sign = [43] ∨ sign = [45]) (hz : ∀ z ∈ zs, z = 48)
    (hm : m = 101 ∨ m = 69) (hes : es = [] ∨ es = [43] ∨ es = [45]) (hks : AllDigits ks) (hk0 : ks ≠ [])
    (hu : unitsAt c e o (sign ++ ([48, 46] ++ zs) ++ [m] ++ (es ++ ks)))
    (hend : endsAt c e (o + sign.length + 2 + zs.length + 1 + es.length + ks.length) isDigit) :
    strToNum c o e = some ⟨.real, if decide (sign = [45]) then 0x8000000000000000 else 0,
      o + sign.length + 2 + zs.length + 1 + es.length + ks.length⟩ := by
  have h := zero_dot_zeros c o e sign zs (m :: (es ++ ks)) es ks he hs hz (expPart_cons hm hes hks hk0)
    (unitsAt_exp hu)
    (endsAt_exp hend)
  rwa [fin_exp] at h

/-! ### `0.000…ddd` with any number of leading fraction zeros -/

/-- `[+-]? 0 . zs d₁ ys` (`zs` zeros, `d₁ ≠ 0`, at most 18 significant digits) then the end of the numeral -/
theorem real_within_one_ulp_small_end (c : List Nat) (o e : Nat) (sign zs : List Nat) (d1 : Nat) (ys : List Nat)
    (he : e < 2 ^ 32) (hs : sign = [] ∨ sign = [43] ∨ sign = [45]) (hz : ∀ z ∈ zs, z = 48) (hzl : zs.length < 2 ^ 30)
    (h1 : isNonZeroDigit d1 = true) (hys : AllDigits ys) (hlen : ys.length ≤ 17)
    (hu : unitsAt c e o (sign ++ ([48, 46] ++ zs ++ d1 :: ys)))
    (hend : endsAt c e (o + sign.length + 2 + zs.length + 1 + ys.length) contReal) :
    ClassOutcome (decide (sign = [45])) (decVal (d1 :: ys)) (zs.length + 1 + ys.length) true
      (o + sign.length + 2 + zs.length + 1 + ys.length) (strToNum c o e) := by
  obtain ⟨heq, hv⟩ := strToNum_small c o e sign zs d1 ys [] [] [] he hs hz hzl h1 hys hlen expPart_nil (unitsAt_end hu)
    hend
  have h := class_expResult heq hv (fun h => absurd h (by decide))
  rwa [netExp_nil, if_neg (by omega)] at h

/-- `[+-]? 0 . zs d₁ ys (e|E) [+-]? ks` — exponent of any number of digits (at most 99 999 000 leading zeros) -/
theorem real_within_one_ulp_small_exp (c : List Nat) (o e : Nat) (sign zs : List Nat) (d1 : Nat) (ys : List Nat)
    (m : Nat) (es ks : List Nat)
    (he : e < 2 ^ 32) (hs : sign = [] ∨ sign = [43] ∨ sign = [45]) (hz : ∀ z ∈ zs, z = 48) (hzl : zs.length ≤ 99999000)
    (h1 : isNonZeroDigit d1 = true) (hys : AllDigits ys) (hlen : ys.length ≤ 17)
    (hm : m = 101 ∨ m = 69) (hes : es = [] ∨ es = [43] ∨ es = [45]) (hks : AllDigits ks) (hk0 : ks ≠ [])
    (hu : unitsAt c e o (sign ++ ([48, 46] ++ zs ++ d1 :: ys) ++ [m] ++ (es ++ ks)))
    (hend : endsAt c e (o + sign.length + 2 + zs.length + 1 + ys.length + 1 + es.length + ks.length) isDigit) :
    ClassOutcome (decide (sign = [45])) (decVal (d1 :: ys))
      (netExp true (decVal ks) (decide (es = [45])) (zs.length + 1 + ys.length)).1
      (netExp true (decVal ks) (decide (es = [45])) (zs.length + 1 + ys.length)).2
      (o + sign.length + 2 + zs.length + 1 + ys.length + 1 + es.length + ks.length) (strToNum c o e) := by
  obtain ⟨heq, hv⟩ := strToNum_small c o e sign zs d1 ys (m :: (es ++ ks)) es ks he hs hz (by omega) h1 hys hlen
    (expPart_cons hm hes hks hk0) (unitsAt_exp hu) (endsAt_exp hend)
  have h := class_expResult heq hv (fun _ => by omega)
  rwa [fin_exp] at h

/-! ### integer mantissa with an exponent of any number of digits, either sign -/

/-- `[+-]? d₁ xs (e|E) [+-]? ks`, at most 19 mantissa digits, exponent of any length -/
theorem real_within_one_ulp_int_exp (c : List Nat) (o e : Nat) (sign : List Nat) (d1 : Nat) (xs : List Nat)
    (m : Nat) (es ks : List Nat)
    (he : e < 2 ^ 32) (hs : sign = [] ∨ sign = [43] ∨ sign = [45]) (h1 : isNonZeroDigit d1 = true)
    (hxs : AllDigits xs) (hlen : xs.length ≤ 18)
    (hm : m = 101 ∨ m = 69) (hes : es = [] ∨ es = [43] ∨ es = [45]) (hks : AllDigits ks) (hk0 : ks ≠ [])
    (hu : unitsAt c e o (sign ++ (d1 :: xs) ++ [m] ++ (es ++ ks)))
    (hend : endsAt c e (o + sign.length + 1 + xs.length + 1 + es.length + ks.length) isDigit) :
    ClassOutcome (decide (sign = [45])) (decVal (d1 :: xs))
      (netExp false (decVal ks) (decide (es = [45])) 0).1 (netExp false (decVal ks) (decide (es = [45])) 0).2
      (o + sign.length + 1 + xs.length + 1 + es.length + ks.length) (strToNum c o e) := by
  obtain ⟨heq, hv⟩ := strToNum_int_exp c o e sign d1 xs m es ks he hs h1 hxs hlen hm hes hks hk0 hu hend
  exact class_expResult heq hv (fun _ => by decide)

end Qentem.Props.C09
