import Qentem.Props.C09Closed

/-!
# C09 — the closed theorems applied to concrete numerals (non-vacuity)

`real_within_one_ulp_closed` and `overflow_reported_closed` are implications with six resp. five hypotheses.
This file shows that the hypotheses are jointly satisfiable by ordinary numerals — every one of them is
discharged by kernel evaluation on the numeral itself — and records what the conclusion then says for
texts of each regime the proof distinguishes: a short fraction, a negative exponent in the region where
the converter is known to be one ulp low, the smallest subnormal, a mantissa longer than the 19-unit
scan window, and an overflowing exponent. Nothing here adds to what is claimed for all inputs; it
guards against a later edit turning one of the hypotheses into something no numeral meets.
-/

namespace Qentem.Props.C09
open Qentem.StrToNum Qentem.Round Qentem.Generated.StrToNum

/-- `0.1` -/
def n_0_1 : Numeral :=
  { neg := false, intDigits := [0], fracDigits := [1], hasDot := true, hasExp := false, expNeg := false, expDigits := [] }

/-- `-1e-273` (the converter returns the double one ulp below the correctly rounded one: inside the bound) -/
def n_1em273 : Numeral :=
  { neg := true, intDigits := [1], fracDigits := [], hasDot := false, hasExp := true, expNeg := true, expDigits := [2, 7, 3] }

/-- `4.9E-324` (rounds to the smallest subnormal) -/
def n_min_sub : Numeral :=
  { neg := false, intDigits := [4], fracDigits := [9], hasDot := true, hasExp := true, expNeg := true,
    expDigits := [3, 2, 4], upperE := true }

/-- `1234567890123456789012345.5` (mantissa longer than the scan window) -/
def n_long : Numeral :=
  { neg := false, intDigits := [1,2,3,4,5,6,7,8,9,0,1,2,3,4,5,6,7,8,9,0,1,2,3,4,5], fracDigits := [5], hasDot := true,
    hasExp := false, expNeg := false, expDigits := [] }

/-- `2e+308` (above the largest finite double) -/
def n_2e308 : Numeral :=
  { neg := false, intDigits := [2], fracDigits := [], hasDot := false, hasExp := true, expNeg := false, expPlus := true,
    expDigits := [3, 0, 8] }

example : n_0_1.units = [48, 46, 49] := by decide +kernel
example : n_1em273.units = [45, 49, 101, 45, 50, 55, 51] := by decide +kernel
example : n_min_sub.units = [52, 46, 57, 69, 45, 51, 50, 52] := by decide +kernel
example : n_2e308.units = [50, 101, 43, 51, 48, 56] := by decide +kernel

/-- every hypothesis of `real_within_one_ulp_closed` holds of `x` and the run returns `r` -/
def MeetsRealHyps (x : Numeral) (r : Res) : Prop :=
  x.wf = true ∧ x.leadingZero = false ∧ x.units.length ≤ 99999000 ∧
  strToNum x.units 0 x.units.length = some r ∧ r.kind = .real ∧ magBits r < infBits

theorem closed_applies (x : Numeral) (r : Res) (h : MeetsRealHyps x r) :
    ulpDist (magBits r) (nearestMag x.magFrac.1 x.magFrac.2) ≤ 1 :=
  real_within_one_ulp_closed x h.1 h.2.1 h.2.2.1 r h.2.2.2.1 h.2.2.2.2.1 h.2.2.2.2.2

theorem meets_0_1 : MeetsRealHyps n_0_1 ⟨.real, 0x3FB999999999999A, 3⟩ := by
  refine ⟨by decide +kernel, by decide +kernel, by decide +kernel, by decide +kernel, by decide +kernel, by decide +kernel⟩

theorem meets_1em273 : ∃ r, MeetsRealHyps n_1em273 r ∧ r.offset = 7 ∧ r.bits ≥ 2 ^ 63 := by
  refine ⟨(strToNum n_1em273.units 0 n_1em273.units.length).get (by decide), ?_⟩
  refine ⟨⟨by decide +kernel, by decide +kernel, by decide +kernel, by decide +kernel, by decide +kernel, by decide +kernel⟩, by decide +kernel, by decide +kernel⟩

theorem meets_min_sub : MeetsRealHyps n_min_sub ⟨.real, 1, 8⟩ := by
  refine ⟨by decide +kernel, by decide +kernel, by decide +kernel, by decide +kernel, by decide +kernel, by decide +kernel⟩

theorem meets_long : MeetsRealHyps n_long ⟨.real, 0x44F056E0F36A6444, 27⟩ := by
  refine ⟨by decide +kernel, by decide +kernel, by decide +kernel, by decide +kernel, by decide +kernel, by decide +kernel⟩

/-- the conclusion for `0.1`, via the general theorem (not by evaluating the distance) -/
theorem within_0_1 : ulpDist 0x3FB999999999999A (nearestMag 1 10) ≤ 1 := by
  have h := closed_applies _ _ meets_0_1
  simpa [n_0_1, Numeral.magFrac, digitsVal, magBits] using h

/-- the one-ulp bound is attained: the theorem cannot be strengthened to `= 0` for the code as written -/
theorem one_ulp_attained :
    (strToNum n_1em273.units 0 n_1em273.units.length).map
      (fun r => ulpDist (magBits r) (nearestMag n_1em273.magFrac.1 n_1em273.magFrac.2)) = some 1 := by
  decide +kernel

/-- every hypothesis of `overflow_reported_closed` holds of `2e+308`, and the run reports an infinity -/
theorem overflow_instance :
    n_2e308.wf = true ∧ n_2e308.leadingZero = false ∧ n_2e308.units.length ≤ 99999000 ∧
    exceedsMaxFinite n_2e308.magFrac.1 n_2e308.magFrac.2 = true ∧
    (strToNum n_2e308.units 0 n_2e308.units.length).map (fun r => (r.kind, magBits r)) = some (.real, infBits) := by
  refine ⟨by decide +kernel, by decide +kernel, by decide +kernel, by decide +kernel, by decide +kernel⟩

end Qentem.Props.C09
