import Qentem.Proofs.Json
import Qentem.Proofs.JsonDeps
/-! C05 — parsing any byte string as JSON is memory-safe and terminates.

The parser model reads the input only through `rd`, which fails outside `[0, length)`, and its
recursion and loops burn fuel.  "Memory-safe and terminating for every input" is: the run never
ends in `.error`. -/
namespace Qentem.Props.C05
open Qentem.Json

/-- For every input and every pair of sub-routines meeting `DepsSafe`, `JSON::Parse` returns a
value: no read outside the buffer, `3·length + 3` fuel is never exhausted. -/
theorem parse_no_fault (d : Deps) (hd : DepsSafe d) (c : Array Nat) (hsz : c.size < 2 ^ 32) :
    ∃ v, parse d c = .ok v :=
  Qentem.Json.parse_no_fault d hd c hsz

/-- The parser as it is linked — with the `UnEscape` model (any character width) and the
`StringToNumber` model — never faults and always terminates, for every input below the `SizeT` range. -/
theorem parse_no_fault_concrete (w : Nat) (c : Array Nat) (hsz : c.size < 2 ^ 32) :
    ∃ v, parse (jsonDeps w) c = .ok v :=
  Qentem.Json.parse_no_fault (jsonDeps w) (jsonDeps_safe w) c hsz

/-- The same for each routine started anywhere inside the buffer (what the induction proves): with
`3·(length − offset) + k` fuel every sub-parse ends normally at an offset inside the buffer and
has made progress. -/
theorem fuel_bound (d : Deps) (hd : DepsSafe d) (c : Array Nat) (hsz : c.size < 2 ^ 32) (fuel : Nat) :
    (∀ o, o ≤ c.size → needV c.size o ≤ fuel → Good c.size o (parseValue d c fuel o)) ∧
    (∀ o, o ≤ c.size → needC c.size o ≤ fuel → GoodL c.size o (parseArray d c fuel o)) ∧
    (∀ o, o ≤ c.size → needC c.size o ≤ fuel → GoodL c.size o (parseObject d c fuel o)) :=
  let h := all_good d hd c hsz fuel
  ⟨h.1, h.2.1, h.2.2.1⟩

/-- The result is always a complete value or Undefined. -/
theorem result_complete_or_undefined (d : Deps) (c : Array Nat) (v : JVal) (h : parse d c = .ok v) :
    v = .undef ∨ complete v = true := by
  rcases parse_all_or_nothing d c v h with h1 | ⟨h2, _⟩
  · exact Or.inl h1
  · exact Or.inr h2

/-- Non-vacuity: a concrete pair of sub-routines satisfying `DepsSafe` exists (strings are
rejected, numbers are never recognised), so the hypotheses of the theorems are satisfiable; the
real sub-routine models are covered by `parse_no_fault_concrete`. -/
def trivialDeps : Deps := ⟨fun _ _ _ => .ok (0, []), fun c _ _ => .ok ⟨.notANumber, 0, c.size⟩⟩

example : DepsSafe trivialDeps :=
  ⟨fun _ _ _ _ => ⟨0, [], rfl, Nat.zero_le _⟩, fun _ _ _ _ => ⟨_, rfl, fun h => absurd rfl h⟩⟩

end Qentem.Props.C05
