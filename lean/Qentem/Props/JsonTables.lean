import Qentem.Generated.Json
import Qentem.Model.JsonStringify
/-! T1 for the JSON area: the notation constants compiled from the current headers are the ones
the models are written with, for every character width. A changed literal breaks this file. -/
namespace Qentem.Props.JsonTables
open Qentem.Json Qentem.Generated.Json

def expectStructural : List Nat := [cQuote, cComma, cColon, cSCurly, cECurly, cSSquare, cESquare, 47, 92]

theorem notation_tables :
    [W1.structural, W2.structural, W4.structural, WW.structural] = List.replicate 4 expectStructural ∧
    [W1.controls, W2.controls, W4.controls, WW.controls] = List.replicate 4 [8, 9, 10, 12, 13] ∧
    [W1.escapeLetters, W2.escapeLetters, W4.escapeLetters, WW.escapeLetters] = List.replicate 4 [98, 116, 110, 102, 114, 117, 85] ∧
    [W1.replacement, W2.replacement, W4.replacement, WW.replacement] =
      List.replicate 4 [0, 0, 0, 0, 0, 0, 0, 0, 98, 116, 110, 0, 102, 114] ∧
    [W1.trueString, W2.trueString, W4.trueString, WW.trueString] = List.replicate 4 (116 :: trueTail ++ [0]) ∧
    [W1.falseString, W2.falseString, W4.falseString, WW.falseString] = List.replicate 4 (102 :: falseTail ++ [0]) ∧
    [W1.nullString, W2.nullString, W4.nullString, WW.nullString] = List.replicate 4 (110 :: nullTail ++ [0]) ∧
    [W1.whitespace, W2.whitespace, W4.whitespace, WW.whitespace] = List.replicate 4 [32, 10, 9, 13] ∧
    (∀ c ∈ [32, 10, 9, 13], isWs c = true) ∧
    strTrue = 116 :: trueTail ∧ strFalse = 102 :: falseTail ∧ strNull = 110 :: nullTail := by
  decide

/-- The escape table agrees with the serializer model: control `c` with a short form is written as
backslash + `replacement[c]`. -/
theorem replacement_matches_escapeJson :
    ∀ c ∈ [8, 9, 10, 12, 13], escapeJson [c] = [92, W1.replacement[c]!] := by decide

end Qentem.Props.JsonTables
